-- root module: imports everything
import Upa.Basic
import Upa.Gen.Tables
import Upa.Impl.Api
import Upa.Impl.Bounds
import Upa.Impl.BoundsMisc
import Upa.Impl.BoundsUrl
import Upa.Impl.Buffer
import Upa.Impl.CanParse
import Upa.Impl.Canon
import Upa.Impl.Conc
import Upa.Impl.Fault
import Upa.Impl.FilePath
import Upa.Impl.Form
import Upa.Impl.Host
import Upa.Impl.HostNS
import Upa.Impl.Ip
import Upa.Impl.ObjRep
import Upa.Impl.Own
import Upa.Impl.ParseRep
import Upa.Impl.ParseRepExc
import Upa.Impl.Percent
import Upa.Impl.RemoveIf
import Upa.Impl.Rep
import Upa.Impl.Scheme
import Upa.Impl.SetRep
import Upa.Impl.SetRepApi
import Upa.Impl.SetRepExc
import Upa.Impl.SimpleBuffer
import Upa.Impl.StrView
import Upa.Impl.UpdateRep
import Upa.Impl.Url
import Upa.Impl.Utf
import Upa.Proofs.AsciiHom
import Upa.Proofs.Bounds
import Upa.Proofs.BoundsCheckFixUtf8
import Upa.Proofs.BoundsCompare
import Upa.Proofs.BoundsDoParse
import Upa.Proofs.BoundsEncodeLoops
import Upa.Proofs.BoundsIpv4Parse
import Upa.Proofs.BoundsIpv6Parse
import Upa.Proofs.BoundsMisc
import Upa.Proofs.BoundsOpaqueHost
import Upa.Proofs.BoundsParseHost
import Upa.Proofs.BoundsParsePath
import Upa.Proofs.BoundsPctDecode
import Upa.Proofs.BoundsSerialize
import Upa.Proofs.BoundsTrim
import Upa.Proofs.BoundsUncPath
import Upa.Proofs.BoundsUrl
import Upa.Proofs.BoundsUrlBlocks
import Upa.Proofs.BoundsUrlVerdict
import Upa.Proofs.BoundsUrlVerdictAuth
import Upa.Proofs.BoundsUrlVerdictFile
import Upa.Proofs.BoundsUrlVerdictRel
import Upa.Proofs.BoundsUrlVerdictTop
import Upa.Proofs.C01Auth
import Upa.Proofs.C01Head
import Upa.Proofs.C01Run
import Upa.Proofs.C01Seg
import Upa.Proofs.C01Tail
import Upa.Proofs.C20c
import Upa.Proofs.CanParse
import Upa.Proofs.Canon
import Upa.Proofs.CharClass
import Upa.Proofs.Conc
import Upa.Proofs.EncHead
import Upa.Proofs.EncIndep
import Upa.Proofs.EvalFuel
import Upa.Proofs.Fault
import Upa.Proofs.FilePath
import Upa.Proofs.FilePathScan
import Upa.Proofs.FilePathWin
import Upa.Proofs.FilePathWinUnc
import Upa.Proofs.Form
import Upa.Proofs.Host
import Upa.Proofs.HostNS
import Upa.Proofs.Ipv4
import Upa.Proofs.Ipv6
import Upa.Proofs.Ipv6Equiv
import Upa.Proofs.Ipv6Parse
import Upa.Proofs.Ipv6Round
import Upa.Proofs.ListScan
import Upa.Proofs.Literal
import Upa.Proofs.Lockstep
import Upa.Proofs.LockstepEval
import Upa.Proofs.ObjRep
import Upa.Proofs.ObjRepEval
import Upa.Proofs.Observables
import Upa.Proofs.OwnAbs
import Upa.Proofs.OwnHist
import Upa.Proofs.OwnInv
import Upa.Proofs.OwnLock
import Upa.Proofs.OwnMap
import Upa.Proofs.OwnViews
import Upa.Proofs.Params
import Upa.Proofs.ParamsCmp
import Upa.Proofs.ParseRepAppend
import Upa.Proofs.ParseRepBase
import Upa.Proofs.ParseRepFile
import Upa.Proofs.ParseRepOps
import Upa.Proofs.ParseRepRel
import Upa.Proofs.ParseRepSim
import Upa.Proofs.ParseRepTop
import Upa.Proofs.ParserRules
import Upa.Proofs.Percent
import Upa.Proofs.Radix
import Upa.Proofs.RecInv
import Upa.Proofs.Rep
import Upa.Proofs.Reparse
import Upa.Proofs.ReparseParsed
import Upa.Proofs.Scheme
import Upa.Proofs.SetRep
import Upa.Proofs.SetRepApi
import Upa.Proofs.SetRepApiSim
import Upa.Proofs.SetRepEquiv
import Upa.Proofs.SetRepExc
import Upa.Proofs.SetRepExcApi
import Upa.Proofs.SetRepExcOk
import Upa.Proofs.SetRepOps
import Upa.Proofs.Setters
import Upa.Proofs.SettersHist
import Upa.Proofs.SettersInv
import Upa.Proofs.SimpleBuffer
import Upa.Proofs.SizeT
import Upa.Proofs.StrView
import Upa.Proofs.Utf
import Upa.Props.C01
import Upa.Props.C01b
import Upa.Props.C01c
import Upa.Props.C02
import Upa.Props.C02b
import Upa.Props.C03
import Upa.Props.C03b
import Upa.Props.C04
import Upa.Props.C04b
import Upa.Props.C04c
import Upa.Props.C04d
import Upa.Props.C04e
import Upa.Props.C04f
import Upa.Props.C04g
import Upa.Props.C04h
import Upa.Props.C04i
import Upa.Props.C05
import Upa.Props.C05b
import Upa.Props.C05c
import Upa.Props.C05d
import Upa.Props.C05e
import Upa.Props.C05f
import Upa.Props.C05g
import Upa.Props.C06
import Upa.Props.C06b
import Upa.Props.C07
import Upa.Props.C08
import Upa.Props.C09
import Upa.Props.C09b
import Upa.Props.C10
import Upa.Props.C10b
import Upa.Props.C10c
import Upa.Props.C10d
import Upa.Props.C11
import Upa.Props.C12
import Upa.Props.C13
import Upa.Props.C13b
import Upa.Props.C14
import Upa.Props.C15
import Upa.Props.C16
import Upa.Props.C16b
import Upa.Props.C17
import Upa.Props.C17b
import Upa.Props.C18
import Upa.Props.C18b
import Upa.Props.C19
import Upa.Props.C20
import Upa.Props.C20b
import Upa.Props.C20c
import Upa.Props.Observables
import Upa.Spec.Api
import Upa.Spec.Encoding
import Upa.Spec.Form
import Upa.Spec.Host
import Upa.Spec.Ip
import Upa.Spec.Percent
import Upa.Spec.Serializer
import Upa.Spec.Sets
import Upa.Spec.UrlParser
