import Upa.Props.C20b
import Upa.Props.C05e
import Upa.Props.C05g
import Upa.Proofs.C20c
/-
  C20c - "every object involved can still be destroyed, copied, assigned to and RE-PARSED WITH CORRECT
  RESULTS" after ANY failure: a setter aborted by an exception (the half-edited objects of C20b,
  `failStates`), `url_search_params::update()` aborted, or a parse aborted.

  Model: `Upa/Impl/ParseRepExc.lean`.
    parseRepOn idna r e units base   `url::do_parse` (url.h:1439-1452) on an object whose RECORD MEMBERS
                                     are `r` - any `Rep` whatsoever: `new_url()`, then the parser of
                                     Impl/ParseRep.lean.  `parseRep` is `parseRepOn Rep.cleared`.
    Rep.newUrl                       `if (!url_.empty()) url_.clear();`  -  `empty()` is `norm_url_.empty()`
    doParseExc idna o e units base pre trace k
                                     the whole of `url::do_parse` on the object `o : ObjR` (raw members,
                                     VALID_FLAG, params object) under the schedule "the k-th throwing
                                     primitive fails", with the `catch (...) { reset_record(); throw; }`
                                     handler explicit (`doParseWith handler`); `trace` = the (arbitrary)
                                     representations the object passes at the throwing primitives
                                     of `url_parse`, `pre` = the throwing primitives before the `try`.
  Lemmas: Upa/Proofs/C20c.lean (`Resettable r := r.norm ≠ [] ∨ r = Rep.cleared`, `parseRepOn_eq`; `Ends`, `doParseExc_ends`: every way the call can
  end; `doParse_refines`).

  1. "Parsing into an object ignores its old state", stated for EVERY `r`, is FALSE of the model, because
     `new_url` resets nothing when the string is empty: `C20c_newUrl_leak` (members with an empty string and
     left-over offsets / flags / segment count leak into the new url).  The strongest true variant is
     `C20c_parse_ignores_state_partial` (hypothesis `r.norm ≠ [] ∨ r = Rep.cleared`, which is
     EXACTLY `r.newUrl = Rep.cleared`: `C20c_newUrl_iff`).  Every state the operations modelled here
     can leave an object in satisfies it: a valid url, the reset record, every failure state of every
     setter and of `update()` (`C20c_reachable_resettable`), every state a failing `do_parse` leaves
     (`C20c_after_parse_failure`).
     So the C++ is not at fault, but it relies on "empty string ⇒ all members reset" as an invariant.
  2. (section 4) FOUND while modelling, repaired by commit 46fa9a3: `parse_search_params()` stood AFTER the `try`
     (url.h:1461 then): a failure there left a VALID url with the new record whose params object still
     held what `new_url` left (the emptied list - or, for an object that was empty before, its old
     list).  The old order is kept as `doParseParamsOutsideTry`; `C20c_params_outside_try_bites` is the
     witness, `C20c_params_outside_try_same` says the two orders differ nowhere else.  In the library as
     it is now the call is inside the `try` (url.h:1454-1459): every exception from `new_url()` on leaves
     the empty url (two classes in `C20c_parse_failure_classes`), and no valid url is ever left with a
     parameter list that was not rebuilt from its query (`C20c_failed_parse_lockstep`).

  Checked on the real library (/repo before commit 46fa9a3, g++ -O0, friend access through UPA_VERIF_HOOKS,
  counting `operator new`):
    * `C20c_newUrl_leak`: a default-constructed url whose members were set BY HAND (friend access) to
      `c20cLeakRep`, then `parse("a:b")` resp. `parse("a:/x")`: raw state exactly as the theorem says
      ([1,2,2,2,2,2,2,2,3,0,9], HOST flag on, segment count 3 resp. 4) with NDEBUG; with assertions on,
      `assert(url_.path_segment_count_ == 0)` of `save_path_string` (url.h:2734) fires for "a:b".
      No public operation produces such a state (`C20c_reachable_resettable`; it is what a moved-from url
      looked like before F1 was repaired).
    * `C20c_nonvacuous`: `hash(64 x 'v')` on a copy of http://h/p?q#old, n = 2, 3, 4: "http://h/p?q#vvv…",
      `part_end_[FRAGMENT] = 0`, flag on; `parse("s://x:1/y?z")` into it, copy assignment into it, copy
      construction from it: raw state equal to that of a fresh parse / of the source, for every n.
    * `C20c_params_outside_try_bites` (on /repo BEFORE commit 46fa9a3): http://h/?a=1 with a params object,
      `parse("http://h2/?x=1&y=2")`, n = 2, 3 (the list nodes of `parse_search_params`): valid, href
      "http://h2/?x=1&y=2", params list EMPTY.  On an empty url owning the list [a=b]: valid, same href,
      list still [a=b]; a following `search_params().append("c","d")` rewrites the url to
      "http://h2/?a=b&c=d".
-/
namespace Upa.Props
open Upa Upa.Impl Upa.Impl.FaultRep Upa.Proofs.C05 Upa.Proofs.SetRep Upa.Proofs.SetRepApi
  Upa.Proofs.SetRepExc Upa.Proofs.ObjRep Upa.Proofs.C20c
open Upa.Proofs.C02b (IdnaStable)

/-! ## 1. `do_parse` and the old state of the object -/

/-- `new_url()` resets the record members exactly when the string is non-empty or there is nothing
    to reset -/
theorem C20c_newUrl_iff : ∀ r : Rep, r.newUrl = Rep.cleared ↔ (r.norm ≠ [] ∨ r = Rep.cleared) :=
  newUrl_eq_cleared_iff

/-- Parsing into an object whose record members are `r` gives, for every input and every base, exactly
    what parsing into a default-constructed object gives: nothing of `r` is read.  (Without the hypothesis
    `r.norm ≠ [] ∨ r = Rep.cleared` the statement is false: `C20c_newUrl_leak`.) -/
theorem C20c_parse_ignores_state_partial :
    ∀ (idna : Idna) (r : Rep), (r.norm ≠ [] ∨ r = Rep.cleared) →
    ∀ (e : Enc) (units : List Nat) (base : Option Rep),
      parseRepOn idna r e units base = parseRep idna e units base :=
  fun idna _ h e units base => parseRepOn_eq idna h e units base

example : (c20bExampleRep.norm ≠ [] ∨ c20bExampleRep = Rep.cleared) ∧
    (Rep.cleared.norm ≠ [] ∨ Rep.cleared = Rep.cleared) ∧
    parseRepOn c05dIdna c20bExampleRep .u8 (asciiStr "a:b") none = parseRep c05dIdna .u8 (asciiStr "a:b") none := by
  decide_ascii

/-- record members with an EMPTY string and left-overs: `part_end_[FRAGMENT] = 9`, the HOST flag and
    host type, a segment count -/
def c20cLeakRep : Rep :=
  { Rep.cleared with hostNotNull := true, hostType := 2, segCount := 3,
                     partEnd := [0, 0, 0, 0, 0, 0, 0, 0, 0, 0, 9] }

/-- the counterexample to the unconditional statement: `new_url()` does not touch `c20cLeakRep`, and
    the parser, which starts only the parts it meets, lets the left-overs through: after
    `parse("a:b")` the url has a non-null host flag, `part_end_[FRAGMENT] = 9` in a 3-unit string (offsets
    out of bounds: `hash()` would read 9 units), segment count 3; after `parse("a:/x")` segment count 4 -/
theorem C20c_newUrl_leak :
    c20cLeakRep.norm = [] ∧ c20cLeakRep ≠ Rep.cleared ∧ c20cLeakRep.newUrl = c20cLeakRep ∧
    parseRep c05dIdna .u8 (asciiStr "a:b") none =
      some { norm := asciiStr "a:b", partEnd := [1, 2, 2, 2, 2, 2, 2, 2, 3, 0, 0],
             hostNotNull := false, portNotNull := false, queryNotNull := false, fragmentNotNull := false,
             opaquePath := true, hostType := 0, segCount := 0, schemeIdx := none } ∧
    parseRepOn c05dIdna c20cLeakRep .u8 (asciiStr "a:b") none =
      some { norm := asciiStr "a:b", partEnd := [1, 2, 2, 2, 2, 2, 2, 2, 3, 0, 9],
             hostNotNull := true, portNotNull := false, queryNotNull := false, fragmentNotNull := false,
             opaquePath := true, hostType := 2, segCount := 3, schemeIdx := none } ∧
    (parseRepOn c05dIdna c20cLeakRep .u8 (asciiStr "a:b") none).map (fun r => decide (OffsetsOk r)) = some false ∧
    (parseRepOn c05dIdna c20cLeakRep .u8 (asciiStr "a:/x") none).map (·.segCount) = some 4 ∧
    (parseRep c05dIdna .u8 (asciiStr "a:/x") none).map (·.segCount) = some 1 := by
  decide_ascii

/-- the states an object is left in by the operations modelled: a representation of a record; the reset
    record (default-constructed, cleared, moved-from, failed parse); a failure state of a setter; a
    failure state of `url_search_params::update()`.  All of them are reset completely by `new_url()`. -/
theorem C20c_reachable_resettable :
    ∀ (idna : Idna) (u : Url) (r : Rep), RepOk u → RepFor r u →
    ∀ r' : Rep,
      (r' = r ∨ r' = Rep.cleared ∨ (∃ s e units, r' ∈ failStates idna s e units r) ∨
        (∃ l, r' ∈ updateFailStates r l)) →
      (r'.norm ≠ [] ∨ r' = Rep.cleared) ∧ r'.newUrl = Rep.cleared := by
  intro idna u r ok h r' hr'
  have key : r'.norm ≠ [] ∨ r' = Rep.cleared := by
    rcases hr' with rfl | rfl | ⟨s, e, units, hm⟩ | ⟨l, hm⟩
    · exact Or.inl (repFor_norm_ne ok.1 h)
    · exact Or.inr rfl
    · exact Or.inl (failStates_norm_ne idna s e units ok h r' hm)
    · exact Or.inl (updateFailStates_norm_ne ok h l r' hm)
  exact ⟨key, newUrl_resettable key⟩

/-- hence: parsing into any of them is parsing into a fresh object -/
theorem C20c_parse_ignores_reachable :
    ∀ (idna : Idna) (u : Url) (r : Rep), RepOk u → RepFor r u →
    ∀ r' : Rep,
      (r' = r ∨ r' = Rep.cleared ∨ (∃ s e units, r' ∈ failStates idna s e units r) ∨
        (∃ l, r' ∈ updateFailStates r l)) →
    ∀ (e : Enc) (units : List Nat) (base : Option Rep),
      parseRepOn idna r' e units base = parseRep idna e units base :=
  fun idna u r ok h r' hr' e units base =>
    parseRepOn_eq idna (C20c_reachable_resettable idna u r ok h r' hr').1 e units base

example : RepOk c05Full ∧ RepFor (layout c05Full) c05Full ∧
    (failStates c05dIdna .hash .u8 (asciiStr "ab") (layout c05Full)).length = 6 := by
  decide_ascii

/-- the object of `Impl/ObjRep.lean`: `RObj.parse` reads of the object only whether it is valid and
    whether it owns a params object; in particular two valid objects with ANY two representations
    (the second one half-edited, say) and any two params lists parse alike, … -/
theorem C20c_obj_parse_ignores_state :
    ∀ (idna : Idna) (r r' : Rep) (sp sp' : Option Params), sp.isSome = sp'.isSome →
    ∀ (e : Enc) (units : List Nat) (base : Option (Option Rep)),
      (⟨some r, sp⟩ : RObj).parse idna e units base = (⟨some r', sp'⟩ : RObj).parse idna e units base := by
  intro idna r r' sp sp' hsp e units base
  cases sp <;> cases sp' <;> first | rfl | cases hsp

/-- … and the record of the result, and the returned value, are those of a default-constructed object -/
theorem C20c_obj_parse_fresh :
    ∀ (idna : Idna) (o : RObj) (e : Enc) (units : List Nat) (base : Option (Option Rep)),
      (o.parse idna e units base).1.rep = (({} : RObj).parse idna e units base).1.rep ∧
      (o.parse idna e units base).2 = (({} : RObj).parse idna e units base).2 := by
  intro idna o e units base
  simp only [rparse_eq, rParseRes_rep, and_self]

/-! ## 2. re-parse after a failed setter -/

/-- For every representation `r` of a record `u` (`RepOk u`), every setter call and every failure point:
    parsing ANY input - without a base, or against any representation `rb` of a base record `b` - into
    the object the failure left behind (`r' ∈ failStates …`) yields the representation a fresh object
    gets (`parseRep`); it succeeds exactly when the record-level parser `Impl.parse` succeeds, and the
    result is a representation of the record `Impl.parse` computes (C05e).  Hypotheses on `b`: those
    of `C05e_parse_base`. -/
theorem C20c_reparse_after_failed_setter :
    ∀ (idna : Idna) (s : Setter) (e : Enc) (units : List Nat) (u : Url) (r : Rep),
      RepOk u → RepFor r u → ∀ r' ∈ failStates idna s e units r,
      ∀ (e' : Enc) (units' : List Nat),
        (parseRepOn idna r' e' units' none = parseRep idna e' units' none ∧
         (parseRepOn idna r' e' units' none).isSome = (parse idna e' units' none).isSome ∧
         ∀ rr u', parseRepOn idna r' e' units' none = some rr → parse idna e' units' none = some u' →
           RepFor rr u') ∧
        ∀ (b : Url) (rb : Rep), RepOk b → HostInv b → RecShape b → (b.isFile = true → b.port = none) →
          RepFor rb b →
          parseRepOn idna r' e' units' (some rb) = parseRep idna e' units' (some rb) ∧
          (parseRepOn idna r' e' units' (some rb)).isSome = (parse idna e' units' (some b)).isSome ∧
          ∀ rr u', parseRepOn idna r' e' units' (some rb) = some rr → parse idna e' units' (some b) = some u' →
            RepFor rr u' := by
  intro idna s e units u r ok h r' hr' e' units'
  simp only [parseRepOn_eq idna (Or.inl (failStates_norm_ne idna s e units ok h r' hr')), true_and]
  obtain ⟨h1, h2⟩ := C05e_parse_nobase idna e' units'
  refine ⟨⟨h1, fun rr u' hrr hu' => (h2 rr u' hrr hu').1⟩, fun b rb okb hib shb fpb hb => ?_⟩
  obtain ⟨h1, h2⟩ := C05e_parse_base idna e' units' b rb okb hib shb fpb hb
  exact ⟨h1, fun rr u' hrr hu' => (h2 rr u' hrr hu').1⟩

/-- the same for `url_search_params::update()` aborted by an exception -/
theorem C20c_reparse_after_failed_update :
    ∀ (idna : Idna) (u : Url) (r : Rep) (l : List BPair), RepOk u → RepFor r u →
      ∀ r' ∈ updateFailStates r l, ∀ (e' : Enc) (units' : List Nat) (base : Option Rep),
        parseRepOn idna r' e' units' base = parseRep idna e' units' base :=
  fun idna _ _ l ok h r' hr' e' units' base =>
    parseRepOn_eq idna (Or.inl (updateFailStates_norm_ne ok h l r' hr')) e' units' base

/-- On objects.  `⟨some r, sp⟩` is related (`Sim`, C05g) to the record-level object `o`; a setter call on
    it is aborted and leaves `r'` (and the params object in whatever state, `sp'`).  Parsing into the
    post-failure object - raw members `r'`, VALID_FLAG still set - with `do_parse` (no failure this
    time) is `RObj.parse` on the ORIGINAL object, and therefore related to the record-level parse:
    without a base, or with another related object as base. -/
theorem C20c_reparse_obj :
    ∀ (idna : Idna), IdnaStable idna →
    ∀ (s : Setter) (e : Enc) (units : List Nat) (u : Url) (r : Rep) (sp sp' : Option Params) (o : UrlObj)
      (rs : RObj) (ob : UrlObj),
      RepOk u → RepFor r u → Sim idna ⟨some r, sp⟩ o → Sim idna rs ob → sp'.isSome = sp.isSome →
      ∀ r' ∈ failStates idna s e units r,
      ∀ (e' : Enc) (units' : List Nat) (pre : Nat) (trace : List Rep),
        let post : ObjR := { rep := r', valid := true, sp := sp' }
        post.Wf ∧
        (doParseExc idna post e' units' none pre trace none).1.toRObj =
          ((⟨some r, sp⟩ : RObj).parse idna e' units' none).1 ∧
        Sim idna (doParseExc idna post e' units' none pre trace none).1.toRObj (o.parse idna e' units' none).1 ∧
        (doParseExc idna post e' units' none pre trace none).2 = .returned (o.parse idna e' units' none).2 ∧
        Sim idna (doParseExc idna post e' units' (some rs.rep) pre trace none).1.toRObj
          (o.parse idna e' units' (some ob.url)).1 ∧
        (doParseExc idna post e' units' (some rs.rep) pre trace none).2 =
          .returned (o.parse idna e' units' (some ob.url)).2 := by
  intro idna hi s e units u r sp sp' o rs ob ok h hsim hsb hsp r' hr' e' units' pre trace
  have hne := failStates_norm_ne idna s e units ok h r' hr'
  have hw : ({ rep := r', valid := true, sp := sp' } : ObjR).Wf := ⟨fun _ => hne, fun hc => by cases hc⟩
  have hto : ({ rep := r', valid := true, sp := sp' } : ObjR).toRObj = ⟨some r', sp'⟩ := rfl
  obtain ⟨p1, p2, _⟩ := C05g_ops idna hi ⟨some r, sp⟩ rs o ob hsim hsb
  have a1 := doParse_refines idna _ hw e' units' none pre trace
  have a2 := doParse_refines idna _ hw e' units' (some rs.rep) pre trace
  rw [hto, C20c_obj_parse_ignores_state idna r' r sp' sp hsp] at a1 a2
  refine ⟨hw, a1.1, ?_, ?_, ?_, ?_⟩
  · rw [a1.1]; exact (p1 e' units').1
  · rw [a1.2, (p1 e' units').2]
  · rw [a2.1]; exact (p2 e' units').1
  · rw [a2.2, (p2 e' units').2]

open Upa.Proofs.C02b (sampleIdna_stable) in
open Upa.Proofs.C08 (sampleIdna) in
/-- the hypotheses of `C20c_reparse_obj` on http://example.org/ owning no params object, the base
    being s://h with an (empty) params object -/
example : IdnaStable sampleIdna ∧ RepOk c20bExample ∧ RepFor c20bExampleRep c20bExample ∧
    Sim sampleIdna ⟨some c20bExampleRep, none⟩ ⟨some c20bExample, none⟩ ∧
    Sim sampleIdna ⟨some c05bHostOnlyRep, some { list := [], isSorted := true }⟩
      ⟨some c05bHostOnly, some { list := [], isSorted := true }⟩ ∧
    (failStates sampleIdna .hash .u8 (asciiStr "ab") c20bExampleRep).length = 6 := by
  rw [asciiStr_ofList]
  exact ⟨sampleIdna_stable, by decide +kernel⟩

/-! ## 3. assignment and copy after a failure -/

/-- `Impl/ObjRep.lean`: assigning INTO an object reads of it only whether it owns a params object - not
    its representation `r'` (half-edited or not), not the content of the params.  The destination gets
    the source's representation.  COPYING an object with representation `r'` gives an object with
    representation `r'`. -/
theorem C20c_assign_after_failure :
    ∀ (r' : Rep) (sp : Option Params) (src : RObj),
      -- copy assignment, move assignment, safe_assign INTO ⟨some r', sp⟩
      (rCopyAssign ⟨some r', sp⟩ src).rep = src.rep ∧
      (∀ (x : Option Rep) (sp₂ : Option Params), sp₂.isSome = sp.isSome →
        rCopyAssign ⟨some r', sp⟩ src = rCopyAssign ⟨x, sp₂⟩ src) ∧
      (rMoveAssign src).1 = src ∧
      (rSafeAssign ⟨some r', sp⟩ src).1.rep = src.rep ∧
      (∀ (x : Option Rep) (sp₂ : Option Params), sp₂.isSome = sp.isSome →
        rSafeAssign ⟨some r', sp⟩ src = rSafeAssign ⟨x, sp₂⟩ src) ∧
      -- copies OF ⟨some r', sp⟩
      (rCopyConstruct ⟨some r', sp⟩).rep = some r' ∧
      (∀ dst : RObj, (rCopyAssign dst ⟨some r', sp⟩).rep = some r') ∧
      (rMoveAssign ⟨some r', sp⟩).1.rep = some r' ∧
      (∀ dst : RObj, (rSafeAssign dst ⟨some r', sp⟩).1.rep = some r') := by
  intro r' sp src
  refine ⟨rCopyAssign_rep _ _, ?_, rfl, rSafeAssign_rep _ _, ?_, rfl, fun dst => rCopyAssign_rep dst _, rfl,
    fun dst => rSafeAssign_rep dst _⟩
  · intro x sp₂ h; unfold rCopyAssign
    cases sp <;> cases sp₂ <;> first | (cases src.sp <;> rfl) | cases h
  · intro x sp₂ h; unfold rSafeAssign
    cases sp <;> cases sp₂ <;> first | (cases src.sp <;> rfl) | cases h

/-- the same on the raw members (`ObjR`: the record members are there whatever VALID_FLAG says): all
    members of the source are taken, nothing of the destination but the ownership of a params object is
    read; and on the states `RObj` stands for (`ObjR.Wf`) the raw operations ARE the `RObj` ones -/
theorem C20c_assign_after_failure_raw :
    ∀ (dst src : ObjR),
      ((dst.copyAssign src).rep = src.rep ∧ (dst.copyAssign src).valid = src.valid) ∧
      ((ObjR.moveAssign src).1 = src ∧ (ObjR.moveAssign src).2.rep = Rep.cleared) ∧
      ((dst.safeAssign src).1.rep = src.rep ∧ (dst.safeAssign src).1.valid = src.valid ∧
        (dst.safeAssign src).2.rep = Rep.cleared ∧ (dst.safeAssign src).2.valid = false) ∧
      ((ObjR.copyConstruct src).rep = src.rep ∧ (ObjR.copyConstruct src).valid = src.valid) ∧
      (src.Wf →
        (dst.copyAssign src).toRObj = rCopyAssign dst.toRObj src.toRObj ∧
        (ObjR.copyConstruct src).toRObj = rCopyConstruct src.toRObj ∧
        ((ObjR.moveAssign src).1.toRObj, (ObjR.moveAssign src).2.toRObj) = rMoveAssign src.toRObj ∧
        ((dst.safeAssign src).1.toRObj, (dst.safeAssign src).2.toRObj) = rSafeAssign dst.toRObj src.toRObj) := by
  intro dst src
  refine ⟨⟨rfl, rfl⟩, ⟨rfl, rfl⟩, ⟨rfl, rfl, rfl, rfl⟩, ⟨rfl, rfl⟩, ?_⟩
  intro hw
  obtain ⟨srep, svalid, ssp⟩ := src
  obtain ⟨drep, dvalid, dsp⟩ := dst
  -- the query of an invalid source is read from the reset record in both models
  have hq : rQueryView (if svalid = true then some srep else none) = srep.partView QUERY := by
    cases svalid with
    | true => rfl
    | false =>
      have hc : srep = Rep.cleared := hw.2 rfl
      rw [hc]; exact (cleared_partView QUERY).symm
  refine ⟨?_, rfl, rfl, ?_⟩
  · unfold ObjR.copyAssign ObjR.toRObj rCopyAssign
    cases dsp <;> cases ssp <;> simp [RObj.reparseParams, hq]
  · unfold ObjR.safeAssign ObjR.toRObj rSafeAssign
    cases dsp <;> cases ssp <;> simp [hq]

/-! ## 4. the parse itself aborted by an exception -/

/-- what "the empty url" means for the getters of `Impl/Rep.lean` -/
def GettersEmpty (r : Rep) : Prop :=
  r.href = [] ∧ r.protocol = [] ∧ r.username = [] ∧ r.password = [] ∧ r.host = [] ∧ r.hostname = [] ∧
  r.port = [] ∧ r.pathname = [] ∧ r.path = [] ∧ r.search = [] ∧ r.hash = [] ∧
  r.serializeNoFragment = [] ∧ ∀ t, r.partView t = []

theorem C20c_empty_url_getters : GettersEmpty Rep.cleared :=
  ⟨by decide, by decide, by decide, by decide, by decide, by decide, by decide, by decide, by decide,
   by decide, by decide, by decide, cleared_partView⟩

/-- A failure at ANY throwing primitive inside the `try` block of `do_parse` - a primitive of `url_parse`
    (`k < pre + trace.length`), or `parse_search_params()` after a successful parse of an object that
    owns a params object (`k = pre + trace.length`; inside the `try` since commit 46fa9a3) - whatever
    object `o` the call started on, whatever half-built representations `trace` the parser passes,
    the base being a valid object or absent: the exception propagates and the object is the EMPTY url:
    all record members reset, `is_valid() = false`, every getter returns the empty view; the params
    object is as `new_url()` left it. -/
theorem C20c_parse_failure_empty :
    ∀ (idna : Idna) (o : ObjR) (e : Enc) (units : List Nat) (base : Option (Option Rep)) (pre : Nat)
      (trace : List Rep) (k : Nat), base ≠ some none → pre ≤ k →
      (k < pre + trace.length ∨
        (k = pre + trace.length ∧ (parseRepOn idna o.rep e units (base.bind id)).isSome = true ∧
          o.newUrl.sp.isSome = true)) →
      ∃ o', doParseExc idna o e units base pre trace (some k) = (o', .threw) ∧
        o' = { rep := Rep.cleared, valid := false, sp := o.newUrl.sp } ∧
        o'.valid = false ∧ GettersEmpty o'.rep ∧ o'.Wf ∧ o'.toRObj = ⟨none, o.newUrl.sp⟩ := by
  intro idna o e units base pre trace k hb h1 h2
  refine ⟨⟨Rep.cleared, false, o.newUrl.sp⟩, ?_, rfl, rfl, C20c_empty_url_getters,
    emptied_wf o, rfl⟩
  rcases h2 with h2 | ⟨rfl, h3, h4⟩
  · exact doParseWith_inside _ _ idna o e units hb pre trace k h1 h2
  · obtain ⟨r', hp⟩ := Option.isSome_iff_exists.mp h3
    exact doParseWith_params _ _ idna o e units hb pre trace r' hp h4

/-- ALL the ways `do_parse` can end in an exception, for every schedule - TWO since commit 46fa9a3:
    (i)   before the `try` (copy of a base / an input that is the object itself): the object is untouched;
    (ii)  anywhere inside the `try`, `parse_search_params()` included: the empty url, as above. -/
theorem C20c_parse_failure_classes :
    ∀ (idna : Idna) (o : ObjR) (e : Enc) (units : List Nat) (base : Option (Option Rep)) (pre : Nat)
      (trace : List Rep) (k : Option Nat) (o' : ObjR),
      doParseExc idna o e units base pre trace k = (o', .threw) →
      o' = o ∨
      (o' = { rep := Rep.cleared, valid := false, sp := o.newUrl.sp } ∧ GettersEmpty o'.rep) := by
  intro idna o e units base pre trace k o' h
  have := doParseExc_ends idna o e units base pre trace k
  rw [h] at this
  cases this with
  | before => exact Or.inl rfl
  | inside => exact Or.inr ⟨rfl, C20c_empty_url_getters⟩

/-- Lock-step after a failed parse (C06 meets C20).  Whatever the schedule and however the call ends:
    * an exception leaves the object untouched or leaves the EMPTY (invalid) url;
    * an object that is valid afterwards is either the untouched one, or `do_parse` RETURNED ok and the
      params object (if any) was rebuilt from the QUERY part of the new record.
    So no valid url is ever left with a parameter list that was not rebuilt from its query. -/
theorem C20c_failed_parse_lockstep :
    ∀ (idna : Idna) (o : ObjR) (e : Enc) (units : List Nat) (base : Option (Option Rep)) (pre : Nat)
      (trace : List Rep) (k : Option Nat) (o' : ObjR) (en : ParseEnd),
      doParseExc idna o e units base pre trace k = (o', en) →
      (en = .threw → o' = o ∨ (o'.rep = Rep.cleared ∧ o'.valid = false ∧ o'.sp = o.newUrl.sp)) ∧
      (o'.valid = true → (o' = o ∧ en = .threw) ∨
        (en = .returned true ∧
          ∀ p, o'.sp = some p → p.list = formParse false (o'.rep.partView QUERY) ∧ p.isSorted = false)) := by
  intro idna o e units base pre trace k o' en h
  have := doParseExc_ends idna o e units base pre trace k
  rw [h] at this
  cases this with
  | before => exact ⟨fun _ => Or.inl rfl, fun _ => Or.inl ⟨rfl, rfl⟩⟩
  | inside => exact ⟨fun _ => Or.inr ⟨rfl, rfl, rfl⟩, nofun⟩
  | error => exact ⟨nofun, nofun⟩
  | ok r' =>
    refine ⟨nofun, fun _ => Or.inr ⟨rfl, fun p hp => ?_⟩⟩
    cases hs : o.newUrl.sp <;> simp only [hs, parseSp] at hp <;> cases hp
    exact ⟨rfl, rfl⟩

/-- http://example.org/ (C20b) being re-parsed from "http://us…": the object as it is when the user
    name is being appended - "http://us", `part_end_` = [4, 7, 0, …] -/
def c20cHalf : Rep := (((Ser.new.writeScheme (asciiStr "http")).startPart USERNAME).append (asciiStr "us")).rep

/-- the same as a statement about the list `parseFailStates` -/
theorem C20c_parseFailStates :
    ∀ (idna : Idna) (o : ObjR) (e : Enc) (units : List Nat) (base : Option (Option Rep)) (pre : Nat)
      (trace : List Rep), ∀ o' ∈ parseFailStates idna o e units base pre trace,
      o' = o ∨ o' = { rep := Rep.cleared, valid := false, sp := o.newUrl.sp } := by
  intro idna o e units base pre trace o' ho'
  unfold parseFailStates at ho'
  obtain ⟨k, _, hk⟩ := List.mem_filterMap.mp ho'
  split at hk
  · rename_i o'' heq
    cases hk
    rcases C20c_parse_failure_classes idna o e units base pre trace (some k) _ heq with h | ⟨h, _⟩
    · exact Or.inl h
    · exact Or.inr h
  · cases hk

example :
    parseFailStates c05dIdna ⟨c20bExampleRep, true, none⟩ .u8 (asciiStr "http://user@h/") none 1
      [Rep.cleared, c20cHalf] =
      [⟨c20bExampleRep, true, none⟩, ⟨Rep.cleared, false, none⟩, ⟨Rep.cleared, false, none⟩] := by
  decide_ascii

/-- … and when it RETURNS an error (the parser rejected the input, or the base object is invalid) the
    object is the empty url too (F13) -/
theorem C20c_parse_error_empty :
    ∀ (idna : Idna) (o : ObjR) (e : Enc) (units : List Nat) (base : Option (Option Rep)) (pre : Nat)
      (trace : List Rep) (o' : ObjR),
      doParseExc idna o e units base pre trace none = (o', .returned false) →
      o' = { rep := Rep.cleared, valid := false, sp := o.newUrl.sp } := by
  intro idna o e units base pre trace o' h
  have := doParseExc_ends idna o e units base pre trace none
  rw [h] at this
  cases this
  rfl

/-- 1-3 apply to whatever a failing `do_parse` leaves, provided the object it started on was one of the
    states `RObj` stands for (`o.Wf`; e.g. a valid url, an empty one, a post-failure object of 2):
    the object left behind is again such a state and `new_url()` resets it completely, so the next
    parse (`doParseExc … none`) is `RObj.parse`: the parse of a fresh object.  (`parse_search_params()`
    being inside the `try`, no hypothesis on the result of the aborted parse is needed.) -/
theorem C20c_after_parse_failure :
    ∀ (idna : Idna) (o : ObjR) (e : Enc) (units : List Nat) (base : Option (Option Rep)) (pre : Nat)
      (trace : List Rep) (k : Option Nat) (o' : ObjR), o.Wf →
      doParseExc idna o e units base pre trace k = (o', .threw) →
      o'.Wf ∧ o'.rep.newUrl = Rep.cleared ∧
      (∀ (e' : Enc) (units' : List Nat) (base' : Option Rep),
        parseRepOn idna o'.rep e' units' base' = parseRep idna e' units' base') ∧
      (∀ (e' : Enc) (units' : List Nat) (base' : Option (Option Rep)) (pre' : Nat) (trace' : List Rep),
        (doParseExc idna o' e' units' base' pre' trace' none).1.toRObj = (o'.toRObj.parse idna e' units' base').1 ∧
        (doParseExc idna o' e' units' base' pre' trace' none).1.toRObj.rep =
          (({} : RObj).parse idna e' units' base').1.rep) := by
  intro idna o e units base pre trace k o' hw h
  have hwf : o'.Wf := by
    rcases C20c_parse_failure_classes idna o e units base pre trace k o' h with h1 | ⟨h1, _⟩
    · rw [h1]; exact hw
    · rw [h1]; exact emptied_wf o
  have hr := wf_resettable hwf
  refine ⟨hwf, newUrl_resettable hr, fun e' units' base' => parseRepOn_eq idna hr e' units' base', ?_⟩
  intro e' units' base' pre' trace'
  have a := doParse_refines idna o' hwf e' units' base' pre' trace'
  exact ⟨a.1, by rw [a.1]; exact (C20c_obj_parse_fresh idna _ e' units' base').1⟩

/-- what makes a SUCCESSFULLY parsed object a state `new_url()` resets: by C05e, without a base or
    against a representation of a base record, a parse result has a non-empty string -/
theorem C20c_result_nonempty :
    ∀ (idna : Idna), IdnaStable idna → ∀ (e : Enc) (units : List Nat),
      (∀ r', parseRep idna e units none = some r' → r'.norm ≠ []) ∧
      (∀ (b : Url) (rb : Rep), Norm idna b → RepFor rb b →
        ∀ r', parseRep idna e units (some rb) = some r' → r'.norm ≠ []) := by
  intro idna hi e units
  constructor
  · intro r' hr'
    obtain ⟨u', hu', hf⟩ := (C05e_parse_nobase_iff idna e units).1 r' hr'
    exact repFor_norm_ne (C05e_parse_repok idna hi e units none u' (Or.inl rfl) hu').1.1 hf
  · intro b rb hn hb r' hr'
    obtain ⟨k1, k2, k3, k4⟩ := C05e_norm_base idna b hn
    obtain ⟨h1, h2⟩ := C05e_parse_base idna e units b rb k1 k2 k3 k4 hb
    rw [hr'] at h1
    cases hp : parse idna e units (some b) with
    | none => rw [hp] at h1; cases h1
    | some u' =>
      have hf := (h2 r' u' hr' hp).1
      exact repFor_norm_ne (C05e_parse_repok idna hi e units (some b) u' (Or.inr ⟨b, rfl, hn⟩) hp).1.1 hf

/-- the handler bites (F15): the same failure WITHOUT the `catch (...)` block leaves the half-built
    url - invalid, but with a non-empty string and getters that return text; with the handler the
    empty url.  The next parse repairs either (the string is non-empty: `new_url` clears). -/
theorem C20c_catch_bites :
    let o : ObjR := { rep := c20bExampleRep, valid := true, sp := none }
    let inp := asciiStr "http://user@h/"
    c20cHalf.norm = asciiStr "http://us" ∧ c20cHalf.partEnd = [4, 7, 0, 0, 0, 0, 0, 0, 0, 0, 0] ∧
    doParseNoCatch c05dIdna o .u8 inp none 0 [Rep.cleared, c20cHalf] (some 1) =
      ({ rep := c20cHalf, valid := false, sp := none }, .threw) ∧
    ¬ ({ rep := c20cHalf, valid := false, sp := none } : ObjR).Wf ∧
    c20cHalf.href = asciiStr "http://us" ∧ c20cHalf.protocol = asciiStr "http:" ∧
    doParseExc c05dIdna o .u8 inp none 0 [Rep.cleared, c20cHalf] (some 1) =
      ({ rep := Rep.cleared, valid := false, sp := none }, .threw) ∧
    (doParseExc c05dIdna o .u8 inp none 0 [Rep.cleared, c20cHalf] none).2 = .returned true ∧
    (doParseExc c05dIdna o .u8 inp none 0 [Rep.cleared, c20cHalf] none).1.rep.norm = asciiStr "http://user@h/" ∧
    parseRepOn c05dIdna c20cHalf .u8 inp none = parseRep c05dIdna .u8 inp none := by
  decide_ascii

/-- The order bites (the finding repaired by commit 46fa9a3), on the OLD model `doParseParamsOutsideTry`
    (`parse_search_params()` after the handler): http://example.org/?a=1 owning a params object is
    re-parsed from "http://b/?y=2"; 2 throwing primitives in the parser, the 3rd is `parse_search_params()`.
    When it fails the OLD code leaves a VALID url that reads "http://b/?y=2" whose params list is the EMPTY
    list `clear()` left (not the parse of "y=2"): url and params out of step.  The library (`doParseExc`)
    leaves the empty url under the same schedule; both agree on every other schedule shown (an earlier
    failure: the empty url; no failure: the list refilled from the new query). -/
theorem C20c_params_outside_try_bites :
    let r0 : Rep := { c20bExampleRep with norm := asciiStr "http://example.org/?a=1",
                                          partEnd := [4, 7, 7, 7, 7, 18, 18, 18, 19, 23, 0], queryNotNull := true }
    let o : ObjR := { rep := r0, valid := true, sp := some { list := [(asciiStr "a", asciiStr "1")], isSorted := false } }
    let inp := asciiStr "http://b/?y=2"
    let tr := [Rep.cleared, Rep.cleared]
    (∃ r', parseRep c05dIdna .u8 inp none = some r' ∧ r'.norm = inp ∧ r'.partView QUERY = asciiStr "y=2" ∧
      doParseParamsOutsideTry c05dIdna o .u8 inp none 0 tr (some 2) =
        ({ rep := r', valid := true, sp := some { list := [], isSorted := true } }, .threw) ∧
      (doParseExc c05dIdna o .u8 inp none 0 tr none).2 = .returned true ∧
      (doParseExc c05dIdna o .u8 inp none 0 tr none).1.rep = r' ∧
      (doParseExc c05dIdna o .u8 inp none 0 tr none).1.sp =
        some { list := formParse false (r'.partView QUERY), isSorted := false } ∧
      doParseParamsOutsideTry c05dIdna o .u8 inp none 0 tr none = doParseExc c05dIdna o .u8 inp none 0 tr none) ∧
    doParseExc c05dIdna o .u8 inp none 0 tr (some 2) =
      ({ rep := Rep.cleared, valid := false, sp := some { list := [], isSorted := true } }, .threw) ∧
    doParseExc c05dIdna o .u8 inp none 0 tr (some 1) =
      ({ rep := Rep.cleared, valid := false, sp := some { list := [], isSorted := true } }, .threw) ∧
    doParseParamsOutsideTry c05dIdna o .u8 inp none 0 tr (some 1) =
      doParseExc c05dIdna o .u8 inp none 0 tr (some 1) := by
  repeat rw [asciiStr_ofList]
  refine ⟨⟨_, rfl, by decide +kernel, by decide +kernel, by decide +kernel, by decide +kernel, by decide +kernel,
    rfl, rfl⟩, by decide +kernel, by decide +kernel, by decide +kernel⟩

/-- … and the two models differ ONLY there: without a failing `parse_search_params()` the old order and
    the new one are the same function -/
theorem C20c_params_outside_try_same :
    ∀ (idna : Idna) (o : ObjR) (e : Enc) (units : List Nat) (base : Option (Option Rep)) (pre : Nat)
      (trace : List Rep),
      doParseParamsOutsideTry idna o e units base pre trace none = doParseExc idna o e units base pre trace none ∧
      ∀ k, k < pre + (tryBodyT idna o.rep e units base trace).pts.length →
        doParseParamsOutsideTry idna o e units base pre trace (some k) =
          doParseExc idna o e units base pre trace (some k) := by
  intro idna o e units base pre trace
  refine ⟨?_, ?_⟩
  · unfold doParseParamsOutsideTry doParseExc doParseWith parseFinish
    simp
  · intro k hk
    unfold doParseParamsOutsideTry doParseExc doParseWith
    simp only
    by_cases h1 : k < pre
    · rw [if_pos h1, if_pos h1]
    · rw [if_neg h1, if_neg h1, run_lt _ _ (by omega)]

/-- without a failure `doParseExc` is the `RObj.parse` of `Impl/ObjRep.lean` (the function the
    correspondence driver replays against the real library), on every state `RObj` stands for -/
theorem C20c_doParse_refines :
    ∀ (idna : Idna) (o : ObjR), o.Wf →
    ∀ (e : Enc) (units : List Nat) (base : Option (Option Rep)) (pre : Nat) (trace : List Rep),
      (doParseExc idna o e units base pre trace none).1.toRObj = (o.toRObj.parse idna e units base).1 ∧
      (doParseExc idna o e units base pre trace none).2 = .returned (o.toRObj.parse idna e units base).2 :=
  fun idna o hw e units base pre trace => doParse_refines idna o hw e units base pre trace

/-! ## 5. not vacuous -/

/-- `hash("ab")` on http://h/p?q#old (C20b): the 6th throwing primitive fails - the object reads
    "http://h/p?q#a", `part_end_[FRAGMENT] = 0`, FRAGMENT flag on: neither the old url (…#old) nor the
    new one (…#ab).  Parsing "s://x:1/y?z" into it gives exactly the fresh parse, whose raw
    representation is evaluated; so does parsing "../r" against a base; an unparsable input fails as on a
    fresh object; and on the object level the result is the empty-record / fresh result. -/
theorem C20c_nonvacuous :
    let r := layout { scheme := asciiStr "http", host := some ⟨.domain, asciiStr "h"⟩, path := [asciiStr "p"],
                      query := some (asciiStr "q"), fragment := some (asciiStr "old") }
    let half : Rep := { r with norm := asciiStr "http://h/p?q#a", partEnd := [4, 7, 7, 7, 7, 8, 8, 8, 10, 12, 0] }
    let new : Rep := { r with norm := asciiStr "http://h/p?q#ab", partEnd := [4, 7, 7, 7, 7, 8, 8, 8, 10, 12, 15] }
    r.norm = asciiStr "http://h/p?q#old" ∧
    (failStates c05dIdna .hash .u8 (asciiStr "ab") r)[5]? = some half ∧
    (setRepX c05dIdna .hash .u8 (asciiStr "ab") r (some 5)).1 = .threw half ∧
    (setRepX c05dIdna .hash .u8 (asciiStr "ab") r none).1 = .done new ∧
    half ≠ r ∧ half ≠ new ∧ half.fragmentNotNull = true ∧ half.pe FRAGMENT = 0 ∧
    parseRepOn c05dIdna half .u8 (asciiStr "s://x:1/y?z") none =
      some { norm := asciiStr "s://x:1/y?z", partEnd := [1, 4, 4, 4, 4, 5, 7, 7, 9, 11, 0],
             hostNotNull := true, portNotNull := true, queryNotNull := true, fragmentNotNull := false,
             opaquePath := false, hostType := 1, segCount := 1, schemeIdx := none } ∧
    parseRepOn c05dIdna half .u8 (asciiStr "s://x:1/y?z") none = parseRep c05dIdna .u8 (asciiStr "s://x:1/y?z") none ∧
    (parseRepOn c05dIdna half .u8 (asciiStr "../r") (some r)).map (·.norm) = some (asciiStr "http://h/r") ∧
    parseRepOn c05dIdna half .u8 (asciiStr "//") none = none ∧
    (doParseExc c05dIdna ⟨half, true, none⟩ .u8 (asciiStr "s://x:1/y?z") none 0 [] none).1.rep.norm =
      asciiStr "s://x:1/y?z" ∧
    doParseExc c05dIdna ⟨half, true, none⟩ .u8 (asciiStr "//") none 0 [] none =
      (⟨Rep.cleared, false, none⟩, .returned false) := by
  decide_ascii

end Upa.Props

#print axioms Upa.Props.C20c_newUrl_iff
#print axioms Upa.Props.C20c_parse_ignores_state_partial
#print axioms Upa.Props.C20c_newUrl_leak
#print axioms Upa.Props.C20c_reachable_resettable
#print axioms Upa.Props.C20c_parse_ignores_reachable
#print axioms Upa.Props.C20c_obj_parse_ignores_state
#print axioms Upa.Props.C20c_obj_parse_fresh
#print axioms Upa.Props.C20c_reparse_after_failed_setter
#print axioms Upa.Props.C20c_reparse_after_failed_update
#print axioms Upa.Props.C20c_reparse_obj
#print axioms Upa.Props.C20c_assign_after_failure
#print axioms Upa.Props.C20c_assign_after_failure_raw
#print axioms Upa.Props.C20c_empty_url_getters
#print axioms Upa.Props.C20c_parse_failure_empty
#print axioms Upa.Props.C20c_parse_failure_classes
#print axioms Upa.Props.C20c_failed_parse_lockstep
#print axioms Upa.Props.C20c_parseFailStates
#print axioms Upa.Props.C20c_parse_error_empty
#print axioms Upa.Props.C20c_after_parse_failure
#print axioms Upa.Props.C20c_result_nonempty
#print axioms Upa.Props.C20c_catch_bites
#print axioms Upa.Props.C20c_params_outside_try_bites
#print axioms Upa.Props.C20c_params_outside_try_same
#print axioms Upa.Props.C20c_doParse_refines
#print axioms Upa.Props.C20c_nonvacuous
