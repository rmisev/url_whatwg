import Upa.Gen.Tables
import Upa.Props.C05
import Upa.Props.C10
import Upa.Props.C11
import Upa.Props.C12
import Upa.Impl.Buffer
import Upa.Proofs.SimpleBuffer
/-
  C04 — no memory error, undefined behaviour, hang or stray exception.  Runtime truth: the harness runs
  every stream of every property under ASan + UBSan with assertions enabled (tools/check.py), which is
  where an out-of-bounds access, a failed assertion, a hang or a foreign exception shows up.
  What is logic is proved on the models:
  * termination: every model function is total (Lean accepts nothing else); the fuel-driven loops
    never run out of fuel (`decodeAux_fuel`, the IPv6 loops in Proofs/Ipv6Parse.lean);
  * the scanners' results stay in range (32-bit address, eight 16-bit pieces, scalar values);
  * every offset of the stored representation is within the string and monotone, so every getter slice
    and every `replace` position is in bounds (`C05_layout_monotone`);
  * the ICU buffer-overflow retry loop ends after one retry (regenerated by running src/url_idna.cpp
    against an ICU shim that reports U_BUFFER_OVERFLOW_ERROR with the needed length).
-/
namespace Upa.Props
open Upa

/-- ipv4_parse never produces a value outside uint32 -/
theorem C04_ipv4_range : ∀ s n, Impl.ipv4Parse s = some n → n < 2 ^ 32 := C11_parse_range

/-- ipv6_parse fills exactly `address[8]` with 16-bit pieces -/
theorem C04_ipv6_range : ∀ s a, Impl.ipv6Parse s = some a → a.length = 8 ∧ ∀ x ∈ a, x < 65536 := C12_parse_range

/-- every decoder yields Unicode scalar values only (no surrogate, nothing above U+10FFFF reaches the
    UTF-8 encoder, whose four-byte branch would otherwise overflow a byte) -/
theorem C04_decode_scalar : ∀ b, (∀ x ∈ b, x < 256) → ∀ c ∈ Impl.decode .u8 b, Spec.isScalar c = true :=
  Impl.decode_u8_scalar

/-- the decode loop consumes at least one unit per iteration: its output is never longer than its
    input (termination measure of every `while (it < last) read_utf_char(it, last)` loop) -/
theorem C04_decode_progress (e : Enc) (l : List Nat) : (Impl.decode e l).length ≤ l.length := by
  have h : ∀ n (l : List Nat), (Impl.decodeAux e n l).length ≤ n := by
    intro n
    induction n with
    | zero => intro l; simp [Impl.decodeAux]
    | succ n ih =>
      intro l
      cases l with
      | nil => simp [Impl.decodeAux]
      | cons a t =>
        simp only [Impl.decodeAux]
        have := ih (Impl.readUtfChar e (a :: t)).2
        simp only [List.length_cons]
        omega
  exact h _ _

/-- offsets of the stored representation: monotone, eleven of them, all within the string -/
theorem C04_offsets : ∀ u : Url, List.Pairwise (· ≤ ·) (Impl.layout u).partEnd ∧ (Impl.layout u).partEnd.length = 11 ∧
    ∀ x ∈ (Impl.layout u).partEnd, x ≤ (Impl.layout u).norm.length := C05_layout_monotone

/-- domain_to_ascii: with a too small buffer ICU reports the needed length, the library reserves it
    and the second call succeeds — the `while (true)` loop ends (regenerated fact) -/
theorem C04_idna_retry : Gen.idnaOverflowRetryOk = true ∧ Gen.idnaOverflowCalls ≤ 2 := by decide

/-! ### simple_buffer growth arithmetic (include/upa/buffer.h:163-179) -/
open Upa.Impl

theorem C04_buffer_grow (M cap minCap : Nat) :
    (∀ r, bufGrow M cap minCap = some r → minCap ≤ r ∧ r ≤ M ∧ cap ≤ r) ∧
    (bufGrow M cap minCap = none → M / 2 < minCap ∨ M / 2 < (if cap = 0 then 16 else cap)) := by
  constructor
  · intro r h
    have := SB.bufGrow_some h
    omega
  · intro h
    -- the guard stopped the loop at the candidate `c·2^k`: for `k = 0` that is `c`, else a candidate below `minCap`
    obtain ⟨k, hsmall, hguard⟩ := (SB.bufGrow_exact M cap minCap).2.1 h
    cases k with
    | zero => right; simpa using hguard
    | succ k => left; have := hsmall (k + 1) (by omega) (Nat.le_refl _); omega

theorem C04_buffer_add_sizes (M n1 n2 : Nat) (h1 : n1 ≤ M) :
    (∀ r, bufAddSizes M n1 n2 = some r → r = n1 + n2 ∧ r ≤ M) ∧ (bufAddSizes M n1 n2 = none → n1 + n2 > M) := by
  unfold bufAddSizes
  constructor
  · intro r h; split at h <;> simp at h; omega
  · intro h; split at h <;> simp at h; omega
example : bufGrow (2^63 - 1) 1024 1025 = some 2048 := by decide +kernel

example : Impl.ipv4Parse [0x31, 0x2E, 0x32] = some 16777218 := by decide +kernel

#print axioms C04_ipv4_range
#print axioms C04_ipv6_range
#print axioms C04_decode_scalar
#print axioms C04_decode_progress
#print axioms C04_offsets
#print axioms C04_idna_retry
#print axioms C04_buffer_grow
#print axioms C04_buffer_add_sizes
end Upa.Props
