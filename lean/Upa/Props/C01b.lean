import Upa.Proofs.C01Head
import Upa.Props.C07
/-
  C01 — the assembled theorem.  (Separate file because the simulation proofs import Props/C01.lean for
  `UnitsOk` and the input-conversion lemma.)

  `Impl.parse` is the code-shaped block parser (one function per `if (state == …)` block of
  url_parser::url_parse, tied to the C++ by the correspondence check); `Spec.apiParse` is the URL
  Standard's basic URL parser as the per-code-point state machine with pointer, buffer and flags.
  Proved by simulation, one lemma per state (Proofs/C01Run, C01Seg, C01Tail, C01Auth,
  C01Head), for every input in every encoding and every base, under the two hypotheses on the
  IDNA parameter of C07 (`IdnaOk`: properties of UTS #46 ToASCII, validated against ICU by testing).
-/
namespace Upa.Props
open Upa

/-- parsing conforms to the Standard: success exactly when the Standard's parser succeeds, and the same
    URL record (hence the same href, origin, protocol, username, password, host, hostname, port,
    pathname, search, hash: all are functions of the record, `Impl/Api.lean`) -/
theorem C01_parse_conforms (idna : Idna) (h : IdnaOk idna) (e : Enc) (units : List Nat) (base : Option Url)
    (hu : UnitsOk e units) : Impl.parse idna e units base = Spec.apiParse idna e units base :=
  Upa.Proofs.C01.C01_parse_conforms_closed idna h.ascii h.persist e units base hu

#print axioms C01_parse_conforms
end Upa.Props
