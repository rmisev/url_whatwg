import Upa.Proofs.EvalFuel
import Upa.Proofs.Form
import Upa.Impl.Url
import Upa.Proofs.Percent
import Upa.Proofs.Literal
/-
  C14 — percent_encode / encode_url_component / percent_decode (include/upa/url_percent_encode.h:563-602, their
  loops in `detail` :449-547; model: Upa/Impl/Percent.lean) against the URL Standard's §1.3 algorithms (Upa/Spec/Percent.lean).
  Helper lemmas: Upa/Proofs/Percent.lean (namespace Upa.Proofs.C14).
-/
namespace Upa.Props
open Upa.Proofs.C14 (PctWord sample dsample)
open Upa.Proofs.Eval (percentDecode_eq_fuel)

/-! ### 1. the encode loop with a no-encode set = UTF-8 percent-encode with the complementary set -/

theorem C14_encode :
    ∀ (inSet : Nat → Bool) (s : List Nat), (∀ c ∈ s, Spec.isScalar c = true) →
      (∀ c, c ≥ 0x80 → inSet c = true) →
      Impl.percentEncode (Spec.noEncode inSet) s = Spec.utf8PercentEncode inSet s :=
  fun inSet s hs hset => Proofs.C14.percentEncode_eq_spec inSet hset s hs

-- hypotheses satisfiable (path percent-encode set; 1-, 2-, 3-, 4-byte scalars, `%`, DEL, `?`)
example : (∀ c ∈ sample, Spec.isScalar c = true) ∧ (∀ c, c ≥ 0x80 → Spec.pathSet c = true) :=
  ⟨by decide, Proofs.C14.path_hi⟩
example : Impl.percentEncode (Spec.noEncode Spec.pathSet) sample =
    asciiStr "a%20%C3%A9%E2%82%AC%F0%9F%98%80%%7F%3F" := by decide_ascii
example : Spec.utf8PercentEncode Spec.pathSet sample =
    asciiStr "a%20%C3%A9%E2%82%AC%F0%9F%98%80%%7F%3F" := by decide_ascii

theorem C14_encode_c0 :
    ∀ s : List Nat, (∀ c ∈ s, Spec.isScalar c = true) →
      Impl.percentEncodeC0 s = Spec.utf8PercentEncode Spec.c0ControlSet s :=
  fun s hs => Proofs.C14.percentEncodeC0_eq_spec s hs

example : Impl.percentEncodeC0 (0x1F :: sample) =
    asciiStr "%1Fa %C3%A9%E2%82%AC%F0%9F%98%80%%7F?" := by decide_ascii
example : Spec.utf8PercentEncode Spec.c0ControlSet (0x1F :: sample) =
    asciiStr "%1Fa %C3%A9%E2%82%AC%F0%9F%98%80%%7F?" := by decide_ascii

/-! ### 2. output alphabet, for an arbitrary (user-built) no-encode set -/

theorem C14_alphabet :
    ∀ (noEnc : Nat → Bool) (s : List Nat), (∀ c ∈ s, Spec.isScalar c = true) →
      PctWord (fun c => decide (c < 0x80) && noEnc c) (Impl.percentEncode noEnc s) :=
  fun noEnc s _ => Proofs.C14.percentEncode_pctWord noEnc s

theorem C14_ascii_output :
    ∀ (noEnc : Nat → Bool) (s : List Nat), (∀ c ∈ s, Spec.isScalar c = true) →
      ∀ x ∈ Impl.percentEncode noEnc s, x < 0x80 :=
  fun noEnc s _ => Proofs.C14.percentEncode_lt noEnc s

-- a user-built set with a non-ASCII "member" (U+00E9): it is percent-encoded all the same
example : Impl.percentEncode (fun c => c == 0x61 || c == 0xE9) [0x61, 0x62, 0xE9] =
    asciiStr "a%62%C3%A9" := by decide_ascii
-- `PctWord` is a real restriction: it accepts `a%62`, rejects lower-case hex digits and a bare `%`
example : PctWord (fun c => c == 0x61) (asciiStr "a%62") :=
  .single _ _ (by decide) (.triplet _ _ _ (by decide) (by decide) .nil)
example : ¬ PctWord (fun c => c == 0x61) [0x25, 0x63, 0x33] := by
  intro h
  cases h with
  | single _ _ hc _ => simp at hc
  | triplet _ _ _ h1 _ _ => simp [Proofs.C14.isUpperHex] at h1
example : ¬ PctWord (fun c => c == 0x61) [0x25] := by
  intro h
  cases h with
  | single _ _ hc _ => simp at hc

/-! ### 3. encodeURIComponent-style encoding -/

theorem C14_component :
    ∀ s : List Nat, (∀ c ∈ s, Spec.isScalar c = true) →
      Impl.percentEncode Impl.componentNoEnc s = Spec.utf8PercentEncode Spec.componentSet s :=
  fun s hs => Proofs.C14.percentEncode_eq_spec Spec.componentSet Proofs.C14.component_hi s hs

example : Impl.percentEncode Impl.componentNoEnc sample =
    asciiStr "a%20%C3%A9%E2%82%AC%F0%9F%98%80%25%7F%3F" := by decide_ascii
example : Spec.utf8PercentEncode Spec.componentSet sample =
    asciiStr "a%20%C3%A9%E2%82%AC%F0%9F%98%80%25%7F%3F" := by decide_ascii

/-! ### 4. percent_decode = string percent-decode, then UTF-8 decode with replacement (as UTF-8) -/

theorem C14_decode :
    ∀ s : List Nat, (∀ c ∈ s, Spec.isScalar c = true) →
      Impl.percentDecode s = Spec.utf8Encode (Spec.utf8Decode (Spec.stringPercentDecode s)) :=
  fun s hs => Proofs.C14.percentDecode_eq_spec s hs

-- `dsample` = `%41%C3%A9%E2%82` U+20AC `%E2%82%41%C3%zz%ff%4` (see Upa/Proofs/Percent.lean): an ASCII escape,
-- a well-formed run, a truncated run closed by a raw non-ASCII scalar, a truncated sequence followed
-- by an ASCII escape inside the same run, a run continued by a non-hex `%`, `%ff`, an incomplete `%4`
example : ∀ c ∈ dsample, Spec.isScalar c = true := by decide +kernel
example : Impl.percentDecode dsample =
    [0x41, 0xC3, 0xA9, 0xEF, 0xBF, 0xBD, 0xE2, 0x82, 0xAC, 0xEF, 0xBF, 0xBD, 0x41, 0xEF, 0xBF, 0xBD,
     0x25, 0x7A, 0x7A, 0xEF, 0xBF, 0xBD, 0x25, 0x34] := by
  rw [percentDecode_eq_fuel]; decide +kernel
example : Spec.stringPercentDecode dsample =
    [0x41, 0xC3, 0xA9, 0xE2, 0x82, 0xE2, 0x82, 0xAC, 0xE2, 0x82, 0x41, 0xC3, 0x25, 0x7A, 0x7A, 0xFF,
     0x25, 0x34] := by
  rw [Spec.stringPercentDecode, Proofs.C15.pd_eq_pdK]; decide +kernel
example : Spec.utf8Decode [0x41, 0xC3, 0xA9, 0xE2, 0x82, 0xE2, 0x82, 0xAC, 0xE2, 0x82, 0x41, 0xC3, 0x25,
      0x7A, 0x7A, 0xFF, 0x25, 0x34] =
    [0x41, 0xE9, 0xFFFD, 0x20AC, 0xFFFD, 0x41, 0xFFFD, 0x25, 0x7A, 0x7A, 0xFFFD, 0x25, 0x34] := by
  decide +kernel
example : Spec.utf8Encode [0x41, 0xE9, 0xFFFD, 0x20AC, 0xFFFD, 0x41, 0xFFFD, 0x25, 0x7A, 0x7A, 0xFFFD,
      0x25, 0x34] =
    [0x41, 0xC3, 0xA9, 0xEF, 0xBF, 0xBD, 0xE2, 0x82, 0xAC, 0xEF, 0xBF, 0xBD, 0x41, 0xEF, 0xBF, 0xBD,
     0x25, 0x7A, 0x7A, 0xEF, 0xBF, 0xBD, 0x25, 0x34] := by decide +kernel

/-! ### 5. round trip -/

theorem C14_roundtrip :
    ∀ (noEnc : Nat → Bool) (s : List Nat), (∀ c ∈ s, Spec.isScalar c = true) →
      noEnc 0x25 = false →
      Impl.percentDecode (Impl.percentEncode noEnc s) = Spec.utf8Encode s :=
  fun noEnc s hs h25 => Proofs.C14.percentDecode_percentEncode noEnc s hs h25

example : (∀ c ∈ sample, Spec.isScalar c = true) ∧ Impl.componentNoEnc 0x25 = false := by decide
example : Impl.percentDecode (Impl.percentEncode Impl.componentNoEnc sample) =
    [0x61, 0x20, 0xC3, 0xA9, 0xE2, 0x82, 0xAC, 0xF0, 0x9F, 0x98, 0x80, 0x25, 0x7F, 0x3F] := by
  -- the encoded text is a%20%C3%A9%E2%82%AC%F0%9F%98%80%25%7F%3F
  rw [percentDecode_eq_fuel]; decide +kernel
example : Spec.utf8Encode sample =
    [0x61, 0x20, 0xC3, 0xA9, 0xE2, 0x82, 0xAC, 0xF0, 0x9F, 0x98, 0x80, 0x25, 0x7F, 0x3F] := by
  decide +kernel
-- the hypothesis `noEnc '%' = false` is needed: the fragment set keeps `%`, and `%41` comes back as `A`
example : Impl.fragmentNoEnc 0x25 = true ∧
    Impl.percentDecode (Impl.percentEncode Impl.fragmentNoEnc [0x25, 0x34, 0x31]) = [0x41] := by
  rw [percentDecode_eq_fuel]; decide +kernel

/-! ### 6. re-encoding the library's own output is the identity when `%` and hex digits are kept -/

theorem C14_encode_idem :
    ∀ (noEnc : Nat → Bool) (s : List Nat), (∀ c ∈ s, Spec.isScalar c = true) →
      noEnc 0x25 = true → (∀ c, isHex c = true → noEnc c = true) →
      Impl.percentEncode noEnc (Impl.percentEncode noEnc s) = Impl.percentEncode noEnc s :=
  fun noEnc s _ h25 hhex => Proofs.C14.percentEncode_idem noEnc s h25 hhex

theorem C14_encode_idem_fragment :
    ∀ s : List Nat, (∀ c ∈ s, Spec.isScalar c = true) →
      Impl.percentEncode Impl.fragmentNoEnc (Impl.percentEncode Impl.fragmentNoEnc s) =
        Impl.percentEncode Impl.fragmentNoEnc s :=
  fun s hs => C14_encode_idem _ s hs (by decide) (Proofs.C14.noEncode_hex _ Proofs.C14.fragment_hex)

theorem C14_encode_idem_query :
    ∀ s : List Nat, (∀ c ∈ s, Spec.isScalar c = true) →
      Impl.percentEncode Impl.queryNoEnc (Impl.percentEncode Impl.queryNoEnc s) =
        Impl.percentEncode Impl.queryNoEnc s :=
  fun s hs => C14_encode_idem _ s hs (by decide) (Proofs.C14.noEncode_hex _ Proofs.C14.query_hex)

theorem C14_encode_idem_specialQuery :
    ∀ s : List Nat, (∀ c ∈ s, Spec.isScalar c = true) →
      Impl.percentEncode Impl.specialQueryNoEnc (Impl.percentEncode Impl.specialQueryNoEnc s) =
        Impl.percentEncode Impl.specialQueryNoEnc s :=
  fun s hs => C14_encode_idem _ s hs (by decide) (Proofs.C14.noEncode_hex _ Proofs.C14.specialQuery_hex)

theorem C14_encode_idem_path :
    ∀ s : List Nat, (∀ c ∈ s, Spec.isScalar c = true) →
      Impl.percentEncode Impl.pathNoEnc (Impl.percentEncode Impl.pathNoEnc s) =
        Impl.percentEncode Impl.pathNoEnc s :=
  fun s hs => C14_encode_idem _ s hs (by decide) (Proofs.C14.noEncode_hex _ Proofs.C14.path_hex)

theorem C14_encode_idem_userinfo :
    ∀ s : List Nat, (∀ c ∈ s, Spec.isScalar c = true) →
      Impl.percentEncode Impl.userinfoNoEnc (Impl.percentEncode Impl.userinfoNoEnc s) =
        Impl.percentEncode Impl.userinfoNoEnc s :=
  fun s hs => C14_encode_idem _ s hs (by decide) (Proofs.C14.noEncode_hex _ Proofs.C14.userinfo_hex)

theorem C14_encode_c0_idem :
    ∀ s : List Nat, (∀ c ∈ s, Spec.isScalar c = true) →
      Impl.percentEncodeC0 (Impl.percentEncodeC0 s) = Impl.percentEncodeC0 s :=
  fun s _ => Proofs.C14.percentEncodeC0_idem s

example : Impl.percentEncode Impl.pathNoEnc (Impl.percentEncode Impl.pathNoEnc sample) =
    asciiStr "a%20%C3%A9%E2%82%AC%F0%9F%98%80%%7F%3F" := by decide_ascii
example : Impl.percentEncodeC0 (Impl.percentEncodeC0 (0x1F :: sample)) =
    asciiStr "%1Fa %C3%A9%E2%82%AC%F0%9F%98%80%%7F?" := by decide_ascii
-- the hypothesis `noEnc '%' = true` is needed: the component set encodes `%`, so `%` → `%25` → `%2525`
example : Impl.componentNoEnc 0x25 = false ∧
    Impl.percentEncode Impl.componentNoEnc (asciiStr "%") = asciiStr "%25" ∧
    Impl.percentEncode Impl.componentNoEnc (Impl.percentEncode Impl.componentNoEnc (asciiStr "%")) =
      asciiStr "%2525" := by decide_ascii

end Upa.Props

#print axioms Upa.Props.C14_encode
#print axioms Upa.Props.C14_encode_c0
#print axioms Upa.Props.C14_alphabet
#print axioms Upa.Props.C14_ascii_output
#print axioms Upa.Props.C14_component
#print axioms Upa.Props.C14_decode
#print axioms Upa.Props.C14_roundtrip
#print axioms Upa.Props.C14_encode_idem
#print axioms Upa.Props.C14_encode_idem_fragment
#print axioms Upa.Props.C14_encode_idem_query
#print axioms Upa.Props.C14_encode_idem_specialQuery
#print axioms Upa.Props.C14_encode_idem_path
#print axioms Upa.Props.C14_encode_idem_userinfo
#print axioms Upa.Props.C14_encode_c0_idem
