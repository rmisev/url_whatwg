import Upa.Proofs.Fault
/-
  C20 — an allocation failure at any point is safe; `url::href` / `url::safe_assign` are all-or-nothing.
  Model: `Upa.Impl.Fault` (Upa/Impl/Fault.lean; lemmas: Upa/Proofs/Fault.lean): an operation is a list of
  steps in program order, each tagged may-throw or not and temp-only or target-modifying; a failure
  schedule makes one may-throw step fail.  The theorems
  quantify over ALL failure points (`failAt`), all start states and all lengths of the parse phase.
  Taken from the C++ side, not proved here: the tags themselves, i.e. that `move_record` and
  `move_params` cannot throw (string/list move-assignment with std::allocator and POD copies;
  declared `noexcept` by the library from C++17 on) and that parsing writes only to the temporary `u`.
-/
namespace Upa.Props
open Upa.Impl.Fault

/-- all-or-nothing for ANY operation in which every may-throw step precedes every
    target-modifying step (and no step is both): whichever step fails, the target object is
    exactly as before when the exception leaves the operation -/
theorem C20_atomic_general {α β : Type} (steps : List (Step α β))
    (hshape : (∀ st ∈ steps, st.eff.isMutTarget = true → st.mayThrow = false) ∧
      steps.Pairwise (fun a b => a.eff.isMutTarget = true → b.mayThrow = false))
    (failAt : Option Nat) (s s' : St α β) (e : Exn)
    (h : runOp steps failAt s = .threw e s') : s'.target = s.target :=
  atomic_general steps hshape failAt s s' e h

/-- … and once the first target-modifying step has been reached the operation completes -/
theorem C20_commit_completes {α β : Type} (steps : List (Step α β))
    (h : ∀ st ∈ steps, st.mayThrow = false) (failAt : Option Nat) (s : St α β) :
    runOp steps failAt s = .done (steps.foldl (fun s st => st.eff.apply s) s) :=
  runOp_noThrow steps h failAt s

/-- the three branches of `safe_assign` have the shape -/
theorem safeAssign_shape (thisHasParams otherHasParams : Bool) :
    Shape (safeAssignSteps thisHasParams otherHasParams) := by
  cases thisHasParams <;> cases otherHasParams <;> decide

/-- `href` has the shape, for every parser output (every length of the parse phase) -/
theorem href_shape (maxSize : Nat) (thisHasParams : Bool) (output : List Nat) (valid : Bool) :
    Shape (hrefSteps maxSize thisHasParams output valid) := by
  apply shape_append_temp
  · intro st hst
    obtain ⟨c, _, rfl⟩ := List.mem_map.mp hst
    rfl
  · cases valid
    · simp [Shape]
    · exact safeAssign_shape thisHasParams false

/-- `url::safe_assign`: if it does not complete, the url record and the search params of `*this`
    are exactly as before (all three branches, every failure point) -/
theorem C20_safe_assign_atomic (thisHasParams otherHasParams : Bool) (failAt : Option Nat)
    (s s' : St UrlObj Temps) (e : Exn)
    (h : runOp (safeAssignSteps thisHasParams otherHasParams) failAt s = .threw e s') :
    s'.target.record = s.target.record ∧ s'.target.params = s.target.params := by
  rw [atomic_general _ (safeAssign_shape _ _) failAt s s' e h]; exact ⟨rfl, rfl⟩

/-- `url::href`: the same as for `safe_assign`, for every input and every failure point in the parse phase or after -/
theorem C20_href_atomic (maxSize : Nat) (thisHasParams : Bool) (output : List Nat) (valid : Bool)
    (failAt : Option Nat) (s s' : St UrlObj Temps) (e : Exn)
    (h : runOp (hrefSteps maxSize thisHasParams output valid) failAt s = .threw e s') :
    s'.target.record = s.target.record ∧ s'.target.params = s.target.params := by
  rw [atomic_general _ (href_shape _ _ _ _) failAt s s' e h]; exact ⟨rfl, rfl⟩

/-- and `href` without failure does what it should (so "nothing" is not all it ever does): the
    record becomes the parser's output, the params object (if there is one) is rebuilt from it; an
    invalid input leaves the target alone -/
theorem C20_href_completes (maxSize : Nat) (thisHasParams : Bool) (output : List Nat) (valid : Bool)
    (s : St UrlObj Temps) (hsize : s.temp.u.record.length + output.length ≤ maxSize) :
    ∃ s', runOp (hrefSteps maxSize thisHasParams output valid) none s = .done s' ∧
      s'.target = if valid then
          { record := s.temp.u.record ++ output,
            params := if thisHasParams then some (paramsOf (s.temp.u.record ++ output)) else s.target.params }
        else s.target := by
  induction output generalizing s with
  | nil =>
    rw [List.append_nil]
    cases valid <;> cases thisHasParams <;> exact ⟨_, rfl, rfl⟩
  | cons c r ih =>
    rw [List.length_cons] at hsize
    -- the growth step passes its size check and appends `c` to the temporary
    have h1 : (parseStep maxSize c).tooLong s = false := decide_eq_false (by omega)
    obtain ⟨s', hs', ht⟩ := ih ((parseStep maxSize c).eff.apply s)
      (by show (s.temp.u.record ++ [c]).length + r.length ≤ maxSize
          rw [List.length_append, List.length_singleton]; omega)
    refine ⟨s', ?_, ?_⟩
    · exact (runOp_cons_none _ _ s h1).trans hs'
    · rw [ht]
      simp only [parseStep, Effect.apply, List.append_assoc, List.singleton_append]

/-- start state of the examples: `*this` = "a?x" with a search-params object [x]; `u` fresh -/
def exStart : St UrlObj Temps :=
  { target := { record := [97, 63, 120], params := some [120] }, temp := { u := { record := [], params := none } } }

/-- non-vacuity of `C20_href_atomic`: `href("b?yz")` on `exStart` — no failure: record and params both replaced;
    failure in the parse phase (index 1), at the params construction (index 4): an exception and the
    target untouched; index 5 is past the last may-throw step: completes;
    with `max_size` 3 the fourth growth step raises `length_error`, target untouched -/
example :
    runOp (hrefSteps 1000 true [98, 63, 121, 122] true) none exStart =
      .done { target := { record := [98, 63, 121, 122], params := some [121, 122] },
              temp := { u := { record := [], params := none }, params := [] } } ∧
    runOp (hrefSteps 1000 true [98, 63, 121, 122] true) (some 1) exStart =
      .threw .badAlloc { exStart with temp := { u := { record := [98], params := none } } } ∧
    runOp (hrefSteps 1000 true [98, 63, 121, 122] true) (some 4) exStart =
      .threw .badAlloc { exStart with temp := { u := { record := [98, 63, 121, 122], params := none } } } ∧
    (∃ s, runOp (hrefSteps 1000 true [98, 63, 121, 122] true) (some 5) exStart = .done s) ∧
    runOp (hrefSteps 3 true [98, 63, 121, 122] true) none exStart =
      .threw .lengthError { exStart with temp := { u := { record := [98, 63, 121], params := none } } } ∧
    runOp (hrefSteps 1000 true [98, 63, 121, 122] false) none exStart =
      .done { exStart with temp := { u := { record := [98, 63, 121, 122], params := none } } } := by
  refine ⟨by decide, by decide, by decide, ⟨_, rfl⟩, by decide, by decide⟩

/-- the shape matters: a `safe_assign` that moved the record BEFORE building the params violates
    it, and the failure of the params construction leaves `*this` with the new record and the old
    params (an inconsistent object) -/
theorem C20_not_vacuous :
    ¬ Shape badSafeAssignSteps ∧
    runOp badSafeAssignSteps (some 0) { exStart with temp := { u := { record := [98, 63, 121], params := none } } } =
      .threw .badAlloc { target := { record := [98, 63, 121], params := some [120] },
                         temp := { u := { record := [], params := none } } } ∧
    ({ record := [98, 63, 121], params := some [120] } : UrlObj) ≠ exStart.target := by
  decide +kernel

/-- the exception class: `Exn` has exactly two values, and which one is raised is determined:
    `bad_alloc` only on an injected allocation failure, `length_error` only from a may-throw step's
    size check -/
theorem C20_exception_class :
    (∀ e : Exn, e = .badAlloc ∨ e = .lengthError) ∧
    ∀ {α β : Type} (steps : List (Step α β)) (failAt : Option Nat) (s s' : St α β) (e : Exn),
      runOp steps failAt s = .threw e s' →
      (e = .badAlloc ∧ failAt.isSome = true) ∨
      (e = .lengthError ∧ ∃ st ∈ steps, st.mayThrow = true ∧ st.tooLong s' = true) :=
  ⟨fun e => by cases e <;> simp, fun steps failAt s s' e h => threw_cause steps failAt s s' e h⟩

#print axioms C20_atomic_general
#print axioms C20_commit_completes
#print axioms C20_safe_assign_atomic
#print axioms C20_href_atomic
#print axioms C20_href_completes
#print axioms C20_not_vacuous
#print axioms C20_exception_class

end Upa.Props
