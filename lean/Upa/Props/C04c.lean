import Upa.Props.C05d
import Upa.Proofs.SetRepExcOk
/-!
# C04 (memory safety), on the stored representation: every getter view stays inside the serialization

The C++ getters return `string_view(norm_url_.data() + b, e - b)` with `b`, `e` taken from `part_end_`.
Such a view is inside the string iff the offsets are within the string and ascending.  For the
from-scratch layout this is `C05_layout_monotone`; here it is lifted to EVERY representation of a record
(any pattern of never-started trailing parts, as the in-place edits of `url_setter` produce them) and,
through `C05d_history`, to the state after any history of setter calls as the C++ executes them
(`Impl.setRep`).  This is the predicate `consistent()` of harness/fault.cpp and what ASan observes,
as a theorem about all histories.  (`url::host()` subtracts two offsets: see `HostViewOk`, Proofs/SetRepExcOk.lean.)
-/
namespace Upa.Props
open Upa Upa.Impl Upa.Proofs.C05 Upa.Proofs.SetRep Upa.Proofs.SetRepApi

theorem fillTrailing_cons (n y : Nat) (ys : List Nat) :
    fillTrailing n (y :: ys) = (if y = 0 ∧ ys.all (· == 0) = true then n else y) :: fillTrailing n ys := rfl

theorem fillTrailing_mem_raw (n : Nat) (l : List Nat) :
    ∀ x ∈ l, x = 0 ∨ x ∈ fillTrailing n l := by
  induction l with
  | nil => intro x hx; cases hx
  | cons y ys ih =>
    intro x hx
    rw [fillTrailing_cons]
    rcases List.mem_cons.mp hx with h | h
    · subst h
      by_cases hz : x = 0 ∧ ys.all (· == 0) = true
      · exact Or.inl hz.1
      · right; rw [if_neg hz]; exact List.mem_cons_self
    · rcases ih x h with h0 | hm
      · exact Or.inl h0
      · exact Or.inr (List.mem_cons_of_mem _ hm)

/-- every representation of a record has its offsets inside the string -/
theorem C04_rep_offsets_ok : ∀ (r : Rep) (u : Url), RepFor r u → OffsetsOk r := by
  intro r u h
  obtain ⟨hp, hl, hle⟩ := C05_layout_monotone u
  -- read with the trailing zeros filled, `r` has the string and the table of the layout
  have heq' : r.fill = layout u := fill_eq h
  have hnorm : r.norm = (layout u).norm := (congrArg Rep.norm heq' : r.fill.norm = _)
  have hpe : r.fill.partEnd = (layout u).partEnd := congrArg Rep.partEnd heq'
  have hfle : ∀ x ∈ r.fill.partEnd, x ≤ r.norm.length := by rw [hpe, hnorm]; exact hle
  refine ⟨h.2.1, fun x hx => ?_, hpe ▸ hp, hfle⟩
  rcases fillTrailing_mem_raw r.norm.length r.partEnd x hx with h0 | hm
  · omega
  · exact hfle x hm

/-- after ANY history of setter calls, executed on the representation as the C++ executes them, from any
    representation of a record satisfying the invariants of parsed URLs: offsets inside the string -/
theorem C04_offsets_ok_history :
    ∀ (idna : Idna) (calls : List Call) (u₀ : Url) (r₀ : Rep),
      (∀ c ∈ calls, c.1 ≠ .href) → RepOk u₀ → HostInv u₀ → RepFor r₀ u₀ →
      OffsetsOk (runRep idna calls r₀).1 := by
  intro idna calls u₀ r₀ hc ok hi h
  exact C04_rep_offsets_ok _ _ (C05d_history idna calls u₀ r₀ hc ok hi h).1

/-- … in particular from any URL parsed without a base -/
theorem C04_offsets_ok_history_parsed :
    ∀ (idna : Idna), Proofs.C02b.IdnaStable idna → ∀ (e₀ : Enc) (units₀ : List Nat) (u₀ : Url),
      parse idna e₀ units₀ none = some u₀ →
      ∀ calls : List Call, (∀ c ∈ calls, c.1 ≠ .href) →
      OffsetsOk (runRep idna calls (layout u₀)).1 := by
  intro idna hi e₀ units₀ u₀ hp calls hc
  exact C04_rep_offsets_ok _ _ (C05d_history_parsed idna hi e₀ units₀ u₀ hp calls hc).1

/-- a representation of the kind the seeded change `c20_r3` leaves after a failed `username()`: offsets of
    USERNAME / PASSWORD already moved beyond the string, string untouched.  (The state the exception-aware
    model computes for that failure is `c20bR3Rep` of Props/C20b.lean; it differs from this one at HOST_START.) -/
def c20r3Rep : Rep where
  norm := asciiStr "http://example.org/"
  partEnd := [4, 7, 71, 71, 18, 18, 18, 18, 19, 0, 0]
  hostNotNull := true
  portNotNull := false
  queryNotNull := false
  fragmentNotNull := false
  opaquePath := false
  hostType := 2
  segCount := 1
  schemeIdx := some 3

/-- teeth: it is rejected -/
example : ¬ OffsetsOk c20r3Rep := by
  intro h; have := h.2.1 71 (by decide); revert this; decide

example : OffsetsOk (layout c05Full) := C04_rep_offsets_ok _ _ (C05b_layout c05Full (by decide))

end Upa.Props

#print axioms Upa.Props.C04_rep_offsets_ok
#print axioms Upa.Props.C04_offsets_ok_history
#print axioms Upa.Props.C04_offsets_ok_history_parsed
