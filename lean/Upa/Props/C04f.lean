import Upa.Proofs.BoundsUrlVerdictTop
import Upa.Props.C01
import Upa.Props.C04d
/-
  C04f — the bounds-instrumented model of `url_parser::url_parse` (`Upa/Impl/BoundsUrl.lean`, the model
  C04d proves free of out-of-bounds reads, bad pointers, hangs and null-base dereferences) takes the same
  branches and reaches the same verdict as the list model `Impl.urlParse` (`Upa/Impl/Url.lean`) every other
  theorem is about — for EVERY input, base, state override and URL under modification, in all three encodings.

  The instrumented model works on code units, the list model on the decoded scalar values
  (`Impl.prep e units = decode e (removeWs units)`).  Lemmas: `Upa/Proofs/BoundsUrlVerdict*.lean`:
  * `BoundsUrlVerdict`      : `Dl e a p q = decode e (slice a p q)`; delimiter scans on the units find the positions
                              `takeWhile` / `dropWhile` find on the decoded list (`Dl_firstAt`, `Dl_scan_pos`),
                              ASCII tests of the first value see the unit (`Ctx.D_peek`, …); the simulation: `stateFn` (the
                              list-model function of a state), the invariant `Sim`, the statement `Fwd` of a block, the
                              chain rule `Sound.step`; from path_start_state on both models answer ok
  * `…Auth`, `…File`, `…Rel`, `…Top` : one lemma per block (`fwd_port`, `fwd_host`, `fwd_authority`, `fwd_sais`; `fwd_fileHost`,
                              `fwd_fileSlash`, `fwd_file`; `fwd_sas`, `fwd_relativeSlash`, `fwd_relative`, `fwd_pathOrAuthority`,
                              `fwd_sroa`, `fwd_noScheme`; `fwd_scheme`, `fwd_schemeStart`): the block returns the verdict of
                              `Impl.<state>State` on the decoded rest at the pointer, or falls through to a later state where
                              the list model answers the same
  * `…Top`                  : also the whole chain (`sound_schemeStart`), url_parse, whitespace removal.

  The only hypothesis is `UnitsOk e units` (code units are in the range of their character type); the lemmas do not
  read it (`Impl.decode e` keeps ASCII units whatever the other units are), it fills the field `hu` of `Ctx.Wf`.
-/
namespace Upa.Props
open Upa Upa.Impl Upa.Impl.B Upa.Impl.B.UP

/-- url_parse from its first line (whitespace removal, then the states), real host parser plugged in:
    the verdict of the instrumented model is the verdict of the list model on the prepared input. -/
theorem C04_agrees_url_parse : ∀ (idna : Idna) (e : Enc) (units : List Nat) (base : Option Url)
    (ov : Option Override) (u : Url), UnitsOk e units →
    urlParseVerdictB idna e units base ov u = some ((Impl.urlParse idna base ov u (Impl.prep e units)).out == .ok) :=
  fun idna e units base ov u h => urlParseVerdictB_agrees idna e units base ov u (unitsOk_uOk h)

/-- UTF-32 input (`UnitsOk .u32` is `True`): no hypothesis at all, ill-formed units (surrogates, values above
    U+10FFFF) included -/
theorem C04_agrees_url_parse_u32 : ∀ (idna : Idna) (units : List Nat) (base : Option Url)
    (ov : Option Override) (u : Url),
    urlParseVerdictB idna .u32 units base ov u =
      some ((Impl.urlParse idna base ov u (Impl.prep .u32 units)).out == .ok) :=
  fun idna units base ov u => C04_agrees_url_parse idna .u32 units base ov u trivial

/-- the chain of state blocks itself, on any sub-range `[first, last)` of any buffer, with any sufficient
    fuel: it runs to `.ok` and its verdict is the list model's verdict on the decoded sub-range -/
theorem C04_agrees_url_parse_range : ∀ (idna : Idna) (e : Enc) (a : Array Nat) (first last : Nat)
    (base : Option Url) (ov : Option Override) (u : Url) (fuel : Nat),
    first ≤ last → last ≤ a.size → fuel ≥ last - first + 1 → UnitsOk e a.toList →
    urlParseB e a first last ov (base.map BaseInfo.ofUrl) (UrlInfo.ofUrl u) (Oracles.real idna e a) fuel =
      .ok ((Impl.urlParse idna base ov u (Impl.decode e (slice a first last))).out == .ok) :=
  fun idna e a first last base ov u fuel h hl hf hu =>
    sim_urlParse ⟨idna, e, a, first, last, ov, base, u, fuel⟩ ⟨h, hl, by show last - first < fuel; omega, unitsOk_uOk hu⟩

/-! hypotheses satisfiable on non-trivial inputs; instances -/

-- "http://h:8x/é?#" with a truncated UTF-8 sequence: bytes are bytes
example : UnitsOk .u8 [0x68,0x74,0x74,0x70,0x3A,0x2F,0x2F,0x68,0x3A,0x38,0x78,0x2F,0xC3,0xA9,0x3F,0xE2,0x82,0x23] :=
  UnitsOk.u8 (by decide)
example : urlParseVerdictB c04dIdna .u8 [0x68,0x74,0x74,0x70,0x3A,0x2F,0x2F,0x68,0x3A,0x38,0x78,0x2F,0xC3,0xA9,0x3F,0xE2,0x82,0x23]
      none none {} =
    some ((Impl.urlParse c04dIdna none none {} (Impl.prep .u8
      [0x68,0x74,0x74,0x70,0x3A,0x2F,0x2F,0x68,0x3A,0x38,0x78,0x2F,0xC3,0xA9,0x3F,0xE2,0x82,0x23])).out == .ok) :=
  C04_agrees_url_parse _ _ _ _ _ _ (UnitsOk.u8 (by decide))
-- both sides evaluated: port_invalid
example : urlParseVerdictB c04dIdna .u8 [0x68,0x74,0x74,0x70,0x3A,0x2F,0x2F,0x68,0x3A,0x38,0x78,0x2F,0xC3,0xA9,0x3F,0xE2,0x82,0x23]
      none none {} = some false := by decide +kernel
-- UTF-16 with a lone lead surrogate in the host of "a://\uD83D/": the opaque-host parser sees U+FFFD
example : UnitsOk .u16 [0x61,0x3A,0x2F,0x2F,0xD83D,0x2F] := UnitsOk.u16 (by decide)
example : urlParseVerdictB c04dIdna .u16 [0x61,0x3A,0x2F,0x2F,0xD83D,0x2F] none none {} =
    some ((Impl.urlParse c04dIdna none none {} (Impl.prep .u16 [0x61,0x3A,0x2F,0x2F,0xD83D,0x2F])).out == .ok) :=
  C04_agrees_url_parse _ _ _ _ _ _ (UnitsOk.u16 (by decide))
-- "a://h:9\uD83D" (port followed by a lone surrogate): port_invalid in both
example : (urlParseVerdictB c04dIdna .u16 [0x61,0x3A,0x2F,0x2F,0x68,0x3A,0x39,0xD83D] none none {},
    (Impl.urlParse c04dIdna none none {} (Impl.prep .u16 [0x61,0x3A,0x2F,0x2F,0x68,0x3A,0x39,0xD83D])).out == .ok) =
    (some false, false) := by decide +kernel
-- a setter (state override) instance
example : urlParseVerdictB c04dIdna .u8 (asciiStr "h2:8080") none (some .host) c04dUH =
    some ((Impl.urlParse c04dIdna none (some .host) c04dUH (Impl.prep .u8 (asciiStr "h2:8080"))).out == .ok) :=
  C04_agrees_url_parse _ _ _ _ _ _ (UnitsOk.u8 (by decide))
-- a sub-range of a larger buffer
example : urlParseB .u8 (ofStr "??http://h/p#!!") 2 12 none none (UrlInfo.ofUrl {}) (Oracles.real c04dIdna .u8 (ofStr "??http://h/p#!!")) =
    .ok ((Impl.urlParse c04dIdna none none {} (Impl.decode .u8 (slice (ofStr "??http://h/p#!!") 2 12))).out == .ok) :=
  C04_agrees_url_parse_range c04dIdna .u8 _ 2 12 none none {} _ (by decide) (by decide) (by decide)
    (UnitsOk.u8 (by decide))

#print axioms C04_agrees_url_parse
#print axioms C04_agrees_url_parse_u32
#print axioms C04_agrees_url_parse_range
#print axioms unitsOk_uOk
end Upa.Props
