import Upa.Proofs.BoundsUrlBlocks
import Upa.Proofs.Literal
/-
  C04d — no out-of-bounds read, no pointer outside `[first, last]`, no hang, no null `base` dereference in
  the main parser loop `url_parser::url_parse` (include/upa/url.h:1675-2392) and in the scans that run
  before it (`do_trim`, `do_remove_whitespace`).

  Model: `Upa/Impl/BoundsUrl.lean` (`urlParseB`: one function per `if (state == …)` block, chained in
  source order; every `*pointer` / `pointer[k]` an `rd`, every `pointer + k` / `++pointer` / `--pointer` a
  `mkptr`, every range handed to a callee a `sub`).  Lemmas: `Upa/Proofs/BoundsUrl.lean` (tests and callees),
  `BoundsUrlBlocks.lean` (each block keeps `first ≤ pointer ≤ last`: `urlParseB_sat`), `BoundsTrim.lean` (the two
  scans).  The theorems hold for EVERY buffer, range, state override, base information,
  information about the URL being modified, and callee verdicts (`Oracles`: host parser, …).

  * `C04_inbounds_url_parse`   : `.oob` unreachable
  * `C04_ptrs_url_parse`       : `.badptr` unreachable
  * `C04_terminates_url_parse` : with any fuel `≥ last - first + 1` for each loop, `.hang` unreachable
  * `C04_nonull_url_parse`     : `.abort` (= `*base` with `base == nullptr`) unreachable
  * `C04_safe_url_parse`       : all four at once, for any sufficient fuel
  * `…_url_parse_ws`           : the same for url_parse from its first line (whitespace removal included)
  * `C04d_…_do_trim`, `C04d_…_do_remove_whitespace` (in bounds, pointers, termination, and agreement with the
    list models `Impl.doTrim` / `Impl.removeWs`)
  * non-vacuity: runs to `.ok`; each of the five optional guards set to a wrong value reaches `.oob` on an
    exactly sized input
  * cross-check: `urlParseVerdictB` (instrumented model with the REAL list-level host parser plugged in)
    against the verdict of the list model `Impl.urlParse`, on concrete inputs (in general: `C04_agrees_url_parse`,
    `Upa/Props/C04f.lean`).
-/
namespace Upa.Props
open Upa Upa.Impl Upa.Impl.B Upa.Impl.B.UP

/-! ### url_parse -/

theorem C04_inbounds_url_parse : ∀ (e : Enc) (a : Array Nat) (first last : Nat) (ov : Option Override)
    (base : Option BaseInfo) (ui : UrlInfo) (orc : Oracles), first ≤ last → last ≤ a.size →
    urlParseB e a first last ov base ui orc ≠ .oob :=
  fun e a f l ov b ui orc h hl => R.sat_ne_oob (urlParseB_sat e a f l ov b ui orc _ h hl (by omega))

theorem C04_ptrs_url_parse : ∀ (e : Enc) (a : Array Nat) (first last : Nat) (ov : Option Override)
    (base : Option BaseInfo) (ui : UrlInfo) (orc : Oracles), first ≤ last → last ≤ a.size →
    urlParseB e a first last ov base ui orc ≠ .badptr :=
  fun e a f l ov b ui orc h hl => R.sat_ne_badptr (urlParseB_sat e a f l ov b ui orc _ h hl (by omega))

/-- every loop of url_parse (scheme copy, slash skipping, host scan, port digits, query and fragment
    encoding) is given `fuel` iterations: `last - first + 1` suffice -/
theorem C04_terminates_url_parse : ∀ (e : Enc) (a : Array Nat) (first last : Nat) (ov : Option Override)
    (base : Option BaseInfo) (ui : UrlInfo) (orc : Oracles) (fuel : Nat), first ≤ last → last ≤ a.size →
    fuel ≥ last - first + 1 → urlParseB e a first last ov base ui orc fuel ≠ .hang :=
  fun e a f l ov b ui orc fuel h hl hf => R.sat_ne_hang (urlParseB_sat e a f l ov b ui orc fuel h hl (by omega))

/-- `*base` (relative_state, relative_slash_state) is reached only with `base != nullptr` -/
theorem C04_nonull_url_parse : ∀ (e : Enc) (a : Array Nat) (first last : Nat) (ov : Option Override)
    (base : Option BaseInfo) (ui : UrlInfo) (orc : Oracles), first ≤ last → last ≤ a.size →
    urlParseB e a first last ov base ui orc ≠ .abort :=
  fun e a f l ov b ui orc h hl => R.sat_ne_abort (urlParseB_sat e a f l ov b ui orc _ h hl (by omega))

/-- all at once: with sufficient fuel the run ends in a verdict -/
theorem C04_safe_url_parse : ∀ (e : Enc) (a : Array Nat) (first last : Nat) (ov : Option Override)
    (base : Option BaseInfo) (ui : UrlInfo) (orc : Oracles) (fuel : Nat), first ≤ last → last ≤ a.size →
    fuel ≥ last - first + 1 → ∃ v, urlParseB e a first last ov base ui orc fuel = .ok v := by
  intro e a f l ov b ui orc fuel h hl hf
  obtain ⟨v, hv, _⟩ := urlParseB_sat e a f l ov b ui orc fuel h hl (by omega)
  exact ⟨v, hv⟩

/-! url_parse from its first line: do_remove_whitespace, then the states on the cleaned buffer -/

theorem C04_inbounds_url_parse_ws : ∀ (e : Enc) (a : Array Nat) (first last : Nat) (ov : Option Override)
    (base : Option BaseInfo) (ui : UrlInfo) (orc : Array Nat → Oracles), first ≤ last → last ≤ a.size →
    urlParseWsB e a first last ov base ui orc ≠ .oob :=
  fun e a f l ov b ui orc h hl => R.sat_ne_oob (urlParseWsB_sat e a f l ov b ui orc h hl)
theorem C04_ptrs_url_parse_ws : ∀ (e : Enc) (a : Array Nat) (first last : Nat) (ov : Option Override)
    (base : Option BaseInfo) (ui : UrlInfo) (orc : Array Nat → Oracles), first ≤ last → last ≤ a.size →
    urlParseWsB e a first last ov base ui orc ≠ .badptr :=
  fun e a f l ov b ui orc h hl => R.sat_ne_badptr (urlParseWsB_sat e a f l ov b ui orc h hl)
theorem C04_terminates_url_parse_ws : ∀ (e : Enc) (a : Array Nat) (first last : Nat) (ov : Option Override)
    (base : Option BaseInfo) (ui : UrlInfo) (orc : Array Nat → Oracles), first ≤ last → last ≤ a.size →
    urlParseWsB e a first last ov base ui orc ≠ .hang :=
  fun e a f l ov b ui orc h hl => R.sat_ne_hang (urlParseWsB_sat e a f l ov b ui orc h hl)
theorem C04_nonull_url_parse_ws : ∀ (e : Enc) (a : Array Nat) (first last : Nat) (ov : Option Override)
    (base : Option BaseInfo) (ui : UrlInfo) (orc : Array Nat → Oracles), first ≤ last → last ≤ a.size →
    urlParseWsB e a first last ov base ui orc ≠ .abort :=
  fun e a f l ov b ui orc h hl => R.sat_ne_abort (urlParseWsB_sat e a f l ov b ui orc h hl)

/-! ### do_trim, do_remove_whitespace -/

theorem C04d_inbounds_do_trim : ∀ (a : Array Nat) (first last : Nat), first ≤ last → last ≤ a.size →
    doTrimB a first last ≠ .oob :=
  fun a f l h hl => R.sat_ne_oob (doTrimB_sat a f l _ h hl (by omega))
theorem C04d_ptrs_do_trim : ∀ (a : Array Nat) (first last : Nat), first ≤ last → last ≤ a.size →
    doTrimB a first last ≠ .badptr :=
  fun a f l h hl => R.sat_ne_badptr (doTrimB_sat a f l _ h hl (by omega))
theorem C04d_terminates_do_trim : ∀ (a : Array Nat) (first last fuel : Nat), first ≤ last → last ≤ a.size →
    fuel ≥ last - first + 1 → doTrimB a first last fuel ≠ .hang :=
  fun a f l fuel h hl hf => R.sat_ne_hang (doTrimB_sat a f l fuel h hl (by omega))
/-- … and the trimmed range is a sub-range of the input -/
theorem C04d_do_trim_range : ∀ (a : Array Nat) (first last : Nat), first ≤ last → last ≤ a.size →
    ∃ f l, doTrimB a first last = .ok (f, l) ∧ first ≤ f ∧ f ≤ l ∧ l ≤ last := by
  intro a f l h hl
  obtain ⟨⟨f', l'⟩, hv, hp⟩ := doTrimB_sat a f l (l - f + 1) h hl (by omega)
  exact ⟨f', l', hv, hp⟩

theorem C04d_inbounds_do_remove_whitespace : ∀ (a : Array Nat) (first last : Nat), first ≤ last →
    last ≤ a.size → doRemoveWhitespaceB a first last ≠ .oob :=
  fun a f l h hl => R.sat_ne_oob (doRemoveWhitespaceB_sat a f l _ h hl (by omega))
theorem C04d_ptrs_do_remove_whitespace : ∀ (a : Array Nat) (first last : Nat), first ≤ last →
    last ≤ a.size → doRemoveWhitespaceB a first last ≠ .badptr :=
  fun a f l h hl => R.sat_ne_badptr (doRemoveWhitespaceB_sat a f l _ h hl (by omega))
theorem C04d_terminates_do_remove_whitespace : ∀ (a : Array Nat) (first last fuel : Nat), first ≤ last →
    last ≤ a.size → fuel ≥ last - first + 1 → doRemoveWhitespaceB a first last fuel ≠ .hang :=
  fun a f l fuel h hl hf => R.sat_ne_hang (doRemoveWhitespaceB_sat a f l fuel h hl (by omega))

/-- agreement with the list models `Impl.doTrim` / `Impl.removeWs` (Upa/Impl/Api.lean) the other properties
    are proved for: the trimmed range is the trimmed slice … -/
theorem C04d_agrees_do_trim : ∀ (a : Array Nat) (first last : Nat), first ≤ last → last ≤ a.size →
    ∃ f l, doTrimB a first last = .ok (f, l) ∧ first ≤ f ∧ f ≤ l ∧ l ≤ last ∧
      slice a f l = Impl.doTrim (slice a first last) := by
  intro a f l h hl
  obtain ⟨⟨f', l'⟩, hv, hp⟩ := doTrimB_agrees a f l (l - f + 1) h hl (by omega)
  exact ⟨f', l', hv, hp⟩
/-- … and the buffer url_parse continues on (`buff_no_ws`, or the untouched input when nothing was removed) is
    the slice without tabs and newlines -/
theorem C04d_agrees_do_remove_whitespace : ∀ (a : Array Nat) (first last : Nat), first ≤ last → last ≤ a.size →
    ∃ r, doRemoveWhitespaceB a first last = .ok r ∧
      (match r with | none => slice a first last | some b => b) = Impl.removeWs (slice a first last) := by
  intro a f l h hl
  obtain ⟨r, hv, hp⟩ := doRemoveWhitespaceB_agrees a f l (l - f + 1) h hl (by omega)
  exact ⟨r, hv, hp⟩

example : doTrimB (ofStr "  a b \n") 0 7 = .ok (2, 5) := by unfold ofStr; decide_ascii
example : doTrimB (ofStr "   ") 0 3 = .ok (3, 3) := by unfold ofStr; decide_ascii
example : doTrimB (ofStr " ") 0 1 (slack := 1) = .oob := by unfold ofStr; decide_ascii                -- `first < last + 1`: *first at `last`
example : doTrimB (ofStr " ") 0 1 (fuel := 1) = .hang := by unfold ofStr; decide_ascii                -- the fuel bound is sharp
example : doRemoveWhitespaceB (ofStr "ab") 0 2 = .ok none := by unfold ofStr; decide_ascii
example : doRemoveWhitespaceB (ofStr "a\tb\nc") 0 5 = .ok (some [0x61, 0x62, 0x63]) := by unfold ofStr; decide_ascii
example : doRemoveWhitespaceB (ofStr "a\t") 0 2 (slack := 1) = .oob := by unfold ofStr; decide_ascii  -- inner `it < last + 1`

/-! ### non-vacuity of the url_parse theorems -/

/-- callee verdicts used by the evaluated instances: every host is accepted -/
def c04dOrc : Oracles := ⟨fun _ _ _ => true, fun _ => false, fun _ => false⟩
/-- an http base (special, not file, hierarchical path, scheme "http") -/
def c04dHttpBase : BaseInfo := ⟨true, false, false, fun s => s == asciiStr "http"⟩
def c04dFileBase : BaseInfo := ⟨true, true, false, fun s => s == asciiStr "file"⟩

example : urlParseB .u8 (ofStr "http://u:p@h:80/a/../b?q#f") 0 26 none none {} c04dOrc = .ok true := by unfold ofStr; decide_ascii
example : urlParseB .u8 (ofStr "http:/") 0 6 none (some c04dHttpBase) {} c04dOrc = .ok true := by unfold ofStr; decide_ascii
example : urlParseB .u8 (ofStr "http:/") 0 6 none none {} c04dOrc = .ok false := by unfold ofStr; decide_ascii     -- host_missing
example : urlParseB .u8 (ofStr "a:/") 0 3 none none {} c04dOrc = .ok true := by unfold ofStr; decide_ascii
example : urlParseB .u8 (ofStr "file:") 0 5 none none {} c04dOrc = .ok true := by unfold ofStr; decide_ascii
example : urlParseB .u8 (ofStr "file:/") 0 6 none (some c04dFileBase) {} c04dOrc = .ok true := by unfold ofStr; decide_ascii
example : urlParseB .u8 (ofStr "http://h:8") 0 10 none none {} c04dOrc = .ok true := by unfold ofStr; decide_ascii
example : urlParseB .u8 (ofStr "http://h:8x") 0 11 none none {} c04dOrc = .ok false := by unfold ofStr; decide_ascii
example : urlParseB .u8 (ofStr "x") 0 1 none none {} c04dOrc = .ok false := by unfold ofStr; decide_ascii      -- no scheme, no base
-- a sub-range of a larger buffer: only `[first, last)` is read
example : urlParseB .u8 (ofStr "??http://h/p#!!") 2 12 none none {} c04dOrc = .ok true := by unfold ofStr; decide_ascii
-- `last - pointer > 0` instead of `> 1` in special_relative_or_authority_state: `http:/` against an http
-- base reads pointer[1] one past the end
example : urlParseB .u8 (ofStr "http:/") 0 6 none (some c04dHttpBase) {} c04dOrc (sraDist := 0) = .oob := by unfold ofStr; decide_ascii
-- the same guard in special_authority_slashes_state (no base)
example : urlParseB .u8 (ofStr "http:/") 0 6 none none {} c04dOrc (sasDist := 0) = .oob := by unfold ofStr; decide_ascii
-- `pointer < last + 1` in path_or_authority_state: `a:/` reads pointer[0] at `last`
example : urlParseB .u8 (ofStr "a:/") 0 3 none none {} c04dOrc (poaSlack := 1) = .oob := by unfold ofStr; decide_ascii
-- `pointer != last + 1 ? *pointer : 0` in file_state / file_slash_state
example : urlParseB .u8 (ofStr "file:") 0 5 none none {} c04dOrc (fileSlack := 1) = .oob := by unfold ofStr; decide_ascii
example : urlParseB .u8 (ofStr "file:/") 0 6 none (some c04dFileBase) {} c04dOrc (fileSlack := 1) = .oob := by unfold ofStr; decide_ascii
-- `end_of_digits == last + 1 ||` in port_state: end_of_digits[0] at `last`
example : urlParseB .u8 (ofStr "http://h:8") 0 10 none none {} c04dOrc (portSlack := 1) = .oob := by unfold ofStr; decide_ascii
-- the fuel bound `last - first + 1` is sharp: the fragment loop needs one test per unit plus the last one
example : urlParseB .u8 (ofStr "#ab") 0 3 (some .fragment) none {} c04dOrc (fuel := 3) = .hang := by unfold ofStr; decide_ascii
example : urlParseB .u8 (ofStr "#ab") 0 3 (some .fragment) none {} c04dOrc (fuel := 4) = .ok true := by unfold ofStr; decide_ascii
-- `*base` with a null base is what `.abort` stands for
example : bRelative (ofStr "x") 0 1 none ⟨.relative, 0, false, false⟩ = .abort := by unfold ofStr; decide_ascii

/-! ### cross-check of the instrumented model against the list model `Impl.urlParse`

  `urlParseVerdictB` runs whitespace removal and the instrumented states on the code units, with the real
  list-level host parser (`Impl.parseHost` on the decoded slice) as `Oracles.hostOk`; the second component
  is the verdict of the list model (`Upa/Impl/Url.lean`) on the same input.  The instances below are runs
  of `C04_agrees_url_parse` (`Upa/Props/C04f.lean`): each ends in `.ok` (`some _`) with equal verdicts. -/

/-- the helper always yields a verdict (never `none`), for every input, base, override and IDNA function -/
theorem C04_verdict_total : ∀ (idna : Idna) (e : Enc) (units : List Nat) (base : Option Url) (ov : Option Override)
    (u : Url), ∃ v, urlParseVerdictB idna e units base ov u = some v := by
  intro idna e units base ov u
  unfold urlParseVerdictB
  obtain ⟨v, hv, _⟩ := urlParseWsB_sat e units.toArray 0 units.toArray.size ov (base.map BaseInfo.ofUrl)
    (UrlInfo.ofUrl u) (Oracles.real idna e) (Nat.zero_le _) (Nat.le_refl _)
  exact ⟨v, by simp only [hv]⟩

def c04dIdna : Idna := fun l => some (l.map toLower)
def c04dUrl (s : String) : Option Url := Impl.parse c04dIdna .u8 (asciiStr s) none
def c04dBoth (units : List Nat) (base : Option Url := none) (ov : Option Override := none) (u : Url := {}) :
    Option Bool × Bool :=
  (urlParseVerdictB c04dIdna .u8 units base ov u, (Impl.urlParse c04dIdna base ov u (prep .u8 units)).out == .ok)
def c04dCmp (s : String) (base : Option Url := none) (ov : Option Override := none) (u : Url := {}) :
    Option Bool × Bool :=
  c04dBoth (asciiStr s) base ov u
-- the literal argument of `c04dCmp` as code points (`Proofs/Literal.lean`)
theorem c04dCmp_ofList (l : List Char) (base : Option Url) (ov : Option Override) (u : Url) :
    c04dCmp (String.ofList l) base ov u = c04dBoth (l.map Char.toNat) base ov u := by
  rw [c04dCmp, asciiStr_ofList]
def c04dHttp := c04dUrl "http://h/p/q?x#y"
def c04dFile := c04dUrl "file:///c:/a/b"
def c04dMailto := c04dUrl "mailto:x"
def c04dNs := c04dUrl "a://h/p"
def c04dUH : Url := (c04dUrl "http://u:p@h:81/p?q#f").getD {}
def c04dUF : Url := (c04dUrl "file:///p").getD {}
def c04dUFh : Url := (c04dUrl "file://h/p").getD {}
def c04dUA : Url := (c04dUrl "a://h/p").getD {}
def c04dUAu : Url := (c04dUrl "a://u@h/p").getD {}

/-! The values of the test URLs, components as code points ("http" = [104, 116, 116, 112]); most of the instances below are
    rewritten with them before they are evaluated (see `Proofs/Literal.lean` for literals in evaluated goals). -/
theorem c04dHttp_val : c04dHttp = some
    { scheme := [104, 116, 116, 112], host := some { kind := .domain, text := [104] },
      path := [[112], [113]], query := some [120], fragment := some [121] } := by
  unfold c04dHttp c04dUrl; decide_ascii
theorem c04dFile_val : c04dFile = some
    { scheme := [102, 105, 108, 101], host := some { kind := .empty, text := [] },
      path := [[99, 58], [97], [98]] } := by
  unfold c04dFile c04dUrl; decide_ascii
theorem c04dMailto_val : c04dMailto = some
    { scheme := [109, 97, 105, 108, 116, 111], hasOpaquePath := true, opaquePath := [120] } := by
  unfold c04dMailto c04dUrl; decide_ascii
theorem c04dNs_val : c04dNs = some
    { scheme := [97], host := some { kind := .opaque, text := [104] }, path := [[112]] } := by
  unfold c04dNs c04dUrl; decide_ascii
theorem c04dUH_val : c04dUH =
    { scheme := [104, 116, 116, 112], username := [117], password := [112],
      host := some { kind := .domain, text := [104] }, port := some 81, path := [[112]],
      query := some [113], fragment := some [102] } := by
  unfold c04dUH c04dUrl; decide_ascii
theorem c04dUF_val : c04dUF =
    { scheme := [102, 105, 108, 101], host := some { kind := .empty, text := [] }, path := [[112]] } := by
  unfold c04dUF c04dUrl; decide_ascii
theorem c04dUFh_val : c04dUFh =
    { scheme := [102, 105, 108, 101], host := some { kind := .domain, text := [104] }, path := [[112]] } := by
  unfold c04dUFh c04dUrl; decide_ascii
theorem c04dUA_val : c04dUA =
    { scheme := [97], host := some { kind := .opaque, text := [104] }, path := [[112]] } := by
  unfold c04dUA c04dUrl; decide_ascii
theorem c04dUAu_val : c04dUAu =
    { scheme := [97], username := [117], host := some { kind := .opaque, text := [104] },
      path := [[112]] } := by
  unfold c04dUAu c04dUrl; decide_ascii

-- absolute URLs, special schemes: credentials, ports, IPv4 / IPv6 hosts, backslashes
example : c04dCmp "http://example.com/a/b?q#f" = (some true, true) := by rw [c04dCmp_ofList]; decide +kernel
example : c04dCmp "https://u:p@h:443/" = (some true, true) := by rw [c04dCmp_ofList]; decide +kernel
example : c04dCmp "http://u:p@/" = (some false, false) := by rw [c04dCmp_ofList]; decide +kernel
example : c04dCmp "http://u:@h" = (some true, true) := by rw [c04dCmp_ofList]; decide +kernel
example : c04dCmp "http://:p@h" = (some true, true) := by rw [c04dCmp_ofList]; decide +kernel
example : c04dCmp "http://h:99999/" = (some false, false) := by rw [c04dCmp_ofList]; decide +kernel
example : c04dCmp "http://h:65535" = (some true, true) := by rw [c04dCmp_ofList]; decide +kernel
example : c04dCmp "http://h:65536" = (some false, false) := by rw [c04dCmp_ofList]; decide +kernel
example : c04dCmp "http://h:8x/" = (some false, false) := by rw [c04dCmp_ofList]; decide +kernel
example : c04dCmp "http://h:000000080" = (some true, true) := by rw [c04dCmp_ofList]; decide +kernel
example : c04dCmp "ws://[::1]:80/p" = (some true, true) := by rw [c04dCmp_ofList]; decide +kernel
example : c04dCmp "http://[::1/p" = (some false, false) := by rw [c04dCmp_ofList]; decide +kernel
example : c04dCmp "http://1.2.3.4.5/" = (some false, false) := by rw [c04dCmp_ofList]; decide +kernel
example : c04dCmp "http://0x7f.1/" = (some true, true) := by rw [c04dCmp_ofList]; decide +kernel
example : c04dCmp "http:\\\\h\\p" = (some true, true) := by rw [c04dCmp_ofList]; decide +kernel
example : c04dCmp "http:/" = (some false, false) := by rw [c04dCmp_ofList]; decide +kernel
example : c04dCmp "http:" = (some false, false) := by rw [c04dCmp_ofList]; decide +kernel
example : c04dCmp "http://" = (some false, false) := by rw [c04dCmp_ofList]; decide +kernel
example : c04dCmp "ftp://h/%2e%2E/./a" = (some true, true) := by rw [c04dCmp_ofList]; decide +kernel
example : c04dCmp "wss://h:443/x" = (some true, true) := by rw [c04dCmp_ofList]; decide +kernel
example : c04dCmp "http://EXAMPLE.com./" = (some true, true) := by rw [c04dCmp_ofList]; decide +kernel
example : c04dCmp "http://a<b/" = (some false, false) := by rw [c04dCmp_ofList]; decide +kernel
example : c04dCmp "ht\ttp://h/a\nb" = (some true, true) := by rw [c04dCmp_ofList]; decide +kernel
-- file scheme quirks
example : c04dCmp "file:///c:/x" = (some true, true) := by rw [c04dCmp_ofList]; decide +kernel
example : c04dCmp "file:c|/x" = (some true, true) := by rw [c04dCmp_ofList]; decide +kernel
example : c04dCmp "file://localhost/p" = (some true, true) := by rw [c04dCmp_ofList]; decide +kernel
example : c04dCmp "file://c:/p" = (some true, true) := by rw [c04dCmp_ofList]; decide +kernel
example : c04dCmp "file:" = (some true, true) := by rw [c04dCmp_ofList]; decide +kernel
example : c04dCmp "file:/" = (some true, true) := by rw [c04dCmp_ofList]; decide +kernel
example : c04dCmp "file://h\\p?q" = (some true, true) := by rw [c04dCmp_ofList]; decide +kernel
example : c04dCmp "file://a b/" = (some false, false) := by rw [c04dCmp_ofList]; decide +kernel
-- non-special schemes: opaque path, path-or-authority, opaque hosts
example : c04dCmp "a:b" = (some true, true) := by decide +kernel
example : c04dCmp "a:/" = (some true, true) := by decide +kernel
example : c04dCmp "a://h:1/p?q#f" = (some true, true) := by rw [c04dCmp_ofList]; decide +kernel
example : c04dCmp "a://u@h" = (some true, true) := by rw [c04dCmp_ofList]; decide +kernel
example : c04dCmp "a://@" = (some false, false) := by rw [c04dCmp_ofList]; decide +kernel
example : c04dCmp "a://h:/" = (some true, true) := by rw [c04dCmp_ofList]; decide +kernel
example : c04dCmp "a:// /" = (some false, false) := by rw [c04dCmp_ofList]; decide +kernel
example : c04dCmp "mailto:a@b?c#d" = (some true, true) := by rw [c04dCmp_ofList]; decide +kernel
-- no scheme and no base
example : c04dCmp "x" = (some false, false) := by decide +kernel
example : c04dCmp "" = (some false, false) := by decide +kernel
example : c04dCmp "//h" = (some false, false) := by decide +kernel
example : c04dCmp "1http://h" = (some false, false) := by rw [c04dCmp_ofList]; decide +kernel
-- relative references against an http base
example : c04dCmp "" c04dHttp = (some true, true) := by rw [c04dCmp_ofList, c04dHttp_val]; decide +kernel
example : c04dCmp "x" c04dHttp = (some true, true) := by rw [c04dCmp_ofList, c04dHttp_val]; decide +kernel
example : c04dCmp "/x" c04dHttp = (some true, true) := by rw [c04dCmp_ofList, c04dHttp_val]; decide +kernel
example : c04dCmp "//x/y" c04dHttp = (some true, true) := by rw [c04dCmp_ofList, c04dHttp_val]; decide +kernel
example : c04dCmp "?z" c04dHttp = (some true, true) := by rw [c04dCmp_ofList, c04dHttp_val]; decide +kernel
example : c04dCmp "#z" c04dHttp = (some true, true) := by rw [c04dCmp_ofList, c04dHttp_val]; decide +kernel
example : c04dCmp "\\x" c04dHttp = (some true, true) := by rw [c04dCmp_ofList, c04dHttp_val]; decide +kernel
example : c04dCmp "../a" c04dHttp = (some true, true) := by rw [c04dCmp_ofList, c04dHttp_val]; decide +kernel
example : c04dCmp "http:x" c04dHttp = (some true, true) := by rw [c04dCmp_ofList, c04dHttp_val]; decide +kernel
example : c04dCmp "http:/" c04dHttp = (some true, true) := by rw [c04dCmp_ofList, c04dHttp_val]; decide +kernel
example : c04dCmp "http://" c04dHttp = (some false, false) := by rw [c04dCmp_ofList, c04dHttp_val]; decide +kernel
example : c04dCmp "https:/x" c04dHttp = (some true, true) := by rw [c04dCmp_ofList, c04dHttp_val]; decide +kernel
example : c04dCmp "//" c04dHttp = (some false, false) := by rw [c04dCmp_ofList, c04dHttp_val]; decide +kernel
example : c04dCmp "/\\h2/p" c04dHttp = (some true, true) := by rw [c04dCmp_ofList, c04dHttp_val]; decide +kernel
example : c04dCmp "http:/\\h3" c04dHttp = (some true, true) := by rw [c04dCmp_ofList, c04dHttp_val]; decide +kernel
-- … against a file base
example : c04dCmp "" c04dFile = (some true, true) := by rw [c04dCmp_ofList, c04dFile_val]; decide +kernel
example : c04dCmp "x" c04dFile = (some true, true) := by rw [c04dCmp_ofList, c04dFile_val]; decide +kernel
example : c04dCmp "/x" c04dFile = (some true, true) := by rw [c04dCmp_ofList, c04dFile_val]; decide +kernel
example : c04dCmp "//h/x" c04dFile = (some true, true) := by rw [c04dCmp_ofList, c04dFile_val]; decide +kernel
example : c04dCmp "?q" c04dFile = (some true, true) := by rw [c04dCmp_ofList, c04dFile_val]; decide +kernel
example : c04dCmp "#f" c04dFile = (some true, true) := by rw [c04dCmp_ofList, c04dFile_val]; decide +kernel
example : c04dCmp "d:/y" c04dFile = (some true, true) := by rw [c04dCmp_ofList, c04dFile_val]; decide +kernel
example : c04dCmp "\\\\\\" c04dFile = (some true, true) := by rw [c04dCmp_ofList, c04dFile_val]; decide +kernel
example : c04dCmp "file:x" c04dFile = (some true, true) := by rw [c04dCmp_ofList, c04dFile_val]; decide +kernel
example : c04dCmp "/d|/y" c04dFile = (some true, true) := by rw [c04dCmp_ofList, c04dFile_val]; decide +kernel
example : c04dCmp "//c:/x" c04dFile = (some true, true) := by rw [c04dCmp_ofList, c04dFile_val]; decide +kernel
example : c04dCmp "//a b" c04dFile = (some false, false) := by rw [c04dCmp_ofList, c04dFile_val]; decide +kernel
-- … against a base with an opaque path
example : c04dCmp "#f" c04dMailto = (some true, true) := by rw [c04dCmp_ofList, c04dMailto_val]; decide +kernel
example : c04dCmp "x" c04dMailto = (some false, false) := by rw [c04dCmp_ofList, c04dMailto_val]; decide +kernel
example : c04dCmp "" c04dMailto = (some false, false) := by rw [c04dCmp_ofList, c04dMailto_val]; decide +kernel
example : c04dCmp "a:b" c04dMailto = (some true, true) := by rw [c04dCmp_ofList, c04dMailto_val]; decide +kernel
-- … against a non-special hierarchical base
example : c04dCmp "x" c04dNs = (some true, true) := by rw [c04dCmp_ofList, c04dNs_val]; decide +kernel
example : c04dCmp "//h2" c04dNs = (some true, true) := by rw [c04dCmp_ofList, c04dNs_val]; decide +kernel
example : c04dCmp "/\\x" c04dNs = (some true, true) := by rw [c04dCmp_ofList, c04dNs_val]; decide +kernel
example : c04dCmp "?q" c04dNs = (some true, true) := by rw [c04dCmp_ofList, c04dNs_val]; decide +kernel
-- setters (state overrides) on http://u:p@h:81/p?q#f
example : c04dCmp "https" none (some .schemeStart) c04dUH = (some true, true) := by rw [c04dCmp_ofList, c04dUH_val]; decide +kernel
example : c04dCmp "https:" none (some .schemeStart) c04dUH = (some true, true) := by rw [c04dCmp_ofList, c04dUH_val]; decide +kernel
example : c04dCmp "mailto" none (some .schemeStart) c04dUH = (some false, false) := by rw [c04dCmp_ofList, c04dUH_val]; decide +kernel
example : c04dCmp "file" none (some .schemeStart) c04dUH = (some false, false) := by rw [c04dCmp_ofList, c04dUH_val]; decide +kernel
example : c04dCmp "1x" none (some .schemeStart) c04dUH = (some false, false) := by rw [c04dCmp_ofList, c04dUH_val]; decide +kernel
example : c04dCmp "" none (some .schemeStart) c04dUH = (some false, false) := by rw [c04dCmp_ofList, c04dUH_val]; decide +kernel
example : c04dCmp "ws:ignored" none (some .schemeStart) c04dUH = (some true, true) := by rw [c04dCmp_ofList, c04dUH_val]; decide +kernel
example : c04dCmp "h2" none (some .host) c04dUH = (some true, true) := by rw [c04dCmp_ofList, c04dUH_val]; decide +kernel
example : c04dCmp "h2:8080" none (some .host) c04dUH = (some true, true) := by rw [c04dCmp_ofList, c04dUH_val]; decide +kernel
example : c04dCmp "" none (some .host) c04dUH = (some false, false) := by rw [c04dCmp_ofList, c04dUH_val]; decide +kernel
example : c04dCmp "h2:x" none (some .host) c04dUH = (some true, true) := by rw [c04dCmp_ofList, c04dUH_val]; decide +kernel
example : c04dCmp ":80" none (some .host) c04dUH = (some false, false) := by rw [c04dCmp_ofList, c04dUH_val]; decide +kernel
example : c04dCmp "[::1]:9" none (some .host) c04dUH = (some true, true) := by rw [c04dCmp_ofList, c04dUH_val]; decide +kernel
example : c04dCmp "h/x" none (some .host) c04dUH = (some true, true) := by rw [c04dCmp_ofList, c04dUH_val]; decide +kernel
example : c04dCmp "h2" none (some .hostname) c04dUH = (some true, true) := by rw [c04dCmp_ofList, c04dUH_val]; decide +kernel
example : c04dCmp "h2:80" none (some .hostname) c04dUH = (some false, false) := by rw [c04dCmp_ofList, c04dUH_val]; decide +kernel
example : c04dCmp "8080" none (some .port) c04dUH = (some true, true) := by rw [c04dCmp_ofList, c04dUH_val]; decide +kernel
example : c04dCmp "99999" none (some .port) c04dUH = (some false, false) := by rw [c04dCmp_ofList, c04dUH_val]; decide +kernel
example : c04dCmp "8x" none (some .port) c04dUH = (some true, true) := by rw [c04dCmp_ofList, c04dUH_val]; decide +kernel
example : c04dCmp "x" none (some .port) c04dUH = (some true, true) := by rw [c04dCmp_ofList, c04dUH_val]; decide +kernel
example : c04dCmp "0000000001" none (some .port) c04dUH = (some true, true) := by rw [c04dCmp_ofList, c04dUH_val]; decide +kernel
example : c04dCmp "/a/b" none (some .pathStart) c04dUH = (some true, true) := by rw [c04dCmp_ofList, c04dUH_val]; decide +kernel
example : c04dCmp "a\\b" none (some .pathStart) c04dUH = (some true, true) := by rw [c04dCmp_ofList, c04dUH_val]; decide +kernel
example : c04dCmp "" none (some .pathStart) c04dUH = (some true, true) := by rw [c04dCmp_ofList, c04dUH_val]; decide +kernel
example : c04dCmp "../.." none (some .pathStart) c04dUH = (some true, true) := by rw [c04dCmp_ofList, c04dUH_val]; decide +kernel
example : c04dCmp "a b#c" none (some .query) c04dUH = (some true, true) := by rw [c04dCmp_ofList, c04dUH_val]; decide +kernel
example : c04dCmp "x y" none (some .fragment) c04dUH = (some true, true) := by rw [c04dCmp_ofList, c04dUH_val]; decide +kernel
-- … on file:///p, file://h/p, a://h/p, a://u@h/p
example : c04dCmp "http" none (some .schemeStart) c04dUF = (some false, false) := by rw [c04dCmp_ofList, c04dUF_val]; decide +kernel
example : c04dCmp "h2" none (some .host) c04dUFh = (some true, true) := by rw [c04dCmp_ofList, c04dUFh_val]; decide +kernel
example : c04dCmp "" none (some .host) c04dUFh = (some true, true) := by rw [c04dCmp_ofList, c04dUFh_val]; decide +kernel
example : c04dCmp "c:" none (some .host) c04dUFh = (some false, false) := by rw [c04dCmp_ofList, c04dUFh_val]; decide +kernel
example : c04dCmp "localhost" none (some .host) c04dUFh = (some true, true) := by rw [c04dCmp_ofList, c04dUFh_val]; decide +kernel
example : c04dCmp "" none (some .host) c04dUA = (some true, true) := by rw [c04dCmp_ofList, c04dUA_val]; decide +kernel
example : c04dCmp "" none (some .host) c04dUAu = (some false, false) := by rw [c04dCmp_ofList, c04dUAu_val]; decide +kernel
example : c04dCmp "x" none (some .host) c04dUAu = (some true, true) := by rw [c04dCmp_ofList, c04dUAu_val]; decide +kernel
example : c04dCmp "/a/b" none (some .pathStart) c04dUA = (some true, true) := by rw [c04dCmp_ofList, c04dUA_val]; decide +kernel
example : c04dCmp "" none (some .pathStart) c04dUA = (some true, true) := by rw [c04dCmp_ofList, c04dUA_val]; decide +kernel
example : c04dCmp "?x" none (some .pathStart) c04dUA = (some true, true) := by rw [c04dCmp_ofList, c04dUA_val]; decide +kernel
-- non-ASCII units (UTF-8): path, query with a truncated sequence, fragment with an invalid byte; opaque path
example : c04dBoth [0x68,0x74,0x74,0x70,0x3A,0x2F,0x2F,0x68,0x2F,0xC3,0xA9,0x3F,0xE2,0x82,0x23,0xFF] = (some true, true) := by
  decide +kernel
example : c04dBoth [0x61,0x3A,0xC3,0xA9,0x80] = (some true, true) := by decide +kernel

#print axioms C04_inbounds_url_parse
#print axioms C04_ptrs_url_parse
#print axioms C04_terminates_url_parse
#print axioms C04_nonull_url_parse
#print axioms C04_safe_url_parse
#print axioms C04_inbounds_url_parse_ws
#print axioms C04_ptrs_url_parse_ws
#print axioms C04_terminates_url_parse_ws
#print axioms C04_nonull_url_parse_ws
#print axioms C04_verdict_total
#print axioms C04d_inbounds_do_trim
#print axioms C04d_ptrs_do_trim
#print axioms C04d_terminates_do_trim
#print axioms C04d_do_trim_range
#print axioms C04d_agrees_do_trim
#print axioms C04d_agrees_do_remove_whitespace
#print axioms C04d_inbounds_do_remove_whitespace
#print axioms C04d_ptrs_do_remove_whitespace
#print axioms C04d_terminates_do_remove_whitespace
end Upa.Props
