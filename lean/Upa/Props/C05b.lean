import Upa.Proofs.SetRepOps
import Upa.Proofs.SetRepEquiv
import Upa.Props.C05
/-
  C05b — the IN-PLACE edits of the stored representation by `detail::url_setter`
  (include/upa/url.h:2877-3076, on top of `url_serializer::replace_part` etc., url.h:2613-2874)
  commute with the from-scratch layout: editing the representation of a record `u` in place gives
  the representation of the edited record, up to the two encodings (`0` / string length) of the
  offsets of trailing parts that were never started.

  Operational model: `Upa/Impl/SetRep.lean` (`replacePart`, `setStartPart`/`setSavePart` = `writePart`,
  `clearPart`, `emptyHostRep`, `hostDone`/`writeHost`, `setEmptyHost`, `commitPath` with
  `adjustPathPrefix`, `saveScheme`, `stripTrailingSpacesRep`).

  `Rep.equiv a b` (`≈`): same string, flags, host type, segment count, scheme index, and the same
  offsets after replacing trailing zeros by the string length.
  `Rep.wf r`: 11 offsets; a zero offset follows only a zero offset or an offset equal to the string
  length; `pe HOST ≠ 0`; `portNotNull → pe PORT ≠ 0`.  (Without `wf`, `≈` does NOT preserve the
  getters, see `C05b_equiv_getters_needs_wf`.)

  `RepFor r u := r ≈ layout u ∧ r.wf` — "r is a representation of the record u".  Every theorem has
  the shape  `RepOk u → (guards of the C++ setter) → RepFor r u → RepFor (op r) u'`;
  `layout u` itself is such an `r` (`C05b_layout`), which gives the `layout`-to-`layout` corollaries.

  `RepOk u` (decidable, `Proofs/SetRepOps.lean`):
     RecWF u                                               (scheme ≠ "", null host ⇒ no credentials/port)
   ∧ (u.host = none → u.hasOpaquePath = false → u.path ≠ [])   (no "scheme:" with an empty list path)
   ∧ (u.hasOpaquePath = true → u.host = none)
-/
namespace Upa.Props
open Upa Upa.Impl Upa.Proofs.C05 Upa.Proofs.SetRep

/-- `r` is a (well-formed) representation of the record `u` -/
def RepFor (r : Rep) (u : Url) : Prop := r.equiv (layout u) ∧ r.wf

instance (r : Rep) (u : Url) : Decidable (RepFor r u) := by unfold RepFor; infer_instance

theorem repFor_iff (u : Url) (wf : RecWF u) (r : Rep) : RepFor r u ↔ Represents r u :=
  (represents_iff u wf r).symm

theorem RepFor.edit {r r' : Rep} {u u' : Url} (h : RepFor r u) (ok : RepOk u) (wf' : RecWF u')
    (hr : Represents r u → Represents r' u') : RepFor r' u' :=
  represents_equiv _ wf' (hr ((repFor_iff u ok.1 r).mp h))

/-! ### concrete records -/

/-- a:/.//x with the offsets of QUERY and FRAGMENT never started, as `url::parse` leaves them -/
def c05PrefixRep : Rep := { layout c05Prefix with partEnd := [1, 2, 2, 2, 2, 2, 2, 4, 7, 0, 0] }

/-- s://h as `url::parse` leaves it: nothing after HOST was started -/
def c05bHostOnly : Url := { scheme := asciiStr "s", host := some ⟨.opaque, asciiStr "h"⟩ }
def c05bHostOnlyRep : Rep := { layout c05bHostOnly with partEnd := [1, 4, 4, 4, 4, 5, 0, 0, 0, 0, 0] }

/-- mailto:x␠␠ (opaque path with trailing spaces, no query, no fragment) -/
def c05bMail : Url :=
  { scheme := asciiStr "mailto", hasOpaquePath := true, opaquePath := asciiStr "x  " }

example : RepOk c05Full ∧ RepOk c05Prefix ∧ RepOk c05Opaque ∧ RepOk c05UserOnly ∧ RepOk c05bHostOnly ∧
    RepOk c05bMail := by unfold c05Full c05Prefix c05Opaque c05UserOnly c05bHostOnly c05bMail; decide_ascii
example : RepFor c05PrefixRep c05Prefix ∧ RepFor c05bHostOnlyRep c05bHostOnly ∧
    c05PrefixRep ≠ layout c05Prefix ∧ c05bHostOnlyRep ≠ layout c05bHostOnly := by unfold c05PrefixRep c05bHostOnlyRep c05Prefix c05bHostOnly; decide_ascii

/-! ## 0. the layout represents its record; `≈` and the getters -/

theorem C05b_layout : ∀ u : Url, RecWF u → RepFor (layout u) u := fun u wf =>
  represents_equiv u wf (represents_layout u wf.1)

/-- `≈` preserves every getter of `Impl/Rep.lean`, on well-formed offset tables -/
theorem C05b_equiv_getters : ∀ a b : Rep, a.equiv b → a.wf → b.wf →
    a.href = b.href ∧ a.protocol = b.protocol ∧ a.username = b.username ∧
    a.password = b.password ∧ a.host = b.host ∧ a.hostname = b.hostname ∧
    a.port = b.port ∧ a.pathname = b.pathname ∧ a.path = b.path ∧
    a.search = b.search ∧ a.hash = b.hash ∧
    a.serializeNoFragment = b.serializeNoFragment := equiv_getters

/-- `wf` is needed: with the text of a query in the string but the QUERY offset still `0`, the
    representation is `≈` to the layout and `search()` / `path()` differ (the C++ never produces
    this: `save_part` sets the offset of every part it wrote) -/
theorem C05b_equiv_getters_needs_wf :
    let a : Rep := { layout c05Opaque with partEnd := [6, 7, 7, 7, 7, 7, 7, 7, 10, 0, 0] }
    a.equiv (layout c05Opaque) ∧ ¬ a.wf ∧ a.path ≠ (layout c05Opaque).path := by unfold c05Opaque; decide_ascii

/-- the getters on any representation of `u` are the record-level getters -/
theorem C05b_getters : ∀ (u : Url) (r : Rep), RecWF u → RepFor r u →
    r.href = serialize u ∧ r.protocol = getProtocol u ∧ r.username = u.username ∧
    r.password = u.password ∧ r.host = getHost u ∧ r.hostname = getHostname u ∧
    r.port = getPort u ∧ r.pathname = pathText u ∧ r.path = getPath u ∧
    r.search = getSearch u ∧ r.hash = getHash u ∧
    r.serializeNoFragment = serialize u true := fun u r wf h => by
  obtain ⟨g1, g2, g3, g4, g5, g6, g7, g8, g9, g10, g11, g12⟩ :=
    equiv_getters r (layout u) h.1 h.2 (C05b_layout u wf).2
  obtain ⟨c1, c2, c3, c4, c5, c6, c7, c8, c9, c10, c11⟩ := C05_getters u wf
  exact ⟨g1.trans (C05_layout_href u), g2.trans c1, g3.trans c2, g4.trans c3, g5.trans c4,
    g6.trans c5, g7.trans c6, g8.trans c7, g9.trans c8, g10.trans c9, g11.trans c10, g12.trans c11⟩

example :
    c05bHostOnlyRep.host = asciiStr "h" ∧ c05bHostOnlyRep.port = [] ∧ c05bHostOnlyRep.pathname = [] ∧
    c05bHostOnlyRep.path = [] ∧ c05bHostOnlyRep.search = [] ∧
    c05bHostOnlyRep.serializeNoFragment = asciiStr "s://h" := by unfold c05bHostOnlyRep c05bHostOnly; decide_ascii

/-! ## 1. query, fragment, port -/

theorem C05b_write_query : ∀ (u : Url) (q : List Nat) (r : Rep), RepOk u → RepFor r u →
    RepFor (writePartFlag r QUERY q) { u with query := some q } := fun u q _ ok h =>
  h.edit ok (ok.1 : RecWF { u with query := some q }) (write_query u q)

theorem C05b_clear_query : ∀ (u : Url) (r : Rep), RepOk u → RepFor r u →
    RepFor (clearPart r QUERY) { u with query := none } := fun u _ ok h =>
  h.edit ok (ok.1 : RecWF { u with query := none }) (clear_query u)

theorem C05b_write_fragment : ∀ (u : Url) (f : List Nat) (r : Rep), RepOk u → RepFor r u →
    RepFor (writePartFlag r FRAGMENT f) { u with fragment := some f } := fun u f _ ok h =>
  h.edit ok (ok.1 : RecWF { u with fragment := some f }) (write_fragment u f)

theorem C05b_clear_fragment : ∀ (u : Url) (r : Rep), RepOk u → RepFor r u →
    RepFor (clearPart r FRAGMENT) { u with fragment := none } := fun u _ ok h =>
  h.edit ok (ok.1 : RecWF { u with fragment := none }) (clear_fragment u)

/-- the port block of the parser (url.h:2058-2063): `start_part(PORT)`, digits, `save_part`, flag -/
theorem C05b_write_port : ∀ (u : Url) (p : Nat) (r : Rep), RepOk u → u.host.isSome → RepFor r u →
    RepFor (writePartFlag r PORT (toDecimal p)) { u with port := some p } := fun u p _ ok hh h =>
  h.edit ok (recWF_auth ok.1 hh _ _ _) (fun k => write_port u p k hh)

theorem C05b_clear_port : ∀ (u : Url) (r : Rep), RepOk u → RepFor r u →
    RepFor (clearPart r PORT) { u with port := none } := fun u _ ok h =>
  h.edit ok (recWF_port_none ok.1) (clear_port u ok.1)

-- evaluated: https://user:pw@example.org:8080/a/b?q=1#frag
example : (writePartFlag (layout c05Full) QUERY (asciiStr "zz")).norm =
      asciiStr "https://user:pw@example.org:8080/a/b?zz#frag" ∧
    (writePartFlag (layout c05Full) QUERY (asciiStr "zz")).partEnd =
      [5, 8, 12, 15, 16, 27, 32, 32, 36, 39, 44] := by unfold c05Full; decide_ascii
example : (writePartFlag (layout c05Full) FRAGMENT []).norm =
      asciiStr "https://user:pw@example.org:8080/a/b?q=1#" ∧
    (clearPart (layout c05Full) FRAGMENT).norm = asciiStr "https://user:pw@example.org:8080/a/b?q=1" ∧
    (clearPart (layout c05Full) FRAGMENT).partEnd = [5, 8, 12, 15, 16, 27, 32, 32, 36, 40, 40] ∧
    (clearPart (layout c05Full) FRAGMENT).fragmentNotNull = false := by unfold c05Full; decide_ascii
-- the fragment is the last part: it is cut off and re-serialised, its offset restarts from 0
example : (writePartFlag (clearPart (layout c05Full) FRAGMENT) QUERY (asciiStr "y")).partEnd =
      [5, 8, 12, 15, 16, 27, 32, 32, 36, 38, 0] ∧
    (writePartFlag (clearPart (layout c05Full) FRAGMENT) QUERY (asciiStr "y")).norm =
      asciiStr "https://user:pw@example.org:8080/a/b?y" := by unfold c05Full; decide_ascii
example : (clearPart (layout c05Full) PORT).norm = asciiStr "https://user:pw@example.org/a/b?q=1#frag" ∧
    (clearPart (layout c05Full) PORT).partEnd = [5, 8, 12, 15, 16, 27, 27, 27, 31, 35, 40] ∧
    (writePartFlag (layout c05Full) PORT (toDecimal 9)).norm =
      asciiStr "https://user:pw@example.org:9/a/b?q=1#frag" := by unfold c05Full; decide_ascii
-- parts that were never started: `find_last_part`, then the skipped offsets are filled
example : (writePartFlag c05bHostOnlyRep QUERY (asciiStr "8")).norm = asciiStr "s://h?8" ∧
    (writePartFlag c05bHostOnlyRep QUERY (asciiStr "8")).partEnd = [1, 4, 4, 4, 4, 5, 5, 5, 5, 7, 0] ∧
    (writePartFlag c05bHostOnlyRep PORT (toDecimal 8)).norm = asciiStr "s://h:8" ∧
    (writePartFlag c05bHostOnlyRep PORT (toDecimal 8)).partEnd = [1, 4, 4, 4, 4, 5, 7, 0, 0, 0, 0] ∧
    clearPart c05bHostOnlyRep PORT = c05bHostOnlyRep := by unfold c05bHostOnlyRep c05bHostOnly; decide_ascii

/-! ## 2. username, password (`canHaveUsernamePasswordPort`: the host is non-empty) -/

theorem C05b_write_username : ∀ (u : Url) (t : List Nat) (r : Rep) (x : Host), RepOk u →
    u.host = some x → x.text ≠ [] → RepFor r u →
    RepFor (writePart r USERNAME t) { u with username := t } := fun u t _ x ok hh hx h =>
  h.edit ok (recWF_auth ok.1 (by rw [hh]; rfl) _ _ _) (fun k => write_username u t k hh hx)

theorem C05b_write_password : ∀ (u : Url) (t : List Nat) (r : Rep) (x : Host), RepOk u →
    u.host = some x → x.text ≠ [] → RepFor r u →
    RepFor (writePart r PASSWORD t) { u with password := t } := fun u t _ x ok hh hx h =>
  h.edit ok (recWF_auth ok.1 (by rw [hh]; rfl) _ _ _) (fun k => write_password u t k hh hx)

example : (writePart (layout c05Full) USERNAME (asciiStr "bob")).norm =
      asciiStr "https://bob:pw@example.org:8080/a/b?q=1#frag" ∧
    (writePart (layout c05Full) USERNAME (asciiStr "bob")).partEnd =
      [5, 8, 11, 14, 15, 26, 31, 31, 35, 39, 44] := by unfold c05Full; decide_ascii
-- "@" removed when both become empty, inserted when credentials appear
example :
    let r1 := writePart (layout c05Full) USERNAME []
    let r2 := writePart r1 PASSWORD []
    let r3 := writePart r2 PASSWORD (asciiStr "pp")
    r1.norm = asciiStr "https://:pw@example.org:8080/a/b?q=1#frag" ∧
    r2.norm = asciiStr "https://example.org:8080/a/b?q=1#frag" ∧
    r2.partEnd = [5, 8, 8, 8, 8, 19, 24, 24, 28, 32, 37] ∧
    r3.norm = asciiStr "https://:pp@example.org:8080/a/b?q=1#frag" ∧
    r3.partEnd = [5, 8, 8, 11, 12, 23, 28, 28, 32, 36, 41] := by unfold c05Full; decide_ascii
example : (writePart c05bHostOnlyRep USERNAME (asciiStr "u")).norm = asciiStr "s://u@h" ∧
    (writePart c05bHostOnlyRep USERNAME (asciiStr "u")).partEnd = [1, 4, 5, 5, 6, 7, 0, 0, 0, 0, 0] := by
  unfold c05bHostOnlyRep c05bHostOnly; decide_ascii

/-- the hypothesis "host non-empty" is needed (and is the guard of `url::username`): on `s://` the
    USERNAME part is the last one, it is re-serialised through `url_serializer::start_part`, and no
    "@" is written -/
theorem C05b_username_empty_host_counterexample :
    let u : Url := { scheme := asciiStr "s", host := some ⟨.empty, []⟩ }
    RepOk u ∧ (writePart (layout u) USERNAME (asciiStr "u")).norm = asciiStr "s://u" ∧
    (layout { u with username := asciiStr "u" }).norm = asciiStr "s://u@" ∧
    ¬ (writePart (layout u) USERNAME (asciiStr "u")).equiv (layout { u with username := asciiStr "u" }) := by
  decide_ascii

/-! ## 3. host (`!has_opaque_path()`) -/

/-- `hostStart()`; serialised host; `hostDone(ht)`.  Includes null → non-null ("//" inserted through
    `replace_part(HOST, "://" + host, SCHEME_SEP, 3)`, "/." removed) -/
theorem C05b_write_host : ∀ (u : Url) (hd : Host) (r : Rep), RepOk u → u.hasOpaquePath = false →
    RepFor r u →
    RepFor (writeHost r hd.text (hostKindCode hd.kind)) { u with host := some hd } := fun u hd _ ok ho h =>
  h.edit ok (recWF_host ok.1 hd) (fun k => write_host u hd ok k ho)

/-- `set_empty_host()` of the file host state (the host of a file URL is never null) -/
theorem C05b_set_empty_host : ∀ (u : Url) (r : Rep), RepOk u → u.host.isSome → RepFor r u →
    RepFor (setEmptyHost r) { u with host := some emptyHost } := fun u _ ok hh h =>
  h.edit ok (recWF_host ok.1 emptyHost) (fun k => set_empty_host u k hh)

/-- `url_setter::empty_host()` ("localhost" in a file URL) -/
theorem C05b_empty_host : ∀ (u : Url) (r : Rep), RepOk u → u.host.isSome → RepFor r u →
    RepFor (emptyHostRep r) { u with host := some emptyHost } := fun u _ ok hh h =>
  h.edit ok (recWF_host ok.1 emptyHost) (fun k => empty_host u k hh)

-- a:/.//x, host := h  ⟶  a://h//x
example : (writeHost c05PrefixRep (asciiStr "h") 2).norm = asciiStr "a://h//x" ∧
    (writeHost c05PrefixRep (asciiStr "h") 2).partEnd = [1, 4, 4, 4, 4, 5, 5, 5, 8, 0, 0] ∧
    (writeHost c05PrefixRep (asciiStr "h") 2).hostNotNull = true ∧
    (writeHost c05PrefixRep (asciiStr "h") 2).hostType = 2 := by unfold c05PrefixRep c05Prefix; decide_ascii
example : (writeHost (layout c05Full) (asciiStr "h") 2).norm = asciiStr "https://user:pw@h:8080/a/b?q=1#frag" ∧
    (writeHost c05bHostOnlyRep (asciiStr "hh") 1).norm = asciiStr "s://hh" ∧
    (writeHost c05bHostOnlyRep (asciiStr "hh") 1).partEnd = [1, 4, 4, 4, 4, 6, 0, 0, 0, 0, 0] ∧
    (emptyHostRep (layout c05Full)).norm = asciiStr "https://user:pw@:8080/a/b?q=1#frag" := by unfold c05bHostOnlyRep c05Full c05bHostOnly; decide_ascii

/-- the second conjunct of `RepOk` is needed: on a record with a null host and an EMPTY list path
    ("a:", which no parse produces: the path of a host-less non-opaque URL has at least one segment)
    HOST is the last part, `url_setter::start_part` re-serialises it through
    `url_serializer::start_part` with `last_pt_ = HOST_START`, and "//" is not written -/
theorem C05b_host_null_empty_path_counterexample :
    let u : Url := { scheme := asciiStr "a" }
    RecWF u ∧ ¬ RepOk u ∧ (writeHost (layout u) (asciiStr "h") 1).norm = asciiStr "a:h" ∧
    (layout { u with host := some ⟨.opaque, asciiStr "h"⟩ }).norm = asciiStr "a://h" := by decide_ascii

/-! ## 4. path (`commit_path`, list paths) -/

/-- `commit_path()` with the segments accumulated in `strp_`.  `hp`: the first segment does not start
    with "/" (segments are split at "/"); it is needed because the C++ decides on the "/." prefix
    from the first two characters of the serialised path (`C05b_path_slash_segment_counterexample`) -/
theorem C05b_commit_path : ∀ (u : Url) (p : List (List Nat)) (r : Rep), RepOk u →
    u.hasOpaquePath = false → p.head?.bind List.head? ≠ some 0x2F → RepFor r u →
    RepFor (commitPath r (pathText { u with path := p }) p.length) { u with path := p } := fun u p _ ok ho hp h =>
  h.edit ok (ok.1 : RecWF { u with path := p }) (fun k => commit_path u p k ho hp)

-- a:/.//x, pathname := /a ⟶ a:/a ("/." removed); then pathname := //a ⟶ a:/.//a ("/." inserted)
example :
    let r1 := commitPath c05PrefixRep (asciiStr "/a") 1
    let r2 := commitPath r1 (asciiStr "//a") 2
    r1.norm = asciiStr "a:/a" ∧ r1.partEnd = [1, 2, 2, 2, 2, 2, 2, 2, 4, 0, 0] ∧ r1.segCount = 1 ∧
    r2.norm = asciiStr "a:/.//a" ∧ r2.partEnd = [1, 2, 2, 2, 2, 2, 2, 4, 7, 0, 0] ∧ r2.segCount = 2 := by
  unfold c05PrefixRep c05Prefix; decide_ascii
example : (commitPath c05bHostOnlyRep (asciiStr "/a") 1).norm = asciiStr "s://h/a" ∧
    (commitPath c05bHostOnlyRep (asciiStr "/a") 1).partEnd = [1, 4, 4, 4, 4, 5, 5, 5, 7, 0, 0] ∧
    (commitPath (layout c05Full) (asciiStr "//x") 2).norm =
      asciiStr "https://user:pw@example.org:8080//x?q=1#frag" := by unfold c05bHostOnlyRep c05Full c05bHostOnly; decide_ascii

/-- the buffer of the setter while the path is rebuilt: after pushing the segments of `p`
    (`start_path_segment`/`save_path_segment`) `strp_` is the serialised path and `path_seg_end_` has
    one entry per segment; `url_setter::shorten_path` acts on it as `url::get_shorten_path`
    ("shorten a URL's path") acts on the record; and `commit_path` on the buffer is the `commitPath`
    of `C05b_commit_path` -/
theorem C05b_path_buffer : ∀ (u : Url) (p : List (List Nat)),
    (PathBuf.ofPath p).strp = p.flatMap (fun seg => 0x2F :: seg) ∧
    (PathBuf.ofPath p).segEnd.length = p.length ∧
    (PathBuf.ofPath u.path).shorten u.isFile = PathBuf.ofPath (shortenPath u).path ∧
    (u.hasOpaquePath = false → ∀ r : Rep,
      commitPathBuf r (PathBuf.ofPath p) = commitPath r (pathText { u with path := p }) p.length) :=
  fun u p => by
  refine ⟨?_, ?_, shorten_ofPath u, fun ho r => commitPathBuf_ofPath r u p ho⟩
  · rw [ofPath_eq, slashed_flatten]; rfl
  · rw [ofPath_eq]; simp [slashed]

example : PathBuf.ofPath [asciiStr "a", asciiStr "bc"] = { strp := asciiStr "/a/bc", segEnd := [2, 5] } ∧
    (PathBuf.ofPath [asciiStr "a", asciiStr "bc"]).shorten false = { strp := asciiStr "/a", segEnd := [2] } ∧
    (PathBuf.ofPath [asciiStr "C:"]).shorten true = PathBuf.ofPath [asciiStr "C:"] ∧
    (PathBuf.ofPath [asciiStr "C:"]).shorten false = {} ∧
    (commitPathBuf c05PrefixRep (PathBuf.ofPath [[], asciiStr "a"])).norm = asciiStr "a:/.//a" := by
  unfold c05PrefixRep c05Prefix; decide_ascii

theorem C05b_path_slash_segment_counterexample :
    let p : List (List Nat) := [asciiStr "/x", asciiStr "y"]
    RepOk c05Prefix ∧
    (commitPath (layout c05Prefix) (pathText { c05Prefix with path := p }) p.length).norm =
      asciiStr "a:/.//x/y" ∧
    (layout { c05Prefix with path := p }).norm = asciiStr "a://x/y" := by unfold c05Prefix; decide_ascii

/-! ## 5. scheme -/

theorem C05b_save_scheme : ∀ (u : Url) (s : List Nat) (r : Rep), RepOk u → s ≠ [] → RepFor r u →
    RepFor (saveScheme r s) { u with scheme := s } := fun u s _ ok hs h =>
  h.edit ok (⟨hs, ok.1.2⟩ : RecWF { u with scheme := s }) (fun k => save_scheme u s k hs)

example : (saveScheme (layout c05Full) (asciiStr "http")).norm =
      asciiStr "http://user:pw@example.org:8080/a/b?q=1#frag" ∧
    (saveScheme (layout c05Full) (asciiStr "http")).partEnd = [4, 7, 11, 14, 15, 26, 31, 31, 35, 39, 44] ∧
    (saveScheme (layout c05Full) (asciiStr "http")).schemeIdx = some 3 ∧
    (saveScheme c05PrefixRep (asciiStr "bc")).partEnd = [2, 3, 3, 3, 3, 3, 3, 5, 8, 0, 0] := by unfold c05PrefixRep c05Full c05Prefix; decide_ascii

/-! ## 6. potentially strip trailing spaces from an opaque path -/

theorem C05b_strip_trailing_spaces : ∀ (u : Url) (r : Rep), RepOk u → RepFor r u →
    RepFor (stripTrailingSpacesRep r) (stripTrailingSpaces u) := fun u r ok h => by
  have wf' : RecWF (stripTrailingSpaces u) := by
    unfold stripTrailingSpaces; split
    · exact ok.1
    · exact ok.1
  exact h.edit ok wf' (strip_spaces u ok)

example : (layout c05bMail).norm = asciiStr "mailto:x  " ∧
    (stripTrailingSpacesRep (layout c05bMail)).norm = asciiStr "mailto:x" ∧
    (stripTrailingSpacesRep (layout c05bMail)).partEnd = [6, 7, 7, 7, 7, 7, 7, 7, 8, 8, 8] ∧
    stripTrailingSpacesRep (layout c05Opaque) = layout c05Opaque := by unfold c05Opaque c05bMail; decide_ascii
-- the search setter with "": clear_part(QUERY), then strip
example :
    let u : Url := { c05bMail with query := some (asciiStr "q") }
    (stripTrailingSpacesRep (clearPart (layout u) QUERY)).norm = asciiStr "mailto:x" ∧
    (stripTrailingSpacesRep (clearPart (layout u) QUERY)).equiv
      (layout (stripTrailingSpaces { u with query := none })) := by unfold c05bMail; decide_ascii

/-! ## 7. the `layout`-to-`layout` corollaries -/

theorem C05b_layout_to_layout : ∀ u : Url, RepOk u →
    (∀ q, (writePartFlag (layout u) QUERY q).equiv (layout { u with query := some q })) ∧
    (clearPart (layout u) QUERY).equiv (layout { u with query := none }) ∧
    (∀ f, (writePartFlag (layout u) FRAGMENT f).equiv (layout { u with fragment := some f })) ∧
    (clearPart (layout u) FRAGMENT).equiv (layout { u with fragment := none }) ∧
    (clearPart (layout u) PORT).equiv (layout { u with port := none }) ∧
    (stripTrailingSpacesRep (layout u)).equiv (layout (stripTrailingSpaces u)) ∧
    (∀ s, s ≠ [] → (saveScheme (layout u) s).equiv (layout { u with scheme := s })) ∧
    (u.hasOpaquePath = false →
      (∀ hd : Host, (writeHost (layout u) hd.text (hostKindCode hd.kind)).equiv
        (layout { u with host := some hd })) ∧
      (∀ p : List (List Nat), p.head?.bind List.head? ≠ some 0x2F →
        (commitPath (layout u) (pathText { u with path := p }) p.length).equiv
          (layout { u with path := p }))) ∧
    (u.host.isSome →
      (∀ p, (writePartFlag (layout u) PORT (toDecimal p)).equiv (layout { u with port := some p })) ∧
      (setEmptyHost (layout u)).equiv (layout { u with host := some emptyHost }) ∧
      (emptyHostRep (layout u)).equiv (layout { u with host := some emptyHost })) ∧
    (∀ x : Host, u.host = some x → x.text ≠ [] →
      (∀ t, (writePart (layout u) USERNAME t).equiv (layout { u with username := t })) ∧
      (∀ t, (writePart (layout u) PASSWORD t).equiv (layout { u with password := t }))) :=
  fun u ok => by
  have h0 := C05b_layout u ok.1
  exact ⟨fun q => (C05b_write_query u q _ ok h0).1, (C05b_clear_query u _ ok h0).1,
    fun f => (C05b_write_fragment u f _ ok h0).1, (C05b_clear_fragment u _ ok h0).1,
    (C05b_clear_port u _ ok h0).1, (C05b_strip_trailing_spaces u _ ok h0).1,
    fun s hs => (C05b_save_scheme u s _ ok hs h0).1,
    fun ho => ⟨fun hd => (C05b_write_host u hd _ ok ho h0).1,
      fun p hp => (C05b_commit_path u p _ ok ho hp h0).1⟩,
    fun hh => ⟨fun p => (C05b_write_port u p _ ok hh h0).1, (C05b_set_empty_host u _ ok hh h0).1,
      (C05b_empty_host u _ ok hh h0).1⟩,
    fun x hh hx => ⟨fun t => (C05b_write_username u t _ x ok hh hx h0).1,
      fun t => (C05b_write_password u t _ x ok hh hx h0).1⟩⟩

/-- after an edit the getters are those of the edited record (one instance; the same holds for every
    operation above, by `C05b_getters`) -/
theorem C05b_getters_after_write_username : ∀ (u : Url) (t : List Nat) (r : Rep) (x : Host), RepOk u →
    u.host = some x → x.text ≠ [] → RepFor r u →
    let r' := writePart r USERNAME t
    let u' : Url := { u with username := t }
    r'.href = serialize u' ∧ r'.username = t ∧ r'.password = u.password ∧ r'.host = getHost u ∧
    r'.pathname = pathText u ∧ r'.search = getSearch u ∧ r'.hash = getHash u :=
  fun u t r x ok hh hx h => by
  obtain ⟨g1, _, g3, g4, g5, _, _, g8, _, g10, g11, _⟩ :=
    C05b_getters _ _ (recWF_auth ok.1 (by rw [hh]; rfl) t _ _) (C05b_write_username u t r x ok hh hx h)
  exact ⟨g1, g3, g4, g5, g8, g10, g11⟩

/-! ## 8. non-vacuity: the model bites -/

/-- `replace_part` WITHOUT the shift of the later offsets (url.h:2868-2872 deleted) -/
def replacePartNoShift (r : Rep) (lastPt firstPt : Nat) (str : List Nat) (len0 : Nat) : Rep :=
  let b := r.partPos firstPt
  let l := r.pe lastPt - b
  { r with norm := r.norm.take b ++ str ++ r.norm.drop (b + l),
           partEnd := fillRange r.partEnd firstPt lastPt (b + len0) }

/-- … then clearing the query of https://user:pw@example.org:8080/a/b?q=1#frag leaves stale QUERY
    and FRAGMENT offsets: not a representation of the new record -/
theorem C05b_bites_no_shift :
    let bad := (replacePartNoShift (layout c05Full) QUERY QUERY [] 0).setNull QUERY
    let good := clearPart (layout c05Full) QUERY
    good.equiv (layout { c05Full with query := none }) ∧
    bad.norm = good.norm ∧ bad.partEnd = [5, 8, 12, 15, 16, 27, 32, 32, 36, 40, 45] ∧
    good.partEnd = [5, 8, 12, 15, 16, 27, 32, 32, 36, 36, 41] ∧
    ¬ bad.equiv (layout { c05Full with query := none }) ∧ bad.hash ≠ asciiStr "#frag" := by unfold c05Full; decide_ascii

/-- `commit_path` that forgets `path_segment_count_` (url.h:3015 deleted) -/
def commitPathNoCount (r : Rep) (pathText : List Nat) : Rep :=
  let r1 := { r with partEnd := fillUnsetDown r.partEnd r.norm.length PATH }
  adjustPathPrefix (replacePart1 r1 PATH pathText)

theorem C05b_bites_no_count :
    let u' : Url := { c05Prefix with path := [asciiStr "a"] }
    (commitPath c05PrefixRep (pathText u') 1).equiv (layout u') ∧
    ¬ (commitPathNoCount c05PrefixRep (pathText u')).equiv (layout u') ∧
    -- and the stale count makes the next "/." decision wrong: a:/a with pathname //b needs "/."
    (commitPathNoCount c05PrefixRep (asciiStr "/a")).segCount = 2 := by unfold c05PrefixRep c05Prefix; decide_ascii

/-- `≈` is not the total relation on representations of the same string: only TRAILING zeros are
    identified with the string length -/
example :
    ¬ (layout c05Full).equiv { layout c05Full with partEnd := [5, 8, 12, 15, 16, 27, 32, 32, 36, 41, 45] } ∧
    ¬ (layout c05Full).equiv { layout c05Full with partEnd := [5, 8, 12, 15, 16, 27, 0, 32, 36, 40, 45] } ∧
    (layout c05Full).equiv { layout c05Full with partEnd := [5, 8, 12, 15, 16, 27, 32, 32, 36, 40, 0] } ∧
    ¬ ({ layout c05Full with partEnd := [5, 8, 12, 15, 16, 27, 32, 32, 36, 40, 0] } : Rep).wf ∧
    (layout c05Prefix).equiv c05PrefixRep := by unfold c05PrefixRep c05Full c05Prefix; decide_ascii

#print axioms C05b_layout
#print axioms C05b_equiv_getters
#print axioms C05b_equiv_getters_needs_wf
#print axioms C05b_getters
#print axioms C05b_write_query
#print axioms C05b_clear_query
#print axioms C05b_write_fragment
#print axioms C05b_clear_fragment
#print axioms C05b_write_port
#print axioms C05b_clear_port
#print axioms C05b_write_username
#print axioms C05b_write_password
#print axioms C05b_username_empty_host_counterexample
#print axioms C05b_write_host
#print axioms C05b_set_empty_host
#print axioms C05b_empty_host
#print axioms C05b_host_null_empty_path_counterexample
#print axioms C05b_commit_path
#print axioms C05b_path_buffer
#print axioms C05b_path_slash_segment_counterexample
#print axioms C05b_save_scheme
#print axioms C05b_strip_trailing_spaces
#print axioms C05b_layout_to_layout
#print axioms C05b_getters_after_write_username
#print axioms C05b_bites_no_shift
#print axioms C05b_bites_no_count

end Upa.Props
