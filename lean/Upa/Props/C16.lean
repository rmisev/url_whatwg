import Upa.Proofs.Params
import Upa.Proofs.EvalFuel
/-
  C16 — URLSearchParams list operations and sort (include/upa/url_search_params.h:535-683,
  src/url_utf.cpp:70-104).

  `Ops`, `step`, `run`, `Sorted` (what the `is_sorted_` flag promises) and `CacheOk` (the flag is truthful; the
  statements below write it out) are defined in `Upa/Proofs/Params.lean`; `nameLe` (the `le` that `Params.sort` hands
  to `mergeSort`) and `key` in `Upa/Proofs/ParamsCmp.lean` (namespace `Upa.Proofs.C16`).
-/
namespace Upa.Props
open Upa Upa.Proofs.C16

/-! ## list operations = the Standard's algorithms -/

theorem C16_append (p : Impl.Params) (n v : List Nat) :
    (p.append n v).list = Spec.spAppend p.list n v := rfl

theorem C16_del (p : Impl.Params) (n : List Nat) :
    (p.del n).list = Spec.spDelete p.list n := rfl

theorem C16_del2 (p : Impl.Params) (n v : List Nat) :
    (p.del2 n v).list = Spec.spDelete2 p.list n v := rfl

theorem C16_get (p : Impl.Params) (n : List Nat) : p.get n = Spec.spGet p.list n := rfl

theorem C16_getAll (p : Impl.Params) (n : List Nat) : p.getAll n = Spec.spGetAll p.list n := rfl

theorem C16_has (p : Impl.Params) (n : List Nat) : p.has n = Spec.spHas p.list n := rfl

theorem C16_has2 (p : Impl.Params) (n v : List Nat) : p.has2 n v = Spec.spHas2 p.list n v := rfl

/-- `set`: the first pair named `n` gets value `v`, the other pairs named `n` are removed; when there
    is none, `(n, v)` is appended. -/
theorem C16_set (p : Impl.Params) (n v : List Nat) :
    (p.set n v).list = Spec.spSet p.list n v := set_list p n v

theorem C16_ops (p : Impl.Params) (n v : List Nat) :
    (p.append n v).list = Spec.spAppend p.list n v ∧
    (p.del n).list = Spec.spDelete p.list n ∧
    (p.del2 n v).list = Spec.spDelete2 p.list n v ∧
    p.get n = Spec.spGet p.list n ∧
    p.getAll n = Spec.spGetAll p.list n ∧
    p.has n = Spec.spHas p.list n ∧
    p.has2 n v = Spec.spHas2 p.list n v ∧
    (p.set n v).list = Spec.spSet p.list n v :=
  ⟨rfl, rfl, rfl, rfl, rfl, rfl, rfl, set_list p n v⟩

-- non-vacuity: `set` on a list with two matches rewrites the first and drops the second
example :
    (Impl.Params.set { list := [([1], [10]), ([2], [20]), ([1], [30])], isSorted := true } [1] [99]).list
      = [([1], [99]), ([2], [20])] := by decide
example :
    Spec.spSet [([1], [10]), ([2], [20]), ([1], [30])] [1] [99] = [([1], [99]), ([2], [20])] := by decide
-- and appends when there is no match
example : (Impl.Params.set { list := [([2], [20])] } [1] [99]).list = [([2], [20]), ([1], [99])] := by
  decide
example : (Impl.Params.del2 { list := [([1], [10]), ([1], [30])] } [1] [30]).list = [([1], [10])] := by
  decide
example : Impl.Params.get { list := [([1], [10]), ([1], [30])] } [1] = some [10] := by decide

/-! ## the comparator orders UTF-8 strings by their UTF-16 code units -/

theorem C16_cmp : ∀ a b : List Nat, (∀ c ∈ a, Spec.isScalar c = true) → (∀ c ∈ b, Spec.isScalar c = true) →
    (Impl.compareByCodeUnits (Spec.utf8Encode a) (Spec.utf8Encode b) < 0 ↔
      Spec.lexLt (Spec.utf16Encode a) (Spec.utf16Encode b) = true) ∧
    (Impl.compareByCodeUnits (Spec.utf8Encode a) (Spec.utf8Encode b) > 0 ↔
      Spec.lexLt (Spec.utf16Encode b) (Spec.utf16Encode a) = true) ∧
    (Impl.compareByCodeUnits (Spec.utf8Encode a) (Spec.utf8Encode b) = 0 ↔ a = b) := by
  intro a b ha hb
  have ka := key_encode a ha
  have kb := key_encode b hb
  refine ⟨?_, ?_, ?_⟩
  · rw [cmp_lt_iff, ka, kb]
  · rw [cmp_gt_iff, ka, kb]
  · rw [cmp_eq_iff, ka, kb]
    exact ⟨utf16Encode_inj a b ha hb, fun h => by rw [h]⟩

/-- The same for ARBITRARY byte strings (no well-formedness hypothesis): the comparator orders by the
    UTF-16 code units of what `read_utf_char` decodes (ill-formed subsequences read as U+FFFD). -/
theorem C16_cmp_all : ∀ x y : List Nat,
    (Impl.compareByCodeUnits x y < 0 ↔
      Spec.lexLt (Spec.utf16Encode (Impl.decode .u8 x)) (Spec.utf16Encode (Impl.decode .u8 y)) = true) ∧
    (Impl.compareByCodeUnits x y > 0 ↔
      Spec.lexLt (Spec.utf16Encode (Impl.decode .u8 y)) (Spec.utf16Encode (Impl.decode .u8 x)) = true) ∧
    (Impl.compareByCodeUnits x y = 0 ↔
      Spec.utf16Encode (Impl.decode .u8 x) = Spec.utf16Encode (Impl.decode .u8 y)) :=
  fun x y => ⟨cmp_lt_iff x y, cmp_gt_iff x y, cmp_eq_iff x y⟩

-- non-vacuity: U+1F600 (surrogate pair D83D DE00) sorts BELOW U+FFFD although 0x1F600 > 0xFFFD
example : (∀ c ∈ [0x1F600], Spec.isScalar c = true) ∧ (∀ c ∈ [0xFFFD], Spec.isScalar c = true) := by
  decide
example : Spec.utf8Encode [0x1F600] = [0xF0, 0x9F, 0x98, 0x80] ∧ Spec.utf8Encode [0xFFFD] = [0xEF, 0xBF, 0xBD] := by
  decide
example : Impl.compareByCodeUnits (Spec.utf8Encode [0x1F600]) (Spec.utf8Encode [0xFFFD]) < 0 := by decide
example : Spec.lexLt (Spec.utf16Encode [0x1F600]) (Spec.utf16Encode [0xFFFD]) = true := by decide
-- two supplementary code points with the same lead surrogate are ordered by the trail surrogate
example : Impl.compareByCodeUnits (Spec.utf8Encode [0x61, 0x1F600]) (Spec.utf8Encode [0x61, 0x1F601]) < 0 := by
  decide
example : Impl.compareByCodeUnits (Spec.utf8Encode [0x61, 0xE9]) (Spec.utf8Encode [0x61]) > 0 := by decide

/-! ## `nameLess` is a strict weak order (the precondition of std::list::sort) -/

/-- Holds for ALL pairs, not only those with well-formed UTF-8 names. -/
theorem C16_cmp_strict_weak :
    (∀ a : Impl.BPair, Impl.nameLess a a = false) ∧
    (∀ a b c : Impl.BPair, Impl.nameLess a b = true → Impl.nameLess b c = true → Impl.nameLess a c = true) ∧
    (∀ a b c : Impl.BPair,
      Impl.nameLess a b = false → Impl.nameLess b a = false →
      Impl.nameLess b c = false → Impl.nameLess c b = false →
      Impl.nameLess a c = false ∧ Impl.nameLess c a = false) :=
  ⟨nameLess_irrefl, fun _ _ _ => nameLess_trans, fun _ _ _ => nameLess_incomp_trans⟩

example : Impl.nameLess ([0xF0, 0x9F, 0x98, 0x80], []) ([0xEF, 0xBF, 0xBD], []) = true := by decide
-- incomparable but different byte strings exist (ill-formed ones): a lone 0x80 and a lone 0xFF both
-- read as U+FFFD
example : Impl.nameLess ([0x80], []) ([0xFF], []) = false ∧ Impl.nameLess ([0xFF], []) ([0x80], []) = false := by
  decide

/-! ## the `is_sorted_` cache is sound after any history -/

theorem C16_flag_inv : ∀ (p : Impl.Params) (ops : List Ops),
    (p.isSorted = true → List.Pairwise (fun x y => Impl.nameLess y x = false) p.list) →
    let q := run p ops
    q.isSorted = true → List.Pairwise (fun x y => Impl.nameLess y x = false) q.list :=
  fun p ops h => run_inv p ops h

-- non-vacuity.  The hypothesis holds for a fresh object (flag false) and for a truthful flag:
example : ((({} : Impl.Params)).isSorted = true →
    List.Pairwise (fun x y => Impl.nameLess y x = false) ({} : Impl.Params).list) := by decide
example : (({ list := [([0x61], [1]), ([0x62], [2])], isSorted := true } : Impl.Params).isSorted = true →
    List.Pairwise (fun x y => Impl.nameLess y x = false) [([0x61], [1]), ([0x62], [2])]) := by decide

/-- a concrete history: do_parse(true, "?b=1&%F0%9F%98%80=2&%EF%BF%BD=3&a=4&b=5"), sort, set("b","9"),
    delete("z"): the flag is still set at the end and the list (a, b, U+1F600, U+FFFD) is in UTF-16
    code unit order -/
example :
    run {} [.parse true [63, 98, 61, 49, 38, 37, 70, 48, 37, 57, 70, 37, 57, 56, 37, 56, 48, 61, 50, 38,
      37, 69, 70, 37, 66, 70, 37, 66, 68, 61, 51, 38, 97, 61, 52, 38, 98, 61, 53],
      .sort, .set [98] [57], .del [0x7A]] =
    { list := [([97], [52]), ([98], [57]), ([240, 159, 152, 128], [50]), ([239, 191, 189], [51])],
      isSorted := true } := by
  -- (`formParse` and `Params.sort` are evaluated through their twins, Proofs/EvalFuel.lean)
  simp only [run, List.foldl, step, Impl.Params.parse, Proofs.C15.formParse_eqK, ← Proofs.ObjRep.sortK_eq]
  decide +kernel

-- an `append` after `sort` clears the flag, so the conclusion is about the flag being set only
example : (run { list := [([0x62], [])], isSorted := true } [.append [0x61] []]).isSorted = false := by decide

/-! ## `sort` -/

/-- After `sort` (whether or not the cache flag was set, provided the flag was truthful): the list is a
    permutation of the old one, the flag is set, the list is sorted by the UTF-16 code units of the
    (decoded) names, every sublist of the old list that was already in order is still a sublist
    (stability; in particular pairs with equal names keep their relative order), and the result is
    exactly the stable merge sort of the old list. -/
theorem C16_sort : ∀ p : Impl.Params,
    (p.isSorted = true → List.Pairwise (fun x y => Impl.nameLess y x = false) p.list) →
    p.sort.isSorted = true ∧
    p.sort.list.Perm p.list ∧
    List.Pairwise (fun x y =>
      Spec.lexLt (Spec.utf16Encode (Impl.decode .u8 y.1)) (Spec.utf16Encode (Impl.decode .u8 x.1)) = false)
      p.sort.list ∧
    (∀ c : List Impl.BPair, List.Pairwise (fun x y => Impl.nameLess y x = false) c →
      List.Sublist c p.list → List.Sublist c p.sort.list) ∧
    (∀ a b : Impl.BPair, Impl.nameLess b a = false → List.Sublist [a, b] p.list →
      List.Sublist [a, b] p.sort.list) ∧
    p.sort.list = p.list.mergeSort (fun a b => !Impl.nameLess b a) := by
  intro p hinv
  refine ⟨sort_flag p, sort_perm p hinv, ?_, sort_stable p hinv, ?_, sort_list_eq p hinv⟩
  · have := sort_sorted p hinv
    unfold Sorted at this
    simpa only [nameLess_eq, key] using this
  · intro a b hab hsub
    exact sort_stable p hinv [a, b] (List.pairwise_pair.2 hab) hsub

-- non-vacuity: flag not set; U+1F600 goes below U+FFFD, "a" first, the two U+FFFD pairs keep their order
example :
    (Impl.Params.sort { list := [([0xEF, 0xBF, 0xBD], [1]), ([0xF0, 0x9F, 0x98, 0x80], [2]), ([0x61], [3]),
        ([0xEF, 0xBF, 0xBD], [4])] }).list =
      [([0x61], [3]), ([0xF0, 0x9F, 0x98, 0x80], [2]), ([0xEF, 0xBF, 0xBD], [1]), ([0xEF, 0xBF, 0xBD], [4])] := by
  rw [← Proofs.ObjRep.sortK_eq]; decide +kernel
-- flag set and truthful: the list is returned as it is
example :
    (Impl.Params.sort {
        list := [([0x61], [3]), ([0xF0, 0x9F, 0x98, 0x80], [2]), ([0xEF, 0xBF, 0xBD], [1])],
        isSorted := true }).list =
      [([0x61], [3]), ([0xF0, 0x9F, 0x98, 0x80], [2]), ([0xEF, 0xBF, 0xBD], [1])] := by decide
example : List.Pairwise (fun x y => Impl.nameLess y x = false)
    [([0x61], [3]), ([0xF0, 0x9F, 0x98, 0x80], [2]), ([0xEF, 0xBF, 0xBD], [1])] := by decide

/-- Against the Standard's sort: if the stored list is the UTF-8 encoding of a list `dl` of
    scalar-value-string pairs, the list after `sort` is the encoding of `spSort dl`. -/
theorem C16_sort_spec : ∀ (p : Impl.Params) (dl : List Spec.Pair),
    (p.isSorted = true → List.Pairwise (fun x y => Impl.nameLess y x = false) p.list) →
    (∀ x ∈ dl, ∀ c ∈ x.1, Spec.isScalar c = true) →
    p.list = dl.map (fun x => (Spec.utf8Encode x.1, Spec.utf8Encode x.2)) →
    p.sort.list = (Spec.spSort dl).map (fun x => (Spec.utf8Encode x.1, Spec.utf8Encode x.2)) :=
  fun p dl hinv hdl hview => sort_spec Spec.utf8Encode p hinv dl hdl hview

-- non-vacuity of the decoded view: dl = [(U+FFFD, "1"), (U+1F600, "2"), ("a", "3")]
example : (∀ x ∈ [([0xFFFD], [0x31]), ([0x1F600], [0x32]), ([0x61], [0x33])],
    ∀ c ∈ (x : Spec.Pair).1, Spec.isScalar c = true) := by decide
example : ([([0xFFFD], [0x31]), ([0x1F600], [0x32]), ([0x61], [0x33])] : List Spec.Pair).map
      (fun x => (Spec.utf8Encode x.1, Spec.utf8Encode x.2)) =
    [([0xEF, 0xBF, 0xBD], [0x31]), ([0xF0, 0x9F, 0x98, 0x80], [0x32]), ([0x61], [0x33])] := by decide
example : Spec.spSort [([0xFFFD], [0x31]), ([0x1F600], [0x32]), ([0x61], [0x33])] =
    [([0x61], [0x33]), ([0x1F600], [0x32]), ([0xFFFD], [0x31])] := by
  unfold Spec.spSort; rw [← Proofs.ObjRep.mergeSortK_eq _ 3 _ (by decide)]; decide +kernel

#print axioms C16_append
#print axioms C16_del
#print axioms C16_del2
#print axioms C16_get
#print axioms C16_getAll
#print axioms C16_has
#print axioms C16_has2
#print axioms C16_set
#print axioms C16_ops
#print axioms C16_cmp
#print axioms C16_cmp_all
#print axioms C16_cmp_strict_weak
#print axioms C16_flag_inv
#print axioms C16_sort
#print axioms C16_sort_spec

end Upa.Props
