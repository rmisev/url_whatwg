import Upa.Gen.Tables
/-
  C18 — all supported build configurations behave identically.
  A model cannot contain the compiler: the configuration quantifier is covered by translation
  validation (tools/extra.py `configs`: every configuration's binary must print the transcript the one
  formal model predicts).  What is logic in the configuration switches is proved here:
  the three `util::append_tr` strategies are one function, and the regenerated tables of the four
  language modes (hand-maintained literals in C++11/14, constexpr builders in C++17/20) coincide.
-/
namespace Upa.Props
open Upa.Gen

/-- `util::append_tr`, strategy 1 (`resize_and_overwrite`) and 2 (`resize` + `std::transform` into the
    new tail): the destination grows by `src.length` default elements which are then overwritten -/
def appendTrResize (dest src : List Nat) (f : Nat → Nat) : List Nat :=
  let grown := dest ++ List.replicate src.length 0
  grown.take dest.length ++ src.map f

/-- strategy 3 (`reserve` + `std::back_inserter`): one push_back per element -/
def appendTrBackInserter (dest src : List Nat) (f : Nat → Nat) : List Nat :=
  src.foldl (fun d c => d ++ [f c]) dest

theorem C18_append_tr (dest src : List Nat) (f : Nat → Nat) :
    appendTrResize dest src f = dest ++ src.map f ∧ appendTrBackInserter dest src f = dest ++ src.map f := by
  constructor
  · simp [appendTrResize]
  · unfold appendTrBackInserter
    induction src generalizing dest with
    | nil => simp
    | cons c cs ih => simp [List.foldl_cons, ih, List.append_assoc]

example : appendTrBackInserter [1, 2] [65, 66] (· + 32) = [1, 2, 97, 98] := by decide

/-- fourteen of the sixteen regenerated masks (all but `digit` and `alpha`) and `encbyte` are the same in all four
    language modes (table and constexpr builders coincide); regenerated on every run.  (`digit` and `alpha` coincide
    too: `C13_tables_cpp14 := C13_tables_cpp11` of Props/C13.lean type-checks only because they do.) -/
theorem C18_tables_equal_across_modes :
    (cpp11_fragment = cpp17_fragment ∧ cpp11_query = cpp17_query ∧ cpp11_squery = cpp17_squery ∧ cpp11_path = cpp17_path ∧
     cpp11_rawpath = cpp17_rawpath ∧ cpp11_posixpath = cpp17_posixpath ∧ cpp11_userinfo = cpp17_userinfo ∧
     cpp11_component = cpp17_component ∧ cpp11_fhost = cpp17_fhost ∧ cpp11_fdomain = cpp17_fdomain ∧ cpp11_hex = cpp17_hex ∧
     cpp11_ipv4char = cpp17_ipv4char ∧ cpp11_scheme = cpp17_scheme ∧ cpp11_asciidomain = cpp17_asciidomain ∧
     cpp11_encbyte = cpp17_encbyte) ∧
    (cpp14_fragment = cpp11_fragment ∧ cpp14_query = cpp11_query ∧ cpp14_squery = cpp11_squery ∧ cpp14_path = cpp11_path ∧
     cpp14_rawpath = cpp11_rawpath ∧ cpp14_posixpath = cpp11_posixpath ∧ cpp14_userinfo = cpp11_userinfo ∧
     cpp14_component = cpp11_component ∧ cpp14_fhost = cpp11_fhost ∧ cpp14_fdomain = cpp11_fdomain ∧ cpp14_hex = cpp11_hex ∧
     cpp14_ipv4char = cpp11_ipv4char ∧ cpp14_scheme = cpp11_scheme ∧ cpp14_asciidomain = cpp11_asciidomain ∧
     cpp14_encbyte = cpp11_encbyte) ∧
    (cpp20_fragment = cpp17_fragment ∧ cpp20_query = cpp17_query ∧ cpp20_squery = cpp17_squery ∧ cpp20_path = cpp17_path ∧
     cpp20_rawpath = cpp17_rawpath ∧ cpp20_posixpath = cpp17_posixpath ∧ cpp20_userinfo = cpp17_userinfo ∧
     cpp20_component = cpp17_component ∧ cpp20_fhost = cpp17_fhost ∧ cpp20_fdomain = cpp17_fdomain ∧ cpp20_hex = cpp17_hex ∧
     cpp20_ipv4char = cpp17_ipv4char ∧ cpp20_scheme = cpp17_scheme ∧ cpp20_asciidomain = cpp17_asciidomain ∧
     cpp20_encbyte = cpp17_encbyte) := by decide +kernel

theorem C18_constants_equal_across_modes :
    (cpp11_schemes == cpp17_schemes && cpp14_schemes == cpp17_schemes && cpp20_schemes == cpp17_schemes &&
     cpp11_partstart == cpp17_partstart && cpp14_partstart == cpp17_partstart && cpp20_partstart == cpp17_partstart &&
     cpp11_flags == cpp17_flags && cpp14_flags == cpp17_flags && cpp20_flags == cpp17_flags &&
     cpp11_partflagmask == cpp17_partflagmask && cpp14_partflagmask == cpp17_partflagmask &&
     cpp20_partflagmask == cpp17_partflagmask) = true := by
  decide +kernel

#print axioms C18_append_tr
#print axioms C18_tables_equal_across_modes
#print axioms C18_constants_equal_across_modes
end Upa.Props
