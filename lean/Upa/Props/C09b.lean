import Upa.Proofs.HostNS
import Upa.Proofs.CanParse
import Upa.Proofs.Literal
/-
  C09b — the validate-only run INSIDE the host parser (include/upa/url_host.h:158-361 with
  `dest.need_save() == false`, guards at lines 198, 280, 305, 340, 353).

  `Upa/Impl/CanParse.lean` models the host parser of the `url::can_parse` run by the shortcut
  `Impl.parseHostNS := (Impl.parseHost …).isSome` ("same verdict as the saving run").
  `Upa/Impl/HostNS.lean` models it explicitly: `Impl.HostNS.parseHostNS` takes every `need_save()`
  guard with the value false — no IPv4 / IPv6 serialization, no lower-casing copy, no percent-encoding
  of the opaque host, no copy of the ToASCII result — and makes every check the C++ still makes.
  The theorems below show that the shortcut is sound: same verdict for EVERY input, for EVERY
  `idna : List Nat → Option (List Nat)` (no IDNA hypothesis is needed: both runs call
  `domain_to_ascii` on the same `buff_uc` and use its result for the same decisions), and therefore
  the same `can_parse`.

  In the C++ all five guards enclose only writes to `dest`, after the last decision of their branch.
  Lemmas: Upa/Proofs/HostNS.lean.
-/
namespace Upa.Props
open Upa Upa.Impl Upa.Proofs.HostNS

private def stubB : Idna := fun l => some l
private def sB (x : String) : List Nat := asciiStr x

/-- `parse_host` with `need_save() == false` returns `ok` exactly when the saving `parse_host` does -/
theorem C09_host_ns_agree :
    ∀ (idna : Idna) (s : List Nat) (o : Bool),
      HostNS.parseHostNS idna s o = (Impl.parseHost idna s o).isSome :=
  parseHostNS_agree

/-- the same, per callee (`parse_ipv4`, `parse_ipv6`, `parse_opaque_host`) -/
theorem C09_host_ns_callees :
    (∀ s, HostNS.hostParseIpv4NS s = (Impl.hostParseIpv4 s).isSome) ∧
    (∀ s, HostNS.hostParseIpv6NS s = (Impl.hostParseIpv6 s).isSome) ∧
    (∀ s, HostNS.parseOpaqueHostNS s = (Impl.parseOpaqueHost s).isSome) :=
  ⟨ipv4_agree, ipv6_agree, opaque_agree⟩

/-- evaluated instances, one per branch of `parse_host`; both sides are computed independently and
    both verdicts occur.  The saving run's VALUE (right column) shows the work the validate-only run
    skips: lower-casing, IPv4 / IPv6 serialization, percent-encoding. -/
example :  -- fast ASCII-domain path (url_host.h:198)
    HostNS.parseHostNS stubB (sB "EXAMPLE.Com") false = true ∧
    Impl.parseHost stubB (sB "EXAMPLE.Com") false = some ⟨.domain, sB "example.com"⟩ := by
  unfold sB; decide_ascii
example :  -- ends in a number: parse_ipv4 (url_host.h:340), success and failure
    HostNS.parseHostNS stubB (sB "0x7f.1") false = true ∧
    Impl.parseHost stubB (sB "0x7f.1") false = some ⟨.ipv4, sB "127.0.0.1"⟩ ∧
    HostNS.parseHostNS stubB (sB "1.2.3.4.5") false = false ∧
    Impl.parseHost stubB (sB "1.2.3.4.5") false = none := by
  unfold sB; decide_ascii
example :  -- parse_ipv6 (url_host.h:353), success, failure, unclosed
    HostNS.parseHostNS stubB (sB "[1:0:0:0:0:0:0:A]") false = true ∧
    Impl.parseHost stubB (sB "[1:0:0:0:0:0:0:A]") false = some ⟨.ipv6, sB "[1::a]"⟩ ∧
    HostNS.parseHostNS stubB (sB "[1::2::3]") true = false ∧
    Impl.parseHost stubB (sB "[1::2::3]") true = none ∧
    HostNS.parseHostNS stubB (sB "[::1") false = false ∧
    Impl.parseHost stubB (sB "[::1") false = none := by
  unfold sB; decide_ascii
example :  -- parse_opaque_host (url_host.h:296, 305), success (C0 control and non-ASCII get encoded), failure, empty
    HostNS.parseHostNS stubB ([0x61, 0x1F, 0xE9]) true = true ∧
    Impl.parseHost stubB ([0x61, 0x1F, 0xE9]) true = some ⟨.opaque, sB "a%1F%C3%A9"⟩ ∧
    HostNS.parseHostNS stubB (sB "a b") true = false ∧
    Impl.parseHost stubB (sB "a b") true = none ∧
    HostNS.parseHostNS stubB [] true = true ∧ Impl.parseHost stubB [] true = some ⟨.empty, []⟩ ∧
    HostNS.parseHostNS stubB [] false = false ∧ Impl.parseHost stubB [] false = none := by
  unfold sB; decide_ascii
example :  -- early failure on a forbidden ASCII code point (url_host.h:206-213)
    HostNS.parseHostNS stubB (sB "a^b") false = false ∧
    Impl.parseHost stubB (sB "a^b") false = none := by
  unfold sB; decide_ascii
/-- IDNA path (url_host.h:216-286), reached through an `xn--` label and through `<` before a percent sign
    (lines 210-213 let it pass).  The IDNA functions of these instances are constant, so `percentDecode` (which
    `decide` cannot run; its twin is in Proofs/EvalFuel.lean) is not needed: a ToASCII result that is used as it is, a ToASCII failure, a result
    that ends in a number (IPv4 parser, success and failure), a result with a forbidden code point. -/
example :
    HostNS.parseHostNS (fun _ => some (sB "xn--a.b")) (sB "xn--a.B") false = true ∧
    Impl.parseHost (fun _ => some (sB "xn--a.b")) (sB "xn--a.B") false = some ⟨.domain, sB "xn--a.b"⟩ ∧
    HostNS.parseHostNS (fun _ => some (sB "x")) (sB "a<%CC%B8") false = true ∧
    Impl.parseHost (fun _ => some (sB "x")) (sB "a<%CC%B8") false = some ⟨.domain, sB "x"⟩ ∧
    HostNS.parseHostNS (fun _ => none) (sB "xn--a") false = false ∧
    Impl.parseHost (fun _ => none) (sB "xn--a") false = none ∧
    HostNS.parseHostNS (fun _ => some (sB "1.2")) (sB "xn--a") false = true ∧
    Impl.parseHost (fun _ => some (sB "1.2")) (sB "xn--a") false = some ⟨.ipv4, sB "1.0.0.2"⟩ ∧
    HostNS.parseHostNS (fun _ => some (sB "1.256.3.4")) (sB "xn--a") false = false ∧
    Impl.parseHost (fun _ => some (sB "1.256.3.4")) (sB "xn--a") false = none ∧
    HostNS.parseHostNS (fun _ => some (sB "a/b")) (sB "xn--a") false = false ∧
    Impl.parseHost (fun _ => some (sB "a/b")) (sB "xn--a") false = none := by
  unfold sB; decide_ascii
/-- the same path with the identity IDNA stub, through the theorem -/
example : HostNS.parseHostNS stubB (sB "xn--a.%41b") false =
    (Impl.parseHost stubB (sB "xn--a.%41b") false).isSome := C09_host_ns_agree _ _ _

/-- `Impl.canParse` with the explicit validate-only host parser in the host state (url.h:2017) and the
    file host state (url.h:2190) is `Impl.canParse` -/
theorem C09_canParse_ns :
    ∀ (idna : Idna) (e : Enc) (units : List Nat) (base : Option Url),
      HostNS.canParseNS' idna e units base = Impl.canParse idna e units base :=
  fun _ _ _ _ => canParseNS_eq ▸ rfl

/-- hence the fully explicit validate-only run agrees with `parse` -/
theorem C09_agree_ns :
    ∀ (idna : Idna) (e : Enc) (units : List Nat) (base : Option Url),
      HostNS.canParseNS' idna e units base = (Impl.parse idna e units base).isSome := by
  intro idna e units base
  rw [C09_canParse_ns]
  exact Upa.Proofs.C09.canParse_eq idna e units base

/-- the two blocks that call the host parser, for every input -/
theorem C09_host_blocks_ns :
    (∀ idna sp p, HostNS.hostStateNS' idna sp p = Impl.hostStateNS idna sp p) ∧
    (∀ idna sp p, HostNS.fileHostStateNS' idna sp p = Impl.fileHostStateNS idna sp p) :=
  ⟨fun _ _ _ => hostStateNS_eq ▸ rfl, fun _ _ _ => fileHostStateNS_eq ▸ rfl⟩

/-- evaluated: host state and file host state reached, both verdicts -/
example :
    HostNS.canParseNS' stubB .u8 (sB "http://u:p@EXAMPLE.com:80/p?q#f") none = true ∧
    HostNS.canParseNS' stubB .u8 (sB "http://[1::2::3]/") none = false ∧
    HostNS.canParseNS' stubB .u8 (sB "http://1.2.3.4.5/") none = false ∧
    HostNS.canParseNS' stubB .u8 (sB "file://LocalHost/c|/x") none = true ∧
    HostNS.canParseNS' stubB .u8 (sB "file://a^b/") none = false ∧
    HostNS.canParseNS' stubB .u8 (sB "x://a b/") none = false ∧
    HostNS.canParseNS' stubB .u8 (sB "x://a%1fb/") none = true ∧
    (Impl.parse stubB .u8 (sB "http://[1::2::3]/") none).isSome = false ∧
    (Impl.parse stubB .u8 (sB "x://a%1fb/") none).isSome = true := by
  unfold sB; decide_ascii

end Upa.Props

#print axioms Upa.Props.C09_host_ns_agree
#print axioms Upa.Props.C09_host_ns_callees
#print axioms Upa.Props.C09_canParse_ns
#print axioms Upa.Props.C09_agree_ns
#print axioms Upa.Props.C09_host_blocks_ns
