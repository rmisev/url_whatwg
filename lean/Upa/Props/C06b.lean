import Upa.Proofs.OwnHist
import Upa.Proofs.EvalFuel
/-
  C06b — the OWNERSHIP GRAPH between `upa::url` and `upa::url_search_params` objects
  (include/upa/url.h:699 `search_params_ptr_`, 1081-1138 move / safe_assign / move_record, 1262-1282
   search_params / clear_search_params / parse_search_params, 1397-1410 clear / swap;
   include/upa/url_search_params.h:386-387 `is_sorted_`, `url_ptr_`, 395-440 `url_search_params_ptr`,
   449-521 copy / move / safe_assign / swap / move_params; include/upa/url_search_params-inl.h:20-55).

  C06 (`Upa/Props/C06.lean`) is stated on `UrlObj`, a VALUE model: a url contains its params, so
  "which params object writes into which url" cannot go wrong there.  This file is about the heap model
  `Upa/Impl/Own.lean`: objects are cells with ids, `UCell.spPtr` is `search_params_ptr_`,
  `PCell.urlPtr` is `url_ptr_`, every operation performs the pointer writes the C++ performs, and
  `update` writes through `urlPtr`.

  Defined in `Upa/Proofs/Own*.lean` (namespace `Upa.Proofs.Own`), restated below:
    OwnInv h   the ownership invariant (a)-(d)                       (`C06b_OwnInv_def`)
    LockInv h  `LockS (abs h u)` for every id `u`, and FREE params objects hold well-formed pairs
                                                                     (`C06b_LockInv_def`, `C06b_lock_cells`)
    abs h u    the `UrlObj` the url at `u` stands for                (`C06b_abs_def`)
    HOp, stepH, runH, pre = live && asserts, lockSafe                (`Upa/Impl/Own.lean`)
    HOp.WF, HistOK                                                   (`C06b_WF_def`, `C06b_HistOK_def`)
-/
namespace Upa.Props
open Upa Upa.Impl Upa.Impl.Own Upa.Proofs.Own Upa.Proofs.C06

/-! ## 0. the definitions, spelled out -/

theorem C06b_OwnInv_def (h : Heap) :
    OwnInv h ↔
      -- (a) the pointer of a live url reaches a live params object that points back
      ((∀ u uc p, h.getU u = some uc → uc.spPtr = some p → ∃ pc, h.getP p = some pc ∧ pc.urlPtr = some u) ∧
      -- (b) a live params object that names a url is the one that url holds
       (∀ p pc u, h.getP p = some pc → pc.urlPtr = some u → ∃ uc, h.getU u = some uc ∧ uc.spPtr = some p) ∧
      -- (c) no two urls hold the same params object
       (∀ u₁ u₂ c₁ c₂ p, h.getU u₁ = some c₁ → h.getU u₂ = some c₂ → c₁.spPtr = some p → c₂.spPtr = some p →
          u₁ = u₂) ∧
      -- (d) live ids are below `next`; keys are unique
       (∀ u, h.liveU u = true → u < h.next) ∧ (∀ p, h.liveP p = true → p < h.next) ∧
       (h.urls.map (·.1)).Nodup ∧ (h.params.map (·.1)).Nodup) :=
  ⟨fun hi => ⟨hi.fwd, hi.back, hi.excl, hi.freshU, hi.freshP, hi.keysU, hi.keysP⟩,
   fun ⟨a, b, c, d, e, f, g⟩ => ⟨a, b, c, d, e, f, g⟩⟩

/-- (c) is a consequence of (a): two holders of one object would both be its `url_ptr_` -/
theorem C06b_OwnInv_excl_of_fwd (h : Heap)
    (hf : ∀ u uc p, h.getU u = some uc → uc.spPtr = some p → ∃ pc, h.getP p = some pc ∧ pc.urlPtr = some u) :
    ∀ u₁ u₂ c₁ c₂ p, h.getU u₁ = some c₁ → h.getU u₂ = some c₂ → c₁.spPtr = some p → c₂.spPtr = some p →
      u₁ = u₂ :=
  excl_of_fwd h hf

/-- `OwnInv` is decided by the executable `Heap.check` -/
theorem C06b_check_iff (h : Heap) : h.check = true ↔ OwnInv h := check_iff h

theorem C06b_abs_def (h : Heap) (u : Nat) :
    abs h u =
      match h.getU u with
      | none => {}
      | some c =>
        { url := c.url
          sp := c.spPtr.bind (fun p => (h.getP p).map (fun pc => { list := pc.list, isSorted := pc.isSorted })) } :=
  rfl

/-- `LockInv` instantiates the invariant `LockS` of C06 (`C06_LockS_def`) at `abs h u`, for every id
    `u` (a dead id stands for the default object `{}`), and adds what C06 carried as the side condition
    of `assignParams`: detached params objects hold well-formed UTF-8 -/
theorem C06b_LockInv_def (h : Heap) :
    LockInv h ↔
      ((∀ u, LockS (abs h u)) ∧
       (∀ p pc, h.getP p = some pc → pc.urlPtr = none → ∀ x ∈ pc.list, WFB x.1 ∧ WFB x.2)) := by
  refine ⟨fun hl => ⟨hl.lock, fun p pc hp hu => hl.wfFree p { list := pc.list, isSorted := pc.isSorted }
    (by unfold cont; rw [hp]; rfl) (by unfold up; rw [hp, ← hu]; rfl)⟩, fun ⟨h1, h2⟩ => ⟨h1, fun p c hc hu => ?_⟩⟩
  unfold cont at hc; unfold up at hu
  cases hg : h.getP p with
  | none => rw [hg] at hc; cases hc
  | some pc =>
    rw [hg] at hc hu
    cases hc
    exact h2 p pc hg (Option.some.inj hu)

/-- the cell-level reading: the list of the params object a valid url holds is the parse of that
    url's query -/
theorem C06b_lock_cells : ∀ (h : Heap), LockInv h →
    ∀ u uc r p pc, h.getU u = some uc → uc.url = some r → uc.spPtr = some p → h.getP p = some pc →
      pc.list = Impl.formParse false (Impl.queryBytes (some r)) :=
  fun _ hl => hl.cells

theorem C06b_WF_def :
    (∀ l, (HOp.newParams l).WF ↔ ∀ x ∈ l, WFB x.1 ∧ WFB x.2) ∧
    (∀ p n v, (HOp.paramsMutate p (.append n v)).WF ↔ (WFB n ∧ WFB v)) ∧
    (∀ p n v, (HOp.paramsMutate p (.set n v)).WF ↔ (WFB n ∧ WFB v)) ∧
    (∀ p r bytes, (HOp.paramsMutate p (.parse r bytes)).WF ↔ ∀ x ∈ bytes, x < 256) ∧
    (∀ op : HOp, (∀ l, op ≠ .newParams l) → (∀ p m, op ≠ .paramsMutate p m) → op.WF) ∧
    (∀ m : PMut, (∀ n v, m ≠ .append n v) → (∀ n v, m ≠ .set n v) → (∀ r b, m ≠ .parse r b) → m.WF) := by
  refine ⟨fun _ => Iff.rfl, fun _ _ _ => Iff.rfl, fun _ _ _ => Iff.rfl, fun _ _ _ => Iff.rfl, ?_, ?_⟩
  · intro op h1 h2
    cases op <;> first | trivial | exact absurd rfl (h1 _) | exact absurd rfl (h2 _ _)
  · intro m h1 h2 h3
    cases m <;> first | trivial | exact absurd rfl (h1 _ _) | exact absurd rfl (h2 _ _) | exact absurd rfl (h3 _ _)

theorem C06b_HistOK_def (idna : Idna) (h : Heap) :
    (HistOK idna h [] ↔ True) ∧
    (∀ op ops, HistOK idna h (op :: ops) ↔
      (op.WF ∧ (pre h op = true → lockSafe h op = true) ∧
       HistOK idna (if pre h op then stepH idna h op else h) ops)) :=
  ⟨Iff.rfl, fun _ _ => Iff.rfl⟩

/-! ### the preconditions are the `assert`s of the C++ -/

/-- `asserts`: one clause per `assert` that the C++ executes in these member functions, nothing else.
    * url_search_params.h:473   `assert(url_ptr_ == nullptr)`                    move assignment
    * url_search_params.h:497   `assert(url_ptr_ == nullptr && other.url_ptr_ == nullptr)`   swap
    * url_search_params-inl.h:51 `assert(ptr_->url_ptr_)`   `url_search_params_ptr::operator=`, reached from
      the defaulted `url::operator=(const url&)` when `ptr_` is set, `this != &other`, `other.ptr_` is null
    (url_search_params.h:421, 425 `assert(ptr_)` sit behind `if (search_params_ptr_)` at url.h:1275, 1280) -/
theorem C06b_asserts_def (h : Heap) :
    (∀ d s, asserts h (.paramsMoveAssign d s) = (h.urlPtrOf d).isNone) ∧
    (∀ a b, asserts h (.paramsSwap a b) = ((h.urlPtrOf a).isNone && (h.urlPtrOf b).isNone)) ∧
    (∀ d s, asserts h (.urlCopyAssign d s) =
      match h.spOf d with
      | some pd => d == s || (h.spOf s).isSome || (h.urlPtrOf pd).isSome
      | none => true) ∧
    (∀ op, (∀ d s, op ≠ .paramsMoveAssign d s) → (∀ a b, op ≠ .paramsSwap a b) →
      (∀ d s, op ≠ .urlCopyAssign d s) → asserts h op = true) := by
  refine ⟨fun _ _ => rfl, fun _ _ => rfl, fun _ _ => rfl, ?_⟩
  intro op h1 h2 h3
  cases op <;> first | rfl | exact absurd rfl (h1 _ _) | exact absurd rfl (h2 _ _) | exact absurd rfl (h3 _ _)

/-- `pre = live && asserts`; `live`: the operands exist, are distinct where one is moved into the
    other, and only a FREE params object is destroyed by the user -/
theorem C06b_pre_def (h : Heap) (op : HOp) : pre h op = (live h op && asserts h op) := rfl

/-- the third `assert` can never fire: in a heap that satisfies `OwnInv`, the params object a url holds
    always has a non-null `url_ptr_` -/
theorem C06b_internal_assert : ∀ (h : Heap) (d s : Nat), OwnInv h → asserts h (.urlCopyAssign d s) = true := by
  intro h d s hi
  have hg := hi.ownG
  simp only [asserts]
  split
  · rename_i pd hpd
    rw [urlPtrOf_eq, hg.fwd d pd (spOf_eq_some.1 hpd)]; simp
  · rfl

/-! ## 1. the ownership invariant holds after every history -/

private def c06bHttp (host : String) (q : Option (List Nat)) : Url :=
  { scheme := asciiStr "http", host := some ⟨.domain, asciiStr host⟩, path := [[]], query := q }

/-- url 0 = "http://a/?x=1" without a params object; url 1 = "http://b/?y=2" holding params object 2 -/
private def c06bHeap : Heap :=
  { urls := [(0, { url := some (c06bHttp "a" (some (asciiStr "x=1"))), spPtr := none }),
             (1, { url := some (c06bHttp "b" (some (asciiStr "y=2"))), spPtr := some 2 })]
    params := [(2, { list := [(asciiStr "y", asciiStr "2")], isSorted := false, urlPtr := some 1 })]
    next := 3 }


theorem C06b_init : OwnInv {} ∧ LockInv {} := ⟨ownInv_empty, lockInv_empty⟩

/-- **One step.**  Every operation whose precondition holds preserves the ownership invariant, and —
    for well-formed arguments (as in `C06_inv`) and unless it moves the list out of an OWNED params
    object (`lockSafe`, see `C06b_move_from_owned_breaks_lock`) — the lock-step invariant. -/
theorem C06b_step : ∀ (idna : Idna) (h : Heap) (op : HOp), OwnInv h → pre h op = true →
    OwnInv (stepH idna h op) ∧
    (LockInv h → op.WF → lockSafe h op = true → LockInv (stepH idna h op)) :=
  fun idna h op hi hp =>
    ⟨stepH_ownInv idna h op hp hi,
     fun hl hw hs => stepH_lockInv idna h op hi.ownG hl hp hw hs⟩

-- hypotheses satisfiable on `c06bHeap` (url 0 without params, url 1 holding object 2);
-- move assignment `url0 = std::move(url1)`: the pointer moves and the back pointer is rewritten
example : OwnInv c06bHeap ∧ pre c06bHeap (.urlMoveAssign 0 1) = true ∧ (HOp.urlMoveAssign 0 1).WF ∧
    lockSafe c06bHeap (.urlMoveAssign 0 1) = true := by decide +kernel
example :
    let h' := stepH stubIdna c06bHeap (.urlMoveAssign 0 1)
    h'.spOf 0 = some 2 ∧ h'.urlPtrOf 2 = some 0 ∧ h'.spOf 1 = none ∧ h'.recOf 1 = none ∧
    h'.recOf 0 = c06bHeap.recOf 1 ∧ OwnInv h' := by decide +kernel
-- a skipped operation: move assignment INTO the owned object 2 (`assert(url_ptr_ == nullptr)`)
example : pre c06bHeap (.paramsMoveAssign 2 2) = false ∧
    pre (newParams c06bHeap []).1 (.paramsMoveAssign 2 3) = false ∧
    pre (newParams c06bHeap []).1 (.paramsMoveAssign 3 2) = true ∧
    lockSafe (newParams c06bHeap []).1 (.paramsMoveAssign 3 2) = false := by decide +kernel
-- the internal assert on it
example : asserts c06bHeap (.urlCopyAssign 1 0) = true := by decide +kernel

/-- **Histories.**  From the empty heap, after any list of operations (an operation whose
    precondition fails is skipped): `OwnInv`; and `LockInv` when the side conditions hold along the
    history. -/
theorem C06b_history : ∀ (idna : Idna) (ops : List HOp),
    OwnInv (runH idna {} ops) ∧ (HistOK idna {} ops → LockInv (runH idna {} ops)) :=
  fun idna ops =>
    ⟨runH_ownInv idna ops {} ownInv_empty, runH_lockInv idna ops {} ownInv_empty lockInv_empty⟩

/-- the same from any heap that satisfies the invariants -/
theorem C06b_history_from : ∀ (idna : Idna) (h : Heap) (ops : List HOp), OwnInv h →
    OwnInv (runH idna h ops) ∧ (LockInv h → HistOK idna h ops → LockInv (runH idna h ops)) :=
  fun idna h ops hi => ⟨runH_ownInv idna ops h hi, fun hl hk => runH_lockInv idna ops h hi hl hk⟩

/-- in particular, in every reachable heap under the side conditions, the two executable checks pass
    and the cell-level lock-step statement holds -/
theorem C06b_history_cells : ∀ (idna : Idna) (ops : List HOp), HistOK idna {} ops →
    let h := runH idna {} ops
    h.check = true ∧ h.checkLock = true ∧
    ∀ u uc r p pc, h.getU u = some uc → uc.url = some r → uc.spPtr = some p → h.getP p = some pc →
      pc.list = Impl.formParse false (Impl.queryBytes (some r)) := by
  intro idna ops hk
  have h1 := (C06b_history idna ops).1
  have h2 := (C06b_history idna ops).2 hk
  exact ⟨(check_iff _).2 h1, checkLock_of_lockInv h1 h2, h2.cells⟩

/-! ### a concrete history: two urls, a detached params object; every special member function

  `a = url("http://h/p?b=2&a=1")` (id 0), `a.search_params()` (id 1), `b = url()` (id 2), `b = a` (copy
  assignment: record only, `b` has no params object), `b.search_params()` (id 3), `a.swap(b)` (now `a`
  holds 3 and `b` holds 1; the temporary had id 4), `c = url(std::move(a))` (id 5, takes 3),
  `q = url_search_params(b.search_params())` (copy, id 6, FREE), `b.search_params().sort()`,
  `b.safe_assign(std::move(c))`, `q.append("z", "3")`, `b.search_params() = q`, `a.href("foo:x?k=v")`
  (temporary url id 7), destroy `c` (and with it params object 3) -/
private def c06bHistory : List HOp :=
  [.newUrl, .urlParse 0 .u8 (asciiStr "http://h/p?b=2&a=1") none, .urlSearchParams 0,
   .newUrl, .urlCopyAssign 2 0, .urlSearchParams 2, .urlSwap 0 2, .urlMoveConstruct 0,
   .paramsCopyConstruct 1, .paramsMutate 1 .sort, .urlSafeAssign 2 5, .paramsMutate 6 (.append (asciiStr "z") (asciiStr "3")),
   .paramsCopyAssign 1 6, .urlSet 0 .href .u8 (asciiStr "foo:x?k=v"), .destroyUrl 5]

-- the hypotheses of `C06b_history` are satisfiable on it, and no operation is skipped
set_option maxRecDepth 16000 in
example : HistOK stubIdna {} c06bHistory := by unfold c06bHistory; decide_ascii

set_option maxRecDepth 16000 in
/-- the pointer graph at the end: url 0 (`a`, re-parsed by `href`, no params object: it was moved
    from), url 2 (`b`) holds params object 1 which points back to 2, params object 6 (`q`) is FREE;
    url 5 (`c`) and its params object 3 are destroyed, the temporaries 4 and 7 are gone -/
example :
    let h := runH stubIdna {} c06bHistory
    h.urls.map (fun kv => (kv.1, kv.2.spPtr)) = [(0, none), (2, some 1)] ∧
    h.params.map (fun kv => (kv.1, kv.2.urlPtr)) = [(1, some 2), (6, none)] ∧
    h.next = 8 ∧ (h.recOf 0).isSome = true := by unfold c06bHistory; decide_ascii

example : OwnInv (runH stubIdna {} c06bHistory) := (C06b_history stubIdna c06bHistory).1
example : LockInv (runH stubIdna {} c06bHistory) := (C06b_history stubIdna c06bHistory).2 (by unfold c06bHistory; decide_ascii)

/-! ## 2. lock-step: where the C++ does NOT keep it -/


/-- **Moving the list out of an OWNED params object breaks lock-step** (not ownership).
    `url_search_params q(std::move(u.search_params()))` — or `std::move(u).search_params()`, or
    `q = std::move(u.search_params())`, or `q.safe_assign(std::move(u.search_params()))` — is legal C++
    with no `assert` in its way; `move_params` / the move constructor empty the owned list and do not
    call `update()` on it: the url keeps its query, its params object is empty.  On the real
    library `u.search()` is `"?a=1&b=2"` and `u.search_params().size()` is 0.  This is why `C06b_step`
    carries `lockSafe` for the lock-step half. -/
theorem C06b_move_from_owned_breaks_lock :
    let h' := (paramsMoveConstruct c06bHeap 2).1
    pre c06bHeap (.paramsMoveConstruct 2) = true ∧ lockSafe c06bHeap (.paramsMoveConstruct 2) = false ∧
    pre c06bHeap (.urlSearchParamsRvalue 1) = true ∧ (urlSearchParamsRvalue c06bHeap 1).1 = h' ∧
    OwnInv h' ∧
    (abs h' 1).url.bind (·.query) = some (asciiStr "y=2") ∧ (abs h' 1).sp.map (·.list) = some [] ∧
    Impl.formParse false (asciiStr "y=2") = [(asciiStr "y", asciiStr "2")] ∧
    ¬ Lock (abs h' 1) ∧ ¬ LockInv h' := by
  have hp : Impl.formParse false (asciiStr "y=2") = [(asciiStr "y", asciiStr "2")] := by
    rw [Upa.Proofs.C15.formParse_eqK]; decide +kernel
  have habs : abs (paramsMoveConstruct c06bHeap 2).1 1 =
      { url := some (c06bHttp "b" (some (asciiStr "y=2"))), sp := some { list := [], isSorted := false } } := by
    decide +kernel
  have hnl : ¬ Lock (abs (paramsMoveConstruct c06bHeap 2).1 1) := not_lock habs rfl hp (by decide +kernel)
  exact ⟨by decide +kernel, by decide +kernel, by decide +kernel, by decide +kernel, by decide +kernel, by decide +kernel, by decide +kernel, hp, hnl,
    fun hl => hnl (hl.lock 1).lock⟩

/-! ## 3. `update()` has at most one target: the owner -/

/-- In every reachable heap, an edit of the params object `p` (any `f`, followed by `update()`)
    changes the record of at most one url — the one `p.url_ptr_` names, which is the url that holds
    `p` — changes no other params object, and moves no pointer. -/
theorem C06b_update_target : ∀ (idna : Idna) (ops : List HOp) (p : Nat) (f : Params → Params) (a : Bool),
    let h := runH idna {} ops
    let h' := paramsMutate h p f a
    (∀ u, h'.recOf u ≠ h.recOf u → h.urlPtrOf p = some u ∧ h.spOf u = some p) ∧
    (∀ u₁ u₂, h'.recOf u₁ ≠ h.recOf u₁ → h'.recOf u₂ ≠ h.recOf u₂ → u₁ = u₂) ∧
    (∀ q, q ≠ p → h'.getP q = h.getP q) ∧
    (∀ u, (h'.getU u).map (·.spPtr) = (h.getU u).map (·.spPtr)) ∧
    (∀ q, (h'.getP q).map (·.urlPtr) = (h.getP q).map (·.urlPtr)) := by
  intro idna ops p f a
  have hi := runH_ownInv idna ops {} ownInv_empty
  refine ⟨fun u hne => paramsMutate_target _ p f a hi u hne, ?_, fun q hq => paramsMutate_getP_ne _ p f a q hq,
    fun u => (sameG_paramsMutate _ p f a).1 u, fun q => (sameG_paramsMutate _ p f a).2.1 q⟩
  intro u₁ u₂ h1 h2
  have e1 := (paramsMutate_target _ p f a hi u₁ h1).1
  have e2 := (paramsMutate_target _ p f a hi u₂ h2).1
  rw [e1] at e2; exact Option.some.inj e2

/-- a FREE params object writes into no url at all -/
theorem C06b_update_free : ∀ (h : Heap) (p : Nat) (f : Params → Params) (a : Bool), h.urlPtrOf p = none →
    ∀ u, (paramsMutate h p f a).recOf u = h.recOf u :=
  fun h p f a hp u => paramsMutate_recOf h p f a u (by rw [hp]; simp)

-- concrete: an edit of params object 2 of `c06bHeap` rewrites url 1 and leaves url 0 alone
example :
    let h' := paramsMutate c06bHeap 2 (·.append (asciiStr "z") (asciiStr "3"))
    (h'.recOf 1).bind (·.query) = some (asciiStr "y=2&z=3") ∧ h'.recOf 0 = c06bHeap.recOf 0 ∧
    c06bHeap.urlPtrOf 2 = some 1 ∧ c06bHeap.spOf 1 = some 2 := by decide +kernel

/-! ## 4. copies are detached -/

/-- **Copies are detached.**  In a heap satisfying `OwnInv`:
    1. the copy `q` of a params object `p` (`paramsCopyConstruct`) is a new FREE object with `p`'s list
       and flag; no edit of `p` changes `q`; no edit of `q` changes any url record or `p`;
    2. the same for the result of the move constructor and of `url::search_params() &&`;
    3. the copy `n` of a url `s` (`urlCopyConstruct`) has `s`'s record and NO params object; the one
       `search_params()` creates for it is new, points back to `n`, `s` keeps its own; edits of the new
       object never write into `s` or change `s`'s params object (`update` goes through the copy's own
       url), and edits of `s`'s params object never write into `n` or change `n`'s. -/
theorem C06b_copies_detached : ∀ (h : Heap), OwnInv h →
    (∀ p, h.liveP p = true →
      let h' := (paramsCopyConstruct h p).1
      let q := (paramsCopyConstruct h p).2
      q = h.next ∧ h.getP q = none ∧ q ≠ p ∧
      (∃ pc, h'.getP q = some pc ∧ pc.list = h.listOf p ∧ pc.isSorted = h.sortedOf p ∧ pc.urlPtr = none) ∧
      (∀ f a, (paramsMutate h' p f a).getP q = h'.getP q) ∧
      (∀ f a u, (paramsMutate h' q f a).recOf u = h'.recOf u) ∧
      (∀ f a, (paramsMutate h' q f a).getP p = h'.getP p)) ∧
    (∀ p, h.liveP p = true →
      let h' := (paramsMoveConstruct h p).1
      let q := (paramsMoveConstruct h p).2
      q = h.next ∧ h.getP q = none ∧ q ≠ p ∧
      (∃ pc, h'.getP q = some pc ∧ pc.list = h.listOf p ∧ pc.isSorted = h.sortedOf p ∧ pc.urlPtr = none) ∧
      (∀ f a, (paramsMutate h' p f a).getP q = h'.getP q) ∧
      (∀ f a u, (paramsMutate h' q f a).recOf u = h'.recOf u) ∧
      (∀ f a, (paramsMutate h' q f a).getP p = h'.getP p)) ∧
    (∀ u,
      let h' := (urlSearchParamsRvalue h u).1
      let q := (urlSearchParamsRvalue h u).2
      q = h.next ∧ h.getP q = none ∧ h.spOf u ≠ some q ∧ h'.urlPtrOf q = none ∧ h'.liveP q = true ∧
      (∀ p f a, p ≠ q → (paramsMutate h' p f a).getP q = h'.getP q) ∧
      (∀ f a v, (paramsMutate h' q f a).recOf v = h'.recOf v) ∧
      (∀ p f a, p ≠ q → (paramsMutate h' q f a).getP p = h'.getP p)) ∧
    (∀ s, h.liveU s = true →
      let h' := (urlCopyConstruct h s).1
      let n := (urlCopyConstruct h s).2
      let h'' := urlSearchParams h' n
      let q := h'.next
      n = h.next ∧ n ≠ s ∧ h'.recOf n = h.recOf s ∧ h'.spOf n = none ∧
      h''.spOf n = some q ∧ h''.urlPtrOf q = some n ∧ h.getP q = none ∧ h.spOf s ≠ some q ∧
      h''.spOf s = h.spOf s ∧
      (∀ f a, (paramsMutate h'' q f a).recOf s = h''.recOf s) ∧
      (∀ f a ps, h.spOf s = some ps → (paramsMutate h'' q f a).getP ps = h''.getP ps) ∧
      (∀ f a ps, h.spOf s = some ps → (paramsMutate h'' ps f a).recOf n = h''.recOf n ∧
        (paramsMutate h'' ps f a).getP q = h''.getP q)) := by
  intro h hi
  have hg := hi.ownG
  refine ⟨fun p hp => ?_, fun p hp => ?_, fun u => ?_, fun s hs => ?_⟩
  · obtain ⟨a, b, c⟩ := detached_new hi hp (getP_paramsCopyConstruct h p) rfl
    exact ⟨rfl, a, b, ⟨_, getP_paramsCopyConstruct h p, rfl, rfl, rfl⟩, c⟩
  · obtain ⟨a, b, c⟩ := detached_new hi hp (getP_paramsMoveConstruct hi hp) rfl
    exact ⟨rfl, a, b, ⟨_, getP_paramsMoveConstruct hi hp, rfl, rfl, rfl⟩, c⟩
  · obtain ⟨hq, hsp, hfree⟩ := urlSearchParamsRvalue_new hg u
    dsimp only
    rw [hq]
    refine ⟨rfl, hi.dead_ge (Nat.le_refl _), hsp, hfree.1, hfree.2, ?_, ?_, ?_⟩
    · intro p f a hne; exact paramsMutate_getP_ne _ _ _ _ _ (Ne.symm hne)
    · intro f a v; apply paramsMutate_recOf; rw [hfree.1]; simp
    · intro p f a hne; exact paramsMutate_getP_ne _ _ _ _ _ hne
  · have hne : h.next ≠ s := Nat.ne_of_gt (hi.freshU s hs)
    have hsq : ∀ ps, h.spOf s = some ps → sp h s = some (some ps) ∧ ps < h.next := fun ps hps =>
      have hss := spOf_eq_some.1 hps
      ⟨hss, hg.liveP_lt (hg.fwd s ps hss)⟩
    have hspn : (urlCopyConstruct h s).1.spOf h.next = none := by simp [urlCopyConstruct, Heap.spOf]
    obtain ⟨hup'', hsp''⟩ := urlCopy_searchParams_views h s
    dsimp only
    rw [show (urlCopyConstruct h s).2 = h.next from rfl, show (urlCopyConstruct h s).1.next = h.next + 1 from rfl]
    refine ⟨rfl, hne, by simp [urlCopyConstruct], hspn, ?_, ?_, hi.dead_ge (Nat.le_succ _),
      fun he => Nat.lt_irrefl _ (Nat.lt_of_succ_lt (hsq _ he).2), ?_, fun f a => ?_, fun f a ps hps => ?_,
      fun f a ps hps => ⟨?_, ?_⟩⟩
    · rw [spOf_eq, hsp'']; simp
    · rw [urlPtrOf_eq, hup'']; simp
    · rw [spOf_eq, spOf_eq, hsp'']; simp [Ne.symm hne]
    · apply paramsMutate_recOf
      rw [urlPtrOf_eq, hup'']; simp [hne]
    · exact paramsMutate_getP_ne _ _ _ _ _ (Nat.ne_of_lt (Nat.lt_succ_of_lt (hsq ps hps).2))
    · apply paramsMutate_recOf
      rw [urlPtrOf_eq, hup'', if_neg (Nat.ne_of_lt (Nat.lt_succ_of_lt (hsq ps hps).2)), hg.fwd s _ (hsq ps hps).1]
      simp [Ne.symm hne]
    · exact paramsMutate_getP_ne _ _ _ _ _ (Nat.ne_of_lt (Nat.lt_succ_of_lt (hsq ps hps).2)).symm

-- concrete: copy params object 2 of `c06bHeap`; edit the copy; url 1 and object 2 are what they were
example :
    let h' := (paramsCopyConstruct c06bHeap 2).1
    let h'' := paramsMutate h' 3 (·.append (asciiStr "z") (asciiStr "3"))
    (paramsCopyConstruct c06bHeap 2).2 = 3 ∧ h'.urlPtrOf 3 = none ∧
    h''.listOf 3 = [(asciiStr "y", asciiStr "2"), (asciiStr "z", asciiStr "3")] ∧
    h''.recOf 1 = c06bHeap.recOf 1 ∧ h''.getP 2 = c06bHeap.getP 2 := by decide +kernel

/-! ## 5. refinement: the heap operations on urls are the `UrlObj` operations of `Impl/Api.lean` -/

/-- **Refinement.**  `abs h u` is the `UrlObj` the url at `u` stands for.  In a heap satisfying
    `OwnInv`, every heap operation acts on `abs` of the urls involved as the corresponding `UrlObj`
    operation, and leaves `abs` of every other url unchanged.  (So every theorem of C06 about `UrlObj`
    histories applies to each url of the heap.)

    `safe_assign`: the DESTINATION is `(safeAssign dst src).1`.  The SOURCE is `safeAssignSrc dst src`:
    invalid, its params object emptied with the flag it had (`Api.safeAssign` says `false`) — and NOT
    emptied at all when the destination had no params object (url.h:1124-1126; `Api.safeAssign` says
    emptied).  Both differences are on a moved-from, invalid url, where `LockS` says nothing about the
    list; `C06b_safeAssignSrc_agrees` states exactly when the two coincide. -/
theorem C06b_refines : ∀ (h : Heap), OwnInv h →
    -- search_params() &
    (∀ u, h.liveU u = true → ∀ u', abs (urlSearchParams h u) u' =
      if u' = u then (abs h u).searchParams else abs h u') ∧
    -- copy constructor
    (∀ s u', abs (urlCopyConstruct h s).1 u' =
      if u' = (urlCopyConstruct h s).2 then copyConstruct (abs h s) else abs h u') ∧
    -- copy assignment
    (∀ d s, h.liveU d = true → h.liveU s = true → ∀ u', abs (urlCopyAssign h d s) u' =
      if u' = d then copyAssign (abs h d) (abs h s) else abs h u') ∧
    -- move constructor
    (∀ s, h.liveU s = true → ∀ u', abs (urlMoveConstruct h s).1 u' =
      if u' = (urlMoveConstruct h s).2 then (moveAssign (abs h s)).1
      else if u' = s then (moveAssign (abs h s)).2 else abs h u') ∧
    -- move assignment
    (∀ d s, h.liveU d = true → h.liveU s = true → d ≠ s → ∀ u', abs (urlMoveAssign h d s) u' =
      if u' = d then (moveAssign (abs h s)).1 else if u' = s then (moveAssign (abs h s)).2 else abs h u') ∧
    -- safe_assign
    (∀ d s, h.liveU d = true → h.liveU s = true → d ≠ s → ∀ u', abs (urlSafeAssign h d s) u' =
      if u' = d then (safeAssign (abs h d) (abs h s)).1
      else if u' = s then safeAssignSrc (abs h d) (abs h s) else abs h u') ∧
    -- swap
    (∀ a b, h.liveU a = true → h.liveU b = true → ∀ u', abs (urlSwap h a b) u' =
      if u' = a then abs h b else if u' = b then abs h a else abs h u') ∧
    -- clear
    (∀ u u', abs (urlClear h u) u' = if u' = u then (abs h u).clear else abs h u') ∧
    -- parse
    (∀ idna u e units base, h.liveU u = true → ∀ u', abs (urlDoParse h u (parseResult idna e units base)) u' =
      if u' = u then ((abs h u).parse idna e units base).1 else abs h u') ∧
    -- the ten setters
    (∀ idna u s e units, h.liveU u = true → ∀ u', abs (urlSet idna h u s e units) u' =
      if u' = u then ((abs h u).set idna s e units).1 else abs h u') ∧
    -- update() of the params object `p`
    (∀ p u', abs (update h p) u' = if h.urlPtrOf p = some u' then (abs h u').update else abs h u') ∧
    -- a list edit + update() through the params object `p`
    (∀ p f a, h.liveP p = true → ∀ u', abs (paramsMutate h p f a) u' =
      if h.urlPtrOf p = some u' then (abs h u').spApply f a else abs h u') ∧
    -- `p = other` (copy assignment of params objects) is the edit "take list and flag of `s`"
    (∀ d s, d ≠ s → h.liveP d = true → h.liveP s = true →
      paramsCopyAssign h d s = paramsMutate h d (fun _ => { list := h.listOf s, isSorted := h.sortedOf s }) true) ∧
    -- destruction
    (∀ u u', abs (destroyUrl h u) u' = if u' = u then {} else abs h u') := by
  intro h hi
  have hg := hi.ownG
  refine ⟨fun u hu => (urlSearchParams_sim h hg u hu).absEq, fun s => (urlCopyConstruct_sim h hg s).absEq,
    fun d s hd hs => (urlCopyAssign_sim h hg d s hd hs).absEq, fun s hs => (urlMoveConstruct_sim h hg s hs).absEq,
    fun d s hd hs hds => (urlMoveAssign_sim h hg d s hd hs hds).absEq,
    fun d s hd hs hds => (urlSafeAssign_sim h hg d s hd hs hds).absEq,
    fun a b ha hb => (urlSwap_sim h hg a b ha hb).absEq, fun u => (urlClear_sim h hg u).absEq, ?_,
    fun idna u s e units hu => (urlSet_sim idna h hg u s e units hu).absEq, update_abs h hg, paramsMutate_abs h hg,
    paramsCopyAssign_eq h, fun u => (destroyUrl_sim h hg u).absEq⟩
  intro idna u e units base hu u'
  rw [(urlDoParse_sim h hg u _ hu).absEq, parse_eq_parseRes]

theorem C06b_safeAssignSrc_def (dst src : UrlObj) :
    safeAssignSrc dst src =
      { url := none
        sp := if dst.sp.isSome then src.sp.map (fun p => { list := [], isSorted := p.isSorted }) else src.sp } :=
  rfl

/-- the source after `safe_assign`, heap model against `Api.safeAssign`: both invalid, both with or
    without a params object alike; the lists agree iff the destination had a params object or the
    source list was empty already -/
theorem C06b_safeAssignSrc_agrees (dst src : UrlObj) :
    (safeAssignSrc dst src).url = (safeAssign dst src).2.url ∧
    (safeAssignSrc dst src).sp.isSome = (safeAssign dst src).2.sp.isSome ∧
    (dst.sp.isSome = true →
      (safeAssignSrc dst src).sp.map (·.list) = (safeAssign dst src).2.sp.map (·.list)) ∧
    LockS (safeAssign dst src).2 ∧ (LockS src → LockS (safeAssignSrc dst src)) := by
  refine ⟨rfl, ?_, ?_, ?_, lockS_safeAssignSrc dst src⟩
  · unfold safeAssignSrc safeAssign
    cases src.sp <;> cases dst.sp <;> simp
  · intro hd
    unfold safeAssignSrc safeAssign
    cases hs : src.sp with
    | none => simp [hd]
    | some q => simp [hd]
  · exact lockS_invalid _ (wf_emptied fun _ => rfl)

-- concrete: `safe_assign` into a url WITHOUT a params object leaves the source's list in place
example :
    let h' := urlSafeAssign c06bHeap 0 1
    abs h' 0 = { url := some (c06bHttp "b" (some (asciiStr "y=2"))), sp := none } ∧
    abs h' 1 = { url := none, sp := some { list := [(asciiStr "y", asciiStr "2")], isSorted := false } } ∧
    (safeAssign (abs c06bHeap 0) (abs c06bHeap 1)).2 = { url := none, sp := some { list := [], isSorted := false } } ∧
    OwnInv h' := by decide +kernel

/-- **Frame.**  Creating objects, destroying a FREE params object, and everything done between FREE
    params objects changes what NO url stands for; `safe_assign` from a FREE object is the edit "take
    list and flag of `s`" on the owner of `d`. -/
theorem C06b_refines_free : ∀ (h : Heap), OwnInv h →
    (∀ u', abs (newUrl h).1 u' = abs h u') ∧
    (∀ l u', abs (newParams h l).1 u' = abs h u') ∧
    (∀ p u', abs (paramsCopyConstruct h p).1 u' = abs h u') ∧
    (∀ p, h.urlPtrOf p = none → ∀ u', abs (paramsMoveConstruct h p).1 u' = abs h u') ∧
    (∀ d s, h.urlPtrOf d = none → h.urlPtrOf s = none → ∀ u', abs (paramsMoveAssign h d s) u' = abs h u') ∧
    (∀ a b, h.urlPtrOf a = none → h.urlPtrOf b = none → ∀ u', abs (paramsSwap h a b) u' = abs h u') ∧
    (∀ p, h.urlPtrOf p = none → ∀ u', abs (destroyParams h p) u' = abs h u') ∧
    (∀ u, h.spOf u = none → ∀ u', abs (urlSearchParamsRvalue h u).1 u' = abs h u') ∧
    (∀ d s, d ≠ s → h.liveP d = true → h.liveP s = true → h.urlPtrOf s = none → ∀ u',
      abs (paramsSafeAssign h d s) u' =
        if h.urlPtrOf d = some u' then
          (abs h u').spApply (fun _ => { list := h.listOf s, isSorted := h.sortedOf s }) true
        else abs h u') := by
  intro h hi
  have hg := hi.ownG
  exact ⟨newUrl_abs h hg, newParams_abs h hg, paramsCopyConstruct_abs h hg, paramsMoveConstruct_abs h hg,
    paramsMoveAssign_abs h hg, paramsSwap_abs h hg, destroyParams_abs h hg, urlSearchParamsRvalue_abs h hg,
    paramsSafeAssign_abs h hg⟩

-- concrete: swap on `c06bHeap` — the params object changes hands and its back pointer follows
example :
    let h' := urlSwap c06bHeap 0 1
    abs h' 0 = abs c06bHeap 1 ∧ abs h' 1 = abs c06bHeap 0 ∧
    h'.spOf 0 = some 2 ∧ h'.spOf 1 = none ∧ h'.urlPtrOf 2 = some 0 ∧ OwnInv h' := by decide +kernel

/-! ## 6. the invariant bites: three slips -/

/-- **(i) `c06_r2_safe_assign_no_url_ptr`.**  `urlSafeAssignBad` is `url::safe_assign` with, in the
    branch where the destination has no params object, `search_params_ptr_ =
    std::move(other.search_params_ptr_)` and no `set_url_ptr(this)`.  On `c06bHeap` (`a` = url 0 without
    params, `b` = url 1 holding object 2): afterwards `a` holds object 2 but object 2 still names `b` —
    `OwnInv` (b) (and (a)) fail.  An `append` through `a.search_params()` then leaves `a`'s query
    stale; and once `b` has been re-parsed, the same `append` rewrites `b` — the MOVED-FROM url. -/
theorem C06b_bites_safe_assign :
    let h1 := urlSafeAssignBad c06bHeap 0 1
    let f : Params → Params := (·.append (asciiStr "z") (asciiStr "3"))
    OwnInv c06bHeap ∧ pre c06bHeap (.urlSafeAssign 0 1) = true ∧
    -- the pointer graph after the slip
    h1.spOf 0 = some 2 ∧ h1.spOf 1 = none ∧ h1.urlPtrOf 2 = some 1 ∧ ¬ OwnInv h1 ∧
    -- (b) fails at object 2: it names url 1, which does not hold it
    (∃ pc, h1.getP 2 = some pc ∧ pc.urlPtr = some 1 ∧ ∀ uc, h1.getU 1 = some uc → uc.spPtr ≠ some 2) ∧
    -- an edit through `a`'s params object: the list changes, `a`'s query does not
    (let h2 := paramsMutate h1 2 f
     h2.listOf 2 = [(asciiStr "y", asciiStr "2"), (asciiStr "z", asciiStr "3")] ∧
     (h2.recOf 0).bind (·.query) = some (asciiStr "y=2")) ∧
    -- `b` re-parsed, then the same edit: it is written into `b`
    (let h2 := urlDoParse h1 1 (some (c06bHttp "b2" (some (asciiStr "q=1"))))
     let h3 := paramsMutate h2 2 f
     (h3.recOf 1).bind (·.query) = some (asciiStr "y=2&z=3") ∧ (h3.recOf 0).bind (·.query) = some (asciiStr "y=2")) ∧
    -- the real `safe_assign` on the same heap: no pointer moves, `OwnInv` holds
    OwnInv (urlSafeAssign c06bHeap 0 1) := by
  refine ⟨by decide +kernel, by decide +kernel, by decide +kernel, by decide +kernel, by decide +kernel, by decide +kernel, ?_, by decide +kernel, by decide +kernel, by decide +kernel⟩
  refine ⟨_, (by decide +kernel : (urlSafeAssignBad c06bHeap 0 1).getP 2 =
      some { list := [(asciiStr "y", asciiStr "2")], isSorted := false, urlPtr := some 1 }), rfl, ?_⟩
  intro uc huc
  have : (urlSafeAssignBad c06bHeap 0 1).getU 1 = some { url := none, spPtr := none } := by decide +kernel
  rw [this] at huc; cases huc; simp

/-- **(ii) a url copy constructor that copies `search_params_ptr_`** (shares the object): (c) fails —
    two urls hold params object 2 — and so does (a) for the copy. -/
theorem C06b_bites_shared_params :
    let h1 := (urlCopyConstructBad c06bHeap 1).1
    (urlCopyConstructBad c06bHeap 1).2 = 3 ∧ h1.spOf 1 = some 2 ∧ h1.spOf 3 = some 2 ∧ h1.urlPtrOf 2 = some 1 ∧
    ¬ OwnInv h1 ∧
    ¬ (∀ u₁ u₂ c₁ c₂ p, h1.getU u₁ = some c₁ → h1.getU u₂ = some c₂ → c₁.spPtr = some p → c₂.spPtr = some p →
        u₁ = u₂) ∧
    -- an edit through the copy's `search_params()` rewrites the ORIGINAL url
    (let h2 := paramsMutate h1 2 (·.append (asciiStr "z") (asciiStr "3"))
     (h2.recOf 1).bind (·.query) = some (asciiStr "y=2&z=3") ∧ (h2.recOf 3).bind (·.query) = some (asciiStr "y=2")) ∧
    -- the real copy constructor
    OwnInv (urlCopyConstruct c06bHeap 1).1 ∧ (urlCopyConstruct c06bHeap 1).1.spOf 3 = none := by
  refine ⟨by decide +kernel, by decide +kernel, by decide +kernel, by decide +kernel, by decide +kernel, ?_, by decide +kernel, by decide +kernel, by decide +kernel⟩
  intro hc
  have h1 : (urlCopyConstructBad c06bHeap 1).1.getU 1 =
      some { url := some (c06bHttp "b" (some (asciiStr "y=2"))), spPtr := some 2 } := by decide +kernel
  have h3 : (urlCopyConstructBad c06bHeap 1).1.getU 3 =
      some { url := some (c06bHttp "b" (some (asciiStr "y=2"))), spPtr := some 2 } := by decide +kernel
  exact absurd (hc 1 3 _ _ 2 h1 h3 rfl rfl) (by decide +kernel)

/-- **(iii) a params copy constructor that copies `url_ptr_`**: (b) fails — the copy names url 1,
    which holds object 2, not the copy — and an edit of the COPY rewrites the original url. -/
theorem C06b_bites_copied_back_pointer :
    let h1 := (paramsCopyConstructBad c06bHeap 2).1
    (paramsCopyConstructBad c06bHeap 2).2 = 3 ∧ h1.urlPtrOf 3 = some 1 ∧ h1.spOf 1 = some 2 ∧ ¬ OwnInv h1 ∧
    (let h2 := paramsMutate h1 3 (·.append (asciiStr "z") (asciiStr "3"))
     (h2.recOf 1).bind (·.query) = some (asciiStr "y=2&z=3") ∧
     h2.listOf 2 = [(asciiStr "y", asciiStr "2")]) ∧
    OwnInv (paramsCopyConstruct c06bHeap 2).1 ∧ (paramsCopyConstruct c06bHeap 2).1.urlPtrOf 3 = none := by
  decide +kernel

end Upa.Props

#print axioms Upa.Props.C06b_OwnInv_def
#print axioms Upa.Props.C06b_OwnInv_excl_of_fwd
#print axioms Upa.Props.C06b_check_iff
#print axioms Upa.Props.C06b_LockInv_def
#print axioms Upa.Props.C06b_lock_cells
#print axioms Upa.Props.C06b_WF_def
#print axioms Upa.Props.C06b_HistOK_def
#print axioms Upa.Props.C06b_asserts_def
#print axioms Upa.Props.C06b_pre_def
#print axioms Upa.Props.C06b_internal_assert
#print axioms Upa.Props.C06b_init
#print axioms Upa.Props.C06b_step
#print axioms Upa.Props.C06b_history
#print axioms Upa.Props.C06b_history_from
#print axioms Upa.Props.C06b_history_cells
#print axioms Upa.Props.C06b_move_from_owned_breaks_lock
#print axioms Upa.Props.C06b_update_target
#print axioms Upa.Props.C06b_update_free
#print axioms Upa.Props.C06b_copies_detached
#print axioms Upa.Props.C06b_refines
#print axioms Upa.Props.C06b_safeAssignSrc_agrees
#print axioms Upa.Props.C06b_refines_free
#print axioms Upa.Props.C06b_bites_safe_assign
#print axioms Upa.Props.C06b_bites_shared_params
#print axioms Upa.Props.C06b_bites_copied_back_pointer
