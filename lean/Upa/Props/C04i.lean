import Upa.Proofs.SimpleBuffer
/-
  C04 / C18 / C20 on `upa::simple_buffer<T, fixed_capacity>` (include/upa/buffer.h) and the arithmetic helpers
  of include/upa/util.h.  Model: Impl/SimpleBuffer.lean (the object with its memory cells, every store
  checked, allocation a step that may fail).  Lemmas: Proofs/SimpleBuffer.lean.
  `Good s Q o` (Impl/SimpleBuffer.lean) = the outcome `o` of a member function called on `s` is not a memory
  error; if it returns, the class invariant `Inv` holds again, `fixedCap` / `maxSize` are unchanged, the
  capacity has not shrunk and `Q`; if it throws, the object is exactly as before the call.
-/
namespace Upa.Props
open Upa.Impl Upa.Impl.SB

/-! ### C04: every access in bounds, the invariant -/

/-- The class invariant holds after construction (both constructors, every `fixed_capacity`, 0 included) and
    is preserved by every member function; no store or load leaves the allocated cells, in any history.
    `pop_back` needs a non-empty buffer: on an empty one `size_` wraps to 2^64-1 and the invariant is lost. -/
theorem C04_buffer_inbounds (e : Env) :
    (∀ F M, F ≤ M → SB.Inv (init e F M)) ∧
    (∀ F M c, F ≤ M →
      Good (init e F M) (fun s' => abs s' = [] ∧ s'.size = 0 ∧ s'.capacity = max F c) (construct e F M c)) ∧
    (∀ s op, SB.Inv s → (op = .popBack → 0 < s.size) →
      step e s op ≠ .oob ∧ ∀ s', step e s op = .ok s' → SB.Inv s') ∧
    (∀ s ops, SB.Inv s → run e s ops ≠ .oob ∧ ∀ s', run e s ops = .ok s' → SB.Inv s') ∧
    (∀ s, SB.Inv s → s.size = 0 → s.maxSize < 18446744073709551615 →
      (popBack s).size = 18446744073709551615 ∧ ¬ SB.Inv (popBack s)) := by
  refine ⟨fun F M h => init_inv e F M h, fun F M c h => construct_good e F M c h, ?_, ?_, ?_⟩
  · intro s op hi hp
    have hg := step_good e s op hi hp
    constructor
    · intro h; rw [h] at hg; exact hg
    · intro s' h; rw [h] at hg; exact hg.1
  · intro s ops hi
    exact ⟨run_not_oob e ops s hi, fun s' h => (run_ok e ops s s' hi h).1⟩
  · intro s hi h0 hM
    have hsz := popBack_empty s h0
    refine ⟨hsz, fun hi' => ?_⟩
    have h1 := hi'.size_le
    have h2 := hi'.cap_max
    have h3 : (popBack s).maxSize = s.maxSize := rfl
    omega

example : SB.Inv (init env0 0 maxSize0) := (C04_buffer_inbounds env0).1 0 maxSize0 (by decide)
example : step env0 (init env0 0 maxSize0) (.pushBack 65) =
    .ok { fixedCap := 0, maxSize := maxSize0, onHeap := true, mem := 65 :: List.replicate 31 0, size := 1,
          capacity := 32, nalloc := 1 } := by decide +kernel
example : (popBack (init env0 4 maxSize0)).size = 18446744073709551615 := by decide +kernel

/-! ### C04: refinement of the list operations -/

/-- Each member function does to `[begin(), end())` what its list counterpart does: `push_back v` appends
    `[v]`, `append` appends the range, `clear` empties, `pop_back` drops the last element, `reserve` changes
    nothing, `resize n` truncates to `n` (n ≤ size) or extends to length `n` keeping the old contents as a
    prefix (the new cells hold whatever the memory held).  Also the new `size()`. -/
theorem C04_buffer_refines (e : Env) (s : State) (op : Op) (hi : SB.Inv s) (hp : op = .popBack → 0 < s.size) :
    Good s (fun s' => Refines (abs s) op (abs s') ∧ s'.size = sizeAfter s.size op) (step e s op) :=
  step_good e s op hi hp

/-- spelled out for the operations that return -/
theorem C04_buffer_refines_ok (e : Env) (s s' : State) (op : Op) (hi : SB.Inv s) (hp : op = .popBack → 0 < s.size)
    (h : step e s op = .ok s') : Refines (abs s) op (abs s') := by
  have := step_good e s op hi hp
  rw [h] at this
  exact this.2.2.2.2.1

example : (step env0 (init env0 2 maxSize0) (.append [1, 2, 3])).obs = some ([1, 2, 3], 3, 4) := by decide +kernel

/-- Any history (the caller respects the precondition of `pop_back`) from a fresh buffer, for every
    `fixed_capacity` and every pattern of allocation failures: when it returns, the contents are those of the
    list operations applied in order to `[]`, and `size()` is the size they give. -/
theorem C04_buffer_history (e : Env) (F M : Nat) (hFM : F ≤ M) (ops : List Op) (s' : State)
    (h : run e (init e F M) ops = .ok s') :
    SB.Inv s' ∧ RefinesAll [] ops (abs s') ∧ s'.size = ops.foldl sizeAfter 0 ∧ (abs s').length = s'.size := by
  have := run_ok e ops (init e F M) s' (init_inv e F M hFM) h
  rw [init_abs] at this
  exact ⟨this.1, this.2.2.2.2.1, this.2.2.2.2.2, abs_length this.1⟩

example : (run env0 (init env0 2 maxSize0) [.pushBack 1, .append [2, 3], .popBack, .reserve 100, .resize 1]).obs =
    some ([1], 1, 100) := by decide +kernel

/-! ### C18: the inline capacity is not observable -/

/-- Two buffers with different `fixed_capacity` (and different garbage in fresh memory, different allocators'
    `max_size()`) that run the same history hold the same contents, `specRun [] ops`, provided no `resize` of
    the history makes the buffer longer (`NoExpose`: only then could stale / uninitialised cells be read).
    Without that proviso the SIZES still agree. -/
theorem C18_buffer_fixed_capacity_irrelevant (e1 e2 : Env) (F1 F2 M1 M2 : Nat) (h1 : F1 ≤ M1) (h2 : F2 ≤ M2)
    (ops : List Op) (s1 s2 : State)
    (r1 : run e1 (init e1 F1 M1) ops = .ok s1) (r2 : run e2 (init e2 F2 M2) ops = .ok s2) :
    (abs s1).length = (abs s2).length ∧
    (NoExpose 0 ops → abs s1 = specRun [] ops ∧ abs s2 = specRun [] ops ∧ abs s1 = abs s2) := by
  obtain ⟨i1, a1, z1, l1⟩ := C04_buffer_history e1 F1 M1 h1 ops s1 r1
  obtain ⟨i2, a2, z2, l2⟩ := C04_buffer_history e2 F2 M2 h2 ops s2 r2
  refine ⟨by omega, fun hn => ?_⟩
  have b1 := RefinesAll_spec ops [] (abs s1) a1 hn
  have b2 := RefinesAll_spec ops [] (abs s2) a2 hn
  exact ⟨b1, b2, by rw [b1, b2]⟩

example : NoExpose 0 [.pushBack 1, .append [2, 3], .popBack, .reserve 100, .resize 1] := by
  simp [NoExpose, sizeAfter]
/-- the proviso is needed: after `clear` the old elements are still in the cells; `reserve(4)` moves a buffer
    with `fixed_capacity` 2 to fresh memory and leaves one with `fixed_capacity` 4 where it is -/
example :
    (run env0 (init env0 2 maxSize0) [.pushBack 65, .pushBack 66, .clear, .reserve 4, .resize 2]).obs = some ([0, 0], 2, 4) ∧
    (run env0 (init env0 4 maxSize0) [.pushBack 65, .pushBack 66, .clear, .reserve 4, .resize 2]).obs = some ([65, 66], 2, 4) :=
  ⟨by decide +kernel, by decide +kernel⟩

/-! ### C20: the strong exception guarantee -/

/-- A member function that throws (`std::bad_alloc` from the allocator, `std::length_error` from `grow` /
    `add_sizes`) leaves every member of the object as it was (`nalloc` is the ghost allocation counter). -/
theorem C20_buffer_strong_guarantee (e : Env) (s s' : State) (op : Op) (hi : SB.Inv s)
    (h : step e s op = .badAlloc s' ∨ step e s op = .lengthError s') :
    s' = { s with nalloc := s'.nalloc } ∧ abs s' = abs s ∧ s'.capacity = s.capacity ∧ s'.onHeap = s.onHeap ∧ SB.Inv s' := by
  have hp : op = .popBack → 0 < s.size := by
    intro hop; subst hop; rcases h with h | h <;> simp [step] at h
  have hg := step_good e s op hi hp
  have key : s' = { s with nalloc := s'.nalloc } := by
    rcases h with h | h
    · rw [h] at hg; exact hg
    · rw [h] at hg; have : s' = s := hg; rw [this]
  refine ⟨key, ?_, ?_, ?_, ?_⟩
  · rw [key]; rfl
  · rw [key]
  · rw [key]
  · rw [key]; exact Inv_nalloc hi _

/-- the first allocation fails: `push_back` on a full inline buffer throws and nothing changed -/
example : step { allocFails := fun k => k == 0, junk := fun _ _ => 0 } (init env0 0 maxSize0) (.pushBack 65) =
    .badAlloc { init env0 0 maxSize0 with nalloc := 1 } := by decide +kernel
/-- the guard of `grow`: `max_size()` 40, capacity 32 full → `length_error` -/
example : run env0 (init env0 32 40) [.append (List.replicate 32 7), .pushBack 1] =
    .lengthError { fixedCap := 32, maxSize := 40, onHeap := false, mem := List.replicate 32 7, size := 32,
                   capacity := 32, nalloc := 0 } := by decide +kernel

/-- Histories with failing allocations (`allocFails` arbitrary — in particular "exactly the n-th allocation
    fails"):
    (1) if the exception propagates, the operations before the throwing one all completed and the object is
        exactly as they left it;
    (2) if every exception is caught and the history goes on with the same object, no memory error occurs and
        the buffer finally holds what the list operations that COMPLETED (a sub-list of the history) make of
        `[]`: a failed operation has no effect at all. -/
theorem C20_buffer_alloc_failure_history (e : Env) (F M : Nat) (hFM : F ≤ M) (ops : List Op) :
    (∀ s', (run e (init e F M) ops = .badAlloc s' ∨ run e (init e F M) ops = .lengthError s') →
      ∃ done op rest s'', ops = done ++ op :: rest ∧ run e (init e F M) done = .ok s'' ∧
        (stepG e s'' op = .badAlloc s' ∨ stepG e s'' op = .lengthError s') ∧
        s' = { s'' with nalloc := s'.nalloc } ∧ RefinesAll [] done (abs s')) ∧
    (∃ s' done, runCatch e (init e F M) ops = some (s', done) ∧ SB.Inv s' ∧ done.Sublist ops ∧
      RefinesAll [] done (abs s')) := by
  have hi := init_inv e F M hFM
  constructor
  · intro s' h
    obtain ⟨done, op, rest, s'', h1, h2, h3, h4⟩ := run_throw e ops _ s' hi h
    refine ⟨done, op, rest, s'', h1, h2, h3, h4, ?_⟩
    have := (run_ok e done _ s'' hi h2).2.2.2.2.1
    rw [init_abs] at this
    rw [h4]; exact this
  · obtain ⟨s', done, h1, h2, _, _, h5, h6⟩ := runCatch_good e ops _ hi
    rw [init_abs] at h6
    exact ⟨s', done, h1, h2, h5, h6⟩

/-- exactly the allocation number 1 (the second one) fails: the `append` that needs it is dropped, the rest
    of the history is unaffected -/
example : (runCatch { allocFails := fun k => k == 1, junk := fun _ _ => 0 } (init env0 0 maxSize0)
      [.pushBack 1, .append (List.replicate 40 2), .pushBack 3]).map (fun p => (abs p.1, p.2)) =
    some ([1, 3], [.pushBack 1, .pushBack 3]) := by decide +kernel

/-! ### growth -/

/-- `grow(min_cap)`: with c0 = `capacity_` (16 when the capacity is 0 — NOT max(capacity, 16): a capacity of 2
    grows to 4) the new capacity is c0·2^k for the least k ≥ 1 with c0·2^k ≥ min_cap, provided the candidates
    before it pass the guard `new_cap ≤ max_size()/2`; `length_error` exactly when the guard stops the loop at
    a candidate that has not reached `min_cap` (the fuel of `growLoop` never runs out).  This sharpens
    `C04_buffer_grow` (Props/C04.lean), whose bounds follow: min_cap ≤ r ≤ max_size(), capacity < r. -/
theorem C04_buffer_grow_exact (M cap minCap : Nat) :
    (∀ r, bufGrow M cap minCap = some r ↔
      ∃ k, GrowsTo M (if cap = 0 then 16 else cap) minCap k ∧ r = (if cap = 0 then 16 else cap) * 2 ^ k) ∧
    (bufGrow M cap minCap = none ↔ ∃ k, GuardStops M (if cap = 0 then 16 else cap) minCap k) ∧
    (∀ r, bufGrow M cap minCap = some r → minCap ≤ r ∧ r ≤ M ∧ cap < r) :=
  ⟨(bufGrow_exact M cap minCap).1, (bufGrow_exact M cap minCap).2, fun _ h => bufGrow_some h⟩

/-- and that is the capacity of the object after `grow` -/
theorem C04_buffer_grow_capacity (e : Env) (s s' : State) (n : Nat) (hi : SB.Inv s) (h : grow e s n = .ok s') :
    bufGrow s.maxSize s.capacity n = some s'.capacity := grow_capacity e s s' n hi h

example : bufGrow maxSize0 2 3 = some 4 := by decide +kernel
example : bufGrow maxSize0 0 1 = some 32 := by decide +kernel
example : GrowsTo maxSize0 1024 5000 3 := by
  refine ⟨by omega, by omega, ?_, by decide⟩
  intro j h1 h2
  have : j = 1 ∨ j = 2 := by omega
  rcases this with h | h <;> subst h <;> omega
example : bufGrow 40 32 33 = none := by decide +kernel

/-! ### util.h -/

/-- `simple_buffer::add_sizes` / `util::add_sizes` on the machine (64-bit `size_t`, wrapping `-` and `+`)
    compute the mathematical sum or throw, as long as n1 ≤ max_size < 2^64: nothing wraps. -/
theorem C04_add_sizes_machine (M n1 n2 : Nat) (hM : M < 18446744073709551616) (h1 : n1 ≤ M)
    (h2 : n2 < 18446744073709551616) :
    addSizesW M n1 n2 = bufAddSizes M n1 n2 ∧
    utilAddSizesW n1 n2 M = (if n1 + n2 ≤ M then some (n1 + n2) else none) ∧
    bufAddSizes M n1 n2 = (if n1 + n2 ≤ M then some (n1 + n2) else none) := by
  refine ⟨addSizesW_eq M n1 n2 hM h1, utilAddSizesW_eq n1 n2 M hM h1, ?_⟩
  unfold bufAddSizes
  split
  · rw [if_pos (by omega)]
  · rw [if_neg (by omega)]

example : utilAddSizesW 5 7 100 = some 12 := by decide +kernel
/-- without n1 ≤ max_size the subtraction wraps and the check passes wrongly -/
example : addSizesW 10 11 5 = some 16 := by decide +kernel

/-- `util::checked_diff<Out>(a, b)`: the difference a − b when `Out` can represent it, else `length_error` —
    for the instantiation of the library (`checked_diff<std::ptrdiff_t>(size_t, size_t)`, url.h:2829, 2866)
    and the two of test/test-util.cpp with 32-bit `int` (`<int>(int,int)`, `<unsigned>(int,int)`). -/
theorem C04_checked_diff :
    (∀ a b : Int, 0 ≤ a ∧ a < 2^64 → 0 ≤ b ∧ b < 2^64 →
      checkedDiff 64 true 64 a b = if -(2^63) ≤ a - b ∧ a - b ≤ 2^63 - 1 then some (a - b) else none) ∧
    (∀ a b : Int, -(2^31) ≤ a ∧ a < 2^31 → -(2^31) ≤ b ∧ b < 2^31 →
      checkedDiff 32 true 32 a b = if -(2^31) ≤ a - b ∧ a - b ≤ 2^31 - 1 then some (a - b) else none) ∧
    (∀ a b : Int, -(2^31) ≤ a ∧ a < 2^31 → -(2^31) ≤ b ∧ b < 2^31 →
      checkedDiff 32 false 32 a b = if 0 ≤ a - b ∧ a - b ≤ 2^32 - 1 then some (a - b) else none) :=
  ⟨checkedDiff_size_ptrdiff, checkedDiff_int_int, checkedDiff_int_unsigned⟩

example : checkedDiff 64 true 64 0 (2^63) = some (-(2^63)) := by decide +kernel
example : checkedDiff 64 true 64 (2^63) 0 = none := by decide +kernel

/-! ### the harness operation `r<n>` of `runBufLine` -/

/-- `resize(n)` followed by zero-filling `[old size, n)` through `data()`: deterministic contents -/
theorem C04_buffer_resize_zero (e : Env) (s : State) (n : Nat) (hi : SB.Inv s) :
    Good s (fun s' => s'.size = n ∧ abs s' = (abs s).take n ++ List.replicate (n - s.size) 0)
      (resizeZero e s n) := resizeZero_good e s n hi

example : runBufLine 2 "p41;p42;p43;c;a4445" = "buf 1/2 2/2 3/4 0/4 2/4 data=4445" := by decide +kernel

#print axioms C04_buffer_inbounds
#print axioms C04_buffer_refines
#print axioms C04_buffer_refines_ok
#print axioms C04_buffer_history
#print axioms C18_buffer_fixed_capacity_irrelevant
#print axioms C20_buffer_strong_guarantee
#print axioms C20_buffer_alloc_failure_history
#print axioms C04_buffer_grow_exact
#print axioms C04_buffer_grow_capacity
#print axioms C04_add_sizes_machine
#print axioms C04_checked_diff
#print axioms C04_buffer_resize_zero
end Upa.Props
