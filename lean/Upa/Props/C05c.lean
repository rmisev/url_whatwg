import Upa.Props.C05
import Upa.Props.C02b
import Upa.Props.C03
import Upa.Props.C02
/-
  C05 — "a valid URL object is indistinguishable from one freshly parsed from its own href".
  At the level of the stored representation: the object's representation is `layout u` of its record
  (tied to the C++ by the hidden-state correspondence after every operation); parsing the stored
  string again — with no base or any base — yields a record with the SAME representation, for every URL
  in normal form, hence for every parsed URL (`C05_parsed_equals_fresh_parse`); the setters keep the normal
  form but for the two Standard-made file exceptions (`C02_set_norm`, `C02_setters_norm`, Props/C02b.lean).  Everything observable (getters, null/empty status, host type, path
  kind, equality and hash of the string, use as a base, further edits) is a function of the
  representation.
-/
namespace Upa.Props
open Upa Upa.Impl Upa.Proofs.C02 Upa.Proofs.C02b

/-- a fresh parse of the object's own href has the same representation -/
theorem C05_fresh_parse_same_representation (idna : Idna) (u : Url) (h : Norm idna u) (base : Option Url) :
    (Impl.parse idna .u8 (Impl.layout u).norm base).map Impl.layout = some (Impl.layout u) := by
  rw [C05_layout_href]
  have := C02_reparse idna u h base (by cases base <;> simp)
  rw [this]; rfl

/-- … in particular for every successfully parsed URL (any input, any encoding, any normal-form base) -/
theorem C05_parsed_equals_fresh_parse (idna : Idna) (hs : IdnaStable idna) (e : Enc) (units : List Nat)
    (base : Option Url) (u : Url) (hb : base = none ∨ ∃ b, base = some b ∧ Norm idna b)
    (hp : Impl.parse idna e units base = some u) (base' : Option Url) :
    (Impl.parse idna .u8 (Impl.layout u).norm base').map Impl.layout = some (Impl.layout u) :=
  C05_fresh_parse_same_representation idna u (C02_parse_norm idna hs e units base u hb hp) base'

/-- an empty / failed object is inert and a failing href setter changes nothing (restated from C03) -/
theorem C05_invalid_inert (idna : Idna) (sp : Option Params) (s : Setter) (e : Enc) (units : List Nat)
    (h : s ≠ .href) : UrlObj.set idna ⟨none, sp⟩ s e units = (⟨none, sp⟩, false) :=
  C03_invalid_inert idna sp s e units h

theorem C05_href_atomic (idna : Idna) (o : UrlObj) (e : Enc) (units : List Nat)
    (h : Impl.parse idna e units none = none) : o.set idna .href e units = (o, false) :=
  C03_href_atomic idna o e units h

#print axioms C05_fresh_parse_same_representation
#print axioms C05_parsed_equals_fresh_parse
#print axioms C05_invalid_inert
#print axioms C05_href_atomic
end Upa.Props
