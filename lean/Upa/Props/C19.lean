import Upa.Gen.Tables
import Upa.Proofs.Conc
/-
  C19 — independent objects are usable concurrently; the IDNA handle is initialised exactly once.
  Model: `Upa.Impl.Conc` (N threads, arbitrary programs, micro-steps of the C++11 magic-static protocol
  of `get_uidna()::once`, src/url_idna.cpp:49-72).  Every theorem quantifies over the number of threads,
  their programs and ALL schedules (`List Nat`, non-enabled picks are skipped, so blocking is covered).
  What is NOT proved here but assumed from the language/runtime: that the compiler implements
  [stmt.dcl]/4 as the `checkGuard`/`finishInit` protocol (`C19_guarded`: the guard variable exists in the
  object file), and that `pure` calls touch no shared writable memory (`C19_no_other_writable`: there is
  none besides the three objects of the model).
-/
namespace Upa.Props
open Upa.Impl.Conc

/-- under the magic-static protocol, for every number of threads and every schedule, the
    initialiser is started at most once and every `idna` call observed the fully initialised pair -/
theorem C19_init_once (progs : List (List Call)) (sched : List Nat) :
    let s := exec .magicStatic (init progs) sched
    s.initCount ≤ 1 ∧ ∀ t obs, obs ∈ (s.thr t).log → obs = (some (freshHandle 0), some icuMajor) := by
  intro s
  have h : Inv s := exec_inv (inv_init progs) sched
  refine ⟨?_, h.logs⟩
  rcases hg : s.guard with _ | t | _
  · have := (h.at hg).1.1; omega
  · rcases (h.at hg).1 with h | h | h <;> have := h.2.1 <;> omega
  · have := (h.at hg).1.1; omega

/-- the inductive invariant behind it, spelled out on the model's fields only -/
theorem C19_guard_invariant (progs : List (List Call)) (sched : List Nat) :
    let s := exec .magicStatic (init progs) sched
    (s.guard = .uninit → s.initCount = 0 ∧ s.uidnaPtr = none ∧ s.icuVersion = none) ∧
    (∀ t, s.guard = .inProgress t →
      ((s.thr t).pc = .initPtr ∨ (s.thr t).pc = .initVer ∨ (s.thr t).pc = .finishInit) ∧
      ∀ u, u ≠ t → (s.thr u).pc = .idle ∨ (s.thr u).pc = .checkGuard) ∧
    (s.guard = .done →
      s.initCount = 1 ∧ s.uidnaPtr = some (freshHandle 0) ∧ s.icuVersion = some icuMajor) ∧
    (∀ t, (s.thr t).pc = .readHandle ∨ (∃ a, (s.thr t).pc = .readVersion a) → s.guard = .done) := by
  intro s
  have h : Inv s := exec_inv (inv_init progs) sched
  refine ⟨fun hg => (h.at hg).1, fun t hg => ⟨?_, (h.at hg).2⟩, fun hg => (h.at hg).1, fun t ht => ?_⟩
  · exact (h.at hg).1.imp And.left (Or.imp And.left And.left)
  · rcases h.view t with ho | ⟨_, hph⟩ | ⟨hg, _⟩
    · rcases ht with ht | ⟨a, ht⟩ <;> simp [Pc.outside, ht] at ho
    · rcases ht with ht | ⟨a, ht⟩ <;> simp [Pc.phase, ht] at hph
    · exact hg

/-- non-vacuity: three threads, one of them blocked on the guard in the middle of the schedule;
    the initialiser ran once and both `idna` calls that completed saw the handle -/
example :
    let s := exec .magicStatic (init [[.idna], [.pure (· + 1), .idna], [.idna]])
      [0, 1, 0, 1, 1, 0, 1, 1, 0, 2, 0, 1, 1, 1, 0, 0]
    s.initCount = 1 ∧ s.guard = .done ∧ (s.thr 0).log = [good] ∧ (s.thr 1).log = [good] ∧
    (s.thr 2).log = [] ∧ (s.thr 2).pc = .checkGuard ∧ (s.thr 1).priv = 1 := by decide +kernel

/-- what the guard buys: with the unguarded `if (!uidna_ptr) init();` two threads run the
    initialiser twice (the first handle is leaked), and a thread reads `uidna_ptr` set but
    `icu_version_major` still zero; the same two schedules under the magic static do neither -/
theorem C19_plain_check_races :
    (exec .plainCheck (init [[.idna], [.idna]]) [0, 1, 0, 1, 0, 1]).initCount = 2 ∧
    (exec .plainCheck (init [[.idna], [.idna]]) [0, 1, 0, 1, 0, 1]).uidnaPtr = some (freshHandle 1) ∧
    ((exec .plainCheck (init [[.idna], [.idna]]) [0, 0, 0, 1, 1, 1, 1]).thr 1).log
      = [(some (freshHandle 0), none)] ∧
    (exec .magicStatic (init [[.idna], [.idna]]) [0, 1, 0, 1, 0, 1]).initCount = 1 ∧
    ((exec .magicStatic (init [[.idna], [.idna]]) [0, 0, 0, 1, 1, 1, 1]).thr 1).log = [] ∧
    ((exec .magicStatic (init [[.idna], [.idna]]) [0, 0, 0, 1, 1, 1, 1]).thr 1).pc = .checkGuard := by
  decide +kernel

/-- per-thread results do not depend on the schedule: whenever thread `t` has completed its
    program, its observation log and its private state are the sequential meaning of the program -/
theorem C19_sequential_results (progs : List (List Call)) (sched : List Nat) (t : Nat) :
    let th := (exec .magicStatic (init progs) sched).thr t
    th.finished = true →
    th.log = seqLog (progs.getD t []) ∧ th.priv = seqPriv (progs.getD t []) 0 := by
  intro th hf
  exact track_finished (exec_track (inv_init progs) (track_init progs) sched t) hf

/-- … hence equal to running the thread alone on a state initialised beforehand … -/
theorem C19_equals_solo_run (progs : List (List Call)) (sched : List Nat) (t : Nat) :
    let th := (exec .magicStatic (init progs) sched).thr t
    th.finished = true →
    th.log = (soloRun (progs.getD t [])).log ∧ th.priv = (soloRun (progs.getD t [])).priv := by
  intro th hf
  have h := C19_sequential_results progs sched t hf
  have hs := soloRun_eq (progs.getD t [])
  exact ⟨h.1.trans hs.2.1.symm, h.2.trans hs.2.2.symm⟩

theorem C19_schedule_independent (progs : List (List Call)) (sched₁ sched₂ : List Nat) (t : Nat) :
    let th₁ := (exec .magicStatic (init progs) sched₁).thr t
    let th₂ := (exec .magicStatic (init progs) sched₂).thr t
    th₁.finished = true → th₂.finished = true → th₁.log = th₂.log ∧ th₁.priv = th₂.priv := by
  intro th₁ th₂ h₁ h₂
  have a := C19_sequential_results progs sched₁ t h₁
  have b := C19_sequential_results progs sched₂ t h₂
  exact ⟨a.1.trans b.1.symm, a.2.trans b.2.symm⟩

/-- no schedule deadlocks: while some thread is unfinished some thread is enabled (the holder of the
    guard is never blocked), so completing schedules exist for every program -/
theorem C19_no_deadlock (progs : List (List Call)) (sched : List Nat) (u : Nat) :
    let s := exec .magicStatic (init progs) sched
    (s.thr u).finished = false → ∃ t, (step .magicStatic s t).isSome = true := by
  intro s hu
  exact inv_progress (exec_inv (inv_init progs) sched) hu

/-- non-vacuity of the schedule independence: two different complete schedules of the same two programs (in the second one
    thread 1 wins the race for the guard and thread 0 blocks), both threads finished, same results -/
example :
    let progs : List (List Call) := [[.pure (· * 2), .idna, .idna], [.idna, .pure (· + 7)]]
    let s₁ := exec .magicStatic (init progs) [0, 0, 0, 0, 0, 0, 0, 0, 0, 0, 0, 0, 1, 1, 1, 1, 1, 1]
    let s₂ := exec .magicStatic (init progs) [1, 0, 1, 0, 0, 0, 1, 1, 1, 0, 1, 0, 1, 0, 0, 1, 0, 0, 0, 0, 0]
    (s₁.thr 0).finished = true ∧ (s₁.thr 1).finished = true ∧
    (s₂.thr 0).finished = true ∧ (s₂.thr 1).finished = true ∧
    (s₂.thr 0).log = [good, good] ∧ (s₂.thr 1).log = [good] ∧ (s₂.thr 1).priv = 7 ∧
    (soloRun [.idna, .pure (· + 7)]).log = [good] := by decide +kernel

/-- regenerated facts (tools/gen.py, from the object files of the current tree): the
    initialisation is behind a compiler-generated guard variable … -/
theorem C19_guarded : Upa.Gen.idnaInitGuarded = true := by decide

/-- … and the library has no writable global besides that guard and the two variables it protects -/
theorem C19_no_other_writable : Upa.Gen.writableGlobals =
    [ "url_idna.cpp:guard variable for upa::(anonymous namespace)::get_uidna()::once",
      "url_idna.cpp:upa::(anonymous namespace)::icu_version_major",
      "url_idna.cpp:upa::(anonymous namespace)::uidna_ptr" ] := rfl

#print axioms C19_init_once
#print axioms C19_guard_invariant
#print axioms C19_plain_check_races
#print axioms C19_sequential_results
#print axioms C19_equals_solo_run
#print axioms C19_schedule_independent
#print axioms C19_no_deadlock
#print axioms C19_guarded
#print axioms C19_no_other_writable

end Upa.Props
