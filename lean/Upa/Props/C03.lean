import Upa.Impl.Api
import Upa.Spec.Api
import Upa.Props.C10
import Upa.Props.C14
/-
  C03 — every setter behaves as the Standard's API setter, over any call sequence.
  The full statement `Impl.setValid = Spec.apiSet`, for all ten setters and over all histories, is
  `C03_setter_conforms` / `C03_history_*` in Props/C03b.lean.  This file holds the guards and ignore rules
  ("whenever the Standard ignores an assignment the URL is left exactly as it was") on the model of the
  code; several of them unfold the definition of `UrlObj.set` and are stated for the reader rather than as
  independent obligations.
-/
namespace Upa.Props
open Upa Upa.Impl

/-- an object that is not valid ignores every setter except href -/
theorem C03_invalid_inert (idna : Idna) (sp : Option Params) (s : Setter) (e : Enc) (units : List Nat)
    (h : s ≠ .href) : UrlObj.set idna ⟨none, sp⟩ s e units = (⟨none, sp⟩, false) := by
  cases s
  · exact absurd rfl h
  all_goals rfl

/-- a failing href setter leaves the object exactly as it was -/
theorem C03_href_atomic (idna : Idna) (o : UrlObj) (e : Enc) (units : List Nat)
    (h : Impl.parse idna e units none = none) : o.set idna .href e units = (o, false) := by
  simp [UrlObj.set, h]

/-- "cannot have a username/password/port" (host null or empty, or scheme file): username, password
    and port setters change nothing -/
theorem C03_cannot_have (idna : Idna) (u : Url) (e : Enc) (units : List Nat)
    (h : canHaveUsernamePasswordPort u = false) :
    setValid idna .username e units u = (u, false) ∧ setValid idna .password e units u = (u, false) ∧
    setValid idna .port e units u = (u, false) := by
  have hn : ¬ canHaveUsernamePasswordPort u = true := by rw [h]; exact Bool.false_ne_true
  exact ⟨if_neg hn, if_neg hn, if_neg hn⟩

/-- a URL with an opaque path ignores host, hostname and pathname -/
theorem C03_opaque_path (idna : Idna) (u : Url) (e : Enc) (units : List Nat) (h : u.hasOpaquePath = true) :
    setValid idna .host e units u = (u, false) ∧ setValid idna .hostname e units u = (u, false) ∧
    setValid idna .pathname e units u = (u, false) := by
  have hn : ¬ (!u.hasOpaquePath) = true := by rw [h]; exact Bool.false_ne_true
  exact ⟨if_neg hn, if_neg hn, if_neg hn⟩

/-- the Standard's condition and the code's guard agree on every record whose host, if its text is empty,
    is the empty host (on the others they differ: example in C03b) -/
theorem C03_guard_agrees (u : Url) (h : u.host = some Spec.emptyHost ∨ u.hostText ≠ [] ∨ u.host = none) :
    canHaveUsernamePasswordPort u = !Spec.cannotHaveUsernamePasswordPort u := by
  unfold canHaveUsernamePasswordPort Spec.cannotHaveUsernamePasswordPort Url.hostText Url.isFile isFileScheme
  rcases hh : u.host with _ | ⟨k, t⟩
  · simp
  · cases t with
    | nil =>
      rcases h with h | h | h
      · rw [hh] at h; simp [Spec.emptyHost] at h; subst h; simp [Spec.emptyHost]
      · simp [Url.hostText, hh] at h
      · simp [hh] at h
    | cons a t => simp [Spec.emptyHost]

/-- username and password setters (no parser involved): exactly the Standard's
    "set the username/password" = UTF-8 percent-encode with the userinfo set, for well-formed input -/
theorem C03_username_password (idna : Idna) (u : Url) (units : List Nat)
    (hs : ∀ c ∈ units, Spec.isScalar c = true) (hc : canHaveUsernamePasswordPort u = true) :
    (setValid idna .username .u32 units u).1 = { u with username := Spec.utf8PercentEncode Spec.userinfoSet units } ∧
    (setValid idna .password .u32 units u).1 = { u with password := Spec.utf8PercentEncode Spec.userinfoSet units } := by
  have hd : Impl.decode .u32 units = units := C10_roundtrip .u32 units hs
  have he : Impl.percentEncode userinfoNoEnc units = Spec.utf8PercentEncode Spec.userinfoSet units :=
    C14_encode Spec.userinfoSet units hs fun c hc' => by
      simp only [Spec.userinfoSet, Spec.pathSet, Spec.querySet, Spec.c0ControlSet, Bool.or_eq_true,
        decide_eq_true_eq]
      omega
  unfold setValid
  simp only [hc, if_true, hd, he, and_self]

/-- an empty value removes port / query / fragment (and the query/fragment cases strip the trailing
    spaces of an opaque path as the Standard prescribes) -/
theorem C03_empty_value (idna : Idna) (u : Url) (e : Enc) :
    (canHaveUsernamePasswordPort u = true → setValid idna .port e [] u = ({ u with port := none }, true)) ∧
    setValid idna .search e [] u = (stripTrailingSpaces { u with query := none }, true) ∧
    setValid idna .hash e [] u = (stripTrailingSpaces { u with fragment := none }, true) :=
  ⟨fun h => (if_pos h).trans (if_pos rfl), rfl, rfl⟩

-- non-vacuity: a URL that can have credentials, and one that cannot
example : canHaveUsernamePasswordPort { scheme := sHttp, host := some ⟨.domain, [0x68]⟩ } = true := by
  decide +kernel
example : canHaveUsernamePasswordPort { scheme := sFile, host := some ⟨.domain, [0x68]⟩ } = false := by
  decide +kernel

#print axioms C03_invalid_inert
#print axioms C03_href_atomic
#print axioms C03_cannot_have
#print axioms C03_opaque_path
#print axioms C03_guard_agrees
#print axioms C03_username_password
#print axioms C03_empty_value
end Upa.Props
