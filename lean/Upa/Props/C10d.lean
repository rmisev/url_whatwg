import Upa.Proofs.Literal
import Upa.Proofs.BoundsEncodeLoops
import Upa.Props.C01
/-
  C10d — LAZY decoding in the percent-encode loops = EAGER decoding (property C10 at code level for the
  encoders).  The C++ loops `detail::append_utf8_percent_encoded` (url_percent_encode.h:475-496, =
  `upa::percent_encode`), `url_parser::do_path_segment` (url.h:2474-2497) and `url_parser::do_simple_path`
  (url.h:2499-2526; the same loop is in `host_parser::parse_opaque_host`) call `read_utf_char` once per
  non-ASCII position of the input while they encode.  The bounds-instrumented models of these loops
  (`Upa/Impl/BoundsMisc.lean`: `appendUtf8PercentEncodedM`, `pathSegmentEncM`, `simplePathM`, all
  instances of `encLoopM`) are shown to return, for EVERY character width and EVERY unit string
  (ill-formed ones included), what the list models of `Upa/Impl/Percent.lean` return on the eagerly decoded
  scalar values `Impl.decode e units` — in which every maximal ill-formed subsequence is U+FFFD
  (`C10_utf8_decoder`, `C10_utf16_decoder`).  So: the output depends on the input only through its decoded
  text ("results do not depend on the character encoding"), and ill-formed input is encoded as if each
  maximal ill-formed subsequence were U+FFFD.
  Lemmas: `Upa/Proofs/BoundsEncodeLoops.lean` (`encLoopM_spec` is the loop invariant).
-/
namespace Upa.Props
open Upa Upa.Impl.B

/-- `percent_encode` / `append_utf8_percent_encoded` with any no-encode set: lazy = eager -/
theorem C10_lazy_encode : ∀ (e : Enc) (noEnc : Nat → Bool) (a : Array Nat) (first last : Nat),
    first ≤ last → last ≤ a.size → UnitsOk e (slice a first last) →
    appendUtf8PercentEncodedM e noEnc a first last =
      .ok (Impl.percentEncode noEnc (Impl.decode e (slice a first last))) :=
  fun e n a f l h hl hu =>
    R.eq_ok_of_sat ((appendUtf8PercentEncodedM_spec e n a f l h hl).mp (unitsOk_uOk hu))
-- hypotheses satisfiable on ill-formed input (lone lead byte E2 82, lone surrogate); evaluated instances
example : UnitsOk .u8 (slice #[0x61, 0xE2, 0x82, 0x20, 0xC3, 0xA9] 0 6) := by
  show ∀ x ∈ slice #[0x61, 0xE2, 0x82, 0x20, 0xC3, 0xA9] 0 6, x < 256
  decide +kernel
example : appendUtf8PercentEncodedM .u8 Impl.componentNoEnc #[0x61, 0xE2, 0x82, 0x20, 0xC3, 0xA9] 0 6 =
    .ok (asciiStr "a%EF%BF%BD%20%C3%A9") := by decide_ascii
example : Impl.decode .u8 [0x61, 0xE2, 0x82, 0x20, 0xC3, 0xA9] = [0x61, 0xFFFD, 0x20, 0xE9] := by decide +kernel
example : appendUtf8PercentEncodedM .u16 Impl.componentNoEnc #[0x61, 0xD800, 0x20, 0xE9] 0 4 =
    .ok (asciiStr "a%EF%BF%BD%20%C3%A9") := by decide_ascii

/-- the same text in the three encodings gives the same output (corollary: only `decode e units` matters) -/
theorem C10_lazy_encode_indep : ∀ (e e' : Enc) (noEnc : Nat → Bool) (a a' : Array Nat) (first last first' last' : Nat),
    first ≤ last → last ≤ a.size → UnitsOk e (slice a first last) →
    first' ≤ last' → last' ≤ a'.size → UnitsOk e' (slice a' first' last') →
    Impl.decode e (slice a first last) = Impl.decode e' (slice a' first' last') →
    appendUtf8PercentEncodedM e noEnc a first last = appendUtf8PercentEncodedM e' noEnc a' first' last' := by
  intro e e' n a a' f l f' l' h hl hu h' hl' hu' hd
  rw [C10_lazy_encode e n a f l h hl hu, C10_lazy_encode e' n a' f' l' h' hl' hu', hd]

/-- `do_path_segment`: the encoded segment is `percentEncode pathNoEnc` of the decoded segment
    (`Impl.pathSegment` appends exactly this); the first component is the `success` flag of the C++ -/
theorem C10_lazy_path_segment : ∀ (e : Enc) (a : Array Nat) (first last : Nat),
    first ≤ last → last ≤ a.size → UnitsOk e (slice a first last) →
    ∃ ok, pathSegmentEncM e a first last =
      .ok (ok, Impl.percentEncode Impl.pathNoEnc (Impl.decode e (slice a first last))) := by
  intro e a f l h hl hu
  obtain ⟨⟨ok, out⟩, hv, hp⟩ := pathSegmentEncM_spec e a f l h hl
  exact ⟨ok, by rw [hv, ← hp (unitsOk_uOk hu)]⟩
example : pathSegmentEncM .u8 #[0x61, 0xE2, 0x82, 0x7B] 0 4 = .ok (false, asciiStr "a%EF%BF%BD%7B") := by decide_ascii
example : pathSegmentEncM .u32 #[0x61, 0x110000, 0x20AC] 0 3 = .ok (false, asciiStr "a%EF%BF%BD%E2%82%AC") := by decide_ascii

/-- `do_simple_path` (opaque path, `Impl.opaquePathState`) and the encode loop of `parse_opaque_host`
    (`Impl.parseOpaqueHost`): `percentEncodeC0` of the decoded input -/
theorem C10_lazy_simple_path : ∀ (e : Enc) (a : Array Nat) (first last : Nat),
    first ≤ last → last ≤ a.size → UnitsOk e (slice a first last) →
    ∃ ok, simplePathM e a first last = .ok (ok, Impl.percentEncodeC0 (Impl.decode e (slice a first last))) := by
  intro e a f l h hl hu
  obtain ⟨⟨ok, out⟩, hv, hp⟩ := simplePathM_spec e a f l h hl
  exact ⟨ok, by rw [hv, ← hp (unitsOk_uOk hu)]⟩
example : simplePathM .u16 #[0x7F, 0x1F, 0xDC00, 0x41] 0 4 = .ok (false, asciiStr "%7F%1F%EF%BF%BDA") := by decide_ascii

#print axioms C10_lazy_encode
#print axioms C10_lazy_encode_indep
#print axioms C10_lazy_path_segment
#print axioms C10_lazy_simple_path
#print axioms unitsOk_uOk
end Upa.Props
