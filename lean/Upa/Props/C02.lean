import Upa.Proofs.Reparse
import Upa.Proofs.Literal
/-
  C02 — serialising a URL and parsing the text again reproduces the URL, whatever the base
  (url::href() / url_serializer, include/upa/url.h; url_parser::url_parse, url.h:1675-2392;
  models: `Impl.serialize`, `Impl.parse` in Upa/Impl/Api.lean, the parser blocks in Upa/Impl/Url.lean).
  Helper lemmas: Upa/Proofs/Reparse.lean (namespace Upa.Proofs.C02), one lemma per parser block, in the
  order of the serialiser grammar.

  Character classes used below (defined in Upa/Proofs/Reparse.lean; `keeps` in Upa/Proofs/Percent.lean):
    schemeOk s        s non-empty, first a-z, rest a-z 0-9 + - .
    keeps noEnc c     c < 0x80 and c in the no-encode set `noEnc`; a string is a fixpoint of
                      `percentEncode noEnc` iff all its elements are kept (`C02_fixpoint_*` below)
    userinfoOk s      all elements kept by the userinfo encoder (so none of / : ; = @ [ \ ] ^ | ? # …)
    queryOk sp s      all elements kept by the (special-)query encoder (so no `#`, no space)
    fragmentOk s      all elements kept by the fragment encoder
    segOk sp seg      all elements kept by the path encoder, none is `/` (nor `\` when special), and the
                      segment is not a single- or double-dot segment (`.` `%2e` `..` `.%2E` …)
    driveOk path      the first segment is not `X|` with X a letter   (file URLs only)
    opaqueOk op noQF  all elements in 0x20..0x7E except `?` `#`; does not start with `/`; does not end
                      with a space when query and fragment are both null (`noQF`)
    hostTextOk sp file t
                      all elements in 0x21..0x7E except `/ ? # @` (and `\` when special); either no
                      `:` `[` `]` at all or `[` … `]` with no bracket inside; for file URLs not
                      "localhost" and not a two-element drive letter (`X:` `X|`)
    HostStable idna sp h
                      `parseHost idna h.text (!sp) = some h`, or `h = emptyHost` when the text is empty
    portOk scheme p   p < 65536 and p is not the scheme's default port
-/
namespace Upa.Props
open Upa Upa.Proofs.C02
-- `Impl/Canon.lean` (C08) has predicates of its own under these three names; `userinfoOk` there is another set
open Upa.Impl hiding schemeOk userinfoOk isLowerAlpha

/-- the stub IDNA used for the evaluated examples -/
def c02Stub : Idna := fun l => some (l.map toLower)

/-! ## the normal form -/

/-- What a URL record must satisfy for "serialise, parse again" to reproduce it.  Every conjunct is
    decidable (instance below).  Every URL the parser returns, with no base or a normal-form base and an `IdnaStable` IDNA function, satisfies it
    (`C02_parse_norm`, Props/C02b.lean);
    that the clauses are not superfluous is shown on instances at the end of the next section. -/
def Norm (idna : Idna) (u : Url) : Prop :=
  -- scheme: the scheme scan stops exactly at the serialiser's ':' and lower-casing is the identity
  schemeOk u.scheme = true ∧
  -- shape: which components may be present together
  --   opaque path ⇒ null host, empty path list, not special
  (u.hasOpaquePath = true → u.host = none ∧ u.path = [] ∧ u.isSpecial = false) ∧
  --   list path ⇒ empty opaque string
  (u.hasOpaquePath = false → u.opaquePath = []) ∧
  --   special ⇒ host non-null, path non-empty
  (u.isSpecial = true → u.host ≠ none ∧ u.path ≠ []) ∧
  --   special, not file ⇒ host non-empty
  (u.isSpecial = true → u.isFile = false → u.hostText ≠ []) ∧
  --   file, or null / empty host ⇒ no credentials, no port
  (u.isFile = true ∨ u.hostText = [] → u.username = [] ∧ u.password = [] ∧ u.port = none) ∧
  --   not special, null host, list path ⇒ path non-empty   ("a:" re-parses with an opaque path)
  (u.isSpecial = false → u.host = none → u.hasOpaquePath = false → u.path ≠ []) ∧
  -- credentials: fixpoints of the userinfo encoder
  userinfoOk u.username = true ∧ userinfoOk u.password = true ∧
  -- host: no delimiter the authority / host scans stop at, and the host parser reproduces it
  (∀ h ∈ u.host, hostTextOk u.isSpecial u.isFile h.text = true ∧ HostStable idna u.isSpecial h) ∧
  -- port
  portOk u.scheme u.port = true ∧
  -- list path
  (∀ seg ∈ u.path, segOk u.isSpecial seg = true) ∧
  (u.isFile = true → driveOk u.path = true) ∧
  -- opaque path
  (u.hasOpaquePath = true → opaqueOk u.opaquePath (u.query.isNone && u.fragment.isNone) = true) ∧
  -- query, fragment: fixpoints of their encoders
  (∀ q ∈ u.query, queryOk u.isSpecial q = true) ∧
  (∀ f ∈ u.fragment, fragmentOk f = true)

instance (idna : Idna) (u : Url) : Decidable (Norm idna u) := by unfold Norm; infer_instance

theorem Norm.toNormP {idna : Idna} {u : Url} (h : Norm idna u) : NormP idna u := by
  obtain ⟨h1, h2, h3, h4, h5, h6, h7, h8, h9, h10, h11, h12, h13, h14, h15, h16⟩ := h
  refine ⟨h1, ⟨h2, h3, h4, h5, h6, h7⟩, h8, h9, fun h hh => h10 h hh, h11, h12, h13, h14, ?_, ?_⟩
  · cases hq : u.query with
    | none => rfl
    | some q => exact h15 q hq
  · cases hf : u.fragment with
    | none => rfl
    | some f => exact h16 f hf

/-- the `keeps`-formulations in `Norm` say "is a fixpoint of the encoder the parser applies" -/
theorem C02_fixpoint_userinfo : ∀ s : List Nat,
    userinfoOk s = true ↔ percentEncode userinfoNoEnc s = s := fun s => by
  rw [percentEncode_fix_iff]; simp [userinfoOk]
theorem C02_fixpoint_fragment : ∀ s : List Nat,
    fragmentOk s = true ↔ percentEncode fragmentNoEnc s = s := fun s => by
  rw [percentEncode_fix_iff]; simp [fragmentOk]
theorem C02_fixpoint_query : ∀ (sp : Bool) (s : List Nat),
    queryOk sp s = true ↔ percentEncode (if sp then specialQueryNoEnc else queryNoEnc) s = s :=
  fun sp s => by
    rw [percentEncode_fix_iff]; simp [queryOk]
theorem C02_fixpoint_segment : ∀ (sp : Bool) (seg : List Nat),
    segOk sp seg = true ↔
      (percentEncode pathNoEnc seg = seg ∧ (∀ c ∈ seg, c ≠ 0x2F ∧ (sp = true → c ≠ 0x5C)) ∧
       singleDot seg = false ∧ doubleDot seg = false) := fun sp seg => by
  rw [percentEncode_fix_iff]
  simp only [segOk, segCharOk, Bool.and_eq_true, List.all_eq_true, bne_iff_ne, ne_eq, Bool.not_eq_true',
    Bool.and_eq_false_iff, beq_eq_false_iff_ne]
  constructor
  · rintro ⟨⟨h1, h2⟩, h3⟩
    refine ⟨fun c hc => (h1 c hc).1.1, fun c hc => ⟨(h1 c hc).1.2, fun hs => ?_⟩, h2, h3⟩
    rcases (h1 c hc).2 with h | h
    · simp [hs] at h
    · exact h
  · rintro ⟨h1, h2, h3, h4⟩
    refine ⟨⟨fun c hc => ⟨⟨h1 c hc, (h2 c hc).1⟩, ?_⟩, h3⟩, h4⟩
    cases sp with
    | false => exact Or.inl rfl
    | true => exact Or.inr ((h2 c hc).2 rfl)
theorem C02_fixpoint_opaque : ∀ s : List Nat,
    (∀ c ∈ s, 0x1F < c ∧ c < 0x7F) ↔ percentEncodeC0 s = s := fun s => (percentEncodeC0_fix_iff s).symm

/-! ### concrete records for the non-vacuity examples -/

/-- https://user:pw@example.org:8080/a/b?q=1#frag -/
def c02Full : Url :=
  { scheme := asciiStr "https", username := asciiStr "user", password := asciiStr "pw",
    host := some ⟨.domain, asciiStr "example.org"⟩, port := some 8080,
    path := [asciiStr "a", asciiStr "b"], query := some (asciiStr "q=1"),
    fragment := some (asciiStr "frag") }
/-- ws://:pw@[1:2::3]/ — empty username, IPv6 host, no port -/
def c02Ip6 : Url :=
  { scheme := asciiStr "ws", password := asciiStr "pw", host := some ⟨.ipv6, asciiStr "[1:2::3]"⟩,
    path := [[]] }
/-- file:///C:/x%2Fy/ — empty host, normalised drive letter -/
def c02File : Url :=
  { scheme := asciiStr "file", host := some emptyHost, path := [asciiStr "C:", asciiStr "x%2Fy", []] }
/-- file://srv/share?q -/
def c02FileHost : Url :=
  { scheme := asciiStr "file", host := some ⟨.domain, asciiStr "srv"⟩, path := [asciiStr "share"],
    query := some (asciiStr "q") }
/-- mailto:x@y z ? — opaque path with an inner and a trailing space, protected by the empty query -/
def c02Opaque : Url :=
  { scheme := asciiStr "mailto", hasOpaquePath := true, opaquePath := asciiStr "x@y z ", query := some [] }
/-- a:/.//x — null host, path ["", "x"]: the serialiser's `/.` guard -/
def c02Guard : Url := { scheme := asciiStr "a", path := [[], asciiStr "x"] }
/-- git://u@H%41:0?#  — opaque host (case kept), user only, port 0, path [], empty query and fragment -/
def c02Opq : Url :=
  { scheme := asciiStr "git", username := asciiStr "u", host := some ⟨.opaque, asciiStr "H%41"⟩,
    port := some 0, query := some [], fragment := some [] }
/-- a:///p\q — empty host, backslash kept in a non-special path -/
def c02Empty : Url := { scheme := asciiStr "a", host := some emptyHost, path := [asciiStr "p\\q"] }

-- bases used in the evaluated instances
def c02BaseHttps : Url :=
  { scheme := asciiStr "https", host := some ⟨.domain, asciiStr "b"⟩, path := [asciiStr "p", asciiStr "q"],
    query := some (asciiStr "r") }
def c02BaseFile : Url :=
  { scheme := asciiStr "file", host := some emptyHost, path := [asciiStr "D:", asciiStr "d"] }
def c02BaseOpaque : Url := { scheme := asciiStr "a", hasOpaquePath := true, opaquePath := asciiStr "zz" }

/-! ## serialise, parse again -/

/-- **C02**: a URL record in normal form is reproduced by serialising it and parsing the text again, whatever the
    base (the hypothesis on `base` holds of every `Option Url`) -/
theorem C02_reparse : ∀ (idna : Idna) (u : Url), Norm idna u →
    ∀ base : Option Url, (base = none ∨ ∃ b, base = some b) →
      Impl.parse idna .u8 (Impl.serialize u) base = some u :=
  fun idna u h base _ => reparse idna u h.toNormP base

-- the hypothesis is satisfiable on every URL shape
example : Norm c02Stub c02Full := by unfold c02Full; decide_ascii
example : Norm c02Stub c02Ip6 := by unfold c02Ip6; decide_ascii
example : Norm c02Stub c02File := by unfold c02File; decide_ascii
example : Norm c02Stub c02FileHost := by unfold c02FileHost; decide_ascii
example : Norm c02Stub c02Opaque := by unfold c02Opaque; decide_ascii
example : Norm c02Stub c02Guard := by unfold c02Guard; decide_ascii
example : Norm c02Stub c02Opq := by unfold c02Opq; decide_ascii
example : Norm c02Stub c02Empty := by unfold c02Empty; decide_ascii
-- what is serialised
example : serialize c02Full = asciiStr "https://user:pw@example.org:8080/a/b?q=1#frag" ∧
    serialize c02Ip6 = asciiStr "ws://:pw@[1:2::3]/" ∧
    serialize c02File = asciiStr "file:///C:/x%2Fy/" ∧
    serialize c02FileHost = asciiStr "file://srv/share?q" ∧
    serialize c02Opaque = asciiStr "mailto:x@y z ?" ∧
    serialize c02Guard = asciiStr "a:/.//x" ∧
    serialize c02Opq = asciiStr "git://u@H%41:0?#" ∧
    serialize c02Empty = asciiStr "a:///p\\q" := by
  unfold c02Full c02Ip6 c02FileHost c02File c02Opaque c02Guard c02Opq c02Empty
  and_intros <;> decide_ascii
-- evaluated instances (kernel evaluation of the parser model, independent of the proof), with no base,
-- a same-scheme special base, a file base and an opaque-path base
example : parse c02Stub .u8 (serialize c02Full) none = some c02Full ∧
    parse c02Stub .u8 (serialize c02Full) (some c02BaseHttps) = some c02Full ∧
    parse c02Stub .u8 (serialize c02Full) (some c02BaseFile) = some c02Full ∧
    parse c02Stub .u8 (serialize c02Full) (some c02BaseOpaque) = some c02Full := by decide +kernel
example : parse c02Stub .u8 (serialize c02File) none = some c02File ∧
    parse c02Stub .u8 (serialize c02File) (some c02BaseFile) = some c02File ∧
    parse c02Stub .u8 (serialize c02FileHost) (some c02BaseFile) = some c02FileHost ∧
    parse c02Stub .u8 (serialize c02Ip6) (some c02BaseHttps) = some c02Ip6 := by decide +kernel
example : parse c02Stub .u8 (serialize c02Opaque) (some c02BaseOpaque) = some c02Opaque ∧
    parse c02Stub .u8 (serialize c02Guard) (some c02BaseOpaque) = some c02Guard ∧
    parse c02Stub .u8 (serialize c02Opq) (some c02BaseHttps) = some c02Opq ∧
    parse c02Stub .u8 (serialize c02Empty) (some c02BaseFile) = some c02Empty := by decide +kernel
-- an instance of the theorem
example : parse c02Stub .u8 (serialize c02Guard) (some c02BaseFile) = some c02Guard :=
  C02_reparse c02Stub c02Guard (by decide +kernel) _ (Or.inr ⟨_, rfl⟩)

/-- the base plays no role -/
theorem C02_base_irrelevant : ∀ (idna : Idna) (u : Url), Norm idna u → ∀ b : Url,
    Impl.parse idna .u8 (Impl.serialize u) (some b) = Impl.parse idna .u8 (Impl.serialize u) none :=
  fun idna u h b => by
    rw [C02_reparse idna u h (some b) (Or.inr ⟨b, rfl⟩), C02_reparse idna u h none (Or.inl rfl)]

/-- serialising is stable: the re-parsed URL serialises to the same text -/
theorem C02_serialize_stable : ∀ (idna : Idna) (u : Url), Norm idna u → ∀ base : Option Url,
    (Impl.parse idna .u8 (Impl.serialize u) base).map (fun v => Impl.serialize v) =
      some (Impl.serialize u) :=
  fun idna u h base => by
    rw [C02_reparse idna u h base (by cases base <;> simp)]; rfl

example : (parse c02Stub .u8 (serialize c02Opq) (some c02BaseHttps)).map (fun v => serialize v) =
    some (asciiStr "git://u@H%41:0?#") := by decide +kernel

/-! ### the clauses of `Norm` are not superfluous: records violating one clause are not reproduced -/

-- upper-case scheme
example : ¬ Norm c02Stub { c02Guard with scheme := asciiStr "A" } ∧
    parse c02Stub .u8 (serialize { c02Guard with scheme := asciiStr "A" }) none = some c02Guard := by
  unfold c02Guard; decide_ascii
-- not special, null host, empty list path: "a:" re-parses with an (empty) opaque path
example : ¬ Norm c02Stub { scheme := asciiStr "a" } ∧
    parse c02Stub .u8 (serialize { scheme := asciiStr "a" }) none =
      some { scheme := asciiStr "a", hasOpaquePath := true } := by decide_ascii
-- special with an empty path list: "https://h" re-parses with the path [""]
example : ¬ Norm c02Stub { scheme := asciiStr "https", host := some ⟨.domain, asciiStr "h"⟩ } ∧
    parse c02Stub .u8 (serialize { scheme := asciiStr "https", host := some ⟨.domain, asciiStr "h"⟩ }) none =
      some { scheme := asciiStr "https", host := some ⟨.domain, asciiStr "h"⟩, path := [[]] } := by
  decide_ascii
-- opaque path ending in a space with null query and fragment: `doTrim` strips it (the setters do too:
-- `Impl.stripTrailingSpaces`); with an empty fragment it is kept
example : ¬ Norm c02Stub { c02Opaque with query := none } ∧
    parse c02Stub .u8 (serialize { c02Opaque with query := none }) none =
      some { c02Opaque with query := none, opaquePath := asciiStr "x@y z" } ∧
    Norm c02Stub { c02Opaque with query := none, fragment := some [] } := by unfold c02Opaque; decide_ascii
-- opaque path starting with '/': re-read as a list path
example : ¬ Norm c02Stub { c02Opaque with opaquePath := asciiStr "/x" } ∧
    parse c02Stub .u8 (serialize { c02Opaque with opaquePath := asciiStr "/x" }) none =
      some { scheme := asciiStr "mailto", path := [asciiStr "x"], query := some [] } := by unfold c02Opaque; decide_ascii
-- default port
example : ¬ Norm c02Stub { c02Full with port := some 443 } ∧
    parse c02Stub .u8 (serialize { c02Full with port := some 443 }) none =
      some { c02Full with port := none } := by unfold c02Full; decide_ascii
-- a dot segment, a segment that is not a fixpoint of the path encoder, an upper-case domain
example : ¬ Norm c02Stub { c02Full with path := [asciiStr "a", asciiStr "%2E."] } ∧
    parse c02Stub .u8 (serialize { c02Full with path := [asciiStr "a", asciiStr "%2E."] }) none =
      some { c02Full with path := [[]] } := by unfold c02Full; decide_ascii
example : ¬ Norm c02Stub { c02Full with path := [asciiStr "a b"] } ∧
    parse c02Stub .u8 (serialize { c02Full with path := [asciiStr "a b"] }) none =
      some { c02Full with path := [asciiStr "a%20b"] } := by unfold c02Full; decide_ascii
example : ¬ Norm c02Stub { c02Full with host := some ⟨.domain, asciiStr "Example.org"⟩ } ∧
    parse c02Stub .u8 (serialize { c02Full with host := some ⟨.domain, asciiStr "Example.org"⟩ }) none =
      some c02Full := by unfold c02Full; decide_ascii
-- a host kind that the host parser does not give to this text (1.2.3.4 is an IPv4 address)
example : ¬ Norm c02Stub { c02Full with host := some ⟨.domain, asciiStr "1.2.3.4"⟩ } ∧
    parse c02Stub .u8 (serialize { c02Full with host := some ⟨.domain, asciiStr "1.2.3.4"⟩ }) none =
      some { c02Full with host := some ⟨.ipv4, asciiStr "1.2.3.4"⟩ } := by decide +kernel

/-! ## the port component -/

/-- the decimal form of a port is digits only, has no leading zero to strip, at most 5 digits, and
    re-parses to the port -/
theorem C02_port_roundtrip : ∀ p : Nat, p < 65536 →
    (∀ c ∈ toDecimal p, isDigit c = true) ∧ toDecimal p ≠ [] ∧
    stripLeadingZeros (toDecimal p) = toDecimal p ∧ (toDecimal p).length ≤ 5 ∧
    decimalValue (stripLeadingZeros (toDecimal p)) = p :=
  fun p hp => port_roundtrip p hp

example : toDecimal 8080 = asciiStr "8080" ∧ decimalValue (stripLeadingZeros (asciiStr "8080")) = 8080 ∧
    toDecimal 0 = asciiStr "0" ∧ toDecimal 65535 = asciiStr "65535" := by decide +kernel

/-! ## the Standard-made exception for file URLs -/

/-- file://localhost/x : host "localhost" in a file URL (reachable only through the protocol setter) -/
def c02Localhost : Url :=
  { scheme := asciiStr "file", host := some ⟨.domain, asciiStr "localhost"⟩, path := [asciiStr "x"] }
/-- file://h/C|/x : first segment an un-normalised drive letter (reachable only through the protocol setter) -/
def c02DriveBar : Url :=
  { scheme := asciiStr "file", host := some ⟨.domain, asciiStr "h"⟩, path := [asciiStr "C|", asciiStr "x"] }

/-- Two kinds of file URL records are changed by "serialise, parse again": the host `localhost`
    re-parses as the empty host, a first segment `X|` re-parses as `X:`.  Both records are produced
    by the protocol setter from http URLs; `Norm` fails on them, holds on their re-parsed forms, and
    the two file-only clauses of `Norm` exclude exactly these texts. -/
theorem C02_file_exception :
    -- how they arise: http://localhost/x and http://h/C|/x with protocol := "file"
    (Impl.parse c02Stub .u8 (asciiStr "http://localhost/x") none).map
        (fun u => setValid c02Stub .protocol .u8 (asciiStr "file") u) = some (c02Localhost, true) ∧
    (Impl.parse c02Stub .u8 (asciiStr "http://h/C|/x") none).map
        (fun u => setValid c02Stub .protocol .u8 (asciiStr "file") u) = some (c02DriveBar, true) ∧
    -- their serialisations and what these re-parse to
    Impl.serialize c02Localhost = asciiStr "file://localhost/x" ∧
    Impl.parse c02Stub .u8 (Impl.serialize c02Localhost) none =
      some { c02Localhost with host := some emptyHost } ∧
    Impl.serialize c02DriveBar = asciiStr "file://h/C|/x" ∧
    Impl.parse c02Stub .u8 (Impl.serialize c02DriveBar) none =
      some { c02DriveBar with path := [asciiStr "C:", asciiStr "x"] } ∧
    -- `Norm` excludes the two records and accepts the re-parsed ones
    ¬ Norm c02Stub c02Localhost ∧ ¬ Norm c02Stub c02DriveBar ∧
    Norm c02Stub { c02Localhost with host := some emptyHost } ∧
    Norm c02Stub { c02DriveBar with path := [asciiStr "C:", asciiStr "x"] } ∧
    -- the same texts are fine outside file URLs
    Norm c02Stub { c02Localhost with scheme := asciiStr "http" } ∧
    Norm c02Stub { c02DriveBar with scheme := asciiStr "http" } ∧
    -- what the two file-only clauses exclude, exactly
    (∀ t : List Nat, hostFileOk t = false ↔
      (t = asciiStr "localhost" ∨ ∃ a b, t = [a, b] ∧ isAlpha a = true ∧ (b = 0x3A ∨ b = 0x7C))) ∧
    (∀ path : List (List Nat), driveOk path = false ↔
      ∃ a rest, path = [a, 0x7C] :: rest ∧ isAlpha a = true) := by
  refine ⟨by unfold c02Localhost; decide_ascii, by unfold c02DriveBar; decide_ascii,
    by unfold c02Localhost; decide_ascii, by unfold c02Localhost; decide_ascii,
    by unfold c02DriveBar; decide_ascii, by unfold c02DriveBar; decide_ascii,
    by unfold c02Localhost; decide_ascii, by unfold c02DriveBar; decide_ascii,
    by unfold c02Localhost; decide_ascii, by unfold c02DriveBar; decide_ascii,
    by unfold c02Localhost; decide_ascii, by unfold c02DriveBar; decide_ascii,
    hostFileOk_false_iff, driveOk_false_iff⟩

end Upa.Props

#print axioms Upa.Props.C02_reparse
#print axioms Upa.Props.C02_base_irrelevant
#print axioms Upa.Props.C02_serialize_stable
#print axioms Upa.Props.C02_port_roundtrip
#print axioms Upa.Props.C02_file_exception
#print axioms Upa.Props.C02_fixpoint_userinfo
#print axioms Upa.Props.C02_fixpoint_fragment
#print axioms Upa.Props.C02_fixpoint_query
#print axioms Upa.Props.C02_fixpoint_segment
#print axioms Upa.Props.C02_fixpoint_opaque
