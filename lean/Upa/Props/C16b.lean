import Upa.Impl.RemoveIf
import Upa.Proofs.Params
import Upa.Proofs.EvalFuel
/-
  C16b — `remove_if` with an arbitrary user predicate, `remove(name)`, `remove(name, value)`
  (include/upa/url_search_params.h:566-596).  Model: Impl/RemoveIf.lean.
-/
namespace Upa.Props
open Upa Upa.Impl Upa.Proofs.C16

/-- the list afterwards is the Standard's "remove all items matching": exactly the pairs that fail the
    predicate, in their old order (a sublist of the old list), and none of them satisfies it -/
theorem C16b_removeIf_list (p : Params) (pred : BPair → Bool) :
    (p.removeIf pred).params.list = p.list.filter (fun x => !pred x) ∧
    (p.removeIf pred).params.list.Sublist p.list ∧
    (∀ x ∈ (p.removeIf pred).params.list, pred x = false) ∧
    (∀ x ∈ p.list, pred x = false → x ∈ (p.removeIf pred).params.list) := by
  refine ⟨rfl, List.filter_sublist, ?_, ?_⟩
  · intro x hx
    simp only [Params.removeIf, List.mem_filter] at hx
    simpa using hx.2
  · intro x hx hp
    simp only [Params.removeIf, List.mem_filter]
    exact ⟨hx, by simp [hp]⟩

theorem filter_not_length (l : List BPair) (pred : BPair → Bool) :
    (l.filter (fun x => !pred x)).length + l.countP pred = l.length := by
  induction l with
  | nil => rfl
  | cons a t ih =>
    cases h : pred a <;> simp [h] <;> omega

/-- the returned number is the number of pairs satisfying the predicate (what the C++20 branch,
    `std::list::remove_if` returning the count, yields), and sizes add up -/
theorem C16b_removeIf_count (p : Params) (pred : BPair → Bool) :
    (p.removeIf pred).count = p.list.countP pred ∧
    (p.removeIf pred).params.list.length + (p.removeIf pred).count = p.list.length := by
  have h := filter_not_length p.list pred
  simp only [Params.removeIf]
  omega

/-- `if (count) update()`: the write-back is skipped exactly when nothing matched, and then the list is
    unchanged — so skipping it keeps url and list in step (C06) -/
theorem C16b_removeIf_update (p : Params) (pred : BPair → Bool) :
    ((p.removeIf pred).updated = false ↔ ∀ x ∈ p.list, pred x = false) ∧
    ((p.removeIf pred).updated = false → (p.removeIf pred).params = p) := by
  have hc := (C16b_removeIf_count p pred).1
  have hz : (p.removeIf pred).updated = false ↔ (p.removeIf pred).count = 0 := by
    simp [Params.removeIf]
  have hall : (p.removeIf pred).count = 0 ↔ ∀ x ∈ p.list, pred x = false := by
    rw [hc, List.countP_eq_zero]; simp
  refine ⟨hz.trans hall, ?_⟩
  intro hu
  have hf := hall.1 (hz.1 hu)
  have : p.list.filter (fun x => !pred x) = p.list := by
    rw [List.filter_eq_self]; intro x hx; simp [hf x hx]
  simp [Params.removeIf, this]

/-- the object model of the owning url (`Impl.UrlObj.spApply f false`, the rendering of `remove` /
    `remove2` on an owned list) writes back exactly when the length changed: that is this model's
    `updated` flag, i.e. the C++ `if (count) update()` -/
theorem C16b_update_iff_length (p : Params) (pred : BPair → Bool) :
    (p.removeIf pred).updated = true ↔ (p.removeIf pred).params.list.length ≠ p.list.length := by
  have h := (C16b_removeIf_count p pred).2
  have hz : (p.removeIf pred).updated = true ↔ (p.removeIf pred).count ≠ 0 := by
    simp [Params.removeIf]
  rw [hz]; omega

/-- `remove(name)` / `remove(name, value)` are `del` with a result -/
theorem C16b_remove (p : Params) (n v : List Nat) :
    (p.remove n).params = p.del n ∧ (p.remove2 n v).params = p.del2 n v ∧
    (p.remove n).params.list = Spec.spDelete p.list n ∧
    (p.remove2 n v).params.list = Spec.spDelete2 p.list n v ∧
    (p.remove n).count = p.list.length - (Spec.spDelete p.list n).length ∧
    (p.remove2 n v).count = p.list.length - (Spec.spDelete2 p.list n v).length := by
  refine ⟨?_, ?_, ?_, ?_, ?_, ?_⟩ <;>
    simp [Params.remove, Params.remove2, Params.removeIf, Params.del, Params.del2,
      Spec.spDelete, Spec.spDelete2]

/-- the `is_sorted_` cache stays sound: the flag is not touched and a sublist of a sorted list is sorted -/
theorem C16b_removeIf_flag (p : Params) (pred : BPair → Bool)
    (h : p.isSorted = true → Sorted p.list) :
    (p.removeIf pred).params.isSorted = p.isSorted ∧
    ((p.removeIf pred).params.isSorted = true → Sorted (p.removeIf pred).params.list) := by
  refine ⟨rfl, fun hs => ?_⟩
  exact List.Pairwise.sublist List.filter_sublist (h hs)

/-! histories that mix the operations of C16 with `remove_if` calls carrying arbitrary predicates -/

inductive Ops2 where
  | base (o : Ops)
  | removeIf (pred : BPair → Bool)

def step2 (p : Params) : Ops2 → Params
  | .base o => step p o
  | .removeIf pred => (p.removeIf pred).params

def run2 (p : Params) (ops : List Ops2) : Params := ops.foldl step2 p

theorem C16b_flag_inv (p : Params) (ops : List Ops2) (h : p.isSorted = true → Sorted p.list) :
    (run2 p ops).isSorted = true → Sorted (run2 p ops).list := by
  induction ops generalizing p with
  | nil => exact h
  | cons o os ih =>
    apply ih (step2 p o)
    cases o with
    | base o => exact step_inv p o h
    | removeIf pred => exact (C16b_removeIf_flag p pred h).2

/-- hence `sort` after any such history yields the stable sort of the list at that point -/
theorem C16b_sort_after (p : Params) (ops : List Ops2) (h : p.isSorted = true → Sorted p.list) :
    (run2 p ops).sort.list = (run2 p ops).list.mergeSort nameLe ∧ (run2 p ops).sort.isSorted = true :=
  ⟨sort_list_eq _ (C16b_flag_inv p ops h), sort_flag _⟩

-- non-vacuity: a predicate on the VALUE (not expressible as del / del2) removes two of three pairs
example : ({ list := [([1], [10]), ([2], [20]), ([3], [11])], isSorted := true } : Params).removeIf
      (fun x => x.2.head? != some 20) =
    { params := { list := [([2], [20])], isSorted := true }, count := 2, updated := true } := by decide
-- nothing matches: no update, object unchanged
example : ({ list := [([1], [10])], isSorted := true } : Params).removeIf (fun x => x.1 == [9]) =
    { params := { list := [([1], [10])], isSorted := true }, count := 0, updated := false } := by decide
example : (({} : Params).isSorted = true → Sorted ({} : Params).list) := by intro h; cases h
example : (run2 {} [.base (.append [0x62] []), .base (.append [0x61] []), .base .sort,
    .removeIf (fun x => x.1 == [0x62])]) = { list := [([0x61], [])], isSorted := true } := by
  simp only [run2, List.foldl, step2, step, ← Proofs.ObjRep.sortK_eq]; decide +kernel

end Upa.Props
