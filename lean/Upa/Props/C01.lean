import Upa.Impl.Api
import Upa.Spec.Api
import Upa.Props.C10
import Upa.Props.C11
import Upa.Props.C12
import Upa.Props.C14
import Upa.Proofs.AsciiHom
/-
  C01 — URL parsing conforms to the WHATWG URL Standard, with and without a base.
  The statement as a whole,
    ∀ idna e units base, IdnaOk idna → UnitsOk e units → Impl.parse idna e units base = Spec.apiParse idna e units base
  where `Impl.parse` is the code-shaped block parser and `Spec.apiParse` the Standard's state machine, is
  `C01_parse_conforms` in Props/C01b.lean.  This file holds the leaf pieces it is assembled from.
-/
namespace Upa.Props
open Upa

/-- code units are in the range of their character type -/
def UnitsOk : Enc → List Nat → Prop
  | .u8, l => ∀ x ∈ l, x < 256
  | .u16, l => ∀ x ∈ l, x < 65536
  | .u32, _ => True

/-- `UnitsOk` of a given input: the range test on its units (one `decide` for a literal) -/
theorem UnitsOk.u8 {l : List Nat} (h : ∀ x ∈ l, x < 256) : UnitsOk .u8 l := h
theorem UnitsOk.u16 {l : List Nat} (h : ∀ x ∈ l, x < 65536) : UnitsOk .u16 l := h

theorem unitsOk_filter {e : Enc} {l : List Nat} (p : Nat → Bool) (h : UnitsOk e l) : UnitsOk e (l.filter p) :=
  Upa.Proofs.C10b.UOk.subset h fun _ hx => (List.mem_filter.1 hx).1

/-- the lemma modules below this file spell the same predicate `C10b.UOk`: the two are equal by definition -/
theorem unitsOk_uOk {e : Enc} {l : List Nat} (h : UnitsOk e l) : Upa.Proofs.C10b.UOk e l := h

/-- the library's lazy ICU-style decoders are the Standard's conversions, in every encoding -/
theorem decode_eq (e : Enc) (units : List Nat) (h : UnitsOk e units) :
    Impl.decode e units = Spec.decode e units := by
  cases e with
  | u8 => exact C10_utf8_decoder _ h
  | u16 => exact C10_utf16_decoder _ h
  | u32 => exact C10_utf32_decoder _

/-- both parsers work on the same scalar value string: the library's lazy ICU-style decoding equals
    the Standard's conversion (after the removal of ASCII tab and newline code units) -/
theorem C01_input_conversion (e : Enc) (units : List Nat) (h : UnitsOk e units) :
    Impl.prep e units = Spec.parserInput e units :=
  decode_eq e _ (unitsOk_filter (fun c => !Impl.isRemovable c) h)

/-- hosts: the IPv4 and IPv6 branches of the host parser are the Standard's -/
theorem C01_ip_hosts : (∀ s, Impl.ipv4Parse s = Spec.ipv4Parse s) ∧ (∀ s, Impl.ipv6Parse s = Spec.ipv6Parse s) ∧
    (∀ s, Impl.endsInNumber s = Spec.endsInANumber s) := ⟨C11_parse, C12_parse, C11_ends_in_number⟩

/-- every component encoder of the parser is the Standard's UTF-8 percent-encode with that
    component's percent-encode set -/
theorem C01_component_encoders (s : List Nat) (hs : ∀ c ∈ s, Spec.isScalar c = true) :
    Impl.percentEncode Impl.fragmentNoEnc s = Spec.utf8PercentEncode Spec.fragmentSet s ∧
    Impl.percentEncode Impl.queryNoEnc s = Spec.utf8PercentEncode Spec.querySet s ∧
    Impl.percentEncode Impl.specialQueryNoEnc s = Spec.utf8PercentEncode Spec.specialQuerySet s ∧
    Impl.percentEncode Impl.pathNoEnc s = Spec.utf8PercentEncode Spec.pathSet s ∧
    Impl.percentEncode Impl.userinfoNoEnc s = Spec.utf8PercentEncode Spec.userinfoSet s ∧
    Impl.percentEncodeC0 s = Spec.utf8PercentEncode Spec.c0ControlSet s := by
  have hi : ∀ c, c ≥ 0x80 → Spec.c0ControlSet c = true := by
    intro c hc; simp [Spec.c0ControlSet]; omega
  refine ⟨?_, ?_, ?_, ?_, ?_, C14_encode_c0 s hs⟩ <;>
    (apply C14_encode _ s hs; intro c hc;
     simp [Spec.fragmentSet, Spec.querySet, Spec.specialQuerySet, Spec.pathSet, Spec.userinfoSet, hi c hc])

example : UnitsOk .u8 [0x68, 0xC3, 0xA9] := .u8 (by decide)

#print axioms C01_input_conversion
#print axioms C01_ip_hosts
#print axioms C01_component_encoders
end Upa.Props
