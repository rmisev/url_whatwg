import Upa.Proofs.LockstepEval
import Upa.Proofs.Literal
import Upa.Proofs.EvalFuel
/-
  C06 — a `upa::url` and the `url_search_params` object it owns stay in lock-step across all histories
  (include/upa/url.h: do_parse 1419-1471, safe_assign 1109-1128, search setter 1622-1646;
   include/upa/url_search_params-inl.h: update 25-40; model: Upa/Impl/Api.lean `UrlObj`).

  Defined in `Upa/Proofs/Lockstep.lean` (namespace `Upa.Proofs.C06`), restated below by `Iff.rfl`/`rfl`:
    WFB b      := Impl.checkFixUtf8 b = b ∧ ∀ x ∈ b, x < 256        a well-formed UTF-8 byte string
    WFP x      := WFB x.1 ∧ WFB x.2                                  (a stored name/value pair)
    AllWFP l   := ∀ x ∈ l, WFP x
    Lock o     := ∀ u p, o.url = some u → o.sp = some p →
                    p.list = Impl.formParse false (Impl.queryBytes (some u))
    QBytes u   := ∀ x ∈ Impl.queryBytes u, x < 256
    LockS o    := Lock o ∧ QBytes o.url ∧ ∀ p, o.sp = some p → AllWFP p.list   (the inductive invariant)
    Op, Op.WF, step, run := foldl step                               (operations on ONE object)
    stubIdna   := fun l => some (l.map toLower)                      (IDNA stub of the examples)

  Byte strings in the examples are written with `asciiStr "…"`; the kernel evaluates them
  (`decide_ascii`, Upa/Proofs/Literal.lean), and the histories on the fuel-driven interpreter `runK`
  (`runK_eq : runK = run`, Upa/Proofs/LockstepEval.lean).
-/
namespace Upa.Props
open Upa Upa.Proofs.C06
-- `Impl.Op` (the two-object operations of C05g) comes in with the evaluator
open Upa.Impl hiding Op Op.parse Op.set Op.searchParams Op.clear Op.WF

/-! ## 0. the definitions, spelled out -/

theorem C06_WFB_def (b : List Nat) : WFB b ↔ (Impl.checkFixUtf8 b = b ∧ ∀ x ∈ b, x < 256) := Iff.rfl

/-- the other reading of `WFB`: the UTF-8 encoding of a string of scalar values -/
theorem C06_WFB_scalar (b : List Nat) :
    WFB b ↔ ∃ s : List Nat, (∀ c ∈ s, Spec.isScalar c = true) ∧ b = Spec.utf8Encode s := by
  constructor
  · rintro ⟨h1, h2⟩
    refine ⟨decode .u8 b, decode_u8_scalar b h2, ?_⟩
    rw [← encodeUtf8_eq _ (decode_u8_scalar b h2)]
    exact h1.symm
  · rintro ⟨s, hs, rfl⟩
    exact ⟨checkFix_wf s hs, utf8Encode_lt s hs⟩

/-- what `do_parse` stores is well-formed: names and values are `check_fix_utf8` results -/
theorem C06_parse_wf : ∀ (remQmark : Bool) (bytes : List Nat), (∀ x ∈ bytes, x < 256) →
    ∀ x ∈ Impl.formParse remQmark bytes, WFB x.1 ∧ WFB x.2 :=
  formParse_wfp'

theorem C06_Lock_def (o : UrlObj) :
    Lock o ↔ ∀ u p, o.url = some u → o.sp = some p →
      p.list = Impl.formParse false (Impl.queryBytes (some u)) := Iff.rfl

theorem C06_LockS_def (o : UrlObj) :
    LockS o ↔ (Lock o ∧ (∀ x ∈ Impl.queryBytes o.url, x < 256) ∧
      ∀ p, o.sp = some p → ∀ x ∈ p.list, WFB x.1 ∧ WFB x.2) :=
  ⟨fun h => ⟨h.lock, h.qbytes, h.wf⟩, fun h => ⟨h.1, h.2.1, h.2.2⟩⟩

/-- `step`: which model function each operation runs -/
theorem C06_step_def (idna : Idna) (o : UrlObj) :
    (∀ e units base, step idna o (.parse e units base) = (o.parse idna e units base).1) ∧
    step idna o .clear = o.clear ∧
    (∀ s e units, step idna o (.set s e units) = (o.set idna s e units).1) ∧
    step idna o .searchParams = o.searchParams ∧
    (∀ n v, step idna o (.append n v) = o.spApply (·.append n v)) ∧
    (∀ n v, step idna o (.spSet n v) = o.spApply (·.set n v)) ∧
    (∀ n, step idna o (.del n) = o.spApply (·.del n)) ∧
    (∀ n v, step idna o (.del2 n v) = o.spApply (·.del2 n v)) ∧
    (∀ n, step idna o (.remove n) = o.spApply (·.del n) false) ∧
    (∀ n v, step idna o (.remove2 n v) = o.spApply (·.del2 n v) false) ∧
    step idna o .sort = o.spApply (·.sort) ∧
    step idna o .clearParams = o.spApply (·.clear) ∧
    (∀ r bytes, step idna o (.parseParams r bytes) = o.spApply (·.parse r bytes)) ∧
    (∀ l isS, step idna o (.assignParams l isS) = o.spApply (fun _ => { list := l, isSorted := isS })) ∧
    (∀ ops, run idna o ops = ops.foldl (step idna) o) :=
  ⟨fun _ _ _ => rfl, rfl, fun _ _ _ => rfl, rfl, fun _ _ => rfl, fun _ _ => rfl, fun _ => rfl,
   fun _ _ => rfl, fun _ => rfl, fun _ _ => rfl, rfl, rfl, fun _ _ => rfl, fun _ _ => rfl, fun _ => rfl⟩

/-- the side condition an operation carries: caller-supplied names, values and list elements are
    well-formed UTF-8 (finding F3); a query string given to `search_params().parse` and the query of a
    base URL are byte strings; everything else is unconstrained -/
theorem C06_Op_WF_def :
    (∀ e units base, (Op.parse e units base).WF ↔ ∀ b, base = some (some b) → QBytes (some b)) ∧
    (∀ n v, (Op.append n v).WF ↔ (WFB n ∧ WFB v)) ∧
    (∀ n v, (Op.spSet n v).WF ↔ (WFB n ∧ WFB v)) ∧
    (∀ r bytes, (Op.parseParams r bytes).WF ↔ ∀ x ∈ bytes, x < 256) ∧
    (∀ l isS, (Op.assignParams l isS).WF ↔ ∀ x ∈ l, WFB x.1 ∧ WFB x.2) ∧
    Op.clear.WF ∧ (∀ s e units, (Op.set s e units).WF) ∧ Op.searchParams.WF ∧ (∀ n, (Op.del n).WF) ∧
    (∀ n v, (Op.del2 n v).WF) ∧ (∀ n, (Op.remove n).WF) ∧ (∀ n v, (Op.remove2 n v).WF) ∧ Op.sort.WF ∧
    Op.clearParams.WF :=
  ⟨fun _ _ _ => Iff.rfl, fun _ _ => Iff.rfl, fun _ _ => Iff.rfl, fun _ _ => Iff.rfl, fun _ _ => Iff.rfl,
   trivial, fun _ _ _ => trivial, trivial, fun _ => trivial, fun _ _ => trivial, fun _ => trivial,
   fun _ _ => trivial, trivial, trivial⟩

/-- the base-URL side condition is met by every URL that `parse` produced from such a base (so by
    every URL reachable from nothing) -/
theorem C06_parse_qbytes : ∀ (idna : Idna) (e : Enc) (units : List Nat) (base : Option Url) (u : Url),
    QBytes base → Impl.parse idna e units base = some u → QBytes (some u) :=
  parse_qbytes

example : QBytes none := by decide +kernel
example : Impl.parse stubIdna .u8 (asciiStr "http://h/p?old") none =
    some { scheme := asciiStr "http", host := some ⟨.domain, asciiStr "h"⟩, path := [asciiStr "p"],
           query := some (asciiStr "old") } := by decide_ascii
example : QBytes (some { scheme := asciiStr "http", host := some ⟨.domain, asciiStr "h"⟩,
                         path := [asciiStr "p"], query := some (asciiStr "old") }) := by decide_ascii

/-! ## 1. the invariant holds after every history -/

/-- the eight setters other than `search` and `href` never change the query (success, failure or
    ignored alike) -/
theorem C06_setters_keep_query : ∀ (idna : Idna) (s : Setter) (e : Enc) (units : List Nat) (u : Url),
    s ≠ .href → s ≠ .search → (Impl.setValid idna s e units u).1.query = u.query :=
  setValid_query

-- pathname setter with `?` and `#` in the value: they are percent-encoded into the path, the query stays
example : (Impl.setValid stubIdna .pathname .u8 (asciiStr "/a?b#c")
      { scheme := asciiStr "http", host := some ⟨.domain, asciiStr "h"⟩, path := [[]],
        query := some (asciiStr "q=1") }).1 =
    { scheme := asciiStr "http", host := some ⟨.domain, asciiStr "h"⟩, path := [asciiStr "a%3Fb%23c"],
      query := some (asciiStr "q=1") } := by decide_ascii

theorem C06_init : LockS {} := lockS_init

/-- **Lock-step invariant.**  From any object satisfying the invariant, every history of well-formed
    operations leads to an object satisfying it. -/
theorem C06_inv : ∀ (idna : Idna) (o : UrlObj) (ops : List Op),
    LockS o → (∀ op ∈ ops, op.WF) → LockS (run idna o ops) :=
  fun idna o ops h hw => run_lockS idna ops o h hw

/-- in particular, from a default-constructed object: after any history, the params object (if it was
    ever asked for) lists exactly the pairs of the URL's current query -/
theorem C06_inv_lock : ∀ (idna : Idna) (ops : List Op), (∀ op ∈ ops, op.WF) →
    ∀ u p, (run idna {} ops).url = some u → (run idna {} ops).sp = some p →
      p.list = Impl.formParse false (Impl.queryBytes (some u)) :=
  fun idna ops hw => (run_lockS idna ops {} lockS_init hw).lock

/-- one step (so the invariant also holds between the operations) -/
theorem C06_step : ∀ (idna : Idna) (o : UrlObj) (op : Op), LockS o → op.WF → LockS (step idna o op) :=
  step_lockS

private def c06Http (path : List (List Nat)) (q f : Option (List Nat)) : Url :=
  { scheme := asciiStr "http", host := some ⟨.domain, asciiStr "h"⟩, path := path, query := q, fragment := f }
private def c06Foo (op : List Nat) (q f : Option (List Nat)) : Url :=
  { scheme := asciiStr "foo", hasOpaquePath := true, opaquePath := op, query := q, fragment := f }

/-- a history through every kind of operation:
    parse "http://h/?b=2&a=1"; search_params(); sort(); append("c", " &"); hash("#f"); pathname("/p");
    set("b", "€"); search("?x=%41&y"); remove("z"); href("foo:bar ?y=%ff#f"); hash(""); del("y") -/
private def c06History : List Op :=
  [.parse .u8 (asciiStr "http://h/?b=2&a=1") none, .searchParams, .sort, .append (asciiStr "c") (asciiStr " &"),
   .set .hash .u8 (asciiStr "#f"), .set .pathname .u8 (asciiStr "/p"), .spSet (asciiStr "b") [0xE2, 0x82, 0xAC],
   .set .search .u8 (asciiStr "?x=%41&y"), .remove (asciiStr "z"),
   .set .href .u8 (asciiStr "foo:bar ?y=%ff#f"), .set .hash .u8 [], .del (asciiStr "y")]

-- the hypotheses of C06_inv are satisfiable on it
example : ∀ op ∈ c06History, op.WF := by decide +kernel

/-- the state after the first 10 operations: the `href` setter replaced the record and refilled the
    params object; the list holds U+FFFD for the escaped ill-formed byte while the query keeps `%ff`
    — and `Lock` holds, because it compares the list with the PARSE of the query -/
private theorem c06History_10 : run stubIdna {} (c06History.take 10) =
    { url := some (c06Foo (asciiStr "bar ") (some (asciiStr "y=%ff")) (some (asciiStr "f"))),
      sp := some { list := [(asciiStr "y", [0xEF, 0xBF, 0xBD])], isSorted := false } } := by
  rw [← runK_eq]
  unfold c06History
  decide_ascii

/-- the whole history: `hash("")` keeps the query; `del("y")` empties the list, so the query becomes
    null and the trailing space of the opaque path is stripped -/
private theorem c06History_all : run stubIdna {} c06History =
    { url := some (c06Foo (asciiStr "bar") none none), sp := some { list := [], isSorted := false } } := by
  rw [← runK_eq]
  unfold c06History
  decide_ascii

-- the conclusion of C06_inv on the two evaluated states
example : (run stubIdna {} (c06History.take 10)).url.bind (·.query) = some (asciiStr "y=%ff") ∧
    (run stubIdna {} (c06History.take 10)).sp.map (·.list) = some [(asciiStr "y", [0xEF, 0xBF, 0xBD])] := by
  rw [c06History_10]; decide_ascii
example : Lock (run stubIdna {} (c06History.take 10)) :=
  (C06_inv stubIdna {} _ C06_init (by decide +kernel)).lock
example : (run stubIdna {} c06History).url.bind (·.query) = none ∧
    (run stubIdna {} c06History).sp.map (·.list) = some [] := by
  rw [c06History_all]; decide_ascii
example : Lock (run stubIdna {} c06History) := (C06_inv stubIdna {} _ C06_init (by decide +kernel)).lock

/-- a second history on an object that already has a params object: clear(), a parse against an
    invalid base object (fails, object invalid), then "?k=v#z" against the base "http://h/p?old" -/
private def c06History2 : List Op :=
  [.parse .u8 (asciiStr "http://h/?a=1") none, .searchParams, .clear,
   .parse .u8 (asciiStr "x") (some none),
   .parse .u8 (asciiStr "?k=v#z") (some (some (c06Http [asciiStr "p"] (some (asciiStr "old")) none)))]

example : ∀ op ∈ c06History2, op.WF := by decide +kernel

set_option maxRecDepth 8000 in
example : run stubIdna {} c06History2 =
    { url := some (c06Http [asciiStr "p"] (some (asciiStr "k=v")) (some (asciiStr "z"))),
      sp := some { list := [(asciiStr "k", asciiStr "v")], isSorted := false } } := by
  rw [← runK_eq]
  unfold c06History2
  decide_ascii

/-! ## 2. after a params mutation the query IS the serialization -/

/-- `spApply f`: the params object of a valid URL (created on first use) is mutated by `f`, then
    `update()` runs.  Afterwards the URL is still valid, the params object holds `f p`, and the URL's
    query is the serialization of the list — null iff the list is empty.  (No well-formedness is needed
    for this direction; it is needed for the converse, `C06_after_edit_parse`.) -/
theorem C06_after_edit : ∀ (o : UrlObj) (f : Params → Params), o.url.isSome →
    let o' := o.spApply f
    let list := (o'.sp.map (·.list)).getD []
    o'.url.isSome ∧ o'.sp = o.searchParams.sp.map f ∧ o'.sp.isSome ∧
    o'.url.bind (·.query) = (if list = [] then none else some (Impl.formSerialize list)) := by
  intro o f h
  obtain ⟨u', p, h1, h2, h3, h4⟩ := spApply_query o f h
  simp only [h1, h2, h3, h4, Option.map_some, Option.getD_some, Option.isSome_some, Option.bind_some,
    true_and]

/-- and under the invariant, parsing that query gives the list back -/
theorem C06_after_edit_parse : ∀ (o : UrlObj) (f : Params → Params), LockS o →
    (∀ p, AllWFP p.list → AllWFP (f p).list) →
    ∀ u' p', (o.spApply f).url = some u' → (o.spApply f).sp = some p' →
      Impl.formParse false (Impl.queryBytes (some u')) = p'.list :=
  fun o f h hf u' p' hu hp => ((spApply_lockS o f h hf).lock u' p' hu hp).symm

-- hypotheses satisfiable: the state after the first 10 operations of the history above, `append("k","")`
example : (run stubIdna {} (c06History.take 10)).url.isSome := by rw [c06History_10]; decide_ascii
example : LockS (run stubIdna {} (c06History.take 10)) := C06_inv stubIdna {} _ C06_init (by decide +kernel)
example : ∀ p : Params, AllWFP p.list → AllWFP (p.append (asciiStr "k") []).list :=
  append_all _ _ ⟨by decide_ascii, by decide +kernel⟩
example :
    let o' := (run stubIdna {} (c06History.take 10)).spApply (·.append (asciiStr "k") [])
    o'.url.bind (·.query) = some (asciiStr "y=%EF%BF%BD&k=") ∧
    o'.sp.map (·.list) = some [(asciiStr "y", [0xEF, 0xBF, 0xBD]), (asciiStr "k", [])] := by
  rw [c06History_10]; decide_ascii
-- the last element removed: query null (not empty)
example :
    let o' := (run stubIdna {} (c06History.take 10)).spApply (·.del (asciiStr "y"))
    o'.url.bind (·.query) = none ∧ o'.sp.map (·.list) = some [] := by
  rw [c06History_10]; decide_ascii

/-! ## 3. finding F3: without the side condition the invariant is false -/

/-- `char`-typed arguments are stored as they are (no `check_fix_utf8`): after
    `parse "http://h/"; search_params(); append("\xFF", "v")` the list holds the raw byte FF, the query
    is "%FF=v", and parsing that query gives U+FFFD — the params object and the URL disagree. -/
theorem C06_illformed_counterexample :
    let ops : List Op := [.parse .u8 (asciiStr "http://h/") none, .searchParams, .append [0xFF] [0x76]]
    (∀ op ∈ ops.take 2, op.WF) ∧ ¬ (Op.append [0xFF] [0x76]).WF ∧
    run stubIdna {} ops =
      { url := some { scheme := asciiStr "http", host := some ⟨.domain, asciiStr "h"⟩, path := [[]],
                      query := some (asciiStr "%FF=v") },
        sp := some { list := [([0xFF], [0x76])], isSorted := false } } ∧
    Impl.formParse false (asciiStr "%FF=v") = [([0xEF, 0xBF, 0xBD], [0x76])] ∧
    ¬ Lock (run stubIdna {} ops) := by
  have hrun : run stubIdna {} [.parse .u8 (asciiStr "http://h/") none, .searchParams, .append [0xFF] [0x76]] =
      { url := some { scheme := asciiStr "http", host := some ⟨.domain, asciiStr "h"⟩, path := [[]],
                      query := some (asciiStr "%FF=v") },
        sp := some { list := [([0xFF], [0x76])], isSorted := false } } := by
    rw [← runK_eq]
    decide_ascii
  have hparse : Impl.formParse false (asciiStr "%FF=v") = [([0xEF, 0xBF, 0xBD], [0x76])] := by
    rw [Upa.Proofs.C15.formParse_eqK]; decide_ascii
  exact ⟨by decide_ascii, by decide +kernel, hrun, hparse, not_lock hrun rfl hparse (by decide +kernel)⟩

/-! ## 4. two objects -/

/-- Copy assignment, copy construction, move and `safe_assign` keep the invariant of every object
    involved.  (For the destination only the source's invariant matters: the destination's record and
    params content are overwritten.)  After a move the destination has the record and the params object,
    the source is invalid and has none; after `safe_assign` the source is invalid.  (`Impl.safeAssign` also
    empties the source's params list; the heap model and the C++ leave it in place when the destination has
    no params object — `C06b_safeAssignSrc_agrees` —, which the invariant does not see: it says nothing
    about the list of an invalid url.) -/
theorem C06_two_objects : ∀ dst src : UrlObj, LockS src →
    LockS (Impl.copyAssign dst src) ∧
    LockS (Impl.copyConstruct src) ∧
    LockS (Impl.moveAssign src).1 ∧ LockS (Impl.moveAssign src).2 ∧
    (Impl.moveAssign src).1 = src ∧ (Impl.moveAssign src).2 = { url := none, sp := none } ∧
    LockS (Impl.safeAssign dst src).1 ∧ LockS (Impl.safeAssign dst src).2 ∧
    (Impl.safeAssign dst src).2.url = none :=
  fun dst src hs =>
    ⟨copyAssign_lockS dst src hs, copyConstruct_lockS src hs, (moveAssign_lockS src hs).1,
     (moveAssign_lockS src hs).2, rfl, rfl, (safeAssign_lockS dst src hs).1, (safeAssign_lockS dst src hs).2,
     rfl⟩

/-- the same in terms of `Lock`, for objects with any well-formed past -/
theorem C06_two_objects_lock : ∀ (idna : Idna) (opsD opsS : List Op),
    (∀ op ∈ opsD, op.WF) → (∀ op ∈ opsS, op.WF) →
    let dst := run idna {} opsD
    let src := run idna {} opsS
    Lock (Impl.copyAssign dst src) ∧ Lock (Impl.copyConstruct src) ∧
    Lock (Impl.moveAssign src).1 ∧ Lock (Impl.moveAssign src).2 ∧
    Lock (Impl.safeAssign dst src).1 ∧ Lock (Impl.safeAssign dst src).2 := by
  intro idna opsD opsS _ hS
  have hs := run_lockS idna opsS {} lockS_init hS
  exact ⟨(copyAssign_lockS _ _ hs).lock, (copyConstruct_lockS _ hs).lock, (moveAssign_lockS _ hs).1.lock,
    (moveAssign_lockS _ hs).2.lock, (safeAssign_lockS _ _ hs).1.lock, (safeAssign_lockS _ _ hs).2.lock⟩

/-- A copy never shares the params object: the copy-constructed URL has the record and NO params object
    (it creates its own from its own query on first use).

    Isolation — "a params object updates the URL that owns it and no other object" — holds in this
    value-semantics model by construction: `UrlObj.spApply` takes one object and returns only the new
    state of that object (the owner); there is no operation through which a params mutation could reach
    a second `UrlObj`.  What the model does check is that no operation hands the SAME params content to
    two owners without re-establishing `Lock` for both (`C06_two_objects`). -/
theorem C06_copies_detached : ∀ src : UrlObj,
    (Impl.copyConstruct src).sp = none ∧ (Impl.copyConstruct src).url = src.url ∧
    ((Impl.copyConstruct src).searchParams.sp.map (·.list)) =
      some (Impl.formParse false (Impl.queryBytes src.url)) :=
  fun _ => ⟨rfl, rfl, rfl⟩

-- src: the state after 10 operations (valid, with params); dst: a valid URL whose params object exists
private def c06Src : UrlObj :=
  { url := some (c06Foo (asciiStr "bar ") (some (asciiStr "y=%ff")) (some (asciiStr "f"))),
    sp := some { list := [(asciiStr "y", [0xEF, 0xBF, 0xBD])], isSorted := false } }
private def c06Dst : UrlObj :=
  { url := some (c06Http [[]] (some (asciiStr "a=1")) none),
    sp := some { list := [(asciiStr "a", asciiStr "1")], isSorted := false } }

example : LockS c06Src := by
  rw [c06Src, ← c06History_10]; exact C06_inv stubIdna {} _ C06_init (by decide +kernel)
example : Impl.copyAssign c06Dst c06Src = c06Src ∧
    Impl.copyConstruct c06Src = { url := c06Src.url, sp := none } ∧
    Impl.moveAssign c06Src = (c06Src, {}) ∧
    Impl.safeAssign c06Dst c06Src =
      (c06Src, { url := none, sp := some { list := [], isSorted := false } }) := by decide +kernel
-- destination with params, source without: the destination's params are re-parsed from the new query
example : Impl.copyAssign c06Dst { url := c06Src.url, sp := none } =
    { url := c06Src.url, sp := some { list := [(asciiStr "y", [0xEF, 0xBF, 0xBD])], isSorted := false } } := by
  rw [← Upa.Proofs.ObjRep.copyAssignUK_eq]; unfold c06Dst c06Src; decide_ascii
-- a copy, mutated through ITS params object: the copy's query changes, the source value is what it was
example :
    let copy := Impl.copyConstruct c06Dst
    let copy' := copy.spApply (·.append (asciiStr "z") [])
    copy.sp = none ∧ copy'.url.bind (·.query) = some (asciiStr "a=1&z=") ∧
    c06Dst.url.bind (·.query) = some (asciiStr "a=1") := by
  simp only [← Upa.Proofs.ObjRep.spApplyUK_eq]; unfold c06Dst; decide_ascii

end Upa.Props

#print axioms Upa.Props.C06_WFB_scalar
#print axioms Upa.Props.C06_parse_wf
#print axioms Upa.Props.C06_parse_qbytes
#print axioms Upa.Props.C06_setters_keep_query
#print axioms Upa.Props.C06_init
#print axioms Upa.Props.C06_inv
#print axioms Upa.Props.C06_inv_lock
#print axioms Upa.Props.C06_step
#print axioms Upa.Props.C06_after_edit
#print axioms Upa.Props.C06_after_edit_parse
#print axioms Upa.Props.C06_illformed_counterexample
#print axioms Upa.Props.C06_two_objects
#print axioms Upa.Props.C06_two_objects_lock
#print axioms Upa.Props.C06_copies_detached
