import Upa.Proofs.FilePathWinUnc
import Upa.Props.C17
import Upa.Proofs.Literal
/-
  C17b — the Windows-format round trip path_from_file_url(url_from_file_path(p)) and its fixed point
  (include/upa/url.h:3251-3401; model: Upa/Impl/FilePath.lean).  Continues Upa/Props/C17.lean.
  Helper lemmas: Upa/Proofs/FilePathWin.lean (drive paths), Upa/Proofs/FilePathWinUnc.lean (UNC paths),
  namespace Upa.Proofs.C17.

  Input paths are lists of scalar values (the decoded `std::string` / `std::wstring` argument), the
  returned path is a UTF-8 byte string; "the returned path as the next input" therefore is
  `Impl.decode .u8 p'` (= the scalar string whose UTF-8 encoding is `p'`).
-/
namespace Upa.Props
open Upa.Proofs.C17 (winClassify winSegs fixShare uncNorm UncServerOk UncSegs dd)
open Upa.Proofs.C02b (IdnaStable)

/-- the round trip `path_from_file_url(url_from_file_path(p, windows), windows)` -/
def c17rt (idna : Idna) (p : List Nat) : Option (List Nat) :=
  (Impl.urlFromFilePath idna p .windows).bind (fun u => Impl.pathFromFileUrl u .windows)

theorem c17rt_isSome {idna : Idna} {p p' : List Nat} (h : c17rt idna p = some p') :
    (Impl.urlFromFilePath idna p .windows).isSome = true := by
  unfold c17rt at h
  cases hu : Impl.urlFromFilePath idna p .windows with
  | none => rw [hu] at h; cases h
  | some u => rfl

/-! ### 1. drive-absolute paths -/

/-- Normal form of a drive-absolute Windows path `X:\…`, `X:/…`, `X|\…`, `\\?\X:\…`, `\\.\X:\…`:
    the namespace prefix is dropped (`winClassify`), the drive letter is kept as it is, `|` becomes `:`,
    the rest is split on `\` and `/`, "." segments are dropped (a final "." leaves an empty segment, i.e. a
    trailing backslash), empty segments are kept, and the segments are joined with `\`.
    (`winSegs [t] = if t = "." then [[]] else [t]`,
     `winSegs (t :: rest) = (if t = "." then [] else [t]) ++ winSegs rest`.)
    Any other string is left alone. -/
def winNormDrive (p : List Nat) : List Nat :=
  match (winClassify p).1 with
  | a :: _ :: _ :: chk =>
    a :: 0x3A :: (winSegs (splitOnP Impl.isWindowsSlash chk)).flatMap (fun seg => 0x5C :: seg)
  | _ => p

/-- what acceptance of a path that is not classified as UNC gives: drive letter and checked rest of the pointer,
    the normal form in terms of them, and the way back -/
theorem drive_parts {idna : Idna} {p : List Nat} {u : Url} (hs : ∀ c ∈ p, Spec.isScalar c = true)
    (hcl : (winClassify p).2 = false) (hu : Impl.urlFromFilePath idna p .windows = some u) :
    ∃ a b chk, Impl.isWindowsDrive a b = true ∧ (∀ x ∈ chk, x ∈ p) ∧ a ∈ p ∧
      [0x2E, 0x2E] ∉ splitOnP Impl.isWindowsSlash chk ∧ 0 ∉ chk ∧
      winNormDrive p = Proofs.C17.driveNorm a chk ∧
      Impl.pathFromFileUrl u .windows = some (Spec.utf8Encode (Proofs.C17.driveNorm a chk)) := by
  obtain ⟨h0, hcase⟩ := Proofs.C17.from_path_windows idna p u hu
  rcases hcase with ⟨-, ⟨a, b, c, chk, hp, hdrv, hsl, hdd⟩, hurl⟩ | ⟨hcl', -⟩
  · have hsub := Proofs.C17.pointer_sub p
    rw [hp] at hsub
    have hchk : ∀ x ∈ chk, x ∈ p := fun x hx => hsub x (by simp [hx])
    refine ⟨a, b, chk, hdrv, hchk, hsub a (by simp), hdd, fun hx => h0 (hchk 0 hx), ?_, ?_⟩
    · unfold winNormDrive; rw [hp]; rfl
    · rw [hurl, hp]
      exact Proofs.C17.roundtrip_drive_core a b c chk (fun x hx => hs x (hchk x hx)) hdrv hsl hdd
        (fun hx => h0 (hchk 0 hx))
  · rw [hcl] at hcl'; cases hcl'

/-- Round trip, drive-absolute paths: every accepted path that is not classified as UNC comes back as the
    UTF-8 bytes of its normal form. -/
theorem C17_roundtrip_windows_drive :
    ∀ (idna : Idna) (p : List Nat), (∀ c ∈ p, Spec.isScalar c = true) →
      (winClassify p).2 = false → (Impl.urlFromFilePath idna p .windows).isSome = true →
      c17rt idna p = some (Spec.utf8Encode (winNormDrive p)) := by
  intro idna p hs hcl hacc
  obtain ⟨u, hu⟩ := Option.isSome_iff_exists.1 hacc
  obtain ⟨a, b, chk, -, -, -, -, -, hn, hback⟩ := drive_parts hs hcl hu
  unfold c17rt
  rw [hu, hn]
  exact hback

-- hypotheses satisfiable; evaluated instances.  Mixed slashes, "." segments (inner and final), an empty
-- segment, `%`, space, `?`, `#`, `|` as drive separator, U+00E9 and U+1F600 (returned as UTF-8 bytes):
example : (∀ c ∈ asciiStr "c|/a\\./b\\\\c d?#%41/" ++ [0xE9, 0x1F600] ++ asciiStr "\\.", Spec.isScalar c = true) ∧
    (winClassify (asciiStr "c|/a\\./b\\\\c d?#%41/" ++ [0xE9, 0x1F600] ++ asciiStr "\\.")).2 = false ∧
    (Impl.urlFromFilePath c17Idna (asciiStr "c|/a\\./b\\\\c d?#%41/" ++ [0xE9, 0x1F600] ++ asciiStr "\\.")
      .windows).isSome = true := by
  refine ⟨by decide_ascii, by decide_ascii, ?_⟩
  rw [C17_windows_eq]; decide_ascii
example : c17rt c17Idna (asciiStr "c|/a\\./b\\\\c d?#%41/" ++ [0xE9, 0x1F600] ++ asciiStr "\\.") =
    some (asciiStr "c:\\a\\b\\\\c d?#%41\\" ++ [0xC3, 0xA9, 0xF0, 0x9F, 0x98, 0x80, 0x5C]) := by
  rw [C17_roundtrip_windows_drive _ _ (by decide_ascii) (by decide_ascii) (by rw [C17_windows_eq]; decide_ascii)]
  decide_ascii
-- the Win32 file namespace spelling, and a bare drive root
example : c17rt c17Idna (asciiStr "\\\\?\\C:\\dir\\.\\f") = some (asciiStr "C:\\dir\\f") := by
  rw [C17_roundtrip_windows_drive _ _ (by decide_ascii) (by decide_ascii) (by rw [C17_windows_eq]; decide_ascii)]
  decide_ascii
example : c17rt c17Idna (asciiStr "C:/") = some (asciiStr "C:\\") ∧
    c17rt c17Idna (asciiStr "C:\\.") = some (asciiStr "C:\\") := by
  rw [C17_roundtrip_windows_drive _ _ (by decide_ascii) (by decide_ascii) (by rw [C17_windows_eq]; decide_ascii),
    C17_roundtrip_windows_drive _ _ (by decide_ascii) (by decide_ascii) (by rw [C17_windows_eq]; decide_ascii)]
  decide_ascii
example : winNormDrive (asciiStr "\\\\?\\C|/a/./b/.") = asciiStr "C:\\a\\b\\" := by decide_ascii

/-- Fixed point, drive-absolute paths: whatever the round trip returns is the UTF-8 encoding of the
    normal form, and the normal form — equivalently the returned byte string decoded as UTF-8 — is
    accepted and returned unchanged: one step reaches the fixed point. -/
theorem C17_fixed_point_windows_drive :
    ∀ (idna : Idna) (p p' : List Nat), (∀ c ∈ p, Spec.isScalar c = true) →
      (winClassify p).2 = false → c17rt idna p = some p' →
      p' = Spec.utf8Encode (winNormDrive p) ∧ Impl.decode .u8 p' = winNormDrive p ∧
      c17rt idna (winNormDrive p) = some p' ∧ c17rt idna (Impl.decode .u8 p') = some p' := by
  intro idna p p' hs hcl hrt
  have hacc := c17rt_isSome hrt
  have h1 := C17_roundtrip_windows_drive idna p hs hcl hacc
  rw [hrt] at h1
  simp only [Option.some.injEq] at h1
  obtain ⟨u, hu⟩ := Option.isSome_iff_exists.1 hacc
  obtain ⟨a, b, chk, hdrv, hchk, -, hdd, h0, hn, -⟩ := drive_parts hs hcl hu
  obtain ⟨hfix, hsc⟩ := Proofs.C17.fixed_drive_core idna a b chk (fun x hx => hs x (hchk x hx)) hdrv hdd h0
  have hdec : Impl.decode .u8 p' = winNormDrive p := by
    rw [h1, hn]; exact Impl.decode_encode .u8 _ hsc
  refine ⟨h1, hdec, ?_, ?_⟩
  · rw [h1, hn]; exact hfix
  · rw [hdec, h1, hn]; exact hfix

/-- for a pure-ASCII path the fixed point reads literally: the returned path is returned again -/
theorem C17_fixed_point_windows_drive_ascii :
    ∀ (idna : Idna) (p p' : List Nat), (∀ c ∈ p, c < 0x80) →
      (winClassify p).2 = false → c17rt idna p = some p' →
      p' = winNormDrive p ∧ c17rt idna p' = some p' := by
  intro idna p p' hs hcl hrt
  have hsc : ∀ c ∈ p, Spec.isScalar c = true := fun c hc => Proofs.C14.ascii_scalar c (hs c hc)
  obtain ⟨h1, -, h2, -⟩ := C17_fixed_point_windows_drive idna p p' hsc hcl hrt
  obtain ⟨u, hu⟩ := Option.isSome_iff_exists.1 (c17rt_isSome hrt)
  obtain ⟨a, b, chk, -, hchk, ha, -, -, hn, -⟩ := drive_parts hsc hcl hu
  have hall : ∀ x ∈ winNormDrive p, x < 0x80 := by
    rw [hn]
    intro x hx
    rcases Proofs.C17.mem_driveNorm a chk x hx with rfl | rfl | rfl | h
    · exact hs _ ha
    · omega
    · omega
    · exact hs _ (hchk _ h)
  -- the normal form is ASCII, so its UTF-8 encoding is itself
  have hp' : p' = winNormDrive p := by rw [h1, Proofs.C17.utf8Encode_ascii _ hall]
  rw [hp'] at h2 ⊢
  exact ⟨rfl, h2⟩

-- the fixed point on the evaluated instance above: the normal form (non-ASCII) is returned unchanged
example : c17rt c17Idna (asciiStr "c:\\a\\b\\\\c d?#%41\\" ++ [0xE9, 0x1F600, 0x5C]) =
    some (asciiStr "c:\\a\\b\\\\c d?#%41\\" ++ [0xC3, 0xA9, 0xF0, 0x9F, 0x98, 0x80, 0x5C]) := by
  rw [C17_roundtrip_windows_drive _ _ (by decide_ascii) (by decide_ascii) (by rw [C17_windows_eq]; decide_ascii)]
  decide_ascii

/-- the normal form is idempotent (unconditionally) -/
theorem C17_windows_norm_idem : ∀ p : List Nat, winNormDrive (winNormDrive p) = winNormDrive p := by
  intro p
  cases hp : (winClassify p).1 with
  | nil => have : winNormDrive p = p := by unfold winNormDrive; rw [hp]
           rw [this, this]
  | cons a r1 =>
    cases r1 with
    | nil => have : winNormDrive p = p := by unfold winNormDrive; rw [hp]
             rw [this, this]
    | cons b r2 =>
      cases r2 with
      | nil => have : winNormDrive p = p := by unfold winNormDrive; rw [hp]
               rw [this, this]
      | cons c chk =>
        have hn : winNormDrive p = Proofs.C17.driveNorm a chk := by
          unfold winNormDrive; rw [hp]; rfl
        obtain ⟨chk', h1, h2⟩ := Proofs.C17.driveNorm_idem a chk
        rw [hn]
        conv => lhs; unfold winNormDrive
        rw [h1, Proofs.C17.winClassify_colon]
        exact h2.trans h1

/-! ### 2. UNC paths -/

/-- the server name of a UNC path as the file host state parses it (host parser on the raw-encoded
    first component of the pointer) -/
def winUncHost (idna : Idna) (p : List Nat) : Option Host :=
  match splitOnP Impl.isWindowsSlash (winClassify p).1 with
  | host :: _ => Impl.parseHost idna (Impl.percentEncode Impl.rawPathNoEnc host) false
  | _ => none

theorem winUncHost_eq {idna : Idna} {p host : List Nat} {rest : List (List Nat)} {hst hst' : Host}
    (hsplit : splitOnP Impl.isWindowsSlash (winClassify p).1 = host :: rest)
    (hph : Impl.parseHost idna (Impl.percentEncode Impl.rawPathNoEnc host) false = some hst')
    (hhost : winUncHost idna p = some hst) : hst' = hst := by
  unfold winUncHost at hhost
  rw [hsplit] at hhost
  simp only [] at hhost
  rw [hph] at hhost
  exact Option.some.inj hhost

/-- Normal form of a UNC path `\\server\share\…`, `\\?\UNC\server\share\…`: prefix `\\`, the serialization
    of the parsed server (IDNA / IPv4 / IPv6 canonical form), the share name (a drive-like share `C|` is
    rewritten to `C:` — `fixShare`), then the remaining segments with "." dropped as for drive paths,
    joined with `\`. -/
def winNormUnc (idna : Idna) (p : List Nat) : List Nat :=
  match splitOnP Impl.isWindowsSlash (winClassify p).1 with
  | host :: share :: rest =>
    match Impl.parseHost idna (Impl.percentEncode Impl.rawPathNoEnc host) false with
    | some hst =>
      0x5C :: 0x5C :: (hst.text ++ (fixShare share :: winSegs rest).flatMap (fun seg => 0x5C :: seg))
    | none => p
  | _ => p

/-- what acceptance of a UNC path with parsed server `hst` gives, in the terms of the statements below:
    the parts of the normal form, the server name as a UNC server name that parses to `hst` again, and the
    way back -/
theorem unc_parts {idna : Idna} {p : List Nat} {hst : Host} {u : Url} (hi : IdnaStable idna)
    (hs : ∀ c ∈ p, Spec.isScalar c = true) (hcl : (winClassify p).2 = true)
    (hu : Impl.urlFromFilePath idna p .windows = some u) (hhost : winUncHost idna p = some hst) :
    ∃ share rest, UncServerOk hst.text ∧ Impl.parseHost idna hst.text false = some hst ∧
      UncSegs (fixShare share) (winSegs rest) ∧ dd ∉ winSegs rest ∧
      winNormUnc idna p = uncNorm hst.text share rest ∧
      (hst.text ≠ Impl.sLocalhost →
        Impl.pathFromFileUrl u .windows = some (Spec.utf8Encode (uncNorm hst.text share rest))) := by
  obtain ⟨host, share, rest, hst', hsplit, hne, hph, hW, hdd, hdot, hback⟩ :=
    Proofs.C17.roundtrip_unc_core idna p u hs hu hcl
  obtain rfl : hst' = hst := winUncHost_eq hsplit hph hhost
  obtain ⟨hH, hstable⟩ :=
    Proofs.C17.uncServerOk_of_parse idna hi _ hst' (fun e => hne (Proofs.C02b.enc_eq_nil e)) hph hdot
  refine ⟨share, rest, hH, hstable, hW, hdd, ?_, fun hloc => hback hloc hH⟩
  have hph' : Impl.parseHost idna (Impl.percentEncode Impl.rawPathNoEnc host) false = some hst' := hph
  unfold winNormUnc
  rw [hsplit]
  simp only [hph']
  rfl

/-- Round trip, UNC paths: an accepted UNC path whose parsed server is not `localhost` (finding F6) comes
    back as the UTF-8 bytes of its normal form.  (A server that parses to `.` is not accepted:
    `C17_unc_dot_host_rejected_from_path`.)  IDNA hypothesis: `IdnaStable` (output non-empty
    lower-case ASCII; idempotent on its own `xn--` outputs). -/
theorem C17_roundtrip_windows_unc :
    ∀ (idna : Idna) (p : List Nat) (hst : Host), IdnaStable idna → (∀ c ∈ p, Spec.isScalar c = true) →
      (winClassify p).2 = true → (Impl.urlFromFilePath idna p .windows).isSome = true →
      winUncHost idna p = some hst → hst.text ≠ Impl.sLocalhost →
      c17rt idna p = some (Spec.utf8Encode (winNormUnc idna p)) := by
  intro idna p hst hi hs hcl hacc hhost hloc
  obtain ⟨u, hu⟩ := Option.isSome_iff_exists.1 hacc
  obtain ⟨share, rest, -, -, -, -, hn, hback⟩ := unc_parts hi hs hcl hu hhost
  unfold c17rt
  rw [hu, hn]
  exact hback hloc

/-- Fixed point, UNC paths (general form): if in addition the raw-encoded text of the parsed server
    parses to the same host again, the normal form is accepted and returned unchanged, and it is its own
    normal form. -/
theorem C17_fixed_point_windows_unc_of_reparse :
    ∀ (idna : Idna) (p p' : List Nat) (hst : Host), IdnaStable idna → (∀ c ∈ p, Spec.isScalar c = true) →
      (winClassify p).2 = true → winUncHost idna p = some hst →
      hst.text ≠ Impl.sLocalhost →
      Impl.parseHost idna (Impl.percentEncode Impl.rawPathNoEnc hst.text) false = some hst →
      c17rt idna p = some p' →
      p' = Spec.utf8Encode (winNormUnc idna p) ∧ Impl.decode .u8 p' = winNormUnc idna p ∧
      c17rt idna (winNormUnc idna p) = some p' ∧ c17rt idna (Impl.decode .u8 p') = some p' ∧
      winNormUnc idna (winNormUnc idna p) = winNormUnc idna p := by
  intro idna p p' hst hi hs hcl hhost hloc hre hrt
  have hacc := c17rt_isSome hrt
  have h1 := C17_roundtrip_windows_unc idna p hst hi hs hcl hacc hhost hloc
  rw [hrt] at h1
  simp only [Option.some.injEq] at h1
  obtain ⟨u, hu⟩ := Option.isSome_iff_exists.1 hacc
  obtain ⟨share, rest, hH, -, hW, hdd, hn, -⟩ := unc_parts hi hs hcl hu hhost
  have hfix := Proofs.C17.fixed_unc_core idna hst (fixShare share) (winSegs rest) hH hW hdd hloc
    (Proofs.C17.fixShare_idem share) (Proofs.C17.winSegs_idem rest) hre
  have hsc : ∀ x ∈ winNormUnc idna p, Spec.isScalar x = true :=
    hn ▸ Proofs.C17.uncNorm_scalar hst.text share rest hH hW
  have hdec : Impl.decode .u8 p' = winNormUnc idna p := by
    rw [h1]; exact Impl.decode_encode .u8 _ hsc
  have hrt2 : c17rt idna (winNormUnc idna p) = some p' := by
    rw [h1, hn]; exact hfix
  refine ⟨h1, hdec, hrt2, by rw [hdec]; exact hrt2, ?_⟩
  obtain ⟨hc1, hc2⟩ := Proofs.C17.split_uncNorm hst.text (fixShare share) (winSegs rest) hH hW
  rw [hn]
  conv => lhs; unfold winNormUnc uncNorm
  rw [hc1]
  simp only [hc2, hre]
  rw [Proofs.C17.fixShare_idem, Proofs.C17.winSegs_idem]
  rfl

/-- Fixed point, UNC paths, PARTIAL: the re-parse hypothesis is discharged (host stability, C02b/C08) when
    the parsed server name contains none of the four characters `"` `` ` `` `{` `}` that the raw path
    percent-encode set escapes (hypothesis `hkeep`; it holds for IPv4/IPv6 servers and for every server name
    the host parser's ASCII fast path handles). -/
theorem C17_fixed_point_windows_unc_partial :
    ∀ (idna : Idna) (p p' : List Nat) (hst : Host), IdnaStable idna → (∀ c ∈ p, Spec.isScalar c = true) →
      (winClassify p).2 = true → winUncHost idna p = some hst →
      hst.text ≠ Impl.sLocalhost →
      (∀ c ∈ hst.text, Impl.rawPathNoEnc c = true) →
      c17rt idna p = some p' →
      p' = Spec.utf8Encode (winNormUnc idna p) ∧ Impl.decode .u8 p' = winNormUnc idna p ∧
      c17rt idna (winNormUnc idna p) = some p' ∧ c17rt idna (Impl.decode .u8 p') = some p' ∧
      winNormUnc idna (winNormUnc idna p) = winNormUnc idna p := by
  intro idna p p' hst hi hs hcl hhost hloc hkeep hrt
  refine C17_fixed_point_windows_unc_of_reparse idna p p' hst hi hs hcl hhost hloc ?_ hrt
  obtain ⟨u, hu⟩ := Option.isSome_iff_exists.1 (c17rt_isSome hrt)
  obtain ⟨-, -, hH, hstable, -⟩ := unc_parts hi hs hcl hu hhost
  rw [Proofs.C14.percentEncode_keeps Impl.rawPathNoEnc hst.text (fun c hc => by
    simp [Proofs.C02.keeps, hH.ascii c hc, hkeep c hc])]
  exact hstable

/-! ### 3. non-vacuity and the exceptions -/

/-- an IDNA stand-in that satisfies `IdnaStable`: non-empty pure-ASCII input is lower-cased, anything else
    fails -/
def c17bIdna : Idna := fun l => if l ≠ [] ∧ l.all (fun c => decide (c < 0x80)) = true then some (l.map toLower) else none

/-- it is `C08.sampleIdna` with the two tests written as one -/
theorem c17bIdna_eq : c17bIdna = Proofs.C08.sampleIdna := by
  funext l
  unfold c17bIdna Proofs.C08.sampleIdna
  by_cases h : l = [] <;> simp [h]

theorem c17bIdna_stable : IdnaStable c17bIdna := c17bIdna_eq ▸ Proofs.C02b.sampleIdna_stable

-- `\\Server\C|/a\.\b c?#%41\` ++ U+00E9 ++ `\.` : hypotheses of both UNC theorems hold, evaluated instance
example : (∀ c ∈ asciiStr "\\\\Server\\C|/a\\.\\b c?#%41\\" ++ [0xE9] ++ asciiStr "\\.", Spec.isScalar c = true) ∧
    (winClassify (asciiStr "\\\\Server\\C|/a\\.\\b c?#%41\\" ++ [0xE9] ++ asciiStr "\\.")).2 = true ∧
    winUncHost c17bIdna (asciiStr "\\\\Server\\C|/a\\.\\b c?#%41\\" ++ [0xE9] ++ asciiStr "\\.") =
      some { kind := .domain, text := asciiStr "server" } ∧
    (∀ c ∈ asciiStr "server", Impl.rawPathNoEnc c = true) := by
  refine ⟨by decide_ascii, by decide_ascii, by decide_ascii, by decide_ascii⟩
example : c17rt c17bIdna (asciiStr "\\\\Server\\C|/a\\.\\b c?#%41\\" ++ [0xE9] ++ asciiStr "\\.") =
    some (asciiStr "\\\\server\\C:\\a\\b c?#%41\\" ++ [0xC3, 0xA9, 0x5C]) := by
  rw [C17_roundtrip_windows_unc c17bIdna _ { kind := .domain, text := asciiStr "server" } c17bIdna_stable
    (by decide_ascii) (by decide_ascii) (by rw [C17_windows_eq]; decide_ascii) (by decide_ascii) (by decide_ascii)]
  decide_ascii
-- the `\\?\UNC\` spelling and an IPv4 server written in hexadecimal
example : c17rt c17bIdna (asciiStr "\\\\?\\UNC\\0x7F.1\\share") = some (asciiStr "\\\\127.0.0.1\\share") := by
  rw [C17_roundtrip_windows_unc c17bIdna _ { kind := .ipv4, text := asciiStr "127.0.0.1" } c17bIdna_stable
    (by decide_ascii) (by decide_ascii) (by rw [C17_windows_eq]; decide_ascii) (by decide_ascii) (by decide_ascii)]
  decide_ascii
-- fixed point: the returned path of the first example is returned again
example : c17rt c17bIdna (asciiStr "\\\\server\\C:\\a\\b c?#%41\\" ++ [0xE9, 0x5C]) =
    some (asciiStr "\\\\server\\C:\\a\\b c?#%41\\" ++ [0xC3, 0xA9, 0x5C]) := by
  rw [C17_roundtrip_windows_unc c17bIdna _ { kind := .domain, text := asciiStr "server" } c17bIdna_stable
    (by decide_ascii) (by decide_ascii) (by rw [C17_windows_eq]; decide_ascii) (by decide_ascii) (by decide_ascii)]
  decide_ascii

/-- Finding F6 on the model: the UNC path `\\localhost\share\x` is accepted, the file host state drops the
    host `localhost`, the URL is `file:///share/x`, and path_from_file_url rejects it — the round trip is
    undefined (no fixed point).  Same for `\\LOCALHOST\…` (the host parser lower-cases). -/
theorem C17_unc_localhost_counterexample :
    (Impl.urlFromFilePath c17bIdna (asciiStr "\\\\localhost\\share\\x") .windows).map (fun u => Impl.serialize u) =
      some (asciiStr "file:///share/x") ∧
    winUncHost c17bIdna (asciiStr "\\\\localhost\\share\\x") = some { kind := .domain, text := Impl.sLocalhost } ∧
    c17rt c17bIdna (asciiStr "\\\\localhost\\share\\x") = none := by
  have hu : Impl.urlFromFilePath c17bIdna (asciiStr "\\\\localhost\\share\\x") .windows =
      some { scheme := Impl.sFile, host := some Impl.emptyHost, path := [asciiStr "share", asciiStr "x"] } := by
    rw [C17_windows_eq]; decide_ascii
  refine ⟨by rw [hu]; decide_ascii, by decide_ascii, ?_⟩
  unfold c17rt
  rw [hu]
  simp only [Option.bind_some, Impl.pathFromFileUrl, Proofs.Eval.percentDecode_eq_fuel]
  decide +kernel

/-- path_from_file_url rejects every file URL whose host is `.` ("UNC path cannot have "." hostname").
    Before commit 51d5062 of /repo ("url_from_file_path must reject a UNC server name that the host parser maps
    to ".") a UNC path whose server name IDNA maps to `.` (with ICU: U+3002 IDEOGRAPHIC FULL STOP) gave such a
    URL: `\\。\share\x` → `file://./share/x` → url_error on the way back, a second exception of the kind of F6. -/
theorem C17_unc_dot_host_rejected :
    ∀ u : Url, u.isFile = true → u.hostText = [0x2E] → Impl.pathFromFileUrl u .windows = none := by
  intro u hf hh
  rw [Proofs.C17.pathFromFileUrl_windows_eq u hf, if_pos (by rw [hh]; simp), if_pos (Or.inl hh)]

/-- that repair (commit 51d5062) on the model: url_from_file_path (final check `file_url.hostname() == "."`,
    `Impl.rejectDotHost`) rejects a UNC path whose server parses to the host `.`; hence every accepted UNC
    path has a parsed server other than `.`, and `C17_roundtrip_windows_unc` needs no such hypothesis -/
theorem C17_unc_dot_host_rejected_from_path :
    ∀ (idna : Idna) (p : List Nat) (hst : Host), (∀ c ∈ p, Spec.isScalar c = true) →
      (winClassify p).2 = true → winUncHost idna p = some hst → hst.text = [0x2E] →
      Impl.urlFromFilePath idna p .windows = none := by
  intro idna p hst hs hcl hhost hdot
  cases hu : Impl.urlFromFilePath idna p .windows with
  | none => rfl
  | some u =>
    exfalso
    obtain ⟨host, share, rest, hst', hsplit, -, hph, -, -, hnd, -⟩ :=
      Proofs.C17.roundtrip_unc_core idna p u hs hu hcl
    have he : hst' = hst := winUncHost_eq hsplit hph hhost
    subst he
    exact hnd hdot

/-- an IDNA stand-in that maps U+3002 to `.` (as ICU does), otherwise `c17bIdna` -/
def c17bIdnaDot : Idna := fun l => if l = [0x3002] then some [0x2E] else c17bIdna l

/-- the server U+3002 parses to the host `.` (percent-decode → UTF-16 → IDNA stand-in) -/
theorem c17b_dot_host :
    winUncHost c17bIdnaDot ([0x5C, 0x5C, 0x3002] ++ asciiStr "\\share\\x") = some { kind := .domain, text := [0x2E] } := by
  have hsplit : splitOnP Impl.isWindowsSlash (winClassify ([0x5C, 0x5C, 0x3002] ++ asciiStr "\\share\\x")).1 =
      [[0x3002], asciiStr "share", asciiStr "x"] := by decide_ascii
  unfold winUncHost
  rw [hsplit]
  simp only []
  rw [Proofs.C07.impl_eval_slow c17bIdnaDot _ [0xE3, 0x80, 0x82] (by decide +kernel) (by decide +kernel)
    (by rw [Proofs.Eval.percentDecode_eq_fuel]; decide +kernel)]
  decide +kernel

/-- hypotheses of `C17_unc_dot_host_rejected_from_path` satisfiable, and its conclusion on the instance:
    `\\。\share\x` is rejected by url_from_file_path (the C++ library since commit 51d5062: url_error
    file_unsupported_path) -/
theorem C17_unc_dot_host_witness :
    Impl.urlFromFilePath c17bIdnaDot ([0x5C, 0x5C, 0x3002] ++ asciiStr "\\share\\x") .windows = none :=
  C17_unc_dot_host_rejected_from_path c17bIdnaDot _ _ (by decide_ascii) (by decide_ascii) c17b_dot_host rfl

end Upa.Props

#print axioms Upa.Props.C17_roundtrip_windows_drive
#print axioms Upa.Props.C17_fixed_point_windows_drive
#print axioms Upa.Props.C17_fixed_point_windows_drive_ascii
#print axioms Upa.Props.C17_windows_norm_idem
#print axioms Upa.Props.C17_roundtrip_windows_unc
#print axioms Upa.Props.C17_fixed_point_windows_unc_of_reparse
#print axioms Upa.Props.C17_fixed_point_windows_unc_partial
#print axioms Upa.Props.C17_unc_localhost_counterexample
#print axioms Upa.Props.C17_unc_dot_host_rejected
#print axioms Upa.Props.C17_unc_dot_host_rejected_from_path
#print axioms Upa.Props.C17_unc_dot_host_witness
#print axioms Upa.Props.c17bIdna_stable
