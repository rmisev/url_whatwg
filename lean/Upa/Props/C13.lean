import Upa.Gen.Tables
import Upa.Spec.Sets
import Upa.Impl.Rep
/-
  C13 — percent-encode sets and code point classes equal the Standard's, in every build.
  `Upa.Gen.*` is regenerated on every run by executing the current tree compiled as C++11/14/17/20 and
  querying every set / class through the public lookups for all 256 one-byte values (three character
  widths each; `_any` is the OR over the widths and spellings, the plain name the AND, so the two
  coincide iff all lookups agree).  The theorems below are re-checked by the kernel on every run:
  a one-bit edit of a table, of a constexpr builder or of a lookup makes the file fail.

  The sweep over the 256 values is made once, for the C++11 build.  A correct build prints the very
  numerals the C++11 build prints, so the statement about another mode is the C++11 statement up to
  unfolding the generated constants, and the C++11 theorem is its proof; as soon as one bit of a mode
  differs the two statements are not convertible and that theorem does not type-check.
-/
namespace Upa.Props
open Upa Upa.Gen Upa.Spec

/-- a regenerated 256-bit membership mask agrees with a predicate on every one-byte value, through
    every lookup -/
def tableOk (tbl any : Nat) (spec : Nat → Bool) : Bool :=
  (List.range 256).all (fun c => tbl.testBit c == spec c && any.testBit c == spec c) && decide (any < 2 ^ 256)

theorem tableOk_spec {tbl any : Nat} {spec : Nat → Bool} (h : tableOk tbl any spec = true) :
    ∀ c, c < 256 → tbl.testBit c = spec c ∧ any.testBit c = spec c := by
  intro c hc
  simp only [tableOk, Bool.and_eq_true, List.all_eq_true, List.mem_range, beq_iff_eq] at h
  exact h.1 c hc

/-- one observed `get_scheme_info` result equals the model's scheme functions -/
def schemeEntryOk (e : List Nat × Option (Nat × Bool × Bool × Bool × Bool × Nat)) : Bool :=
  match e.2 with
  | some (dp, special, file, _http, _ws, idx) =>
    Impl.isSpecialScheme e.1 == special && Impl.isFileScheme e.1 == file &&
    (Impl.defaultPort e.1).map (· + 1) == (if dp = 0 then none else some dp) && Impl.schemeIndex e.1 == some idx
  | none => !Impl.isSpecialScheme e.1 && Impl.schemeIndex e.1 == none && Impl.defaultPort e.1 == none

/-- a no-encode set never contains a code point above U+00FF (the `is_8bit` guard) -/
theorem C13_wide_never_member (set : Nat → Bool) (c : Nat) (h : c ≥ 256) : noEncode set c = false := by
  simp [noEncode]; omega

/-- a table that tabulates `f` on `0 … n-1` returns `f c` at every index below `n`.  (`List.getD l c` walks `c` cells
    in the kernel, so a sweep of lookups by position is quadratic; one comparison of whole tables is linear.) -/
theorem getD_of_eq_tabulate {l : List Nat} {n : Nat} {f : Nat → Nat} (h : l = (List.range n).map f)
    (c : Nat) (hc : c < n) : l.getD c 0 = f c := by
  subst h; simp [hc]

/-- 8 no-encode sets and 8 code point classes; `tableOk` = every one-byte value, through every lookup -/
theorem C13_tables_cpp11 :
    (tableOk cpp11_fragment cpp11_fragment_any (noEncode fragmentSet) &&
    tableOk cpp11_query cpp11_query_any (noEncode querySet) &&
    tableOk cpp11_squery cpp11_squery_any (noEncode specialQuerySet) &&
    tableOk cpp11_path cpp11_path_any (noEncode pathSet) &&
    tableOk cpp11_rawpath cpp11_rawpath_any (noEncode rawPathSet) &&
    tableOk cpp11_posixpath cpp11_posixpath_any (noEncode posixPathSet) &&
    tableOk cpp11_userinfo cpp11_userinfo_any (noEncode userinfoSet) &&
    tableOk cpp11_component cpp11_component_any (noEncode componentSet) &&
    tableOk cpp11_fhost cpp11_fhost_any (fun c => forbiddenHost c) &&
    tableOk cpp11_fdomain cpp11_fdomain_any (fun c => forbiddenDomain c) &&
    tableOk cpp11_hex cpp11_hex_any (fun c => isHex c) &&
    tableOk cpp11_ipv4char cpp11_ipv4char_any (fun c => ipv4Char c) &&
    tableOk cpp11_scheme cpp11_scheme_any (fun c => isSchemeChar c) &&
    tableOk cpp11_asciidomain cpp11_asciidomain_any (fun c => asciiDomainChar c) &&
    tableOk cpp11_digit cpp11_digit_any (fun c => isDigit c) &&
    tableOk cpp11_alpha cpp11_alpha_any (fun c => isAlpha c)) = true := by decide +kernel

theorem C13_encbyte_cpp11 : ∀ c, c < 256 → cpp11_encbyte.getD c 0 = urlencodedByte c :=
  getD_of_eq_tabulate (by decide +kernel)
theorem C13_hexnum_cpp11 : ∀ c, c < 256 → isHex c = true → cpp11_hexnum.getD c 0 = hexVal c := by decide +kernel
theorem C13_misc_cpp11 : cpp11_pctbyte_ok = true ∧ cpp11_widemembers = 0 ∧ cpp11_partstart = Impl.kPartStart := by decide +kernel
/-- every table lookup (and a parse / encode_url_component) made DURING STATIC INITIALIZATION, before the library's own
    initializers, gives the answer it gives afterwards: the tables are constant-initialized in this mode -/
theorem C13_static_init_cpp11 : cpp11_earlydiff = 0 := by decide

/-- the scheme table as observed through `get_scheme_info` equals the model's scheme functions -/
theorem C13_schemes_cpp11 : cpp11_schemes.all schemeEntryOk = true := by decide +kernel

theorem C13_tables_cpp14 :
    (tableOk cpp14_fragment cpp14_fragment_any (noEncode fragmentSet) &&
    tableOk cpp14_query cpp14_query_any (noEncode querySet) &&
    tableOk cpp14_squery cpp14_squery_any (noEncode specialQuerySet) &&
    tableOk cpp14_path cpp14_path_any (noEncode pathSet) &&
    tableOk cpp14_rawpath cpp14_rawpath_any (noEncode rawPathSet) &&
    tableOk cpp14_posixpath cpp14_posixpath_any (noEncode posixPathSet) &&
    tableOk cpp14_userinfo cpp14_userinfo_any (noEncode userinfoSet) &&
    tableOk cpp14_component cpp14_component_any (noEncode componentSet) &&
    tableOk cpp14_fhost cpp14_fhost_any (fun c => forbiddenHost c) &&
    tableOk cpp14_fdomain cpp14_fdomain_any (fun c => forbiddenDomain c) &&
    tableOk cpp14_hex cpp14_hex_any (fun c => isHex c) &&
    tableOk cpp14_ipv4char cpp14_ipv4char_any (fun c => ipv4Char c) &&
    tableOk cpp14_scheme cpp14_scheme_any (fun c => isSchemeChar c) &&
    tableOk cpp14_asciidomain cpp14_asciidomain_any (fun c => asciiDomainChar c) &&
    tableOk cpp14_digit cpp14_digit_any (fun c => isDigit c) &&
    tableOk cpp14_alpha cpp14_alpha_any (fun c => isAlpha c)) = true := C13_tables_cpp11

theorem C13_encbyte_cpp14 : ∀ c, c < 256 → cpp14_encbyte.getD c 0 = urlencodedByte c := C13_encbyte_cpp11
theorem C13_hexnum_cpp14 : ∀ c, c < 256 → isHex c = true → cpp14_hexnum.getD c 0 = hexVal c := C13_hexnum_cpp11
theorem C13_misc_cpp14 : cpp14_pctbyte_ok = true ∧ cpp14_widemembers = 0 ∧ cpp14_partstart = Impl.kPartStart := by decide +kernel
theorem C13_static_init_cpp14 : cpp14_earlydiff = 0 := by decide
theorem C13_schemes_cpp14 : cpp14_schemes.all schemeEntryOk = true := C13_schemes_cpp11

theorem C13_tables_cpp17 :
    (tableOk cpp17_fragment cpp17_fragment_any (noEncode fragmentSet) &&
    tableOk cpp17_query cpp17_query_any (noEncode querySet) &&
    tableOk cpp17_squery cpp17_squery_any (noEncode specialQuerySet) &&
    tableOk cpp17_path cpp17_path_any (noEncode pathSet) &&
    tableOk cpp17_rawpath cpp17_rawpath_any (noEncode rawPathSet) &&
    tableOk cpp17_posixpath cpp17_posixpath_any (noEncode posixPathSet) &&
    tableOk cpp17_userinfo cpp17_userinfo_any (noEncode userinfoSet) &&
    tableOk cpp17_component cpp17_component_any (noEncode componentSet) &&
    tableOk cpp17_fhost cpp17_fhost_any (fun c => forbiddenHost c) &&
    tableOk cpp17_fdomain cpp17_fdomain_any (fun c => forbiddenDomain c) &&
    tableOk cpp17_hex cpp17_hex_any (fun c => isHex c) &&
    tableOk cpp17_ipv4char cpp17_ipv4char_any (fun c => ipv4Char c) &&
    tableOk cpp17_scheme cpp17_scheme_any (fun c => isSchemeChar c) &&
    tableOk cpp17_asciidomain cpp17_asciidomain_any (fun c => asciiDomainChar c) &&
    tableOk cpp17_digit cpp17_digit_any (fun c => isDigit c) &&
    tableOk cpp17_alpha cpp17_alpha_any (fun c => isAlpha c)) = true := C13_tables_cpp11

theorem C13_encbyte_cpp17 : ∀ c, c < 256 → cpp17_encbyte.getD c 0 = urlencodedByte c := C13_encbyte_cpp11
theorem C13_hexnum_cpp17 : ∀ c, c < 256 → isHex c = true → cpp17_hexnum.getD c 0 = hexVal c := C13_hexnum_cpp11
theorem C13_misc_cpp17 : cpp17_pctbyte_ok = true ∧ cpp17_widemembers = 0 ∧ cpp17_partstart = Impl.kPartStart := by decide +kernel
theorem C13_static_init_cpp17 : cpp17_earlydiff = 0 := by decide
theorem C13_schemes_cpp17 : cpp17_schemes.all schemeEntryOk = true := C13_schemes_cpp11

theorem C13_tables_cpp20 :
    (tableOk cpp20_fragment cpp20_fragment_any (noEncode fragmentSet) &&
    tableOk cpp20_query cpp20_query_any (noEncode querySet) &&
    tableOk cpp20_squery cpp20_squery_any (noEncode specialQuerySet) &&
    tableOk cpp20_path cpp20_path_any (noEncode pathSet) &&
    tableOk cpp20_rawpath cpp20_rawpath_any (noEncode rawPathSet) &&
    tableOk cpp20_posixpath cpp20_posixpath_any (noEncode posixPathSet) &&
    tableOk cpp20_userinfo cpp20_userinfo_any (noEncode userinfoSet) &&
    tableOk cpp20_component cpp20_component_any (noEncode componentSet) &&
    tableOk cpp20_fhost cpp20_fhost_any (fun c => forbiddenHost c) &&
    tableOk cpp20_fdomain cpp20_fdomain_any (fun c => forbiddenDomain c) &&
    tableOk cpp20_hex cpp20_hex_any (fun c => isHex c) &&
    tableOk cpp20_ipv4char cpp20_ipv4char_any (fun c => ipv4Char c) &&
    tableOk cpp20_scheme cpp20_scheme_any (fun c => isSchemeChar c) &&
    tableOk cpp20_asciidomain cpp20_asciidomain_any (fun c => asciiDomainChar c) &&
    tableOk cpp20_digit cpp20_digit_any (fun c => isDigit c) &&
    tableOk cpp20_alpha cpp20_alpha_any (fun c => isAlpha c)) = true := C13_tables_cpp11

theorem C13_encbyte_cpp20 : ∀ c, c < 256 → cpp20_encbyte.getD c 0 = urlencodedByte c := C13_encbyte_cpp11
theorem C13_hexnum_cpp20 : ∀ c, c < 256 → isHex c = true → cpp20_hexnum.getD c 0 = hexVal c := C13_hexnum_cpp11
theorem C13_misc_cpp20 : cpp20_pctbyte_ok = true ∧ cpp20_widemembers = 0 ∧ cpp20_partstart = Impl.kPartStart := by decide +kernel
theorem C13_static_init_cpp20 : cpp20_earlydiff = 0 := by decide
theorem C13_schemes_cpp20 : cpp20_schemes.all schemeEntryOk = true := C13_schemes_cpp11

/-- the property as stated: for every code point and every language mode, membership equals the
    Standard's definition (shown for the fragment set; the other 15 tables are the remaining
    conjuncts of `C13_tables_*`) -/
theorem C13_fragment_all_modes (c : Nat) (hc : c < 256) :
    cpp11_fragment.testBit c = noEncode fragmentSet c ∧ cpp14_fragment.testBit c = noEncode fragmentSet c ∧
    cpp17_fragment.testBit c = noEncode fragmentSet c ∧ cpp20_fragment.testBit c = noEncode fragmentSet c := by
  have h11 := C13_tables_cpp11; have h14 := C13_tables_cpp14; have h17 := C13_tables_cpp17; have h20 := C13_tables_cpp20
  simp only [Bool.and_eq_true] at h11 h14 h17 h20
  exact ⟨(tableOk_spec h11.1.1.1.1.1.1.1.1.1.1.1.1.1.1.1 c hc).1, (tableOk_spec h14.1.1.1.1.1.1.1.1.1.1.1.1.1.1.1 c hc).1,
         (tableOk_spec h17.1.1.1.1.1.1.1.1.1.1.1.1.1.1.1 c hc).1, (tableOk_spec h20.1.1.1.1.1.1.1.1.1.1.1.1.1.1.1 c hc).1⟩

/-- the urlencoded byte rule is the Standard's serializer: space → '+', members of the
    application/x-www-form-urlencoded percent-encode set → %XX, everything else unchanged -/
theorem C13_urlencoded_rule : ∀ b, b < 256 →
    (urlencodedByte b = 0x2B ↔ b = 0x20) ∧
    (urlencodedByte b = 0x25 ↔ (b ≠ 0x20 ∧ urlencodedSet b = true)) ∧
    (urlencodedByte b ≠ 0x25 → urlencodedByte b ≠ 0x2B → urlencodedByte b = b) := by decide +kernel

/-- the two file-path sets equal their documented definition -/
theorem C13_file_path_sets (c : Nat) :
    rawPathSet c = (pathSet c || c == 0x25) ∧ posixPathSet c = (rawPathSet c || c == 0x3A || c == 0x5C || c == 0x7C) := by
  simp [rawPathSet, posixPathSet]

-- non-vacuity: the generated tables are not constant
example : cpp11_fragment.testBit 0x41 = true ∧ cpp11_fragment.testBit 0x20 = false ∧ cpp17_userinfo.testBit 0x40 = false := by decide


#print axioms C13_tables_cpp11
#print axioms C13_encbyte_cpp11
#print axioms C13_schemes_cpp11
#print axioms C13_tables_cpp14
#print axioms C13_encbyte_cpp14
#print axioms C13_schemes_cpp14
#print axioms C13_tables_cpp17
#print axioms C13_encbyte_cpp17
#print axioms C13_schemes_cpp17
#print axioms C13_tables_cpp20
#print axioms C13_encbyte_cpp20
#print axioms C13_schemes_cpp20
#print axioms C13_fragment_all_modes
#print axioms C13_urlencoded_rule

end Upa.Props
