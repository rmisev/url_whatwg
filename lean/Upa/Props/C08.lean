import Upa.Proofs.Canon
/-
  C08 — every valid URL is in canonical, delimiter-safe form: the executable predicate `Impl.Canon`
  (Upa/Impl/Canon.lean) holds for every URL the parser model returns (given a canonical base) and is
  kept by every setter and by `url_search_params::update`.
  Helper lemmas: Upa/Proofs/Canon.lean (namespace Upa.Proofs.C08: what the encoders and the host parser emit,
  `Canon` as the alphabet `canonA`); the walk over the parser and the setters: Upa/Proofs/RecInv.lean.

  No hypothesis on the input code units / scalar values is needed anywhere: the model's
  `encodeUtf8Char` emits bytes < 256 for EVERY `Nat`, so each `%XX` is `%` + two upper-case hex digits.

  `IdnaCanon idna` (Upa/Proofs/Canon.lean) is the only assumption on the IDNA parameter:
      out_ascii : ∀ s r, idna s = some r → r ≠ [] ∧ ∀ c ∈ r, c < 0x80 ∧ isUpperAlpha c = false
  (ToASCII output is non-empty lower-case ASCII; the forbidden-domain check is done by the code itself).

  Strings used in the examples (spelled out as code points):
    sampleUrl  = "http://EXAMPLE.com:80/a/../b c?q'#f g"
    sampleRel  = "../x y?#"
-/
namespace Upa.Props
open Upa.Proofs.C08 (IdnaCanon sampleIdna sampleIdna_canon)

/-! ### 1. output alphabets of the encode loops, in the form `Canon` uses them -/

/-- credentials: printable, none of `/ : @ ? #` -/
theorem C08_userinfo_alphabet :
    ∀ s : List Nat, Impl.userinfoOk (Impl.percentEncode Impl.userinfoNoEnc s) = true :=
  fun s => Proofs.C08.userinfo_all s

-- "a:/@?#%" U+00E9 DEL ' '; then U+110000, a surrogate and 2^40 (no scalar values)
example : Impl.percentEncode Impl.userinfoNoEnc [0x61, 0x3A, 0x2F, 0x40, 0x3F, 0x23, 0x25, 0xE9, 0x7F, 0x20] =
    [0x61, 0x25, 0x33, 0x41, 0x25, 0x32, 0x46, 0x25, 0x34, 0x30, 0x25, 0x33, 0x46, 0x25, 0x32, 0x33, 0x25,
     0x25, 0x43, 0x33, 0x25, 0x41, 0x39, 0x25, 0x37, 0x46, 0x25, 0x32, 0x30] := by decide +kernel
example : Impl.userinfoOk (Impl.percentEncode Impl.userinfoNoEnc [0x110000, 0xD800, 2^40]) = true := by
  decide +kernel

/-- path segment: printable, none of `? # /` — `/` is in the path no-encode set, the segment is cut at it -/
theorem C08_path_alphabet :
    ∀ s : List Nat, (∀ c ∈ s, c ≠ 0x2F) →
      (Impl.percentEncode Impl.pathNoEnc s).all
        (fun c => Impl.isPrintable c && c != 0x3F && c != 0x23 && c != 0x2F) = true :=
  fun s hs => Proofs.C08.path_all s hs

-- "a b?#\{}" U+20AC
example : ∀ c ∈ ([0x61, 0x20, 0x62, 0x3F, 0x23, 0x5C, 0x7B, 0x7D, 0x20AC] : List Nat), c ≠ 0x2F := by decide
example : Impl.percentEncode Impl.pathNoEnc [0x61, 0x20, 0x62, 0x3F, 0x23, 0x5C, 0x7B, 0x7D, 0x20AC] =
    [0x61, 0x25, 0x32, 0x30, 0x62, 0x25, 0x33, 0x46, 0x25, 0x32, 0x33, 0x5C, 0x25, 0x37, 0x42, 0x25, 0x37, 0x44,
     0x25, 0x45, 0x32, 0x25, 0x38, 0x32, 0x25, 0x41, 0x43] := by decide +kernel
-- the hypothesis is needed: `/` passes through the path encoder
example : Impl.percentEncode Impl.pathNoEnc [0x2F] = [0x2F] := by decide +kernel

/-- query of a non-special URL: printable, no `#` -/
theorem C08_query_alphabet :
    ∀ s : List Nat,
      (Impl.percentEncode Impl.queryNoEnc s).all
        (fun c => Impl.isPrintable c && c != 0x23 && (c != 0x27 || !false)) = true :=
  fun s => Proofs.C08.query_all s

/-- query of a special URL: additionally no `'` -/
theorem C08_specialQuery_alphabet :
    ∀ s : List Nat,
      (Impl.percentEncode Impl.specialQueryNoEnc s).all
        (fun c => Impl.isPrintable c && c != 0x23 && (c != 0x27 || !true)) = true :=
  fun s => Proofs.C08.specialQuery_all s

-- "q'# <>" : `'` stays in a non-special query, is encoded in a special one
example : Impl.percentEncode Impl.queryNoEnc [0x71, 0x27, 0x23, 0x20, 0x3C, 0x3E] =
    [0x71, 0x27, 0x25, 0x32, 0x33, 0x25, 0x32, 0x30, 0x25, 0x33, 0x43, 0x25, 0x33, 0x45] := by decide +kernel
example : Impl.percentEncode Impl.specialQueryNoEnc [0x71, 0x27, 0x23, 0x20, 0x3C, 0x3E] =
    [0x71, 0x25, 0x32, 0x37, 0x25, 0x32, 0x33, 0x25, 0x32, 0x30, 0x25, 0x33, 0x43, 0x25, 0x33, 0x45] := by
  decide +kernel

/-- fragment: printable -/
theorem C08_fragment_alphabet :
    ∀ s : List Nat, (Impl.percentEncode Impl.fragmentNoEnc s).all Impl.isPrintable = true :=
  fun s => Proofs.C08.fragment_all s

-- "f g`#?" : `#` and `?` stay, space and backtick are encoded
example : Impl.percentEncode Impl.fragmentNoEnc [0x66, 0x20, 0x67, 0x60, 0x23, 0x3F] =
    [0x66, 0x25, 0x32, 0x30, 0x67, 0x25, 0x36, 0x30, 0x23, 0x3F] := by decide +kernel

/-- opaque path: printable or space, no `? #` — the C0 encoder keeps 0x20..0x7E, `?` and `#` are cut
    before it runs -/
theorem C08_opaquePath_alphabet :
    ∀ s : List Nat, (∀ c ∈ s, c ≠ 0x3F ∧ c ≠ 0x23) →
      (Impl.percentEncodeC0 s).all
        (fun c => (Impl.isPrintable c || c == 0x20) && c != 0x3F && c != 0x23) = true :=
  fun s hs => Proofs.C08.opaque_all s hs

-- "a b" TAB DEL U+00E9
example : ∀ c ∈ ([0x61, 0x20, 0x62, 0x09, 0x7F, 0xE9] : List Nat), c ≠ 0x3F ∧ c ≠ 0x23 := by decide
example : Impl.percentEncodeC0 [0x61, 0x20, 0x62, 0x09, 0x7F, 0xE9] =
    [0x61, 0x20, 0x62, 0x25, 0x30, 0x39, 0x25, 0x37, 0x46, 0x25, 0x43, 0x33, 0x25, 0x41, 0x39] := by
  decide +kernel
-- the hypothesis is needed
example : Impl.percentEncodeC0 [0x3F, 0x23] = [0x3F, 0x23] := by decide +kernel

/-- opaque host: printable and no forbidden host code point, when the input has none (space included) -/
theorem C08_opaqueHost_alphabet :
    ∀ s : List Nat, (∀ c ∈ s, Spec.forbiddenHost c = false) →
      (Impl.percentEncodeC0 s).all (fun c => Impl.isPrintable c && !Spec.forbiddenHost c) = true :=
  fun s hs => Proofs.C08.opaqueHost_all s hs

example : ∀ c ∈ ([0x61, 0x21, 0x7F, 0x1F, 0xE9] : List Nat), Spec.forbiddenHost c = false := by decide
example : Impl.percentEncodeC0 [0x61, 0x21, 0x7F, 0x1F, 0xE9] =
    [0x61, 0x21, 0x25, 0x37, 0x46, 0x25, 0x31, 0x46, 0x25, 0x43, 0x33, 0x25, 0x41, 0x39] := by decide +kernel

/-! ### 2. the host parser returns a canonical host -/

theorem C08_host_ok :
    ∀ idna, IdnaCanon idna → ∀ (s : List Nat) (o : Bool) (h : Host),
      Impl.parseHost idna s o = some h → Impl.hostOk h = true :=
  fun idna hi s o h hh => (Proofs.C08.C08_host idna hi s o h hh).1

/-- and the host text is empty only for empty input (kind `.empty`) -/
theorem C08_host_nonempty :
    ∀ idna, IdnaCanon idna → ∀ (s : List Nat) (o : Bool) (h : Host),
      Impl.parseHost idna s o = some h → s ≠ [] → h.text ≠ [] :=
  fun idna hi s o h hh => (Proofs.C08.C08_host idna hi s o h hh).2

-- the hypothesis on the IDNA parameter is satisfiable
example : IdnaCanon sampleIdna := sampleIdna_canon
-- "EXA.c" (fast path), "0x7f.1" (IPv4), "[::1]" (IPv6), "a!b" opaque, "" opaque
example : Impl.parseHost sampleIdna [0x45, 0x58, 0x41, 0x2E, 0x63] false =
    some { kind := .domain, text := [0x65, 0x78, 0x61, 0x2E, 0x63] } := by decide +kernel
example : Impl.parseHost sampleIdna [0x30, 0x78, 0x37, 0x66, 0x2E, 0x31] false =
    some { kind := .ipv4, text := [0x31, 0x32, 0x37, 0x2E, 0x30, 0x2E, 0x30, 0x2E, 0x31] } := by decide +kernel
example : Impl.parseHost sampleIdna [0x5B, 0x3A, 0x3A, 0x31, 0x5D] false =
    some { kind := .ipv6, text := [0x5B, 0x3A, 0x3A, 0x31, 0x5D] } := by decide +kernel
example : Impl.parseHost sampleIdna [0x61, 0x21, 0x7F] true =
    some { kind := .opaque, text := [0x61, 0x21, 0x25, 0x37, 0x46] } := by decide +kernel
example : Impl.parseHost sampleIdna [] true = some { kind := .empty, text := [] } := by decide +kernel
-- `hostOk` is a real restriction
example : Impl.hostOk { kind := .domain, text := [0x41] } = false ∧
    Impl.hostOk { kind := .opaque, text := [0x20] } = false ∧
    Impl.hostOk { kind := .ipv6, text := [0x5B, 0x47, 0x5D] } = false ∧
    Impl.hostOk { kind := .domain, text := [] } = false := by decide

/-! ### 3. every successfully parsed URL is canonical -/

theorem C08_parse_canon :
    ∀ idna, IdnaCanon idna → ∀ (e : Enc) (units : List Nat) (base : Option Url) (u : Url),
      (base = none ∨ ∃ b, base = some b ∧ Impl.Canon b = true) →
      Impl.parse idna e units base = some u → Impl.Canon u = true := by
  intro idna hi e units base u hb h
  refine Proofs.C08.parse_canon idna hi e units base ?_ u h
  intro b hbb
  rcases hb with hb | ⟨b', hb', hc⟩
  · rw [hb] at hbb; simp at hbb
  · rw [hb'] at hbb; simp only [Option.some.injEq] at hbb; subst hbb; exact hc

/-- "http://EXAMPLE.com:80/a/../b c?q'#f g" -/
def sampleUrl : List Nat :=
  [0x68, 0x74, 0x74, 0x70, 0x3A, 0x2F, 0x2F, 0x45, 0x58, 0x41, 0x4D, 0x50, 0x4C, 0x45, 0x2E, 0x63, 0x6F, 0x6D,
   0x3A, 0x38, 0x30, 0x2F, 0x61, 0x2F, 0x2E, 0x2E, 0x2F, 0x62, 0x20, 0x63, 0x3F, 0x71, 0x27, 0x23, 0x66, 0x20,
   0x67]
/-- "../x y?#" -/
def sampleRel : List Nat := [0x2E, 0x2E, 0x2F, 0x78, 0x20, 0x79, 0x3F, 0x23]

-- without a base: scheme lower-cased, default port dropped, `..` resolved, space / `'` encoded;
-- serialization "http://example.com/b%20c?q%27#f%20g"
example : Impl.parse sampleIdna .u8 sampleUrl none =
    some { scheme := [0x68, 0x74, 0x74, 0x70],
           host := some { kind := .domain,
                          text := [0x65, 0x78, 0x61, 0x6D, 0x70, 0x6C, 0x65, 0x2E, 0x63, 0x6F, 0x6D] },
           path := [[0x62, 0x25, 0x32, 0x30, 0x63]],
           query := some [0x71, 0x25, 0x32, 0x37],
           fragment := some [0x66, 0x25, 0x32, 0x30, 0x67] } := by decide +kernel
example : (Impl.parse sampleIdna .u8 sampleUrl none).map Impl.Canon = some true := by decide +kernel
-- with that (canonical) URL as the base: "http://example.com/x%20y?#"
example : ∃ b, Impl.parse sampleIdna .u8 sampleUrl none = some b ∧ Impl.Canon b = true ∧
    Impl.parse sampleIdna .u16 sampleRel (some b) =
      some { b with path := [[0x78, 0x25, 0x32, 0x30, 0x79]], query := some [], fragment := some [] } := by
  decide +kernel
-- "file://LOCALHOST/C|/x/../y" ↦ "file:///C:/y" (localhost dropped, drive letter normalised and kept)
example : (Impl.parse sampleIdna .u8 [0x66, 0x69, 0x6C, 0x65, 0x3A, 0x2F, 0x2F, 0x4C, 0x4F, 0x43, 0x41, 0x4C,
      0x48, 0x4F, 0x53, 0x54, 0x2F, 0x43, 0x7C, 0x2F, 0x78, 0x2F, 0x2E, 0x2E, 0x2F, 0x79] none).map
      (fun u => (Impl.serialize u, Impl.Canon u)) =
    some ([0x66, 0x69, 0x6C, 0x65, 0x3A, 0x2F, 0x2F, 0x2F, 0x43, 0x3A, 0x2F, 0x79], true) := by decide +kernel
-- "Ab://u s:p@h!:8/x?'" ↦ "ab://u%20s:p@h!:8/x?'" (non-special: opaque host, `'` stays in the query)
example : (Impl.parse sampleIdna .u8 [0x41, 0x62, 0x3A, 0x2F, 0x2F, 0x75, 0x20, 0x73, 0x3A, 0x70, 0x40, 0x68,
      0x21, 0x3A, 0x38, 0x2F, 0x78, 0x3F, 0x27] none).map (fun u => (Impl.serialize u, Impl.Canon u)) =
    some ([0x61, 0x62, 0x3A, 0x2F, 0x2F, 0x75, 0x25, 0x32, 0x30, 0x73, 0x3A, 0x70, 0x40, 0x68, 0x21, 0x3A, 0x38,
      0x2F, 0x78, 0x3F, 0x27], true) := by decide +kernel
-- `Canon` is a real restriction: an upper-case scheme, an explicit default port, a raw space in the query,
-- a special URL without host are all rejected
example : Impl.Canon { scheme := [0x41] } = false ∧
    Impl.Canon { scheme := [0x68, 0x74, 0x74, 0x70], host := some { kind := .domain, text := [0x61] },
                 port := some 80, path := [[]] } = false ∧
    Impl.Canon { scheme := [0x61], query := some [0x20] } = false ∧
    Impl.Canon { scheme := [0x68, 0x74, 0x74, 0x70], path := [[]] } = false ∧
    Impl.Canon { scheme := [0x61] } = true := by decide +kernel

/-! ### 4. the setters and `url_search_params::update` keep the URL canonical -/

/-- also when the setter reports failure: a failing state-override run may have written parts (exactly
    as in the Standard); whatever was written is canonical -/
theorem C08_set_canon :
    ∀ idna, IdnaCanon idna → ∀ (s : Impl.Setter) (e : Enc) (units : List Nat) (u : Url),
      Impl.Canon u = true → Impl.Canon (Impl.setValid idna s e units u).1 = true :=
  fun idna hi s e units u h => Proofs.C08.set_canon idna hi s e units u h

-- host setter with a bad port, "X.y:99999": reports failure, but has already written the host
example : ∃ b, Impl.parse sampleIdna .u8 sampleUrl none = some b ∧ Impl.Canon b = true ∧
    Impl.setValid sampleIdna .host .u8 [0x58, 0x2E, 0x79, 0x3A, 0x39, 0x39, 0x39, 0x39, 0x39] b =
      ({ b with host := some { kind := .domain, text := [0x78, 0x2E, 0x79] } }, false) := by
  decide +kernel
-- protocol setter "WSS:" and port setter "443" (the new default port is dropped)
example : ∃ b, Impl.parse sampleIdna .u8 sampleUrl none = some b ∧
    Impl.setValid sampleIdna .protocol .u8 [0x57, 0x53, 0x53, 0x3A] b = ({ b with scheme := [0x77, 0x73, 0x73] }, true) ∧
    Impl.setValid sampleIdna .port .u8 [0x34, 0x34, 0x33] { b with scheme := [0x77, 0x73, 0x73] } =
      ({ b with scheme := [0x77, 0x73, 0x73] }, true) ∧
    Impl.setValid sampleIdna .port .u8 [0x38, 0x30] { b with scheme := [0x77, 0x73, 0x73] } =
      ({ b with scheme := [0x77, 0x73, 0x73], port := some 80 }, true) := by
  decide +kernel

/-- `update` writes `formSerialize list` (bytes < 256) as the query, or removes the query -/
theorem C08_update_canon :
    ∀ o : Impl.UrlObj, (∀ u, o.url = some u → Impl.Canon u = true) →
      (∀ p, o.sp = some p → ∀ pr ∈ p.list, (∀ b ∈ pr.1, b < 256) ∧ (∀ b ∈ pr.2, b < 256)) →
      ∀ u', o.update.url = some u' → Impl.Canon u' = true :=
  fun o hu hsp => Proofs.C08.update_canon o hu hsp

/-- "a:x" -/
def sampleOpaque : Url := { scheme := [0x61], hasOpaquePath := true, opaquePath := [0x78] }

-- params [("a b", "'#")] on "a:x": query becomes "a+b=%27%23"
example : Impl.Canon sampleOpaque = true := by decide +kernel
example : (Impl.UrlObj.update
      { sp := some { list := [([0x61, 0x20, 0x62], [0x27, 0x23])] }, url := some sampleOpaque }).url =
    some { sampleOpaque with query := some [0x61, 0x2B, 0x62, 0x3D, 0x25, 0x32, 0x37, 0x25, 0x32, 0x33] } := by
  decide +kernel

end Upa.Props

#print axioms Upa.Props.C08_userinfo_alphabet
#print axioms Upa.Props.C08_path_alphabet
#print axioms Upa.Props.C08_query_alphabet
#print axioms Upa.Props.C08_specialQuery_alphabet
#print axioms Upa.Props.C08_fragment_alphabet
#print axioms Upa.Props.C08_opaquePath_alphabet
#print axioms Upa.Props.C08_opaqueHost_alphabet
#print axioms Upa.Props.C08_host_ok
#print axioms Upa.Props.C08_host_nonempty
#print axioms Upa.Props.C08_parse_canon
#print axioms Upa.Props.C08_set_canon
#print axioms Upa.Props.C08_update_canon
