import Upa.Proofs.Form
import Upa.Proofs.EvalFuel
/-
  C15 — application/x-www-form-urlencoded parser and serializer of url_search_params
  (include/upa/url_search_params.h:685-777; model: Upa/Impl/Form.lean) against URL Standard §5
  (Upa/Spec/Form.lean).  Helper lemmas: Upa/Proofs/Form.lean.

  Byte strings used in the examples, spelled out:
    "a=b&&=c&d"                        = [0x61,0x3D,0x62,0x26,0x26,0x3D,0x63,0x26,0x64]
    "a+b=%2B+%2b&x%41=%4&%=%&y=%"      ('+', "%2B"/"%2b", '%' at the last two positions of a piece and of
                                        the input, '%' directly before '=' and '&')
    "a=\xFF&b=%FF&c=%E2%82%AC&d=%E2%82" (raw ill-formed byte, escaped ill-formed byte, escaped U+20AC,
                                        escaped truncated sequence)
-/
namespace Upa.Props
open Upa.Proofs.C15

/-! ### the one-pass parser returns the Standard's list -/

theorem C15_parse :
    ∀ bytes : List Nat, (∀ b ∈ bytes, b < 256) →
      Impl.formParse false bytes =
        (Spec.urlencodedParse bytes).map (fun p => (Spec.utf8Encode p.1, Spec.utf8Encode p.2)) :=
  fun bytes h => parse_eq bytes h

-- "a=b&&=c&d": empty pieces are skipped, an empty name and an empty value are kept
example : ∀ b ∈ ([0x61, 0x3D, 0x62, 0x26, 0x26, 0x3D, 0x63, 0x26, 0x64] : List Nat), b < 256 := by decide
example : Impl.formParse false [0x61, 0x3D, 0x62, 0x26, 0x26, 0x3D, 0x63, 0x26, 0x64] =
    [([0x61], [0x62]), ([], [0x63]), ([0x64], [])] := by
  simp only [formParse_eqK]; decide +kernel
example : Spec.urlencodedParse [0x61, 0x3D, 0x62, 0x26, 0x26, 0x3D, 0x63, 0x26, 0x64] =
    [([0x61], [0x62]), ([], [0x63]), ([0x64], [])] := by
  simp only [urlencodedParse_eqK]; decide +kernel
-- "a+b=%2B+%2b&x%41=%4&%=%&y=%": '+' → space but "%2B" → '+'; '%' without two hex digits is literal
example : Impl.formParse false [0x61, 0x2B, 0x62, 0x3D, 0x25, 0x32, 0x42, 0x2B, 0x25, 0x32, 0x62, 0x26,
      0x78, 0x25, 0x34, 0x31, 0x3D, 0x25, 0x34, 0x26, 0x25, 0x3D, 0x25, 0x26, 0x79, 0x3D, 0x25] =
    [([0x61, 0x20, 0x62], [0x2B, 0x20, 0x2B]), ([0x78, 0x41], [0x25, 0x34]), ([0x25], [0x25]),
     ([0x79], [0x25])] := by
  simp only [formParse_eqK]; decide +kernel
example : Spec.urlencodedParse [0x61, 0x2B, 0x62, 0x3D, 0x25, 0x32, 0x42, 0x2B, 0x25, 0x32, 0x62, 0x26,
      0x78, 0x25, 0x34, 0x31, 0x3D, 0x25, 0x34, 0x26, 0x25, 0x3D, 0x25, 0x26, 0x79, 0x3D, 0x25] =
    [([0x61, 0x20, 0x62], [0x2B, 0x20, 0x2B]), ([0x78, 0x41], [0x25, 0x34]), ([0x25], [0x25]),
     ([0x79], [0x25])] := by
  simp only [urlencodedParse_eqK]; decide +kernel
-- "a=\xFF&b=%FF&c=%E2%82%AC&d=%E2%82": ill-formed UTF-8, raw or escaped, becomes U+FFFD (EF BF BD)
example : ∀ b ∈ ([0x61, 0x3D, 0xFF, 0x26, 0x62, 0x3D, 0x25, 0x46, 0x46, 0x26, 0x63, 0x3D, 0x25, 0x45, 0x32,
    0x25, 0x38, 0x32, 0x25, 0x41, 0x43, 0x26, 0x64, 0x3D, 0x25, 0x45, 0x32, 0x25, 0x38, 0x32] : List Nat),
    b < 256 := by decide
example : Impl.formParse false [0x61, 0x3D, 0xFF, 0x26, 0x62, 0x3D, 0x25, 0x46, 0x46, 0x26, 0x63, 0x3D, 0x25,
      0x45, 0x32, 0x25, 0x38, 0x32, 0x25, 0x41, 0x43, 0x26, 0x64, 0x3D, 0x25, 0x45, 0x32, 0x25, 0x38, 0x32] =
    [([0x61], [0xEF, 0xBF, 0xBD]), ([0x62], [0xEF, 0xBF, 0xBD]), ([0x63], [0xE2, 0x82, 0xAC]),
     ([0x64], [0xEF, 0xBF, 0xBD])] := by
  simp only [formParse_eqK]; decide +kernel
example : Spec.urlencodedParse [0x61, 0x3D, 0xFF, 0x26, 0x62, 0x3D, 0x25, 0x46, 0x46, 0x26, 0x63, 0x3D, 0x25,
      0x45, 0x32, 0x25, 0x38, 0x32, 0x25, 0x41, 0x43, 0x26, 0x64, 0x3D, 0x25, 0x45, 0x32, 0x25, 0x38, 0x32] =
    [([0x61], [0xFFFD]), ([0x62], [0xFFFD]), ([0x63], [0x20AC]), ([0x64], [0xFFFD])] := by
  simp only [urlencodedParse_eqK]; decide +kernel

/-! ### `rem_qmark`: exactly one leading '?' is dropped -/

theorem C15_qmark :
    ∀ bytes : List Nat,
      Impl.formParse true bytes = Impl.formParse false (match bytes with | 0x3F :: r => r | l => l) :=
  fun bytes => formParse_true bytes

-- "??a=b" → name "?a"; "?a=b" → name "a"; "a=b" unchanged
example : Impl.formParse true [0x3F, 0x3F, 0x61, 0x3D, 0x62] = [([0x3F, 0x61], [0x62])] := by
  simp only [formParse_eqK]; decide +kernel
example : Impl.formParse true [0x3F, 0x61, 0x3D, 0x62] = [([0x61], [0x62])] := by
  simp only [formParse_eqK]; decide +kernel
example : Impl.formParse true [0x61, 0x3D, 0x62] = [([0x61], [0x62])] := by
  simp only [formParse_eqK]; decide +kernel
example : Impl.formParse false [0x3F, 0x61, 0x3D, 0x62] = [([0x3F, 0x61], [0x62])] := by
  simp only [formParse_eqK]; decide +kernel

/-! ### the table-driven serializer is the Standard's serializer -/

theorem C15_serialize :
    ∀ l : List (List Nat × List Nat),
      (∀ p ∈ l, (∀ c ∈ p.1, Spec.isScalar c = true) ∧ (∀ c ∈ p.2, Spec.isScalar c = true)) →
      Impl.formSerialize (l.map fun p => (Spec.utf8Encode p.1, Spec.utf8Encode p.2)) =
        Spec.urlencodedSerialize l :=
  fun l _ => serialize_spec l

/-- the byte rule alone, for every byte string (no side condition) -/
theorem C15_urlencode :
    ∀ bytes : List Nat, Impl.urlencode bytes = Spec.urlencodedSerializeBytes bytes :=
  fun bytes => urlencode_spec bytes

-- [("",""), ("a b","&=+%"), ("€😀","*-._~")] ↦ "=&a+b=%26%3D%2B%25&%E2%82%AC%F0%9F%98%80=*-._%7E"
example : ∀ p ∈ ([([], []), ([0x61, 0x20, 0x62], [0x26, 0x3D, 0x2B, 0x25]),
      ([0x20AC, 0x1F600], [0x2A, 0x2D, 0x2E, 0x5F, 0x7E])] : List (List Nat × List Nat)),
    (∀ c ∈ p.1, Spec.isScalar c = true) ∧ (∀ c ∈ p.2, Spec.isScalar c = true) := by decide
example : Impl.formSerialize [([], []), ([0x61, 0x20, 0x62], [0x26, 0x3D, 0x2B, 0x25]),
      ([0xE2, 0x82, 0xAC, 0xF0, 0x9F, 0x98, 0x80], [0x2A, 0x2D, 0x2E, 0x5F, 0x7E])] =
    [0x3D, 0x26, 0x61, 0x2B, 0x62, 0x3D, 0x25, 0x32, 0x36, 0x25, 0x33, 0x44, 0x25, 0x32, 0x42, 0x25, 0x32,
     0x35, 0x26, 0x25, 0x45, 0x32, 0x25, 0x38, 0x32, 0x25, 0x41, 0x43, 0x25, 0x46, 0x30, 0x25, 0x39, 0x46,
     0x25, 0x39, 0x38, 0x25, 0x38, 0x30, 0x3D, 0x2A, 0x2D, 0x2E, 0x5F, 0x25, 0x37, 0x45] := by
  decide +kernel
example : Spec.urlencodedSerialize [([], []), ([0x61, 0x20, 0x62], [0x26, 0x3D, 0x2B, 0x25]),
      ([0x20AC, 0x1F600], [0x2A, 0x2D, 0x2E, 0x5F, 0x7E])] =
    [0x3D, 0x26, 0x61, 0x2B, 0x62, 0x3D, 0x25, 0x32, 0x36, 0x25, 0x33, 0x44, 0x25, 0x32, 0x42, 0x25, 0x32,
     0x35, 0x26, 0x25, 0x45, 0x32, 0x25, 0x38, 0x32, 0x25, 0x41, 0x43, 0x25, 0x46, 0x30, 0x25, 0x39, 0x46,
     0x25, 0x39, 0x38, 0x25, 0x38, 0x30, 0x3D, 0x2A, 0x2D, 0x2E, 0x5F, 0x25, 0x37, 0x45] := by
  decide +kernel

/-! ### output alphabet: A–Z a–z 0–9 `*` `-` `.` `_` `+` `%` `=` `&` -/

theorem C15_alphabet :
    ∀ l : List (List Nat × List Nat),
      (∀ p ∈ l, (∀ b ∈ p.1, b < 256) ∧ (∀ b ∈ p.2, b < 256)) →
      ∀ c ∈ Impl.formSerialize l, isFormChar c = true :=
  fun l h => serialize_alphabet l h

-- every byte value as a name, ill-formed UTF-8 and all delimiters as a value
example : ∀ p ∈ ([(List.range 256, [0xFF, 0x26, 0x3D, 0x25, 0x2B, 0x3F, 0x23, 0x20]), ([], [])] :
      List (List Nat × List Nat)), (∀ b ∈ p.1, b < 256) ∧ (∀ b ∈ p.2, b < 256) := by decide +kernel
example : ∀ c ∈ Impl.formSerialize [(List.range 256, [0xFF, 0x26, 0x3D, 0x25, 0x2B, 0x3F, 0x23, 0x20]),
    ([], [])], isFormChar c = true := by decide +kernel
-- the predicate is what it says: of the printable ASCII punctuation only `% & * + - . = _` pass
example : (List.range 256).filter isFormChar =
    [0x25, 0x26, 0x2A, 0x2B, 0x2D, 0x2E] ++ (List.range 10).map (· + 0x30) ++ [0x3D] ++
      (List.range 26).map (· + 0x41) ++ [0x5F] ++ (List.range 26).map (· + 0x61) := by decide +kernel
-- the byte bound is needed: a "byte" ≥ 256 would give a non-hex "digit"
example : Impl.formSerialize [([0x1000], [])] = [0x25, 0x137, 0x30, 0x3D] := by decide +kernel

/-! ### parsing the serialization returns the list -/

theorem C15_roundtrip :
    ∀ l : List (List Nat × List Nat),
      (∀ p ∈ l, (∀ c ∈ p.1, Spec.isScalar c = true) ∧ (∀ c ∈ p.2, Spec.isScalar c = true)) →
      Impl.formParse false (Impl.formSerialize (l.map fun p => (Spec.utf8Encode p.1, Spec.utf8Encode p.2))) =
        l.map fun p => (Spec.utf8Encode p.1, Spec.utf8Encode p.2) :=
  fun l h => roundtrip l h

/-- for arbitrary stored byte strings (a `std::string` name or value need not be valid UTF-8, finding F3):
    parse ∘ serialize repairs the UTF-8 of every name and value and changes nothing else -/
theorem C15_roundtrip_bytes :
    ∀ l : List (List Nat × List Nat),
      (∀ p ∈ l, (∀ b ∈ p.1, b < 256) ∧ (∀ b ∈ p.2, b < 256)) →
      Impl.formParse false (Impl.formSerialize l) =
        l.map fun p => (Impl.checkFixUtf8 p.1, Impl.checkFixUtf8 p.2) :=
  fun l h => roundtrip_bytes l h

-- [("",""), ("a b","&=+%"), ("€😀","*-._~"), ("", "x"), ("%41", "")] survives, including the ("","") pair
example : ∀ p ∈ ([([], []), ([0x61, 0x20, 0x62], [0x26, 0x3D, 0x2B, 0x25]),
      ([0x20AC, 0x1F600], [0x2A, 0x2D, 0x2E, 0x5F, 0x7E]), ([], [0x78]), ([0x25, 0x34, 0x31], [])] :
      List (List Nat × List Nat)),
    (∀ c ∈ p.1, Spec.isScalar c = true) ∧ (∀ c ∈ p.2, Spec.isScalar c = true) := by decide
example : Impl.formSerialize [([], [])] = [0x3D] ∧ Impl.formParse false [0x3D] = [([], [])] := by
  simp only [formParse_eqK]; decide +kernel
example : Impl.formParse false (Impl.formSerialize [([], []), ([0x61, 0x20, 0x62], [0x26, 0x3D, 0x2B, 0x25]),
      ([0xE2, 0x82, 0xAC, 0xF0, 0x9F, 0x98, 0x80], [0x2A, 0x2D, 0x2E, 0x5F, 0x7E]), ([], [0x78]),
      ([0x25, 0x34, 0x31], [])]) =
    [([], []), ([0x61, 0x20, 0x62], [0x26, 0x3D, 0x2B, 0x25]),
      ([0xE2, 0x82, 0xAC, 0xF0, 0x9F, 0x98, 0x80], [0x2A, 0x2D, 0x2E, 0x5F, 0x7E]), ([], [0x78]),
      ([0x25, 0x34, 0x31], [])] := by
  simp only [formParse_eqK]; decide +kernel
-- ill-formed stored bytes do not survive (they are repaired), everything else does
example : Impl.formParse false (Impl.formSerialize [([0x61, 0xFF], [0xE2, 0x82, 0x26])]) =
    [([0x61, 0xEF, 0xBF, 0xBD], [0xEF, 0xBF, 0xBD, 0x26])] := by
  simp only [formParse_eqK]; decide +kernel

end Upa.Props

#print axioms Upa.Props.C15_parse
#print axioms Upa.Props.C15_qmark
#print axioms Upa.Props.C15_serialize
#print axioms Upa.Props.C15_urlencode
#print axioms Upa.Props.C15_alphabet
#print axioms Upa.Props.C15_roundtrip
#print axioms Upa.Props.C15_roundtrip_bytes
