import Upa.Proofs.BoundsCompare
import Upa.Proofs.BoundsDoParse
import Upa.Proofs.BoundsIpv6Parse
import Upa.Proofs.BoundsIpv4Parse
import Upa.Proofs.BoundsUncPath
import Upa.Proofs.BoundsCheckFixUtf8
import Upa.Proofs.Bounds
import Upa.Proofs.Literal
/-
  C04b — no out-of-bounds read or write in the pointer-arithmetic scanners.

  `Upa/Impl/Bounds.lean` holds BOUNDS-INSTRUMENTED models (namespace `Upa.Impl.B`): the input is an
  `Array Nat` with the valid range `[first, last)`, every element read goes through the checked accessor
  `rd` / `rdPrev` (outcome `.oob` outside the range), every access to a fixed-size local array or lookup
  table is checked against its declared size, and the control flow mirrors the C++ guard by guard.
  For every function:
    * `C04_inbounds_<name>` : `.oob` is unreachable for ALL inputs (under `first ≤ last ≤ a.size` and the
      documented precondition, if any);
    * `C04_terminates_<name>` (functions with loops): the fuel the model supplies is never exhausted;
    * `C04_ptrs_<name>` : `.badptr` is unreachable — every pointer the function FORMS by arithmetic
      (`++p`, `p + k`, `p += k`, `last - k`, `--p`; checked constructors `mkptr` / `mkptrSub`) lies in
      `[first, last]`, one past the end included, nothing beyond ([expr.add]);
    * `C04_old_ipv4_sentinel_badptr*`: the finding fixed by commit b0c7a48 — ipv4_parse used to form
      `last + 1` — as kernel-checked statements about the old code (`ipv4ParseOldSentinel`);
    * `C04_noassert_compare_by_code_units`: the one `assert` among these functions never fails;
    * an evaluated instance;
    * a NON-VACUITY example: the same model with ONE guard set to a wrong value (the optional last
      argument, whose default is what the C++ has) reaches `.oob` (or `.badptr`) on a concrete input —
      so the theorem really depends on that guard.
    * for most of them, `C04_agrees_<name>`: the instrumented model returns what the list model of
      `Upa/Impl/*.lean` returns on `slice a first last = (a.extract first last).toList` (a returned
      pointer `p` corresponds to the suffix `slice a p last`), so the in-bounds theorems are about the
      same functions the other properties are proved for.
  Every statement about a function is read off that function's one specification (`X_spec` / `X_agrees`, with `R.sat_ne_oob`
  and its three sisters; the Hoare logic for the `R` monad is `Upa/Proofs/Bounds.lean`).
-/
namespace Upa.Props
open Upa Upa.Impl.B

/-! ### 0  the checked pointer constructors -/

example : mkptr 0 7 7 = .ok 7 := by decide +kernel              -- one past the end may be formed
example : mkptr 0 7 8 = .badptr := by decide +kernel            -- two past the end may not (`last + 1`)
example : mkptrSub 2 7 7 4 = .ok 3 := by decide +kernel         -- `last - 4`
example : mkptrSub 2 7 2 1 = .badptr := by decide +kernel       -- `first - 1` (plain `Nat` subtraction would say 1)
-- `last - 4` with `last - first = 3` (would truncate to 0)
example : mkptrSub 0 3 3 4 = .badptr := by
  decide +kernel

/-! ### 1, 2  url_utf.h  read_code_point (char, char16_t, char32_t) -/

/-- precondition `first < last`: every caller tests `it != last` / `it < last` first -/
theorem C04_inbounds_read_code_point_u8 : ∀ (a : Array Nat) (first last : Nat), first < last → last ≤ a.size →
    readU8 a first last ≠ .oob :=
  fun a f l h hl => R.sat_ne_oob (readU8_sat a f l h hl)
theorem C04_ptrs_read_code_point_u8 : ∀ (a : Array Nat) (first last : Nat), first < last → last ≤ a.size →
    readU8 a first last ≠ .badptr :=
  fun a f l h hl => R.sat_ne_badptr (readU8_sat a f l h hl)
/-- … and the pointer it returns is in `(first, last]` (progress, no overrun) -/
theorem C04_read_code_point_u8_advances : ∀ (a : Array Nat) (first last : Nat), first < last → last ≤ a.size →
    ∃ ok c p, readU8 a first last = .ok (ok, c, p) ∧ first < p ∧ p ≤ last := by
  intro a f l h hl
  obtain ⟨⟨ok, c, p⟩, hv, hp⟩ := readU8_sat a f l h hl
  exact ⟨ok, c, p, hv, hp⟩
example : readU8 #[0xE2, 0x82, 0xAC] 0 3 = .ok (true, 0x20AC, 3) := by decide +kernel
-- truncated 4-byte sequence
example : readU8 #[0x41, 0xF0, 0x9F, 0x98] 1 4 = .ok (false, 0xFFFD, 4) := by
  decide +kernel
-- non-vacuity: without the `first != last` test a lone lead byte reads past the end
example : readU8 #[0xC3] 0 1 (slack := 1) = .oob := by decide +kernel
-- … and the precondition is needed
example : readU8 #[0x41] 1 1 = .oob := by decide +kernel
/-- agreement with `Impl.readU8` (which C10 proves equal to the Encoding Standard's UTF-8 decoder) -/
theorem C04_agrees_read_code_point_u8 : ∀ (a : Array Nat) (first last : Nat), first < last → last ≤ a.size →
    (∀ i, first ≤ i → i < last → a[i]! < 256) →
    ∃ ok c p, readU8 a first last = .ok (ok, c, p) ∧ Impl.readU8 (slice a first last) = (ok, c, slice a p last) := by
  intro a f l h hl hb
  obtain ⟨⟨ok, c, p⟩, hv, hp⟩ := (readU8_agrees a f l h hl).right.mp hb
  exact ⟨ok, c, p, hv, hp⟩

theorem C04_inbounds_read_code_point_u16 : ∀ (a : Array Nat) (first last : Nat), first < last → last ≤ a.size →
    readU16 a first last ≠ .oob :=
  fun a f l h hl => R.sat_ne_oob ((readU16_spec a f l h hl).left)
theorem C04_ptrs_read_code_point_u16 : ∀ (a : Array Nat) (first last : Nat), first < last → last ≤ a.size →
    readU16 a first last ≠ .badptr :=
  fun a f l h hl => R.sat_ne_badptr ((readU16_spec a f l h hl).left)
example : readU16 #[0xD83D, 0xDE00] 0 2 = .ok (true, 0x1F600, 2) := by decide +kernel
example : readU16 #[0xD83D] 0 1 = .ok (false, 0xFFFD, 1) := by decide +kernel
example : readU16 #[0xD83D] 0 1 (slack := 1) = .oob := by decide +kernel
theorem C04_agrees_read_code_point_u16 : ∀ (a : Array Nat) (first last : Nat), first < last → last ≤ a.size →
    ∃ ok c p, readU16 a first last = .ok (ok, c, p) ∧ Impl.readU16 (slice a first last) = (ok, c, slice a p last) := by
  intro a f l h hl
  obtain ⟨⟨ok, c, p⟩, hv, -, hp⟩ := readU16_spec a f l h hl
  exact ⟨ok, c, p, hv, hp⟩

theorem C04_inbounds_read_code_point_u32 : ∀ (a : Array Nat) (first last : Nat), first < last → last ≤ a.size →
    readU32 a first last ≠ .oob :=
  fun a f l h hl => R.sat_ne_oob ((readU32_spec a f l h hl).left)
theorem C04_ptrs_read_code_point_u32 : ∀ (a : Array Nat) (first last : Nat), first < last → last ≤ a.size →
    readU32 a first last ≠ .badptr :=
  fun a f l h hl => R.sat_ne_badptr ((readU32_spec a f l h hl).left)
example : readU32 #[0x1F600] 0 1 = .ok (true, 0x1F600, 1) := by decide +kernel
example : readU32 #[0x1F600] 1 1 = .oob := by decide +kernel          -- the only guard is the precondition
theorem C04_agrees_read_code_point_u32 : ∀ (a : Array Nat) (first last : Nat), first < last → last ≤ a.size →
    ∃ ok c p, readU32 a first last = .ok (ok, c, p) ∧ Impl.readU32 (slice a first last) = (ok, c, slice a p last) := by
  intro a f l h hl
  obtain ⟨⟨ok, c, p⟩, hv, -, hp⟩ := readU32_spec a f l h hl
  exact ⟨ok, c, p, hv, hp⟩

/-! ### 3  src/url_utf.cpp  check_fix_utf8, compare_by_code_units -/

theorem C04_inbounds_check_fix_utf8 : ∀ (a : Array Nat) (first last : Nat), first ≤ last → last ≤ a.size →
    checkFixUtf8 a first last ≠ .oob :=
  fun a f l h hl => R.sat_ne_oob (checkFixUtf8_sat a f l h hl)
theorem C04_ptrs_check_fix_utf8 : ∀ (a : Array Nat) (first last : Nat), first ≤ last → last ≤ a.size →
    checkFixUtf8 a first last ≠ .badptr :=
  fun a f l h hl => R.sat_ne_badptr (checkFixUtf8_sat a f l h hl)
theorem C04_terminates_check_fix_utf8 : ∀ (a : Array Nat) (first last : Nat), first ≤ last → last ≤ a.size →
    checkFixUtf8 a first last ≠ .hang :=
  fun a f l h hl => R.sat_ne_hang (checkFixUtf8_sat a f l h hl)
example : checkFixUtf8 #[0x41, 0xE2, 0x82, 0x42, 0xFF] 0 5 = .ok [0x41, 0xEF, 0xBF, 0xBD, 0x42, 0xEF, 0xBF, 0xBD] := by
  decide +kernel
example : checkFixUtf8 #[0x41] 0 1 (slack := 1) = .oob := by decide +kernel      -- `it != last` off by one

theorem C04_inbounds_compare_by_code_units : ∀ (a1 : Array Nat) (first1 last1 : Nat) (a2 : Array Nat)
    (first2 last2 : Nat), first1 ≤ last1 → last1 ≤ a1.size → first2 ≤ last2 → last2 ≤ a2.size →
    compareByCodeUnits a1 first1 last1 a2 first2 last2 ≠ .oob :=
  fun a1 f1 l1 a2 f2 l2 h1 hl1 h2 hl2 => R.sat_ne_oob (compareByCodeUnits_safe a1 f1 l1 a2 f2 l2 h1 hl1 h2 hl2)
theorem C04_ptrs_compare_by_code_units : ∀ (a1 : Array Nat) (first1 last1 : Nat) (a2 : Array Nat)
    (first2 last2 : Nat), first1 ≤ last1 → last1 ≤ a1.size → first2 ≤ last2 → last2 ≤ a2.size →
    compareByCodeUnits a1 first1 last1 a2 first2 last2 ≠ .badptr :=
  fun a1 f1 l1 a2 f2 l2 h1 hl1 h2 hl2 => R.sat_ne_badptr (compareByCodeUnits_safe a1 f1 l1 a2 f2 l2 h1 hl1 h2 hl2)
theorem C04_terminates_compare_by_code_units : ∀ (a1 : Array Nat) (first1 last1 : Nat) (a2 : Array Nat)
    (first2 last2 : Nat), first1 ≤ last1 → last1 ≤ a1.size → first2 ≤ last2 → last2 ≤ a2.size →
    compareByCodeUnits a1 first1 last1 a2 first2 last2 ≠ .hang :=
  fun a1 f1 l1 a2 f2 l2 h1 hl1 h2 hl2 => R.sat_ne_hang (compareByCodeUnits_safe a1 f1 l1 a2 f2 l2 h1 hl1 h2 hl2)
/-- the only `assert` in the scanned functions, `assert(detail::u16_is_lead(cu1))` (src/url_utf.cpp:94),
    never fails: the decoder reads the units as `unsigned char` and yields scalar values only
    (`readUtfChar_u8_spec`: `readU8_spec` and `Impl.readU8_cp`), so two different code points with
    the same first UTF-16 unit are both supplementary. The proof does not use the two hypotheses on the units. -/
theorem C04_noassert_compare_by_code_units : ∀ (a1 : Array Nat) (first1 last1 : Nat) (a2 : Array Nat)
    (first2 last2 : Nat), first1 ≤ last1 → last1 ≤ a1.size → first2 ≤ last2 → last2 ≤ a2.size →
    (∀ i, first1 ≤ i → i < last1 → a1[i]! < 256) → (∀ i, first2 ≤ i → i < last2 → a2[i]! < 256) →
    compareByCodeUnits a1 first1 last1 a2 first2 last2 ≠ .abort :=
  fun a1 f1 l1 a2 f2 l2 h1 hl1 h2 hl2 _ _ =>
    R.sat_ne_abort (compareByCodeUnits_safe a1 f1 l1 a2 f2 l2 h1 hl1 h2 hl2)
-- U+1F600 against U+1F601: same lead surrogate, the run passes through the assert
example : compareByCodeUnits #[0xF0, 0x9F, 0x98, 0x80] 0 4 #[0xF0, 0x9F, 0x98, 0x81] 0 4 = .ok (-1) := by decide +kernel
example : compareByCodeUnits #[0x61, 0xC3, 0xA9] 0 3 #[0x61, 0xC3, 0xA8] 0 3 = .ok 1 := by decide +kernel
example : compareByCodeUnits #[0x61, 0x62] 0 2 #[0x61] 0 1 = .ok 1 := by decide +kernel
-- `it2 != last2` off by one
example : compareByCodeUnits #[0x61, 0x62] 0 2 #[0x61] 0 1 (slack := 1) = .oob := by
  decide +kernel

/-! ### 4  url_percent_encode.h  decode_hex_to_byte, append_percent_decoded -/

theorem C04_inbounds_decode_hex_to_byte : ∀ (a : Array Nat) (first last : Nat), first ≤ last → last ≤ a.size →
    decodeHexToByte a first last ≠ .oob :=
  fun a f l h hl => R.sat_ne_oob (decodeHexToByte_sat a f l h hl)
theorem C04_ptrs_decode_hex_to_byte : ∀ (a : Array Nat) (first last : Nat), first ≤ last → last ≤ a.size →
    decodeHexToByte a first last ≠ .badptr :=
  fun a f l h hl => R.sat_ne_badptr (decodeHexToByte_sat a f l h hl)
example : decodeHexToByte (ofStr "%e2") 1 3 = .ok (some (0xE2, 3)) := by unfold ofStr; decide_ascii
example : decodeHexToByte (ofStr "%4") 1 2 = .ok none := by unfold ofStr; decide_ascii
-- `last - first < 1`
example : decodeHexToByte (ofStr "%4") 1 2 (minLen := 1) = .oob := by
  unfold ofStr; decide_ascii

theorem C04_inbounds_append_percent_decoded : ∀ (e : Enc) (a : Array Nat) (first last : Nat), first ≤ last →
    last ≤ a.size → appendPercentDecoded e a first last ≠ .oob :=
  fun e a f l h hl => R.sat_ne_oob (appendPercentDecoded_sat e a f l h hl)
theorem C04_ptrs_append_percent_decoded : ∀ (e : Enc) (a : Array Nat) (first last : Nat), first ≤ last →
    last ≤ a.size → appendPercentDecoded e a first last ≠ .badptr :=
  fun e a f l h hl => R.sat_ne_badptr (appendPercentDecoded_sat e a f l h hl)
theorem C04_terminates_append_percent_decoded : ∀ (e : Enc) (a : Array Nat) (first last : Nat), first ≤ last →
    last ≤ a.size → appendPercentDecoded e a first last ≠ .hang :=
  fun e a f l h hl => R.sat_ne_hang (appendPercentDecoded_sat e a f l h hl)
example : appendPercentDecoded .u8 (ofStr "a%41%e2%82%ac%zz%4") 0 18 =
    .ok [0x61, 0x41, 0xE2, 0x82, 0xAC, 0x25, 0x7A, 0x7A, 0x25, 0x34] := by unfold ofStr; decide_ascii
example : appendPercentDecoded .u8 #[0x80] 0 1 (back := 0) = .oob := by decide +kernel   -- the `--it` forgotten

/-! ### 5  util.h  has_xn_label -/

theorem C04_inbounds_has_xn_label : ∀ (a : Array Nat) (first last : Nat), first ≤ last → last ≤ a.size →
    hasXnLabel a first last ≠ .oob :=
  fun a f l h hl => R.sat_ne_oob (R.sat_of_eq_ok (hasXnLabel_agrees a f l h hl))
theorem C04_ptrs_has_xn_label : ∀ (a : Array Nat) (first last : Nat), first ≤ last → last ≤ a.size →
    hasXnLabel a first last ≠ .badptr :=
  fun a f l h hl => R.sat_ne_badptr (R.sat_of_eq_ok (hasXnLabel_agrees a f l h hl))
theorem C04_terminates_has_xn_label : ∀ (a : Array Nat) (first last : Nat), first ≤ last → last ≤ a.size →
    hasXnLabel a first last ≠ .hang :=
  fun a f l h hl => R.sat_ne_hang (R.sat_of_eq_ok (hasXnLabel_agrees a f l h hl))
example : hasXnLabel (ofStr "a.b.XN--a") 0 9 = .ok true := by unfold ofStr; decide_ascii
-- the last `p` is `last - 4`
example : hasXnLabel (ofStr "a.b.xn-") 0 7 = .ok false := by
  unfold ofStr; decide_ascii
-- `last - first >= 3`: already `end = last - 4` is a pointer before `first` (then p[3] would be read)
example : hasXnLabel (ofStr "xn-") 0 3 (minLen := 3) = .badptr := by unfold ofStr; decide_ascii
theorem C04_agrees_has_xn_label : ∀ (a : Array Nat) (first last : Nat), first ≤ last → last ≤ a.size →
    hasXnLabel a first last = .ok (Impl.hasXnLabel (slice a first last)) :=
  hasXnLabel_agrees

/-! ### 6  url_ip.h -/

theorem C04_inbounds_hostname_ends_in_a_number : ∀ (a : Array Nat) (first last : Nat), first ≤ last →
    last ≤ a.size → endsInNumber a first last ≠ .oob :=
  fun a f l h hl => R.sat_ne_oob (endsInNumber_sat a f l h hl)
theorem C04_ptrs_hostname_ends_in_a_number : ∀ (a : Array Nat) (first last : Nat), first ≤ last →
    last ≤ a.size → endsInNumber a first last ≠ .badptr :=
  fun a f l h hl => R.sat_ne_badptr (endsInNumber_sat a f l h hl)
theorem C04_terminates_hostname_ends_in_a_number : ∀ (a : Array Nat) (first last : Nat), first ≤ last →
    last ≤ a.size → endsInNumber a first last ≠ .hang :=
  fun a f l h hl => R.sat_ne_hang (endsInNumber_sat a f l h hl)
example : endsInNumber (ofStr "a.0x1f.") 0 7 = .ok true := by unfold ofStr; decide_ascii
example : endsInNumber (ofStr "0") 0 1 = .ok true := by unfold ofStr; decide_ascii
example : endsInNumber (ofStr ".") 0 1 = .ok false := by unfold ofStr; decide_ascii
-- `len >= 1`: start_of_label[1] is read
example : endsInNumber (ofStr "0") 0 1 (minLen := 1) = .oob := by
  unfold ofStr; decide_ascii

theorem C04_inbounds_ipv4_parse_number : ∀ (a : Array Nat) (first last : Nat), first ≤ last → last ≤ a.size →
    ipv4ParseNumber a first last ≠ .oob :=
  fun a f l h hl => R.sat_ne_oob (ipv4ParseNumber_spec a f l h hl)
theorem C04_ptrs_ipv4_parse_number : ∀ (a : Array Nat) (first last : Nat), first ≤ last → last ≤ a.size →
    ipv4ParseNumber a first last ≠ .badptr :=
  fun a f l h hl => R.sat_ne_badptr (ipv4ParseNumber_spec a f l h hl)
theorem C04_terminates_ipv4_parse_number : ∀ (a : Array Nat) (first last : Nat), first ≤ last → last ≤ a.size →
    ipv4ParseNumber a first last ≠ .hang :=
  fun a f l h hl => R.sat_ne_hang (ipv4ParseNumber_spec a f l h hl)
example : ipv4ParseNumber (ofStr "0x1f") 0 4 = .ok (some 31) := by unfold ofStr; decide_ascii
example : ipv4ParseNumber (ofStr "0") 0 1 = .ok (some 0) := by unfold ofStr; decide_ascii
-- without `len == 1`: first[1]
example : ipv4ParseNumber (ofStr "0") 0 1 (oneLen := 0) = .oob := by
  unfold ofStr; decide_ascii
/-- agreement with `Impl.ipv4ParseNumber` (which C11 proves equal to the Standard's IPv4 number parser).
    The units must fit `unsigned char`: the hex branch casts `*it` to it ("safe because chars are
    ASCII" — ipv4_parse has filtered them). -/
theorem C04_agrees_ipv4_parse_number : ∀ (a : Array Nat) (first last : Nat), first ≤ last → last ≤ a.size →
    (∀ i, first ≤ i → i < last → a[i]! < 256) →
    ipv4ParseNumber a first last = .ok (Impl.ipv4ParseNumber (slice a first last)) :=
  ipv4ParseNumber_agrees

theorem C04_inbounds_ipv4_parse : ∀ (a : Array Nat) (first last : Nat), first ≤ last → last ≤ a.size →
    ipv4Parse a first last ≠ .oob :=
  fun a f l h hl => R.sat_ne_oob (ipv4Parse_sat a f l h hl)
theorem C04_ptrs_ipv4_parse : ∀ (a : Array Nat) (first last : Nat), first ≤ last → last ≤ a.size →
    ipv4Parse a first last ≠ .badptr :=
  fun a f l h hl => R.sat_ne_badptr (ipv4Parse_sat a f l h hl)
theorem C04_terminates_ipv4_parse : ∀ (a : Array Nat) (first last : Nat), first ≤ last → last ≤ a.size →
    ipv4Parse a first last ≠ .hang :=
  fun a f l h hl => R.sat_ne_hang (ipv4Parse_sat a f l h hl)
example : ipv4Parse (ofStr "0x7f.1") 0 6 = .ok (some 2130706433) := by unfold ofStr; decide_ascii
example : ipv4Parse (ofStr "1.2.3.4.") 0 8 = .ok (some 16909060) := by unfold ofStr; decide_ascii
example : ipv4Parse (ofStr "1.1.1.1.1.1.1") 0 13 = .ok none := by unfold ofStr; decide_ascii
-- `dot_count == 6` instead of `== 4`: the sixth dot writes part[6]
example : ipv4Parse (ofStr "1.1.1.1.1.1.1") 0 13 (maxDots := 6) = .oob := by unfold ofStr; decide_ascii

/-- FINDING (fixed by commit b0c7a48): before the fix ipv4_parse stored the sentinel
    `part[part_count] = last + 1`, a pointer TWO past the end of the input, which is undefined to form
    ([expr.add]) although it was never dereferenced.  `ipv4ParseOldSentinel` is the old code. -/
theorem C04_old_ipv4_sentinel_badptr :
    ∃ (a : Array Nat) (first last : Nat), first ≤ last ∧ last ≤ a.size ∧ ipv4ParseOldSentinel a first last = .badptr :=
  ⟨ofStr "1.2.3.4", 0, 7, by decide, by unfold ofStr; decide_ascii,
    by unfold ofStr; decide_ascii⟩
example : ipv4ParseOldSentinel (ofStr "1.2.3.4") 0 7 = .badptr := by unfold ofStr; decide_ascii
example : ipv4ParseOldSentinel (ofStr "1") 0 1 = .badptr := by unfold ofStr; decide_ascii
-- trailing dot: no sentinel
example : ipv4ParseOldSentinel (ofStr "1.2.3.4.") 0 8 = .ok (some 16909060) := by
  unfold ofStr; decide_ascii
-- the fixed code
example : ipv4Parse (ofStr "1.2.3.4") 0 7 = .ok (some 16909060) := by
  unfold ofStr; decide_ascii
/-- characterisation: EVERY non-empty input that gets past the splitting loop (only IPv4 characters,
    no empty part before a dot, at most four dots) and whose last part is not dropped reaches it … -/
theorem C04_old_ipv4_sentinel_badptr_all : ∀ (a : Array Nat) (first last dc : Nat) (part : Loc), first < last →
    last ≤ a.size → ipv4Scan a first last = .ok (some (dc, part)) → ¬ (dc > 0 ∧ part.get dc = last) →
    ipv4ParseOldSentinel a first last = .badptr :=
  fun a f l dc part hlt hl hscan hnd =>
    ipv4ParseOldSentinel_badptr a f l (by omega) (by omega) hl dc part hscan hnd
/-- … in particular every such input that does not end in a dot -/
theorem C04_old_ipv4_sentinel_badptr_no_trailing_dot : ∀ (a : Array Nat) (first last dc : Nat) (part : Loc),
    first < last → last ≤ a.size → a[last - 1]! ≠ 0x2E → ipv4Scan a first last = .ok (some (dc, part)) →
    ipv4ParseOldSentinel a first last = .badptr :=
  fun a f l dc part hlt hl hdot hscan =>
    ipv4ParseOldSentinel_badptr_of_no_trailing_dot a f l hlt hl hdot dc part hscan

theorem C04_inbounds_ipv6_parse : ∀ (a : Array Nat) (first last : Nat), first ≤ last → last ≤ a.size →
    ipv6Parse a first last ≠ .oob :=
  fun a f l h hl => R.sat_ne_oob (ipv6Parse_sat a f l h hl)
theorem C04_ptrs_ipv6_parse : ∀ (a : Array Nat) (first last : Nat), first ≤ last → last ≤ a.size →
    ipv6Parse a first last ≠ .badptr :=
  fun a f l h hl => R.sat_ne_badptr (ipv6Parse_sat a f l h hl)
theorem C04_terminates_ipv6_parse : ∀ (a : Array Nat) (first last : Nat), first ≤ last → last ≤ a.size →
    ipv6Parse a first last ≠ .hang :=
  fun a f l h hl => R.sat_ne_hang (ipv6Parse_sat a f l h hl)
example : ipv6Parse (ofStr "1:2::7:8") 0 8 = .ok (some [1, 2, 0, 0, 0, 0, 7, 8]) := by unfold ofStr; decide_ascii
example : ipv6Parse (ofStr "::ffff:1.2.3.4") 0 14 = .ok (some [0, 0, 0, 0, 0, 0xFFFF, 0x0102, 0x0304]) := by
  unfold ofStr; decide_ascii
example : ipv6Parse (ofStr "1:2:3:4:5:6:7:8:9") 0 17 = .ok none := by unfold ofStr; decide_ascii
example : ipv6Parse (ofStr ":") 0 1 = .ok none := by unfold ofStr; decide_ascii
-- `piece_index == 9` instead of `== 8`: the ninth piece writes address[8]
example : ipv6Parse (ofStr "1:2:3:4:5:6:7:8:9") 0 17 (maxPieces := 9) = .oob := by unfold ofStr; decide_ascii

/-! ### 7  url.h, url_search_params.h -/

theorem C04_inbounds_starts_with_windows_drive : ∀ (a : Array Nat) (first last : Nat), first ≤ last →
    last ≤ a.size → startsWithWindowsDrive a first last ≠ .oob :=
  fun a f l h hl => R.sat_ne_oob (startsWithWindowsDrive_sat a f l h hl)
theorem C04_ptrs_starts_with_windows_drive : ∀ (a : Array Nat) (first last : Nat), first ≤ last →
    last ≤ a.size → startsWithWindowsDrive a first last ≠ .badptr :=
  fun a f l h hl => R.sat_ne_badptr (startsWithWindowsDrive_sat a f l h hl)
example : startsWithWindowsDrive (ofStr "c:/x") 0 4 = .ok true := by unfold ofStr; decide_ascii
example : startsWithWindowsDrive (ofStr "c") 0 1 = .ok false := by unfold ofStr; decide_ascii
-- `length > 0`: pointer[2]
example : startsWithWindowsDrive (ofStr "c") 0 1 (minLen := 0) = .oob := by
  unfold ofStr; decide_ascii
theorem C04_agrees_starts_with_windows_drive : ∀ (a : Array Nat) (first last : Nat), first ≤ last → last ≤ a.size →
    startsWithWindowsDrive a first last = .ok (Impl.startsWithWindowsDrive (slice a first last)) :=
  startsWithWindowsDrive_agrees

theorem C04_inbounds_pathname_has_windows_drive : ∀ (a : Array Nat) (first last : Nat), first ≤ last →
    last ≤ a.size → pathnameHasWindowsDrive a first last ≠ .oob :=
  fun a f l h hl => R.sat_ne_oob (R.sat_of_eq_ok (pathnameHasWindowsDrive_agrees a f l h hl))
theorem C04_ptrs_pathname_has_windows_drive : ∀ (a : Array Nat) (first last : Nat), first ≤ last →
    last ≤ a.size → pathnameHasWindowsDrive a first last ≠ .badptr :=
  fun a f l h hl => R.sat_ne_badptr (R.sat_of_eq_ok (pathnameHasWindowsDrive_agrees a f l h hl))
example : pathnameHasWindowsDrive (ofStr "/c:/x") 0 5 = .ok true := by unfold ofStr; decide_ascii
example : pathnameHasWindowsDrive (ofStr "/c") 0 2 = .ok false := by unfold ofStr; decide_ascii
-- `length > 1`: pathname[3]
example : pathnameHasWindowsDrive (ofStr "/c") 0 2 (minLen := 1) = .oob := by
  unfold ofStr; decide_ascii
theorem C04_agrees_pathname_has_windows_drive : ∀ (a : Array Nat) (first last : Nat), first ≤ last → last ≤ a.size →
    pathnameHasWindowsDrive a first last = .ok (Impl.pathnameHasWindowsDrive (slice a first last)) :=
  pathnameHasWindowsDrive_agrees

theorem C04_inbounds_is_windows_drive_absolute_path : ∀ (a : Array Nat) (first last : Nat), first ≤ last →
    last ≤ a.size → isWindowsDriveAbsolutePath a first last ≠ .oob :=
  fun a f l h hl => R.sat_ne_oob (isWindowsDriveAbsolutePath_spec a f l h hl)
theorem C04_ptrs_is_windows_drive_absolute_path : ∀ (a : Array Nat) (first last : Nat), first ≤ last →
    last ≤ a.size → isWindowsDriveAbsolutePath a first last ≠ .badptr :=
  fun a f l h hl => R.sat_ne_badptr (isWindowsDriveAbsolutePath_spec a f l h hl)
example : isWindowsDriveAbsolutePath (ofStr "c:\\x") 0 4 = .ok (some 3) := by unfold ofStr; decide_ascii
example : isWindowsDriveAbsolutePath (ofStr "c:") 0 2 = .ok none := by unfold ofStr; decide_ascii
-- `last - pointer > 1`
example : isWindowsDriveAbsolutePath (ofStr "c:") 0 2 (minLen := 1) = .oob := by
  unfold ofStr; decide_ascii
theorem C04_agrees_is_windows_drive_absolute_path : ∀ (a : Array Nat) (first last : Nat), first ≤ last →
    last ≤ a.size → ∃ o, isWindowsDriveAbsolutePath a first last = .ok o ∧
      o.map (fun p => slice a p last) = Impl.isWindowsDriveAbsolutePath (slice a first last) :=
  fun a f l h hl => let ⟨o, ho, hr⟩ := isWindowsDriveAbsolutePath_spec a f l h hl; ⟨o, ho, hr.2⟩

theorem C04_inbounds_has_dot_dot_segment : ∀ (isSl : Nat → Bool) (a : Array Nat) (first last : Nat), first ≤ last →
    last ≤ a.size → hasDotDotSegment isSl a first last ≠ .oob :=
  fun s a f l h hl => R.sat_ne_oob (R.sat_of_eq_ok (hasDotDotSegment_agrees s a f l h hl))
theorem C04_ptrs_has_dot_dot_segment : ∀ (isSl : Nat → Bool) (a : Array Nat) (first last : Nat), first ≤ last →
    last ≤ a.size → hasDotDotSegment isSl a first last ≠ .badptr :=
  fun s a f l h hl => R.sat_ne_badptr (R.sat_of_eq_ok (hasDotDotSegment_agrees s a f l h hl))
theorem C04_terminates_has_dot_dot_segment : ∀ (isSl : Nat → Bool) (a : Array Nat) (first last : Nat),
    first ≤ last → last ≤ a.size → hasDotDotSegment isSl a first last ≠ .hang :=
  fun s a f l h hl => R.sat_ne_hang (R.sat_of_eq_ok (hasDotDotSegment_agrees s a f l h hl))
example : hasDotDotSegment Impl.isWindowsSlash (ofStr "a/b/..") 0 6 = .ok true := by unfold ofStr; decide_ascii
example : hasDotDotSegment Impl.isWindowsSlash (ofStr "../a..b/.") 0 9 = .ok true := by
  unfold ofStr; decide_ascii
example : hasDotDotSegment Impl.isWindowsSlash (ofStr "a/..b/.") 0 7 = .ok false := by unfold ofStr; decide_ascii
-- without `last - ptr == 2 ||`: ptr[2] is read behind a trailing ".."
example : hasDotDotSegment Impl.isWindowsSlash (ofStr "a/b/..") 0 6 (tailLen := 0) = .oob := by
  unfold ofStr; decide_ascii
theorem C04_agrees_has_dot_dot_segment : ∀ (isSl : Nat → Bool) (a : Array Nat) (first last : Nat), first ≤ last →
    last ≤ a.size → hasDotDotSegment isSl a first last = .ok (Impl.hasDotDotSegment isSl none (slice a first last)) :=
  hasDotDotSegment_agrees

theorem C04_inbounds_is_unc_path : ∀ (a : Array Nat) (first last : Nat), first ≤ last → last ≤ a.size →
    isUncPath a first last ≠ .oob :=
  fun a f l h hl => R.sat_ne_oob (isUncPath_agrees a f l h hl)
theorem C04_ptrs_is_unc_path : ∀ (a : Array Nat) (first last : Nat), first ≤ last → last ≤ a.size →
    isUncPath a first last ≠ .badptr :=
  fun a f l h hl => R.sat_ne_badptr (isUncPath_agrees a f l h hl)
theorem C04_terminates_is_unc_path : ∀ (a : Array Nat) (first last : Nat), first ≤ last → last ≤ a.size →
    isUncPath a first last ≠ .hang :=
  fun a f l h hl => R.sat_ne_hang (isUncPath_agrees a f l h hl)
example : isUncPath (ofStr "host\\share\\x") 0 12 = .ok (some 10) := by unfold ofStr; decide_ascii
example : isUncPath (ofStr "c:\\share") 0 8 = .ok none := by unfold ofStr; decide_ascii
-- without `if (pcend == last) break;` the next `start` is `last + 1`
example : isUncPath (ofStr "h") 0 1 (slack := 1) = .badptr := by unfold ofStr; decide_ascii

/-- `escaped_dot(pointer)` has no guard of its own: the callers pass at least three units -/
theorem C04_inbounds_escaped_dot : ∀ (a : Array Nat) (first last p : Nat), first ≤ p → p + 3 ≤ last →
    last ≤ a.size → escapedDot a first last p ≠ .oob :=
  fun a f l p h1 h2 hl => R.sat_ne_oob (R.sat_of_eq_ok (escapedDot_agrees a f l p hl h1 h2))
theorem C04_ptrs_escaped_dot : ∀ (a : Array Nat) (first last p : Nat), first ≤ p → p + 3 ≤ last →
    last ≤ a.size → escapedDot a first last p ≠ .badptr :=
  fun a f l p h1 h2 hl => R.sat_ne_badptr (R.sat_of_eq_ok (escapedDot_agrees a f l p hl h1 h2))
example : escapedDot (ofStr "%2E") 0 3 0 = .ok true := by unfold ofStr; decide_ascii
-- the precondition is needed
example : escapedDot (ofStr "%2") 0 2 0 = .oob := by
  unfold ofStr; decide_ascii

theorem C04_inbounds_double_dot : ∀ (a : Array Nat) (first last : Nat), first ≤ last → last ≤ a.size →
    doubleDot a first last ≠ .oob :=
  fun a f l h hl => R.sat_ne_oob (doubleDot_sat a f l h hl)
theorem C04_ptrs_double_dot : ∀ (a : Array Nat) (first last : Nat), first ≤ last → last ≤ a.size →
    doubleDot a first last ≠ .badptr :=
  fun a f l h hl => R.sat_ne_badptr (doubleDot_sat a f l h hl)
example : doubleDot (ofStr ".%2e") 0 4 = .ok true := by unfold ofStr; decide_ascii
example : doubleDot (ofStr "%2E%2e") 0 6 = .ok true := by unfold ofStr; decide_ascii
example : doubleDot (ofStr ".%2") 0 3 = .ok false := by unfold ofStr; decide_ascii
-- `case 3:` instead of `case 4:`
example : doubleDot (ofStr ".%2") 0 3 (midLen := 3) = .oob := by
  unfold ofStr; decide_ascii
theorem C04_agrees_double_dot : ∀ (a : Array Nat) (first last : Nat), first ≤ last → last ≤ a.size →
    doubleDot a first last = .ok (Impl.doubleDot (slice a first last)) :=
  doubleDot_agrees

theorem C04_inbounds_single_dot : ∀ (a : Array Nat) (first last : Nat), first ≤ last → last ≤ a.size →
    singleDot a first last ≠ .oob :=
  fun a f l h hl => R.sat_ne_oob (singleDot_sat a f l h hl)
theorem C04_ptrs_single_dot : ∀ (a : Array Nat) (first last : Nat), first ≤ last → last ≤ a.size →
    singleDot a first last ≠ .badptr :=
  fun a f l h hl => R.sat_ne_badptr (singleDot_sat a f l h hl)
example : singleDot (ofStr "%2e") 0 3 = .ok true := by unfold ofStr; decide_ascii
-- `case 2:` instead of `case 3:`
example : singleDot (ofStr "%2") 0 2 (escLen := 2) = .oob := by
  unfold ofStr; decide_ascii
theorem C04_agrees_single_dot : ∀ (a : Array Nat) (first last : Nat), first ≤ last → last ≤ a.size →
    singleDot a first last = .ok (Impl.singleDot (slice a first last)) :=
  singleDot_agrees

theorem C04_inbounds_do_parse : ∀ (remQmark : Bool) (a : Array Nat) (first last : Nat), first ≤ last →
    last ≤ a.size → doParse remQmark a first last ≠ .oob :=
  fun q a f l h hl => R.sat_ne_oob (doParse_sat q a f l h hl)
theorem C04_ptrs_do_parse : ∀ (remQmark : Bool) (a : Array Nat) (first last : Nat), first ≤ last →
    last ≤ a.size → doParse remQmark a first last ≠ .badptr :=
  fun q a f l h hl => R.sat_ne_badptr (doParse_sat q a f l h hl)
theorem C04_terminates_do_parse : ∀ (remQmark : Bool) (a : Array Nat) (first last : Nat), first ≤ last →
    last ≤ a.size → doParse remQmark a first last ≠ .hang :=
  fun q a f l h hl => R.sat_ne_hang (doParse_sat q a f l h hl)
example : doParse true (ofStr "?a=b%20c&d=%zz&&e+f=%4") 0 22 =
    .ok [([0x61], [0x62, 0x20, 0x63]), ([0x64], [0x25, 0x7A, 0x7A]), ([0x65, 0x20, 0x66], [0x25, 0x34])] := by
  unfold ofStr; decide_ascii
-- `std::distance(it, e) > 1`
example : doParse false (ofStr "%4") 0 2 (minDist := 1) = .oob := by
  unfold ofStr; decide_ascii

#print axioms C04_inbounds_read_code_point_u8
#print axioms C04_read_code_point_u8_advances
#print axioms C04_inbounds_read_code_point_u16
#print axioms C04_inbounds_read_code_point_u32
#print axioms C04_inbounds_check_fix_utf8
#print axioms C04_terminates_check_fix_utf8
#print axioms C04_inbounds_compare_by_code_units
#print axioms C04_terminates_compare_by_code_units
#print axioms C04_noassert_compare_by_code_units
#print axioms C04_inbounds_decode_hex_to_byte
#print axioms C04_inbounds_append_percent_decoded
#print axioms C04_terminates_append_percent_decoded
#print axioms C04_inbounds_has_xn_label
#print axioms C04_terminates_has_xn_label
#print axioms C04_inbounds_hostname_ends_in_a_number
#print axioms C04_terminates_hostname_ends_in_a_number
#print axioms C04_inbounds_ipv4_parse_number
#print axioms C04_terminates_ipv4_parse_number
#print axioms C04_inbounds_ipv4_parse
#print axioms C04_terminates_ipv4_parse
#print axioms C04_inbounds_ipv6_parse
#print axioms C04_terminates_ipv6_parse
#print axioms C04_inbounds_starts_with_windows_drive
#print axioms C04_inbounds_pathname_has_windows_drive
#print axioms C04_inbounds_is_windows_drive_absolute_path
#print axioms C04_inbounds_has_dot_dot_segment
#print axioms C04_terminates_has_dot_dot_segment
#print axioms C04_inbounds_is_unc_path
#print axioms C04_terminates_is_unc_path
#print axioms C04_inbounds_escaped_dot
#print axioms C04_inbounds_double_dot
#print axioms C04_inbounds_single_dot
#print axioms C04_inbounds_do_parse
#print axioms C04_terminates_do_parse
#print axioms C04_agrees_read_code_point_u8
#print axioms C04_agrees_read_code_point_u16
#print axioms C04_agrees_read_code_point_u32
#print axioms C04_agrees_has_xn_label
#print axioms C04_agrees_starts_with_windows_drive
#print axioms C04_agrees_pathname_has_windows_drive
#print axioms C04_agrees_is_windows_drive_absolute_path
#print axioms C04_agrees_double_dot
#print axioms C04_agrees_has_dot_dot_segment
#print axioms C04_agrees_ipv4_parse_number
#print axioms C04_agrees_single_dot
#print axioms C04_ptrs_read_code_point_u8
#print axioms C04_ptrs_read_code_point_u16
#print axioms C04_ptrs_read_code_point_u32
#print axioms C04_ptrs_check_fix_utf8
#print axioms C04_ptrs_compare_by_code_units
#print axioms C04_ptrs_decode_hex_to_byte
#print axioms C04_ptrs_append_percent_decoded
#print axioms C04_ptrs_has_xn_label
#print axioms C04_ptrs_hostname_ends_in_a_number
#print axioms C04_ptrs_ipv4_parse_number
#print axioms C04_ptrs_ipv4_parse
#print axioms C04_old_ipv4_sentinel_badptr
#print axioms C04_old_ipv4_sentinel_badptr_all
#print axioms C04_old_ipv4_sentinel_badptr_no_trailing_dot
#print axioms C04_ptrs_ipv6_parse
#print axioms C04_ptrs_starts_with_windows_drive
#print axioms C04_ptrs_pathname_has_windows_drive
#print axioms C04_ptrs_is_windows_drive_absolute_path
#print axioms C04_ptrs_has_dot_dot_segment
#print axioms C04_ptrs_is_unc_path
#print axioms C04_ptrs_escaped_dot
#print axioms C04_ptrs_double_dot
#print axioms C04_ptrs_single_dot
#print axioms C04_ptrs_do_parse
end Upa.Props
