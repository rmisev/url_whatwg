import Upa.Props.C02
import Upa.Proofs.ReparseParsed
import Upa.Proofs.Literal
/-
  C02b — closes the gap between "parsed" and "normal form" of C02: every URL the parser model returns
  (any input, any encoding, no base or a normal-form base) satisfies `Norm` (Upa/Props/C02.lean), hence
  `C02_reparse` applies to it: parsing its href again, with no base or against any base, yields the
  identical URL.
  (url_parser::url_parse, include/upa/url.h:1675-2392; host_parser, include/upa/url_host.h:159-361;
  models `Impl.parse`, `Impl.parseHost`.)
  Helper lemmas: Upa/Proofs/ReparseParsed.lean (namespace Upa.Proofs.C02b: fixed points of the encoders, host
  stability, the normal form as the alphabet `normA`); the walk over the parser and the setters:
  Upa/Proofs/RecInv.lean.

  No hypothesis on the input code units is needed (not even a range).

  `IdnaStable idna` (Upa/Proofs/ReparseParsed.lean) is the only assumption on the IDNA parameter:
      out_ascii : ∀ s r, idna s = some r → r ≠ [] ∧ ∀ c ∈ r, c < 0x80 ∧ isUpperAlpha c = false
      idem      : ∀ s r, idna s = some r → (∀ c ∈ r, forbiddenDomain c = false) →
                    endsInNumber r = false → hasXnLabel r = true → idna r = some r
  (ToASCII output is non-empty lower-case ASCII — the hypothesis of C08 —, and ToASCII maps an output of
  its own that has an `xn--` label and that the host parser keeps as a domain to itself.  An output
  without `xn--` label re-parses through the fast path, which does not call the IDNA function.)
-/
namespace Upa.Props
open Upa Upa.Impl Upa.Proofs.C02
open Upa.Proofs.C02b (IdnaStable sampleIdna_stable)
open Upa.Proofs.C08 (sampleIdna)

/-! ### 0. the hypothesis on the IDNA parameter is satisfiable -/

-- ASCII lower-casing that fails on empty or non-ASCII input
example : IdnaStable sampleIdna := sampleIdna_stable
-- it implies the hypothesis of C08
example : ∀ idna, IdnaStable idna → Proofs.C08.IdnaCanon idna := fun _ h => h.canon

/-- `Norm` (a conjunction) and the structure `NormP` used by the helper lemmas are the same -/
theorem Norm.ofNormP {idna : Idna} {u : Url} (h : NormP idna u) : Norm idna u := by
  obtain ⟨s1, s2, s3, s4, s5, s6⟩ := h.shape
  refine ⟨h.scheme, s1, s2, s3, s4, s5, s6, h.user, h.pass, fun x hx => h.host x hx, h.port, h.segs,
    h.drive, h.opq, ?_, ?_⟩
  · intro q hq
    have := h.query
    rw [show u.query = some q from hq] at this
    exact this
  · intro f hf
    have := h.frag
    rw [show u.fragment = some f from hf] at this
    exact this

/-! ### 1. every host the host parser returns is reproduced by the host parser -/

/-- All five host kinds: domain (fast path: the lower-cased text has no `xn--` label and does not end
    in a number either; IDNA path: see `IdnaStable`), IPv4 (the dotted-decimal text ends in a number and
    parses to the same address), IPv6, opaque (the C0-control encoder is the identity on its output
    and `%`, hex digits are not forbidden host code points; an opaque host `1.2.3.4` stays opaque),
    empty.  `!o` is the `special` flag of the URL the host belongs to. -/
theorem C02_host_stable :
    ∀ idna, IdnaStable idna → ∀ (s : List Nat) (o : Bool) (h : Host),
      Impl.parseHost idna s o = some h → HostStable idna (!o) h :=
  fun idna hi s o h hh => Proofs.C02b.host_stable idna hi s o h hh

-- "EXA.c" (fast path), "0x7f.1" (IPv4), "[0:0::1]" (IPv6), "a!%7F" + DEL (opaque), "xn--A" (IDNA path)
example : Impl.parseHost sampleIdna (asciiStr "EXA.c") false = some ⟨.domain, asciiStr "exa.c"⟩ ∧
    Impl.parseHost sampleIdna (asciiStr "exa.c") false = some ⟨.domain, asciiStr "exa.c"⟩ := by
  decide_ascii
example : Impl.parseHost sampleIdna (asciiStr "0x7f.1") false = some ⟨.ipv4, asciiStr "127.0.0.1"⟩ ∧
    Impl.parseHost sampleIdna (asciiStr "127.0.0.1") false = some ⟨.ipv4, asciiStr "127.0.0.1"⟩ := by
  decide_ascii
example : Impl.parseHost sampleIdna (asciiStr "[0:0::1]") true = some ⟨.ipv6, asciiStr "[::1]"⟩ ∧
    Impl.parseHost sampleIdna (asciiStr "[::1]") true = some ⟨.ipv6, asciiStr "[::1]"⟩ := by
  decide_ascii
example : Impl.parseHost sampleIdna (asciiStr "a!%7F" ++ [0x7F]) true = some ⟨.opaque, asciiStr "a!%7F%7F"⟩ ∧
    Impl.parseHost sampleIdna (asciiStr "a!%7F%7F") true = some ⟨.opaque, asciiStr "a!%7F%7F"⟩ := by
  decide_ascii
-- (the IDNA path runs `percentDecode`, which the kernel does not unfold; through the theorem instead)
example : ∀ h, Impl.parseHost sampleIdna (asciiStr "xn--A") false = some h → HostStable sampleIdna true h :=
  fun h hh => C02_host_stable sampleIdna sampleIdna_stable _ false h hh
-- an opaque host that looks like an IPv4 address is kept as it is
example : Impl.parseHost sampleIdna (asciiStr "0x7f.1") true = some ⟨.opaque, asciiStr "0x7f.1"⟩ := by
  decide_ascii
example : HostStable sampleIdna true ⟨.ipv4, asciiStr "127.0.0.1"⟩ :=
  C02_host_stable sampleIdna sampleIdna_stable (asciiStr "0x7f.1") false _ (by decide +kernel)

/-! ### 2. every successfully parsed URL is in normal form -/

theorem C02_parse_norm :
    ∀ idna, IdnaStable idna → ∀ (e : Enc) (units : List Nat) (base : Option Url) (u : Url),
      (base = none ∨ ∃ b, base = some b ∧ Norm idna b) →
      Impl.parse idna e units base = some u → Norm idna u := by
  intro idna hi e units base u hb h
  refine Norm.ofNormP (Proofs.C02b.parse_norm hi e units base ?_ u h)
  intro b hbb
  rcases hb with hb | ⟨b', hb', hc⟩
  · rw [hb] at hbb; simp at hbb
  · rw [hb'] at hbb; simp only [Option.some.injEq] at hbb; subst hbb; exact hc.toNormP

/-- " HTTP://EXAMPLE.com:80/a/../%2e/b c/.?q'#f g " with surrounding spaces and an inner tab -/
def c02bInput : List Nat := asciiStr " HTTP://EXA\tMPLE.com:80/a/../%2e/b c/.?q'#f g "
/-- "../x/%2E%2e/C|/y?#" -/
def c02bRel : List Nat := asciiStr "../x/%2E%2e/C|/y?#"

-- without a base
example : Impl.parse sampleIdna .u8 c02bInput none =
    some { scheme := asciiStr "http", host := some ⟨.domain, asciiStr "example.com"⟩,
           path := [asciiStr "b%20c", []], query := some (asciiStr "q%27"),
           fragment := some (asciiStr "f%20g") } := by unfold c02bInput; decide_ascii
example : (Impl.parse sampleIdna .u8 c02bInput none).map (fun u => decide (Norm sampleIdna u)) = some true := by
  unfold c02bInput; decide_ascii
-- against a file base: "file:///D:/C|/y?#" (the drive letter of the base is kept, `C|` is not first)
example : (Impl.parse sampleIdna .u16 c02bRel (some c02BaseFile)).map (fun u => (serialize u, decide (Norm sampleIdna u))) =
    some (asciiStr "file:///D:/C|/y?#", true) := by unfold c02BaseFile c02bRel; decide_ascii
-- the hypothesis on the base is satisfiable
example : Norm sampleIdna c02BaseFile ∧ Norm sampleIdna c02BaseHttps ∧ Norm sampleIdna c02BaseOpaque := by
  unfold c02BaseHttps c02BaseFile c02BaseOpaque; decide_ascii
example : ∀ u, Impl.parse sampleIdna .u16 c02bRel (some c02BaseFile) = some u → Norm sampleIdna u :=
  fun u => C02_parse_norm sampleIdna sampleIdna_stable .u16 c02bRel _ u (Or.inr ⟨_, rfl, by decide +kernel⟩)
-- opaque path: trailing spaces / tabs never survive the preprocessing; an inner space does
example : Impl.parse sampleIdna .u8 (asciiStr "a:x y \t \n") none =
    some { scheme := asciiStr "a", hasOpaquePath := true, opaquePath := asciiStr "x y" } := by decide_ascii
example : Impl.parse sampleIdna .u8 (asciiStr "a:x \t?") none =
    some { scheme := asciiStr "a", hasOpaquePath := true, opaquePath := asciiStr "x ", query := some [] } := by
  decide +kernel

/-! ### 3. parsing the href of a parsed URL again gives the same URL -/

theorem C02_reparse_parsed :
    ∀ idna, IdnaStable idna → ∀ (e : Enc) (units : List Nat) (base : Option Url) (u : Url),
      (base = none ∨ ∃ b, base = some b ∧ Norm idna b) →
      Impl.parse idna e units base = some u →
      ∀ base' : Option Url, Impl.parse idna .u8 (Impl.serialize u) base' = some u :=
  fun idna hi e units base u hb h base' =>
    C02_reparse idna u (C02_parse_norm idna hi e units base u hb h) base' (by cases base' <;> simp)

/-- parsing twice is parsing once (also when the first parse fails) -/
theorem C02_reparse_idempotent :
    ∀ idna, IdnaStable idna → ∀ (e : Enc) (units : List Nat) (base base' : Option Url),
      (base = none ∨ ∃ b, base = some b ∧ Norm idna b) →
      (Impl.parse idna e units base).bind (fun u => Impl.parse idna .u8 (Impl.serialize u) base') =
        Impl.parse idna e units base := by
  intro idna hi e units base base' hb
  cases h : Impl.parse idna e units base with
  | none => rfl
  | some u => exact (Option.bind_some ..).trans (C02_reparse_parsed idna hi e units base u hb h base')

/-- a parsed URL can serve as a base again: the set of normal-form URLs is closed under parsing -/
theorem C02_parse_norm_chain :
    ∀ idna, IdnaStable idna → ∀ (e1 e2 : Enc) (units1 units2 : List Nat) (b u : Url),
      Impl.parse idna e1 units1 none = some b → Impl.parse idna e2 units2 (some b) = some u →
      Norm idna u ∧ ∀ base' : Option Url, Impl.parse idna .u8 (Impl.serialize u) base' = some u := by
  intro idna hi e1 e2 units1 units2 b u h1 h2
  have hb := C02_parse_norm idna hi e1 units1 none b (Or.inl rfl) h1
  exact ⟨C02_parse_norm idna hi e2 units2 (some b) u (Or.inr ⟨b, rfl, hb⟩) h2,
    C02_reparse_parsed idna hi e2 units2 (some b) u (Or.inr ⟨b, rfl, hb⟩) h2⟩

-- evaluated instances (kernel evaluation of the parser model, independent of the proof)
example : (Impl.parse sampleIdna .u8 c02bInput none).bind
      (fun u => Impl.parse sampleIdna .u8 (Impl.serialize u) (some c02BaseFile)) =
    Impl.parse sampleIdna .u8 c02bInput none := by unfold c02BaseFile c02bInput; decide_ascii
example : (Impl.parse sampleIdna .u8 c02bInput none).map (fun u => Impl.serialize u) =
    some (asciiStr "http://example.com/b%20c/?q%27#f%20g") := by unfold c02bInput; decide_ascii
example : ∀ u, Impl.parse sampleIdna .u8 c02bInput none = some u →
    Impl.parse sampleIdna .u8 (Impl.serialize u) (some c02BaseOpaque) = some u :=
  fun u h => C02_reparse_parsed sampleIdna sampleIdna_stable .u8 c02bInput none u (Or.inl rfl) h _

/-! ### 4. the setters keep the normal form, up to the Standard-made exception -/

/-- The two kinds of file URL records that "serialise, parse again" changes (`C02_file_exception`):
    the host text is `localhost` or a drive letter, or the first path segment is `X|`. -/
def FileExc (u : Url) : Prop :=
  u.isFile = true ∧ (hostFileOk u.hostText = false ∨ driveOk u.path = false)

instance (u : Url) : Decidable (FileExc u) := by unfold FileExc; infer_instance

/-- `Norm` without its two file-only clauses: the host text clause is taken as for a non-file URL
    (`hostTextOk u.isSpecial false`) and the `driveOk` clause is dropped.  Everything else is as in `Norm`. -/
def NormX (idna : Idna) (u : Url) : Prop :=
  Proofs.C02.schemeOk u.scheme = true ∧
  (u.hasOpaquePath = true → u.host = none ∧ u.path = [] ∧ u.isSpecial = false) ∧
  (u.hasOpaquePath = false → u.opaquePath = []) ∧
  (u.isSpecial = true → u.host ≠ none ∧ u.path ≠ []) ∧
  (u.isSpecial = true → u.isFile = false → u.hostText ≠ []) ∧
  (u.isFile = true ∨ u.hostText = [] → u.username = [] ∧ u.password = [] ∧ u.port = none) ∧
  (u.isSpecial = false → u.host = none → u.hasOpaquePath = false → u.path ≠ []) ∧
  Proofs.C02.userinfoOk u.username = true ∧ Proofs.C02.userinfoOk u.password = true ∧
  (∀ h ∈ u.host, hostTextOk u.isSpecial false h.text = true ∧ HostStable idna u.isSpecial h) ∧
  portOk u.scheme u.port = true ∧
  (∀ seg ∈ u.path, segOk u.isSpecial seg = true) ∧
  (u.hasOpaquePath = true → opaqueOk u.opaquePath (u.query.isNone && u.fragment.isNone) = true) ∧
  (∀ q ∈ u.query, queryOk u.isSpecial q = true) ∧
  (∀ f ∈ u.fragment, fragmentOk f = true)

instance (idna : Idna) (u : Url) : Decidable (NormX idna u) := by unfold NormX; infer_instance

theorem NormX.toAll {idna : Idna} {u : Url} (h : NormX idna u) : Proofs.C02b.All idna false u := by
  obtain ⟨h1, h2, h3, h4, h5, h6, h7, h8, h9, h10, h11, h12, h14, h15, h16⟩ := h
  refine Proofs.C02b.all_of_normPX
    ⟨h1, ⟨h2, h3, h4, h5, h6, h7⟩, h8, h9, fun h hh => h10 h hh, h11, h12, fun hc => by simp at hc, h14, ?_, ?_⟩
  · cases hq : u.query with
    | none => rfl
    | some q => exact h15 q hq
  · cases hf : u.fragment with
    | none => rfl
    | some f => exact h16 f hf

theorem NormX.ofAll {idna : Idna} {u : Url} (h : Proofs.C02b.All idna false u) : NormX idna u := by
  have h := Proofs.C02b.normPX_of_all h
  obtain ⟨s1, s2, s3, s4, s5, s6⟩ := h.shape
  refine ⟨h.scheme, s1, s2, s3, s4, s5, s6, h.user, h.pass, fun x hx => h.host x hx, h.port, h.segs,
    h.opq, ?_, ?_⟩
  · intro q hq
    have := h.query
    rw [show u.query = some q from hq] at this
    exact this
  · intro f hf
    have := h.frag
    rw [show u.fragment = some f from hf] at this
    exact this

/-- `Norm` is `NormX` plus "not one of the two exceptional file URL records" -/
theorem C02_norm_iff_normx : ∀ (idna : Idna) (u : Url), Norm idna u ↔ (NormX idna u ∧ ¬ FileExc u) := by
  intro idna u
  constructor
  · intro h
    have ha := Proofs.C02b.all_of_normP h.toNormP
    refine ⟨NormX.ofAll ha.weaken, ?_⟩
    rintro ⟨hf, hx⟩
    obtain ⟨a, b⟩ := ha.fileClauses hf
    rcases hx with hx | hx
    · rw [a] at hx; exact absurd hx (by simp)
    · rw [b] at hx; exact absurd hx (by simp)
  · rintro ⟨h, hx⟩
    refine Norm.ofNormP (Proofs.C02b.normP_of_all (h.toAll.strengthen ?_))
    intro hf
    constructor
    · cases ha : hostFileOk u.hostText with
      | true => rfl
      | false => exact absurd ⟨hf, Or.inl ha⟩ hx
    · cases ha : driveOk u.path with
      | true => rfl
      | false => exact absurd ⟨hf, Or.inr ha⟩ hx

/-- every setter other than `protocol` keeps the normal form (also when it reports failure: a failing
    state-override run may have written parts, exactly as in the Standard) -/
theorem C02_set_norm :
    ∀ idna, IdnaStable idna → ∀ (s : Impl.Setter) (e : Enc) (units : List Nat) (u : Url),
      s ≠ .protocol → Norm idna u → Norm idna (Impl.setValid idna s e units u).1 :=
  fun _ hi s e units u hs h =>
    Norm.ofNormP (Proofs.C02b.normP_of_all
      (Proofs.C02b.set_all hi s e units u (Proofs.C02b.all_of_normP h.toNormP) (fun hc => absurd hc hs)))

/-- every setter, `protocol` included, keeps `NormX` -/
theorem C02_set_normx :
    ∀ idna, IdnaStable idna → ∀ (s : Impl.Setter) (e : Enc) (units : List Nat) (u : Url),
      NormX idna u → NormX idna (Impl.setValid idna s e units u).1 :=
  fun _ hi s e units u h => NormX.ofAll (Proofs.C02b.set_all hi s e units u h.toAll (fun _ => rfl))

/-- the protocol setter: the result is in normal form, or it is one of the two exceptional records -/
theorem C02_set_protocol :
    ∀ idna, IdnaStable idna → ∀ (e : Enc) (units : List Nat) (u : Url), Norm idna u →
      Norm idna (Impl.setValid idna .protocol e units u).1 ∨
        FileExc (Impl.setValid idna .protocol e units u).1 := by
  intro idna hi e units u h
  have hx := C02_set_normx idna hi .protocol e units u ((C02_norm_iff_normx idna u).1 h).1
  by_cases hf : FileExc (Impl.setValid idna .protocol e units u).1
  · exact Or.inr hf
  · exact Or.inl ((C02_norm_iff_normx idna _).2 ⟨hx, hf⟩)

/-- a sequence of setter calls -/
def applySetters (idna : Idna) (u : Url) (calls : List (Impl.Setter × Enc × List Nat)) : Url :=
  calls.foldl (fun u c => (Impl.setValid idna c.1 c.2.1 c.2.2 u).1) u

/-- After any sequence of setter calls on a normal-form URL (in particular: on a parsed URL), the URL
    is re-parsed from its href to itself, unless it is one of the two exceptional file URL records. -/
theorem C02_setters_reparse :
    ∀ idna, IdnaStable idna → ∀ (u : Url), Norm idna u → ∀ calls : List (Impl.Setter × Enc × List Nat),
      NormX idna (applySetters idna u calls) ∧
      (¬ FileExc (applySetters idna u calls) →
        Norm idna (applySetters idna u calls) ∧
        ∀ base' : Option Url,
          Impl.parse idna .u8 (Impl.serialize (applySetters idna u calls)) base' = some (applySetters idna u calls)) := by
  intro idna hi u h calls
  have hx : NormX idna (applySetters idna u calls) := by
    have h0 := ((C02_norm_iff_normx idna u).1 h).1
    unfold applySetters
    clear h
    induction calls generalizing u with
    | nil => exact h0
    | cons c cs ih => exact ih _ (C02_set_normx idna hi c.1 c.2.1 c.2.2 u h0)
  refine ⟨hx, fun hf => ?_⟩
  have hn := (C02_norm_iff_normx idna _).2 ⟨hx, hf⟩
  exact ⟨hn, fun base' => C02_reparse idna _ hn base' (by cases base' <;> simp)⟩

/-- without a `protocol` call there is no exception -/
theorem C02_setters_norm :
    ∀ idna, IdnaStable idna → ∀ (u : Url), Norm idna u → ∀ calls : List (Impl.Setter × Enc × List Nat),
      (∀ c ∈ calls, c.1 ≠ .protocol) → Norm idna (applySetters idna u calls) := by
  intro idna hi u h calls hc
  unfold applySetters
  induction calls generalizing u with
  | nil => exact h
  | cons c cs ih =>
    exact ih _ (C02_set_norm idna hi c.1 c.2.1 c.2.2 u (hc c List.mem_cons_self) h)
      (fun d hd => hc d (List.mem_cons_of_mem _ hd))

/-- `url_search_params::update` (query := serialised list, or query removed and trailing spaces of an
    opaque path stripped) keeps the normal form -/
theorem C02_update_norm :
    ∀ (idna : Idna) (o : Impl.UrlObj), (∀ u, o.url = some u → Norm idna u) →
      (∀ p, o.sp = some p → ∀ pr ∈ p.list, (∀ b ∈ pr.1, b < 256) ∧ (∀ b ∈ pr.2, b < 256)) →
      ∀ u', o.update.url = some u' → Norm idna u' :=
  fun _ o hu hsp u' hu' =>
    Norm.ofNormP (Proofs.C02b.normP_of_all
      (Proofs.C02b.update_all o (fun u h => Proofs.C02b.all_of_normP (hu u h).toNormP) hsp u' hu'))

-- the exception arises (http://h/C|/x, protocol := "file") and disappears again (pathname := "/C|/y":
-- now the drive letter is normalised by the path block)
example : ∃ b, Impl.parse sampleIdna .u8 (asciiStr "http://h/C|/x") none = some b ∧ Norm sampleIdna b ∧
    applySetters sampleIdna b [(.protocol, .u8, asciiStr "file")] = c02DriveBar ∧
    FileExc c02DriveBar ∧ NormX sampleIdna c02DriveBar ∧ ¬ Norm sampleIdna c02DriveBar ∧
    applySetters sampleIdna b [(.protocol, .u8, asciiStr "file"), (.pathname, .u16, asciiStr "/C|/y")] =
      { c02DriveBar with path := [asciiStr "C:", asciiStr "y"] } ∧
    Norm sampleIdna { c02DriveBar with path := [asciiStr "C:", asciiStr "y"] } := by unfold c02DriveBar; decide_ascii
-- the other exception: http://localhost/x, protocol := "file"; then host := "LocalHost" gives the empty host
example : ∃ b, Impl.parse sampleIdna .u8 (asciiStr "http://localhost/x") none = some b ∧ Norm sampleIdna b ∧
    applySetters sampleIdna b [(.protocol, .u8, asciiStr "file")] = c02Localhost ∧
    FileExc c02Localhost ∧ NormX sampleIdna c02Localhost ∧
    applySetters sampleIdna b [(.protocol, .u8, asciiStr "file"), (.host, .u8, asciiStr "LocalHost")] =
      { c02Localhost with host := some emptyHost } ∧
    Norm sampleIdna { c02Localhost with host := some emptyHost } := by unfold c02Localhost; decide_ascii
-- search := "" strips the trailing space of an opaque path (the href would lose it otherwise)
example : ∃ b, Impl.parse sampleIdna .u8 (asciiStr "a:x ?q") none = some b ∧
    b = { scheme := asciiStr "a", hasOpaquePath := true, opaquePath := asciiStr "x ", query := some (asciiStr "q") } ∧
    applySetters sampleIdna b [(.search, .u8, [])] =
      { scheme := asciiStr "a", hasOpaquePath := true, opaquePath := asciiStr "x" } ∧
    Norm sampleIdna (applySetters sampleIdna b [(.search, .u8, [])]) := by decide_ascii
-- an instance of the theorem: any calls on a parsed URL
example : ∀ b calls, Impl.parse sampleIdna .u8 (asciiStr "http://h/C|/x") none = some b →
    NormX sampleIdna (applySetters sampleIdna b calls) :=
  fun b calls h => (C02_setters_reparse sampleIdna sampleIdna_stable b
    (C02_parse_norm sampleIdna sampleIdna_stable .u8 _ none b (Or.inl rfl) h) calls).1

end Upa.Props

#print axioms Upa.Props.C02_host_stable
#print axioms Upa.Props.C02_parse_norm
#print axioms Upa.Props.C02_reparse_parsed
#print axioms Upa.Props.C02_reparse_idempotent
#print axioms Upa.Props.C02_parse_norm_chain
#print axioms Upa.Props.C02_norm_iff_normx
#print axioms Upa.Props.C02_set_norm
#print axioms Upa.Props.C02_set_normx
#print axioms Upa.Props.C02_set_protocol
#print axioms Upa.Props.C02_setters_reparse
#print axioms Upa.Props.C02_setters_norm
#print axioms Upa.Props.C02_update_norm
