import Upa.Proofs.Rep
import Upa.Proofs.Literal
/-
  C05 — the stored representation (one normalised string + 11 part end offsets + flags,
  include/upa/url.h:694-698) and the getters computed from the offsets (url.h:1148-1316:
  get_part_view, is_empty, host(), path(), search(), hash(), serialize(exclude_fragment)).

  `Impl.layout u` is the representation url_serializer produces for the record `u`; `Impl.serialize`
  and `Impl.getX` are the record-level (Standard-shaped) serializer and getters.

  Defined in `Upa/Proofs/Rep.lean` (namespace `Upa.Proofs.C05`):
    RecWF u := u.scheme ≠ [] ∧ (u.host = none → u.username = [] ∧ u.password = [] ∧ u.port = none)
  (decidable).  It is needed only by `protocol`, `username`, `password`, `port`
  (`C05_getters_unconditional` covers the other getters without it) and it is exactly the weakest
  such condition (`C05_RecWF_necessary`).  Nothing is required of `hasOpaquePath/opaquePath/path`,
  `query`, `fragment`.
-/
namespace Upa.Props
open Upa Upa.Proofs.C05

/-! ### concrete records used for the non-vacuity examples -/

/-- https://user:pw@example.org:8080/a/b?q=1#frag -/
def c05Full : Url :=
  { scheme := asciiStr "https", username := asciiStr "user", password := asciiStr "pw",
    host := some ⟨.domain, asciiStr "example.org"⟩, port := some 8080,
    path := [asciiStr "a", asciiStr "b"], query := some (asciiStr "q=1"),
    fragment := some (asciiStr "frag") }

/-- null host, path [[], "x"]: serialised with the `/.` path prefix, `a:/.//x` -/
def c05Prefix : Url := { scheme := asciiStr "a", path := [[], asciiStr "x"] }

/-- opaque path: `mailto:x@y?` with an empty (non-null) query -/
def c05Opaque : Url :=
  { scheme := asciiStr "mailto", hasOpaquePath := true, opaquePath := asciiStr "x@y",
    query := some [] }

/-- username only, empty host, no port: `s://u@/p` -/
def c05UserOnly : Url :=
  { scheme := asciiStr "s", username := asciiStr "u", host := some ⟨.empty, []⟩,
    path := [asciiStr "p"] }

/-! ## 1. the laid-out string is the Standard's serialization of the record -/

theorem C05_layout_href : ∀ u : Url, (Impl.layout u).norm = Impl.serialize u := fun u => by
  rw [Proofs.SetRep.layout_norm, serialize_false_seg]

example : (Impl.layout c05Full).href = asciiStr "https://user:pw@example.org:8080/a/b?q=1#frag" ∧
    Impl.serialize c05Full = asciiStr "https://user:pw@example.org:8080/a/b?q=1#frag" := by unfold c05Full; decide_ascii
example : (Impl.layout c05Prefix).href = asciiStr "a:/.//x" ∧
    Impl.serialize c05Prefix = asciiStr "a:/.//x" := by unfold c05Prefix; decide_ascii
example : (Impl.layout c05Opaque).href = asciiStr "mailto:x@y?" ∧
    Impl.serialize c05Opaque = asciiStr "mailto:x@y?" := by unfold c05Opaque; decide_ascii
example : (Impl.layout c05UserOnly).href = asciiStr "s://u@/p" ∧
    Impl.serialize c05UserOnly = asciiStr "s://u@/p" := by unfold c05UserOnly; decide_ascii

/-! ## 2. offsets are monotone and within the string (the safety of every getter slice) -/

theorem C05_layout_monotone : ∀ u : Url,
    List.Pairwise (· ≤ ·) (Impl.layout u).partEnd ∧ (Impl.layout u).partEnd.length = 11 ∧
    ∀ x ∈ (Impl.layout u).partEnd, x ≤ (Impl.layout u).norm.length := fun u => by
  rw [(Proofs.SetRep.layout_segs u).2, (Proofs.SetRep.layout_segs u).1]
  exact ⟨Proofs.SetRep.sums_pairwise _ _, Proofs.SetRep.sums_length _ _,
    fun x hx => by simpa using (Proofs.SetRep.sums_bounds 0 _ x hx).2⟩

--                         SCHEME SEP USER PASS HOST_START HOST PORT PREFIX PATH QUERY FRAGMENT
example : (Impl.layout c05Full).partEnd = [5, 8, 12, 15, 16, 27, 32, 32, 36, 40, 45] ∧
    (Impl.layout c05Full).norm.length = 45 := by unfold c05Full; decide_ascii
example : (Impl.layout c05Prefix).partEnd = [1, 2, 2, 2, 2, 2, 2, 4, 7, 7, 7] ∧
    (Impl.layout c05Prefix).norm.length = 7 := by unfold c05Prefix; decide_ascii
example : (Impl.layout c05Opaque).partEnd = [6, 7, 7, 7, 7, 7, 7, 7, 10, 11, 11] ∧
    (Impl.layout c05Opaque).norm.length = 11 := by unfold c05Opaque; decide_ascii
example : (Impl.layout c05UserOnly).partEnd = [1, 4, 5, 5, 6, 6, 6, 6, 8, 8, 8] := by unfold c05UserOnly; decide_ascii

/-! ## 3. every getter computed from offsets = the record-level getter -/

theorem C05_getters : ∀ u : Url, RecWF u →
    let r := Impl.layout u
    r.protocol = Impl.getProtocol u ∧ r.username = u.username ∧ r.password = u.password ∧
    r.host = Impl.getHost u ∧ r.hostname = Impl.getHostname u ∧ r.port = Impl.getPort u ∧
    r.pathname = Impl.pathText u ∧ r.path = Impl.getPath u ∧ r.search = Impl.getSearch u ∧
    r.hash = Impl.getHash u ∧ r.serializeNoFragment = Impl.serialize u true := fun u wf => by
  obtain ⟨hs, hh⟩ := wf
  refine ⟨protocol_eq u hs, ?_, ?_, ?_, hostname_seg u, ?_, pathname_seg u, path_seg u, ?_, ?_, ?_⟩
  · rw [username_seg]; exact userSeg_eq u (fun h => (hh h).1)
  · rw [password_seg]; exact passSeg_eq u (fun h => (hh h).2.1)
  · rw [host_seg, getHost_seg]
  · rw [port_seg]; exact portSeg_eq u (fun h => (hh h).2.2)
  · rw [search_seg, getSearch_seg]
  · rw [hash_seg, getHash_seg]
  · rw [serializeNoFragment_seg, serialize_true_seg]

/-- the getters that need no side condition at all -/
theorem C05_getters_unconditional : ∀ u : Url,
    let r := Impl.layout u
    r.href = Impl.serialize u ∧
    r.host = Impl.getHost u ∧ r.hostname = Impl.getHostname u ∧
    r.pathname = Impl.pathText u ∧ r.path = Impl.getPath u ∧ r.search = Impl.getSearch u ∧
    r.hash = Impl.getHash u ∧ r.serializeNoFragment = Impl.serialize u true := fun u => by
  refine ⟨C05_layout_href u, ?_, hostname_seg u, pathname_seg u, path_seg u, ?_, ?_, ?_⟩
  · rw [host_seg, getHost_seg]
  · rw [search_seg, getSearch_seg]
  · rw [hash_seg, getHash_seg]
  · rw [serializeNoFragment_seg, serialize_true_seg]

/-- `RecWF` is the weakest side condition: the four getters it is used for force it -/
theorem C05_RecWF_necessary : ∀ u : Url,
    (Impl.layout u).protocol = Impl.getProtocol u → (Impl.layout u).username = u.username →
    (Impl.layout u).password = u.password → (Impl.layout u).port = Impl.getPort u → RecWF u :=
  recWF_of_getters

-- `RecWF` is satisfiable, on records of every shape
example : RecWF c05Full ∧ RecWF c05Prefix ∧ RecWF c05Opaque ∧ RecWF c05UserOnly := by unfold c05Full c05Prefix c05Opaque c05UserOnly; decide_ascii

example :
    let r := Impl.layout c05Full
    r.protocol = asciiStr "https:" ∧ r.username = asciiStr "user" ∧ r.password = asciiStr "pw" ∧
    r.host = asciiStr "example.org:8080" ∧ r.hostname = asciiStr "example.org" ∧
    r.port = asciiStr "8080" ∧ r.pathname = asciiStr "/a/b" ∧ r.path = asciiStr "/a/b?q=1" ∧
    r.search = asciiStr "?q=1" ∧ r.hash = asciiStr "#frag" ∧
    r.serializeNoFragment = asciiStr "https://user:pw@example.org:8080/a/b?q=1" := by unfold c05Full; decide_ascii
example :
    let r := Impl.layout c05Prefix
    r.protocol = asciiStr "a:" ∧ r.username = [] ∧ r.password = [] ∧ r.host = [] ∧ r.hostname = [] ∧
    r.port = [] ∧ r.pathname = asciiStr "//x" ∧ r.path = asciiStr "//x" ∧ r.search = [] ∧
    r.hash = [] ∧ r.serializeNoFragment = asciiStr "a:/.//x" ∧
    r.partView Impl.PATH_PREFIX = asciiStr "/." := by unfold c05Prefix; decide_ascii
example :
    let r := Impl.layout c05Opaque
    r.protocol = asciiStr "mailto:" ∧ r.pathname = asciiStr "x@y" ∧ r.path = asciiStr "x@y?" ∧
    r.search = [] ∧ r.hash = [] ∧ r.host = [] ∧ r.serializeNoFragment = asciiStr "mailto:x@y?" := by
  unfold c05Opaque; decide_ascii
example :
    let r := Impl.layout c05UserOnly
    r.username = asciiStr "u" ∧ r.password = [] ∧ r.host = [] ∧ r.hostname = [] ∧ r.port = [] ∧
    r.pathname = asciiStr "/p" := by unfold c05UserOnly; decide_ascii

-- counterexamples: each conjunct of `RecWF` is needed
-- (a) empty scheme: `protocol()` yields "" where the record getter yields ":"
example : ¬ RecWF {} ∧ (Impl.layout {}).protocol = [] ∧ Impl.getProtocol {} = asciiStr ":" := by
  decide_ascii
-- (b) null host with a username: the string has no place for it
example :
    let u : Url := { scheme := asciiStr "a", username := asciiStr "u", path := [asciiStr "x"] }
    ¬ RecWF u ∧ (Impl.layout u).norm = asciiStr "a:/x" ∧ (Impl.layout u).username = [] ∧
    (Impl.layout u).username ≠ u.username := by decide_ascii
-- (c) null host with a password
example :
    let u : Url := { scheme := asciiStr "a", password := asciiStr "p", path := [asciiStr "x"] }
    ¬ RecWF u ∧ (Impl.layout u).password = [] ∧ (Impl.layout u).password ≠ u.password := by decide_ascii
-- (d) null host with a port
example :
    let u : Url := { scheme := asciiStr "a", port := some 80, path := [asciiStr "x"] }
    ¬ RecWF u ∧ (Impl.layout u).port = [] ∧ Impl.getPort u = asciiStr "80" := by decide_ascii

/-! ## 4. the record-level getters are mutually consistent -/

theorem getter_consistency (u : Url) :
    Impl.getHost u = (if u.host.isNone then [] else
      Impl.getHostname u ++ (match u.port with | some p => 0x3A :: toDecimal p | none => [])) ∧
    Impl.getPath u = Impl.pathText u ++ (match u.query with | some q => 0x3F :: q | none => []) ∧
    Impl.serialize u true ++ (match u.fragment with | some f => 0x23 :: f | none => []) =
      Impl.serialize u false := by
  refine ⟨?_, rfl, ?_⟩
  · cases hh : u.host <;> simp [Impl.getHost, Impl.getHostname, Url.hostText, hh] <;> rfl
  · cases hf : u.fragment <;> simp [Impl.serialize, hf]

/-- (the proof does not use `RecWF u`: these are equations between the getters' definitions) -/
theorem C05_getter_consistency : ∀ u : Url, RecWF u →
    Impl.getHost u = (if u.host.isNone then [] else
      Impl.getHostname u ++ (match u.port with | some p => 0x3A :: toDecimal p | none => [])) ∧
    Impl.getPath u = Impl.pathText u ++ (match u.query with | some q => 0x3F :: q | none => []) ∧
    Impl.serialize u true ++ (match u.fragment with | some f => 0x23 :: f | none => []) =
      Impl.serialize u false := fun u _ => getter_consistency u

/-- the same, and the same three facts on the offset getters, with no side condition -/
theorem C05_getter_consistency_unconditional : ∀ u : Url,
    (Impl.getHost u = (if u.host.isNone then [] else
      Impl.getHostname u ++ (match u.port with | some p => 0x3A :: toDecimal p | none => [])) ∧
    Impl.getPath u = Impl.pathText u ++ (match u.query with | some q => 0x3F :: q | none => []) ∧
    Impl.serialize u true ++ (match u.fragment with | some f => 0x23 :: f | none => []) =
      Impl.serialize u false) ∧
    (let r := Impl.layout u
     r.host = (if u.host.isNone then [] else
       r.hostname ++ (match u.port with | some p => 0x3A :: toDecimal p | none => [])) ∧
     r.path = r.pathname ++ (match u.query with | some q => 0x3F :: q | none => []) ∧
     r.serializeNoFragment ++ (match u.fragment with | some f => 0x23 :: f | none => []) =
       r.href) := fun u => by
  have h := getter_consistency u
  obtain ⟨_, hho, hhn, hpn, hp, _, _, hs⟩ := C05_getters_unconditional u
  refine ⟨h, ?_⟩
  show _ ∧ _ ∧ _
  rw [hho, hhn, hpn, hp, hs]
  exact ⟨h.1, h.2.1, by rw [h.2.2]; exact (C05_layout_href u).symm⟩

example : RecWF c05Full ∧ Impl.getHost c05Full = asciiStr "example.org:8080" ∧
    Impl.getHostname c05Full = asciiStr "example.org" ∧ Impl.getPath c05Full = asciiStr "/a/b?q=1" ∧
    Impl.pathText c05Full = asciiStr "/a/b" ∧
    Impl.serialize c05Full true = asciiStr "https://user:pw@example.org:8080/a/b?q=1" ∧
    Impl.serialize c05Full false = asciiStr "https://user:pw@example.org:8080/a/b?q=1#frag" := by
  unfold c05Full; decide_ascii
example : RecWF c05Prefix ∧ Impl.getHost c05Prefix = [] ∧ Impl.getPath c05Prefix = asciiStr "//x" ∧
    Impl.serialize c05Prefix true = Impl.serialize c05Prefix false := by unfold c05Prefix; decide_ascii
example : RecWF c05Opaque ∧ Impl.getPath c05Opaque = asciiStr "x@y?" ∧
    Impl.pathText c05Opaque = asciiStr "x@y" := by unfold c05Opaque; decide_ascii

#print axioms C05_layout_href
#print axioms C05_layout_monotone
#print axioms C05_getters
#print axioms C05_getters_unconditional
#print axioms C05_RecWF_necessary
#print axioms C05_getter_consistency
#print axioms C05_getter_consistency_unconditional

end Upa.Props
