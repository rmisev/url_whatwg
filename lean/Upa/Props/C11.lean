import Upa.Proofs.Ipv4
import Upa.Proofs.Literal
/-
  C11: IPv4 parser / serializer (include/upa/url_ip.h, src/url_ip.cpp) against the URL Standard §3.5.
  Code-shaped model: `Upa.Impl` (Upa/Impl/Ip.lean); Standard: `Upa.Spec` (Upa/Spec/Ip.lean).
  Helper lemmas: Upa/Proofs/Ipv4.lean, over the positional notation of Upa/Proofs/Radix.lean.
-/
namespace Upa.Props
open Upa

/-! ### 1. hostname_ends_in_a_number = the Standard's ends-in-a-number checker -/

theorem C11_ends_in_number : ∀ s : List Nat, Impl.endsInNumber s = Spec.endsInANumber s :=
  Impl.Ipv4.endsInNumber_eq

-- both outcomes occur; trailing dot, hex prefix, empty last label, non-numeric last label
example : Impl.endsInNumber (asciiStr "0x7f.1") = true ∧ Spec.endsInANumber (asciiStr "0x7f.1") = true := by decide_ascii
example : Impl.endsInNumber (asciiStr "1.2.3.4.") = true ∧ Spec.endsInANumber (asciiStr "1.2.3.4.") = true := by decide_ascii
example : Impl.endsInNumber (asciiStr "example.0x") = true ∧ Spec.endsInANumber (asciiStr "example.0x") = true := by decide_ascii
example : Impl.endsInNumber (asciiStr "a.09") = true ∧ Spec.endsInANumber (asciiStr "a.09") = true := by decide_ascii
example : Impl.endsInNumber (asciiStr "1.2.3.4..") = false ∧ Spec.endsInANumber (asciiStr "1.2.3.4..") = false := by decide_ascii
example : Impl.endsInNumber (asciiStr "1.2.0xg") = false ∧ Spec.endsInANumber (asciiStr "1.2.0xg") = false := by decide_ascii
example : Impl.endsInNumber (asciiStr "1.example") = false ∧ Spec.endsInANumber (asciiStr "1.example") = false := by decide_ascii
example : Impl.endsInNumber (asciiStr ".") = false ∧ Spec.endsInANumber (asciiStr ".") = false := by decide_ascii

/-! ### 2. ipv4_parse = the Standard's IPv4 parser (failure, or the same address) -/

theorem C11_parse : ∀ s : List Nat, Impl.ipv4Parse s = Spec.ipv4Parse s :=
  Impl.Ipv4.ipv4Parse_eq

-- accepted inputs (hex / octal / trailing dot / fewer than four parts / many leading zeros)
example : Impl.ipv4Parse (asciiStr "0x7f.1") = some 2130706433 ∧ Spec.ipv4Parse (asciiStr "0x7f.1") = some 2130706433 := by decide_ascii
example : Impl.ipv4Parse (asciiStr "1.2.3.4.") = some 16909060 ∧ Spec.ipv4Parse (asciiStr "1.2.3.4.") = some 16909060 := by decide_ascii
example : Impl.ipv4Parse (asciiStr "4294967295") = some 4294967295 ∧ Spec.ipv4Parse (asciiStr "4294967295") = some 4294967295 := by decide_ascii
example : Impl.ipv4Parse (asciiStr "037777777777") = some 4294967295 ∧ Spec.ipv4Parse (asciiStr "037777777777") = some 4294967295 := by decide_ascii
example : Impl.ipv4Parse (asciiStr "0x000000000000000000000001") = some 1 ∧ Spec.ipv4Parse (asciiStr "0x000000000000000000000001") = some 1 := by decide_ascii
example : Impl.ipv4Parse (asciiStr "1.2.0x") = some 16908288 ∧ Spec.ipv4Parse (asciiStr "1.2.0x") = some 16908288 := by decide_ascii
-- rejected inputs: part > 255, value ≥ 2^32, > 11 significant digits (the code's cut-off; the
-- Standard computes the unbounded value and rejects it afterwards), value ≥ 2^64 (no wrap-around
-- acceptance), five parts, five dots, empty part, non-IPv4 character, "09" is octal
example : Impl.ipv4Parse (asciiStr "256.1") = none ∧ Spec.ipv4Parse (asciiStr "256.1") = none := by decide_ascii
example : Impl.ipv4Parse (asciiStr "4294967296") = none ∧ Spec.ipv4Parse (asciiStr "4294967296") = none := by decide_ascii
example : Impl.ipv4Parse (asciiStr "999999999999") = none ∧ Spec.ipv4Parse (asciiStr "999999999999") = none := by decide_ascii
example : Impl.ipv4Parse (asciiStr "18446744073709551617") = none ∧ Spec.ipv4Parse (asciiStr "18446744073709551617") = none := by decide_ascii
example : Impl.ipv4Parse (asciiStr "0x10000000000000001") = none ∧ Spec.ipv4Parse (asciiStr "0x10000000000000001") = none := by decide_ascii
example : Impl.ipv4Parse (asciiStr "1.2.3.4.5") = none ∧ Spec.ipv4Parse (asciiStr "1.2.3.4.5") = none := by decide_ascii
example : Impl.ipv4Parse (asciiStr "1.2.3.4..") = none ∧ Spec.ipv4Parse (asciiStr "1.2.3.4..") = none := by decide_ascii
example : Impl.ipv4Parse (asciiStr "1..2") = none ∧ Spec.ipv4Parse (asciiStr "1..2") = none := by decide_ascii
example : Impl.ipv4Parse (asciiStr "1.2.3.g") = none ∧ Spec.ipv4Parse (asciiStr "1.2.3.g") = none := by decide_ascii
example : Impl.ipv4Parse (asciiStr "09") = none ∧ Spec.ipv4Parse (asciiStr "09") = none := by decide_ascii
example : Impl.ipv4Parse [] = none ∧ Spec.ipv4Parse [] = none := by decide +kernel

/-! ### 3. an accepted address fits 32 bits -/

theorem C11_parse_range : ∀ s n, Impl.ipv4Parse s = some n → n < 2^32 :=
  Impl.Ipv4.ipv4Parse_lt

-- the hypothesis is satisfiable, and the bound is attained
example : Impl.ipv4Parse (asciiStr "255.255.255.255") = some 4294967295 := by decide_ascii
example : ∃ s n, Impl.ipv4Parse s = some n ∧ n + 1 = 2^32 :=
  ⟨asciiStr "0xffffffff", 4294967295, by decide_ascii, by decide⟩

/-! ### 4. ipv4_serialize = the Standard's IPv4 serializer -/

theorem C11_serialize : ∀ n, n < 2^32 → Impl.ipv4Serialize n = Spec.ipv4Serialize n :=
  fun n _ => Impl.Ipv4.ipv4Serialize_eq n

example : (2130706433 : Nat) < 2^32 := by decide +kernel
example : Impl.ipv4Serialize 2130706433 = asciiStr "127.0.0.1" := by decide_ascii
example : Spec.ipv4Serialize 2130706433 = asciiStr "127.0.0.1" := by decide_ascii
example : Impl.ipv4Serialize 4294967295 = asciiStr "255.255.255.255" := by decide_ascii
example : Impl.ipv4Serialize 0 = asciiStr "0.0.0.0" := by decide_ascii
-- `util::unsigned_to_str` itself, base 10 and base 16
example : Impl.unsignedToStr 10 (fun d => 0x30 + d) 209 = asciiStr "209" := by decide_ascii
example : Impl.unsignedToStr 16 hexDigitLower 0xfe80 = asciiStr "fe80" := by decide_ascii

/-! ### 5. round trip: parsing a serialized address gives the address back -/

theorem C11_roundtrip : ∀ n, n < 2^32 → Impl.ipv4Parse (Impl.ipv4Serialize n) = some n :=
  Impl.Ipv4.roundtrip

example : Impl.ipv4Serialize 3232235777 = asciiStr "192.168.1.1" ∧
    Impl.ipv4Parse (asciiStr "192.168.1.1") = some 3232235777 := by decide_ascii
example : Impl.ipv4Parse (Impl.ipv4Serialize 167772170) = some 167772170 := by decide +kernel  -- 10.0.0.10
-- the bound is needed: 2^32 serializes to "0.0.0.0"
example : Impl.ipv4Parse (Impl.ipv4Serialize 4294967296) = some 0 := by decide +kernel

end Upa.Props

#print axioms Upa.Props.C11_ends_in_number
#print axioms Upa.Props.C11_parse
#print axioms Upa.Props.C11_parse_range
#print axioms Upa.Props.C11_serialize
#print axioms Upa.Props.C11_roundtrip
#print axioms Upa.Impl.unsignedToStr_dec
#print axioms Upa.Impl.unsignedToStr_hex
