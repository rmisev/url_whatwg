import Upa.Proofs.SetRepExcApi
import Upa.Props.C05d
import Upa.Props.C20
import Upa.Proofs.Literal
/-
  C20b - allocation failure inside the in-place edits of `url_setter`: the ORDER of "write the offsets"
  and "grow the string" on the operational model.

  Model: `Upa/Impl/SetRepExc.lean` - the operations of `Impl/SetRep.lean`, the whole setters of
  `Impl/SetRepApi.lean` and `url_search_params::update` of `Impl/UpdateRep.lean` with every primitive
  that can allocate marked, in program order, with the stored representation the url object has at
  that moment.  `setRepX idna s e units r k`: the setter under the schedule "the k-th throwing
  primitive fails" (`none`: no failure): `done r'` or `threw r'` (the representation when the
  exception leaves the call) and the number of throwing primitives passed.  `failStates`: all the
  `threw` representations.  Lemmas: Upa/Proofs/SetRepExc.lean (`Leaves m P`: every failure state of `m`
  satisfies `P`), SetRepExcOk.lean (the shape of the failure states), SetRepExcApi.lean (setter by
  setter); Upa/Proofs/Fault.lean for section 6.

  Proved here, for EVERY start representation `r` of a record `u` with `RepOk u` (no `HostInv` needed),
  every setter, every argument and every failure point:
    * without a failure the model is `setRep` (`C20b_no_failure`);
    * after a failure the offsets are in bounds and ascending (`C20b_consistent`, `C20b_update`);
    * `replace_part` writes the offsets only after the throwing `replace` (`C20b_replace_part_order`),
      hence `username` / `password` are all-or-nothing (`C20b_credentials_atomic`) and `protocol`
      leaves a representation of a record (`C20b_represents`);
    * `href` / `safe_assign` on the representation are all-or-nothing (`C20b_href_atomic`, …).
  FOUND here (`C20b_host_view_counterexample`, confirmed on the real library with a counting
  `operator new`; F11, repaired by fba3d2d): offsets in bounds and ascending was NOT enough for
  `url::host()`, which computed `part_end_[HOST or PORT] - part_end_[HOST_START]` without the guard of
  `get_part_view` (the guard is there since fba3d2d, url.h:1203).  When the
  host (resp. the port) is the LAST part of the URL ("s://h", "s://h:80"), `url_setter::start_part`
  cuts the string and zeroes `part_end_[HOST]` (resp. `[PORT]`) BEFORE the new text is appended;
  an allocation failure in that append leaves the non-null flag on and the offset 0, and the unguarded
  `host()` returned a view of length 2^64 - 4.  For all the other setters the stronger predicate
  `GettersOk` holds at every failure point (`C20b_getters_partial`).
-/
namespace Upa.Props
open Upa Upa.Impl Upa.Proofs.C05 Upa.Proofs.SetRep Upa.Proofs.SetRepApi Upa.Proofs.SetRepExc

/-- offsets in bounds and ascending, and the subtraction of `url::host()` (unguarded until fba3d2d) does
    not wrap -/
def GettersOk (r : Rep) : Prop := OffsetsOk r ∧ HostViewOk r

instance (r : Rep) : Decidable (GettersOk r) := by unfold GettersOk; infer_instance

theorem gettersOk_of_ptS {r : Rep} (h : PtS r) : GettersOk r :=
  ⟨h.pt.offsetsOk, h.hostViewOk⟩

/-! ## 0. the schedule is a failure counter threaded through the computation -/

/-- `run` of `pure`, of a throwing primitive, and of `>>=`: the k-th primitive fails; what was done
    before it is done; a failure propagates; the count of primitives passed adds up -/
theorem C20b_threading :
    (∀ {α : Type} (a : α) (k : Option Nat), (pure a : X α).run k = (.done a, 0)) ∧
    (∀ (r : Rep) (k : Option Nat),
      (mayThrow r).run k = if k = some 0 then (.threw r, 0) else (.done (), 1)) ∧
    (∀ {α β : Type} (m : X α) (f : α → X β) (k : Option Nat),
      (m >>= f).run k =
        match m.run k with
        | (.threw r, n) => (.threw r, n)
        | (.done a, n) => (((f a).run (k.map (· - n))).1, n + ((f a).run (k.map (· - n))).2)) :=
  ⟨fun a k => run_pure a k, run_mayThrow, fun m f k => run_bind m f k⟩

/-- `failStates` enumerates exactly the points: `r'` is a failure state iff some schedule `k` ends in
    `threw r'` -/
theorem C20b_failStates :
    ∀ (idna : Idna) (s : Setter) (e : Enc) (units : List Nat) (r r' : Rep),
      r' ∈ failStates idna s e units r ↔ ∃ k, (setRepX idna s e units r (some k)).1 = .threw r' := by
  intro idna s e units r r'
  rw [failStates_setter_eq]
  constructor
  · intro h
    obtain ⟨k, hk⟩ := mem_run _ r' h
    exact ⟨k, by unfold setRepX; rw [hk]⟩
  · rintro ⟨k, hk⟩
    exact setRepX_threw_mem idna s e units r (some k) r' hk

/-! ## 1. nothing fails: the model is `setRep` -/

/-- with `k = none`, or `k` beyond the last throwing primitive, `setRepX` is `setRep`
    (and the value the computation returns is `setRep`, returned bool included) -/
theorem C20b_no_failure :
    ∀ (idna : Idna) (s : Setter) (e : Enc) (units : List Nat) (r : Rep),
      (setRepX idna s e units r none).1 = .done (setRep idna s e units r).1 ∧
      (∀ k, (setRepX idna s e units r none).2 ≤ k →
        (setRepX idna s e units r (some k)).1 = .done (setRep idna s e units r).1) ∧
      (setRepT idna s e units r).val = setRep idna s e units r := by
  intro idna s e units r
  have hv := setRepT_val idna s e units r
  refine ⟨?_, ?_, hv⟩
  · rw [setRepX_eq, hv]
  · intro k hk
    rw [setRepX_eq] at hk ⊢
    simp only at hk ⊢
    rw [List.getElem?_eq_none hk, hv]

/-- the same for every operation of SetRep.lean (here: the ones the setters are made of) -/
theorem C20b_no_failure_ops :
    (∀ r l f s n, (replacePartX r l f s n).val = replacePart r l f s n) ∧
    (∀ r l n, (serStartPartX r l n).val = serStartPart r l n) ∧
    (∀ r n, (setStartPartX r n).val = setStartPart r n) ∧
    (∀ (o : Open) t, (o.appendX t).val = o.append t) ∧
    (∀ o, (setSavePartX o).val = setSavePart o) ∧
    (∀ r pt t, (writePartX r pt t).val = writePart r pt t) ∧
    (∀ r pt, (clearPartX r pt).val = clearPart r pt) ∧
    (∀ r pt, (emptyPartX r pt).val = emptyPart r pt) ∧
    (∀ o ht, (hostDoneX o ht).val = hostDone o ht) ∧
    (∀ r t ht, (writeHostX r t ht).val = writeHost r t ht) ∧
    (∀ r, (setEmptyHostX r).val = setEmptyHost r) ∧
    (∀ r, (adjustPathPrefixX r).val = adjustPathPrefix r) ∧
    (∀ r t n, (commitPathX r t n).val = commitPath r t n) ∧
    (∀ r s, (saveSchemeX r s).val = saveScheme r s) ∧
    (∀ r (b : PathBuf) seg, (b.pushX r seg).val = b.push seg) :=
  ⟨replacePartX_val, serStartPartX_val, setStartPartX_val, appendX_val, setSavePartX_val, writePartX_val,
    clearPartX_val, emptyPartX_val, hostDoneX_val, writeHostX_val, setEmptyHostX_val,
    adjustPathPrefixX_val, commitPathX_val, saveSchemeX_val, pushX_val⟩

/-! ## 2. after a failure at ANY throwing primitive of ANY setter: offsets in bounds and ascending
    (`href` is not run in place and has no failure state in this model: section 6) -/

theorem C20b_consistent :
    ∀ (idna : Idna) (s : Setter) (e : Enc) (units : List Nat) (u : Url) (r : Rep),
      RepOk u → RepFor r u → ∀ k,
      match (setRepX idna s e units r k).1 with
      | .done _ => True
      | .threw r' => OffsetsOk r' ∧ r'.partEnd.length = 11 := by
  intro idna s e units u r ok h
  exact setRepX_leaves ((leaves_setRepT idna s e units ok h).mono fun _ hp => ⟨hp.1.offsetsOk, hp.1.offsetsOk.1⟩)

/-- the same, as a statement about the list the correspondence driver evaluates -/
theorem C20b_failStates_consistent :
    ∀ (idna : Idna) (s : Setter) (e : Enc) (units : List Nat) (u : Url) (r : Rep),
      RepOk u → RepFor r u → ∀ r' ∈ failStates idna s e units r, OffsetsOk r' := by
  intro idna s e units u r ok h r' hr'
  rw [failStates_setter_eq] at hr'
  exact (leaves_setRepT idna s e units ok h r' hr').1.offsetsOk

/-- … in particular after any history of setter calls (no `href`) from a parsed URL -/
theorem C20b_consistent_history :
    ∀ (idna : Idna) (calls : List Call) (u₀ : Url) (r₀ : Rep),
      (∀ c ∈ calls, c.1 ≠ .href) → RepOk u₀ → HostInv u₀ → RepFor r₀ u₀ →
      ∀ (s : Setter) (e : Enc) (units : List Nat),
      ∀ r' ∈ failStates idna s e units (runRep idna calls r₀).1, OffsetsOk r' := by
  intro idna calls u₀ r₀ hc ok hi h s e units
  obtain ⟨k1, _, k3, _⟩ := C05d_history idna calls u₀ r₀ hc ok hi h
  exact C20b_failStates_consistent idna s e units _ _ k3 k1

example : RepOk c05Full ∧ RepFor (layout c05Full) c05Full ∧ RepFor c05bHostOnlyRep c05bHostOnly := by decide +kernel

/-! ## 3. `replace_part`: the only throwing primitive precedes every offset write -/

theorem C20b_replace_part_order :
    ∀ (r : Rep) (lastPt firstPt : Nat) (str : List Nat) (len0 : Nat) (k : Option Nat) (r' : Rep),
      ((replacePartX r lastPt firstPt str len0).run k).1 = .threw r' → r' = r := by
  intro r lastPt firstPt str len0 k r' h
  exact (leaves_iff_run _ _).mp leaves_replacePartX k r' h

/-- … and so does every operation that ends in ONE `replace_part`: `url_setter::save_part`,
    `clear_part`, `empty_part`, `save_scheme` -/
theorem C20b_single_replace_atomic :
    (∀ (o : Open) (k : Option Nat) (r' : Rep), ((setSavePartX o).run k).1 = .threw r' → r' = o.rep) ∧
    (∀ (r : Rep) (pt : Nat) (k : Option Nat) (r' : Rep), ((clearPartX r pt).run k).1 = .threw r' → r' = r) ∧
    (∀ (r : Rep) (pt : Nat) (k : Option Nat) (r' : Rep), ((emptyPartX r pt).run k).1 = .threw r' → r' = r) ∧
    (∀ (r : Rep) (s : List Nat) (k : Option Nat) (r' : Rep), ((saveSchemeX r s).run k).1 = .threw r' → r' = r) :=
  ⟨fun _ => (leaves_iff_run _ _).mp leaves_setSavePartX, fun _ _ => (leaves_iff_run _ _).mp leaves_clearPartX,
   fun _ _ => (leaves_iff_run _ _).mp leaves_emptyPartX, fun _ _ => (leaves_iff_run _ _).mp leaves_saveSchemeX⟩

/-- http://example.org/ as `url::parse` leaves it (QUERY and FRAGMENT never started) -/
def c20bExample : Url := { scheme := asciiStr "http", host := some ⟨.domain, asciiStr "example.org"⟩, path := [[]] }
def c20bExampleRep : Rep := { layout c20bExample with partEnd := [4, 7, 7, 7, 7, 18, 18, 18, 19, 0, 0] }

/-- the call `username(64 x 'a')` makes on it: `replace_part(HOST_START, "aaa…a@", 65, USERNAME, 64)` -/
def c20bUserText : List Nat := List.replicate 64 0x61 ++ [0x40]

/-- the state the seeded change `c20_r3_offsets_before_replace` leaves when the `replace` fails:
    `part_end_[USERNAME]`, `part_end_[PASSWORD]` moved to 71, the string still 19 long -/
def c20bR3Rep : Rep := { c20bExampleRep with partEnd := [4, 7, 71, 71, 7, 18, 18, 18, 19, 0, 0] }

/-- the model bites: with the offsets written first, the same failure leaves offsets outside the string;
    without a failure the two orders agree -/
theorem C20b_replace_part_order_bites :
    RepOk c20bExample ∧ RepFor c20bExampleRep c20bExample ∧
    ((replacePartX c20bExampleRep HOST_START USERNAME c20bUserText 64).run (some 0)).1 = .threw c20bExampleRep ∧
    ((replacePartOffsetsFirstX c20bExampleRep HOST_START USERNAME c20bUserText 64).run (some 0)).1 = .threw c20bR3Rep ∧
    ¬ OffsetsOk c20bR3Rep ∧ c20bR3Rep.norm = asciiStr "http://example.org/" ∧
    (replacePartOffsetsFirstX c20bExampleRep HOST_START USERNAME c20bUserText 64).val =
      (replacePartX c20bExampleRep HOST_START USERNAME c20bUserText 64).val ∧
    ((replacePartX c20bExampleRep HOST_START USERNAME c20bUserText 64).val).partEnd =
      [4, 7, 71, 71, 72, 83, 83, 83, 84, 0, 0] := by
  decide_ascii

/-! ## 4. what a failure leaves, setter by setter -/

/-- `username` / `password` are all-or-nothing: whichever primitive fails, the representation is
    exactly as before -/
theorem C20b_credentials_atomic :
    ∀ (idna : Idna) (s : Setter) (e : Enc) (units : List Nat) (u : Url) (r : Rep),
      s = .username ∨ s = .password → RepOk u → RepFor r u → ∀ k r',
      (setRepX idna s e units r k).1 = .threw r' → r' = r := by
  intro idna s e units u r hs ok h k r' hk
  exact leaves_credSetterT idna s hs e units ok h r' (setRepX_threw_mem idna s e units r k r' hk)

/-- `protocol`, `username`, `password`: after a failure the representation still stands for a record
    (`u` itself, or - `save_scheme` done, `clear_part(PORT)` failed - `u` with the new scheme) -/
theorem C20b_represents :
    ∀ (idna : Idna) (s : Setter) (e : Enc) (units : List Nat) (u : Url) (r : Rep),
      s = .protocol ∨ s = .username ∨ s = .password → RepOk u → RepFor r u → ∀ k r',
      (setRepX idna s e units r k).1 = .threw r' → ∃ u', RepOk u' ∧ RepFor r' u' := by
  intro idna s e units u r hs ok h k r' hk
  exact leaves_setRepT_isRep idna s hs e units ok h r' (setRepX_threw_mem idna s e units r k r' hk)

/-- the stronger consistency - also `url::host()` returns a view inside the string - holds at every
    failure point of every setter but `host`, `hostname`, `port` … -/
theorem C20b_getters_partial :
    ∀ (idna : Idna) (s : Setter) (e : Enc) (units : List Nat) (u : Url) (r : Rep),
      s ≠ .host → s ≠ .hostname → s ≠ .port → RepOk u → RepFor r u → ∀ k,
      match (setRepX idna s e units r k).1 with
      | .done _ => True
      | .threw r' => GettersOk r' := by
  intro idna s e units u r h1 h2 h3 ok h
  exact setRepX_leaves ((leaves_setRepT idna s e units ok h).mono fun _ hp =>
    gettersOk_of_ptS (hp.2 (Or.inr fun hs => hs.elim h1 fun hs => hs.elim h2 h3)))

/-- every representation of a record satisfies it -/
theorem C20b_getters_rep : ∀ (u : Url) (r : Rep), RecWF u → RepFor r u → GettersOk r := by
  exact fun u r wf h => gettersOk_of_ptS (ptS_of_repFor wf h)

/-- … and of `host`, `hostname`, `port` too as soon as the URL has a path, a query or a fragment
    (then neither the host nor the port is the last part).  Every special URL has: its path is at
    least "/".  What is left are the non-special URLs `s://host` and `s://host:port`. -/
theorem C20b_getters_tail :
    ∀ (idna : Idna) (s : Setter) (e : Enc) (units : List Nat) (u : Url) (r : Rep),
      RepOk u → RepFor r u → (pathText u ≠ [] ∨ u.query.isSome ∨ u.fragment.isSome) → ∀ k,
      match (setRepX idna s e units r k).1 with
      | .done _ => True
      | .threw r' => GettersOk r' := by
  intro idna s e units u r ok h ht k
  have ht' : Tail u := by
    intro hc
    simp only [List.append_eq_nil_iff] at hc
    rcases ht with h1 | h1 | h1
    · exact h1 hc.1.1
    · cases hq : u.query <;> simp_all [querySeg]
    · cases hq : u.fragment <;> simp_all [fragSeg]
  exact setRepX_leaves ((leaves_setRepT idna s e units ok h).mono fun _ hp => gettersOk_of_ptS (hp.2 (Or.inl ht'))) k

example : pathText c05Full ≠ [] ∧ pathText c20bExample ≠ [] ∧ pathText c05bHostOnly = [] := by decide

/-- s://h:80 as `url::parse` leaves it -/
def c20bHostPort : Url := { scheme := asciiStr "s", host := some ⟨.opaque, asciiStr "h"⟩, port := some 80 }
def c20bHostPortRep : Rep := { layout c20bHostPort with partEnd := [1, 4, 4, 4, 4, 5, 8, 0, 0, 0, 0] }

/-- … and FAILS for them (the finding).
    `host("vvvv")` / `hostname("vvvv")` on `s://h` (the host is the last part):
    `url_setter::start_part(HOST)` cuts the string at HOST_START and zeroes `part_end_[HOST]`
    (url.h:2927-2932) BEFORE the host parser appends to `norm_url_` (url_host.h:306-325); a failing
    `push_back` leaves e.g. "s://vv", offsets [1,4,4,4,4,0,…] and the HOST flag still on:
    `url::host()` as it was before fba3d2d computed `part_end_[HOST] - part_end_[HOST_START] = 0 - 4`.
    `port("12345")` on `s://h:80` (the port is the last part): `part_end_[PORT] = 0` with the PORT
    flag on, `host()` computed `part_end_[PORT] - part_end_[HOST_START] = 0 - 4`.
    Both states have their offsets in bounds and ascending (zeros read as never-started parts).
    Observed on the real library before that repair (counting `operator new`, `host(64 x 'v')` on
    `s://h`, n = 1;
    `port("12345")` on a copy of `s://h…h:80`, n = 1): `host().size() = 18446744073709551612`. -/
theorem C20b_host_view_counterexample :
    RepOk c05bHostOnly ∧ HostInv c05bHostOnly ∧ RepFor c05bHostOnlyRep c05bHostOnly ∧
    (let bad : Rep := { c05bHostOnlyRep with norm := asciiStr "s://vv", partEnd := [1, 4, 4, 4, 4, 0, 0, 0, 0, 0, 0] }
     bad ∈ failStates c05dIdna .host .u8 (asciiStr "vvvv") c05bHostOnlyRep ∧
     bad ∈ failStates c05dIdna .hostname .u8 (asciiStr "vvvv") c05bHostOnlyRep ∧
     OffsetsOk bad ∧ bad.hostNotNull = true ∧ bad.pe HOST_START = 4 ∧ bad.pe HOST = 0 ∧ ¬ HostViewOk bad) ∧
    RepOk c20bHostPort ∧ HostInv c20bHostPort ∧ RepFor c20bHostPortRep c20bHostPort ∧
    (let bad : Rep := { c20bHostPortRep with norm := asciiStr "s://h:12", partEnd := [1, 4, 4, 4, 4, 5, 0, 0, 0, 0, 0] }
     bad ∈ failStates c05dIdna .port .u8 (asciiStr "12345") c20bHostPortRep ∧
     OffsetsOk bad ∧ bad.portNotNull = true ∧ bad.pe PORT = 0 ∧ ¬ HostViewOk bad) := by
  decide_ascii

/-! ## 5. `url_search_params::update()` -/

theorem C20b_update :
    ∀ (u : Url) (r : Rep) (l : List BPair), RepOk u → RepFor r u →
      (updateRepX r l none).1 = .done (updateRep r l) ∧
      (∀ k, match (updateRepX r l k).1 with
        | .done _ => True
        | .threw r' => GettersOk r' ∧ r'.partEnd.length = 11) ∧
      (∀ r' ∈ updateFailStates r l, OffsetsOk r') := by
  intro u r l ok h
  refine ⟨?_, ?_, ?_⟩
  · unfold updateRepX
    rw [run_none, updateRepT_val]
  · intro k
    cases hk : (updateRepX r l k).1 with
    | done _ => trivial
    | threw r' =>
      have := leaves_updateRepT ok h l r' (run_threw_mem _ k r' hk)
      exact ⟨gettersOk_of_ptS this, this.pt.offsetsOk.1⟩
  · intro r' hr'
    unfold updateFailStates at hr'
    rw [failStates_eq] at hr'
    exact (leaves_updateRepT ok h l r' hr').pt.offsetsOk

/-- the same for the form the correspondence driver replays (only the serialised list is seen) -/
theorem C20b_update_ser :
    ∀ (u : Url) (r : Rep) (ser : List Nat), RepOk u → RepFor r u →
      (updateRepSerX r ser none).1 = .done (updateRepSer r ser) ∧
      (∀ r' ∈ updateSerFailStates r ser, GettersOk r') := by
  intro u r ser ok h
  refine ⟨?_, ?_⟩
  · unfold updateRepSerX
    rw [run_none, updateRepSerT_val]
  · intro r' hr'
    unfold updateSerFailStates at hr'
    rw [failStates_eq] at hr'
    exact gettersOk_of_ptS (leaves_updateRepSerT ok h ser r' hr')

/-! ## 6. `href` / `safe_assign` on the representation: all-or-nothing -/

open Fault FaultRep in
theorem safeAssignR_shape (a b : Bool) : Shape (safeAssignStepsR a b) := by
  cases a <;> cases b <;> decide

open Fault FaultRep in
/-- `url::safe_assign`: if it does not complete, the target's representation, VALID flag and params
    object are exactly as before (three branches, every failure point) -/
theorem C20b_safe_assign_atomic (thisHasParams otherHasParams : Bool) (failAt : Option Nat)
    (s s' : St ObjR TempsR) (e : Exn)
    (h : runOp (safeAssignStepsR thisHasParams otherHasParams) failAt s = .threw e s') :
    s'.target.rep = s.target.rep ∧ s'.target.valid = s.target.valid ∧ s'.target.sp = s.target.sp := by
  rw [C20_atomic_general _ (safeAssignR_shape _ _) failAt s s' e h]
  exact ⟨rfl, rfl, rfl⟩

open Fault FaultRep in
/-- `url::href`: the same, whatever the parse phase does to the temporary `u` and however many
    throwing primitives it passes, for every failure point in the parse phase or after -/
theorem C20b_href_atomic (parse : List (ObjR → ObjR)) (valid thisHasParams : Bool) (failAt : Option Nat)
    (s s' : St ObjR TempsR) (e : Exn)
    (h : runOp (hrefStepsR parse valid thisHasParams) failAt s = .threw e s') :
    s'.target.rep = s.target.rep ∧ s'.target.valid = s.target.valid ∧ s'.target.sp = s.target.sp := by
  have hs : Shape (hrefStepsR parse valid thisHasParams) := by
    apply Upa.Impl.Fault.shape_append_temp
    · intro st hst
      obtain ⟨f, _, rfl⟩ := List.mem_map.mp hst
      rfl
    · cases valid
      · simp [Shape]
      · exact safeAssignR_shape thisHasParams false
  rw [C20_atomic_general _ hs failAt s s' e h]
  exact ⟨rfl, rfl, rfl⟩

open Fault FaultRep in
/-- evaluated with the operational parser: `href("http://b/?y=2")` on `http://example.org/` with a
    params object.  No failure: record, flag and params replaced; failure in the parse phase (0) or at
    the params construction (1): the target untouched; 2 is beyond the last throwing step. -/
example :
    let start : St ObjR TempsR :=
      { target := { rep := c20bExampleRep, valid := true, sp := some { list := [], isSorted := false } },
        temp := { u := { rep := Rep.cleared, valid := false, sp := none } } }
    let steps := hrefStepsOf c05dIdna .u8 (asciiStr "http://b/?y=2") true
    (∃ s, runOp steps none start = .done s ∧ s.target.rep.norm = asciiStr "http://b/?y=2" ∧
      s.target.valid = true ∧ s.target.rep.partView QUERY = asciiStr "y=2" ∧ s.temp.u.rep = Rep.cleared ∧
      s.target.sp = some { list := formParse false (s.target.rep.partView QUERY), isSorted := false }) ∧
    (∃ s, runOp steps (some 0) start = .threw .badAlloc s ∧ s.target = start.target) ∧
    (∃ s, runOp steps (some 1) start = .threw .badAlloc s ∧ s.target = start.target ∧
      s.temp.u.rep.norm = asciiStr "http://b/?y=2") ∧
    (∃ s, runOp steps (some 2) start = .done s) := by
  repeat rw [asciiStr_ofList]
  refine ⟨⟨_, rfl, by decide +kernel, by decide +kernel, by decide +kernel, by decide +kernel, rfl⟩,
    ⟨_, rfl, by decide +kernel⟩, ⟨_, rfl, by decide +kernel, by decide +kernel⟩, ⟨_, rfl⟩⟩

/-! ## 7. evaluated failure states -/

/-- `username(64 x 'a')` on http://example.org/: 67 throwing primitives (the copy of a self-referential
    argument, 64 appends to `strp_`, `strp_ += '@'`, the `replace`); whichever fails, the object is
    untouched; without a failure the user name is written -/
example :
    (setRepX c05dIdna .username .u8 (List.replicate 64 0x61) c20bExampleRep none).2 = 67 ∧
    (∀ k, k < 67 → (setRepX c05dIdna .username .u8 (List.replicate 64 0x61) c20bExampleRep (some k)).1 =
      .threw c20bExampleRep) ∧
    (∃ r', (setRepX c05dIdna .username .u8 (List.replicate 64 0x61) c20bExampleRep (some 67)).1 = .done r' ∧
      r'.partEnd = [4, 7, 71, 71, 72, 83, 83, 83, 84, 0, 0]) := by
  -- every point is the untouched object; deciding `∀ k, k < 67 → …` directly runs the setter for every `k`
  have hp : (setRepT c05dIdna .username .u8 (List.replicate 64 0x61) c20bExampleRep).pts =
      List.replicate 67 c20bExampleRep := by decide +kernel
  simp only [setRepX_eq, hp, List.length_replicate, List.getElem?_replicate]
  exact ⟨trivial, fun k hk => by rw [if_pos hk], _, rfl, by decide +kernel⟩

/-- the raw states the REAL library was observed in after an injected `bad_alloc` (g++ -O0, counting
    `operator new`, the n-th allocation inside the call failing) are failure states of the model:
    * `hash(64 x 'v')` on a copy of `http://h/p?q#old` (the fragment is the last part: the string is cut
      at the end of the query and `part_end_[FRAGMENT]` zeroed before the appends), n = 1:
      "http://h/p?q#vvv", offsets [4,7,7,7,7,8,8,8,10,12,0];
    * `pathname("//bbb…")` on a copy of `foo:/aaa…` (28 a), n = 3 - the `replace` that inserts the "/."
      prefix fails after the new path and segment count were written: "foo://bbb…" (26 b), segment
      count 2, null host (offsets fine; the serialization does not re-parse to the same record);
    * `port("12345")` on a copy of `s://h…h:80` (30 h), n = 1: "s://h…h:", `part_end_[PORT] = 0`. -/
example :
    (let r : Rep := { layout { scheme := asciiStr "http", host := some ⟨.domain, asciiStr "h"⟩, path := [asciiStr "p"],
                               query := some (asciiStr "q"), fragment := some (asciiStr "old") } with
                      partEnd := [4, 7, 7, 7, 7, 8, 8, 8, 10, 12, 16] }
     ({ r with norm := asciiStr "http://h/p?q#vvv", partEnd := [4, 7, 7, 7, 7, 8, 8, 8, 10, 12, 0] } : Rep) ∈
       failStates c05dIdna .hash .u8 (List.replicate 64 0x76) r) ∧
    (let r : Rep := { layout { scheme := asciiStr "foo", path := [List.replicate 28 0x61] } with
                      partEnd := [3, 4, 4, 4, 4, 4, 4, 4, 33, 0, 0] }
     ({ r with norm := asciiStr "foo:/" ++ 0x2F :: List.replicate 26 0x62, segCount := 2,
               partEnd := [3, 4, 4, 4, 4, 4, 4, 4, 32, 0, 0] } : Rep) ∈
       failStates c05dIdna .pathname .u8 (0x2F :: 0x2F :: List.replicate 26 0x62) r) ∧
    (let r : Rep := { layout { scheme := asciiStr "s", host := some ⟨.opaque, List.replicate 30 0x68⟩, port := some 80 } with
                      partEnd := [1, 4, 4, 4, 4, 34, 37, 0, 0, 0, 0] }
     ({ r with norm := asciiStr "s://" ++ List.replicate 30 0x68 ++ [0x3A],
               partEnd := [1, 4, 4, 4, 4, 34, 0, 0, 0, 0, 0] } : Rep) ∈
       failStates c05dIdna .port .u8 (asciiStr "12345") r) := by
  decide_ascii

/-- `host("hh")` on `foo:/p` (null host): the new host is assembled in `strp_` ("://hh"), committed by
    ONE `replace_part(HOST, …, SCHEME_SEP, 3)`: whichever of the 10 primitives fails, the object is untouched -/
example :
    let r := layout { scheme := asciiStr "foo", path := [asciiStr "p"] }
    r.norm = asciiStr "foo:/p" ∧
    (setRepX c05dIdna .host .u8 (asciiStr "hh") r none).2 = 10 ∧
    (∀ k, k < 10 → (setRepX c05dIdna .host .u8 (asciiStr "hh") r (some k)).1 = .threw r) ∧
    (∃ r', (setRepX c05dIdna .host .u8 (asciiStr "hh") r (some 10)).1 = .done r' ∧ r'.norm = asciiStr "foo://hh/p") := by
  repeat rw [asciiStr_ofList]
  exact ⟨by decide +kernel, by decide +kernel, by decide +kernel,
    _, (C20b_no_failure _ _ _ _ _).2.1 10 (by decide +kernel), by decide +kernel⟩

/-- `pathname("//x")` on `foo:/p` (null host): the failure states are the untouched object (9 times)
    and - the last primitive, the `replace` inserting "/." - the new path written without its prefix -/
example :
    let r := layout { scheme := asciiStr "foo", path := [asciiStr "p"] }
    (setRepX c05dIdna .pathname .u8 (asciiStr "//x") r none).2 = 10 ∧
    (∀ k, k < 9 → (setRepX c05dIdna .pathname .u8 (asciiStr "//x") r (some k)).1 = .threw r) ∧
    (setRepX c05dIdna .pathname .u8 (asciiStr "//x") r (some 9)).1 =
      .threw { r with norm := asciiStr "foo://x", partEnd := [3, 4, 4, 4, 4, 4, 4, 4, 7, 7, 7], segCount := 2 } ∧
    (∃ r', (setRepX c05dIdna .pathname .u8 (asciiStr "//x") r none).1 = .done r' ∧
      r'.norm = asciiStr "foo:/.//x" ∧ r'.partEnd = [3, 4, 4, 4, 4, 4, 4, 6, 9, 9, 9]) := by
  repeat rw [asciiStr_ofList]
  exact ⟨by decide +kernel, by decide +kernel, by decide +kernel,
    _, (C20b_no_failure _ _ _ _ _).1, by decide +kernel, by decide +kernel⟩

/-- `hash("ab")` on `http://h/p?q#old` (the fragment is the last part; the truncate-in-place branch of
    `url_setter::start_part`): k = 0-2 the head of `url_parse`: untouched; k = 3 the `+= '#'` after the
    cut: "http://h/p?q" with `part_end_[FRAGMENT] = 0` (flag still on); k = 4, 5 the appends:
    "http://h/p?q#", "http://h/p?q#a", offset still 0; then `save_part` writes the offset -/
example :
    let r := layout { scheme := asciiStr "http", host := some ⟨.domain, asciiStr "h"⟩, path := [asciiStr "p"],
                      query := some (asciiStr "q"), fragment := some (asciiStr "old") }
    let cut : Rep := { r with norm := asciiStr "http://h/p?q", partEnd := [4, 7, 7, 7, 7, 8, 8, 8, 10, 12, 0] }
    failStates c05dIdna .hash .u8 (asciiStr "ab") r =
      [r, r, r, cut, { cut with norm := asciiStr "http://h/p?q#" }, { cut with norm := asciiStr "http://h/p?q#a" }] ∧
    (∃ r', (setRepX c05dIdna .hash .u8 (asciiStr "ab") r none).1 = .done r' ∧
      r'.norm = asciiStr "http://h/p?q#ab" ∧ r'.partEnd = [4, 7, 7, 7, 7, 8, 8, 8, 10, 12, 15]) := by
  repeat rw [asciiStr_ofList]
  exact ⟨by decide +kernel, _, (C20b_no_failure _ _ _ _ _).1, by decide +kernel, by decide +kernel⟩

end Upa.Props

#print axioms Upa.Props.C20b_threading
#print axioms Upa.Props.C20b_failStates
#print axioms Upa.Props.C20b_no_failure
#print axioms Upa.Props.C20b_no_failure_ops
#print axioms Upa.Props.C20b_consistent
#print axioms Upa.Props.C20b_failStates_consistent
#print axioms Upa.Props.C20b_consistent_history
#print axioms Upa.Props.C20b_replace_part_order
#print axioms Upa.Props.C20b_single_replace_atomic
#print axioms Upa.Props.C20b_replace_part_order_bites
#print axioms Upa.Props.C20b_credentials_atomic
#print axioms Upa.Props.C20b_represents
#print axioms Upa.Props.C20b_getters_partial
#print axioms Upa.Props.C20b_getters_rep
#print axioms Upa.Props.C20b_getters_tail
#print axioms Upa.Props.C20b_host_view_counterexample
#print axioms Upa.Props.C20b_update
#print axioms Upa.Props.C20b_update_ser
#print axioms Upa.Props.C20b_safe_assign_atomic
#print axioms Upa.Props.C20b_href_atomic
