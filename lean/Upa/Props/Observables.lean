import Upa.Proofs.Observables
import Upa.Props.C01c
import Upa.Props.C03b
import Upa.Props.C05g
import Upa.Props.C08
import Upa.Props.C09
import Upa.Proofs.Literal
import Upa.Props.C02b
/-
  The properties C01 (the observable values of parse results), C02, C03, C05, C08, C09 stated over the STANDARD's
  observable values.

  `Upa/Spec/Serializer.lean` transcribes the URL Standard's serializer (§4.5), origin (§4.7) and the getter
  steps of the URL class (§6.1); `Props/C01c.lean` proves that the library's record-level getters equal them
  (`C01_href`, `C01_getters`, `C01_origin`).  The property theorems of C02 / C03 / C05 / C08 / C09 are
  stated with the library's own serializer and getters (`Impl.serialize`, `Impl.getHost`, …) or over
  records; here they are restated, as corollaries, with `Spec.urlSerialize`, `Spec.getHref`, … ,
  `Spec.getOrigin`, `Spec.apiParse`, `Spec.apiSet` in their place.

  Bridges used:  `C01_parse_conforms` (Impl.parse = Spec.apiParse, under `IdnaOk` and `UnitsOk`),
  `C03_setter_conforms` (setValid = Spec.apiSet), `C01_getters` / `C01_href` / `C01_origin`.
  Helper lemmas: Upa/Proofs/Observables.lean (namespace Upa.Proofs.Obs).
-/
namespace Upa.Props
open Upa
open Upa.Proofs.C02b (IdnaStable sampleIdna_stable)
open Upa.Proofs.C08 (IdnaCanon sampleIdna sampleIdna_canon)
open Upa.Proofs.C03 (RecOk RecInv IdnaNonEmpty sampleIdna_ok)
open Upa.Proofs.C05 (RecWF)
open Upa.Proofs.ObjRep

/-! ## what "the observable values agree" means -/

private theorem u8ok (l : List Nat) (h : ∀ x ∈ l, x < 256) : UnitsOk .u8 l := h
private theorem u16ok (l : List Nat) (h : ∀ x ∈ l, x < 65536) : UnitsOk .u16 l := h

-- hypotheses of the instances below, evaluated once
private theorem c02bInput_units : UnitsOk .u8 c02bInput := u8ok _ (by unfold c02bInput; decide_ascii)
private theorem xy443_units : UnitsOk .u8 (asciiStr "x.y:443") := u8ok _ (by decide_ascii)
private theorem c09_units : UnitsOk .u8 (asciiStr "http://h:99999/") ∧ UnitsOk .u8 (asciiStr "//x") :=
  ⟨u8ok _ (by decide_ascii), u8ok _ (by decide_ascii)⟩

/-- the ten getters of the library on the record `v` (href, protocol, username, password, host, hostname,
    port, pathname, search, hash) return what the Standard's getter steps (§6.1) return on `v'` -/
def GettersAre (v v' : Url) : Prop :=
  Impl.serialize v = Spec.getHref v' ∧ Impl.getProtocol v = Spec.getProtocol v' ∧
  v.username = Spec.getUsername v' ∧ v.password = Spec.getPassword v' ∧
  Impl.getHost v = Spec.getHost v' ∧ Impl.getHostname v = Spec.getHostname v' ∧
  Impl.getPort v = Spec.getPort v' ∧ Impl.pathText v = Spec.getPathname v' ∧
  Impl.getSearch v = Spec.getSearch v' ∧ Impl.getHash v = Spec.getHash v'

/-- all eleven observable values: the ten getters and `origin` (§4.7 + HTML's serialization of an origin) -/
def ObservablesAre (idna : Idna) (v v' : Url) : Prop :=
  GettersAre v v' ∧ Impl.origin idna v = Spec.getOrigin idna v'

/-- the OFFSET-BASED getters of a stored representation `r` (one string + 11 part end offsets + flags;
    `Impl/Rep.lean`, url.h:1148-1307) return what the Standard's getter steps return on the record `u`;
    `serialize(exclude_fragment = true)` is the Standard's serializer with the exclude-fragment flag, and
    `path()` is pathname plus `?query` when the query is non-null -/
def RepGettersAre (r : Impl.Rep) (u : Url) : Prop :=
  r.href = Spec.getHref u ∧ r.protocol = Spec.getProtocol u ∧
  r.username = Spec.getUsername u ∧ r.password = Spec.getPassword u ∧
  r.host = Spec.getHost u ∧ r.hostname = Spec.getHostname u ∧
  r.port = Spec.getPort u ∧ r.pathname = Spec.getPathname u ∧
  r.search = Spec.getSearch u ∧ r.hash = Spec.getHash u ∧
  r.href = Spec.urlSerialize u false ∧ r.serializeNoFragment = Spec.urlSerialize u true ∧
  r.path = Spec.getPathname u ++ (match u.query with | some q => 0x3F :: q | none => [])

/-- `C01_getters` in this vocabulary: on one and the same record the library's getters are the Standard's -/
theorem C01_getters_are (u : Url) : GettersAre u u := by
  obtain ⟨a, b, c, d, e, f, g, i⟩ := C01_getters u
  exact ⟨a, b, rfl, rfl, c, d, e, f, g, i⟩

example : GettersAre c02Full c02Full := C01_getters_are _
example : Spec.getHref c02Full = asciiStr "https://user:pw@example.org:8080/a/b?q=1#frag" ∧
    Spec.getHost c02Full = asciiStr "example.org:8080" ∧ Spec.getSearch c02Full = asciiStr "?q=1" ∧
    Spec.getOrigin sampleIdna c02Full = asciiStr "https://example.org:8080" := by unfold c02Full; decide_ascii

/-- a canonical record has the Standard's eleven observable values (the two side conditions of `C01_origin` hold of it);
    the theorems below transport this along `Impl.parse = Spec.apiParse`, `Impl.setValid = Spec.apiSet` -/
theorem C01_observables_canon (idna : Idna) (h : IdnaOk idna) (hs : IdnaStable idna) (u : Url)
    (hc : Impl.Canon u = true) : ObservablesAre idna u u :=
  have ⟨hw, hp⟩ := Proofs.Obs.canon_origin_hyps hc
  ⟨C01_getters_are u, C01_origin idna h hs u hw hp⟩

/-- **C01, the observable values of parse results**: whatever the library's parser returns for any input in any
    encoding — with no base or against a canonical base, for an `IdnaStable` IDNA function — ALL ELEVEN values the property names (href, origin, protocol,
    username, password, host, hostname, port, pathname, search, hash) as the library's getters compute them are the
    Standard's serializer / origin / getter steps on the Standard's parse result (the two side conditions of `C01_origin`
    are discharged by `C08_parse_canon`) -/
theorem C01_observables_parsed (idna : Idna) (h : IdnaOk idna) (hs : IdnaStable idna) (e : Enc) (units : List Nat)
    (base : Option Url) (hu : UnitsOk e units) (hb : base = none ∨ ∃ b, base = some b ∧ Impl.Canon b = true) :
    (Impl.parse idna e units base).isSome = (Spec.apiParse idna e units base).isSome ∧
    ∀ u, Impl.parse idna e units base = some u →
      ∃ u', Spec.apiParse idna e units base = some u' ∧ ObservablesAre idna u u' := by
  rw [← C01_parse_conforms idna h e units base hu]
  exact ⟨rfl, fun u hp => ⟨u, hp, C01_observables_canon idna h hs u (C08_parse_canon idna hs.canon e units base u hb hp)⟩⟩

example : (∃ b, (some c02Full : Option Url) = some b ∧ Impl.Canon b = true) := ⟨c02Full, rfl, by unfold c02Full; decide_ascii⟩

/-! ## C02 — serialise with the Standard's serializer, parse with the Standard's parser -/

/-- the href of a normal-form URL is a byte string (in fact 0x20..0x7E): `UnitsOk` of the bridge holds -/
theorem C02_href_units (idna : Idna) (u : Url) (hn : Norm idna u) : UnitsOk .u8 (Spec.getHref u) := by
  rw [← (C01_getters u).1]
  intro x hx
  have := Proofs.Obs.normP_serialize_ascii hn.toNormP x hx
  omega

/-- **C02** over the Standard: a URL record in normal form is reproduced by the Standard's URL serializer
    followed by the Standard's parser, whatever the base.
    `IdnaOk idna` is the hypothesis of the bridge `C01_parse_conforms` (`Impl.parse = Spec.apiParse`). -/
theorem C02_reparse_spec :
    ∀ idna, IdnaOk idna → ∀ u : Url, Norm idna u →
      ∀ base : Option Url, Spec.apiParse idna .u8 (Spec.getHref u) base = some u := by
  intro idna h u hn base
  rw [← C01_parse_conforms idna h .u8 (Spec.getHref u) base (C02_href_units idna u hn), ← (C01_getters u).1]
  exact C02_reparse idna u hn base (by cases base <;> simp)

-- hypotheses satisfiable: the sample IDNA function, records of every shape (C02.lean)
example : IdnaOk sampleIdna ∧ Norm sampleIdna c02Full ∧ Norm sampleIdna c02Guard ∧ Norm sampleIdna c02Opaque :=
  ⟨sampleIdna_ok, by unfold c02Full; decide_ascii, by unfold c02Guard; decide_ascii, by unfold c02Opaque; decide_ascii⟩
example : Spec.getHref c02Guard = asciiStr "a:/.//x" ∧ Spec.getHref c02Opaque = asciiStr "mailto:x@y z ?" := by
  unfold c02Opaque c02Guard; decide_ascii
-- an instance of the theorem (against a file base)
example : Spec.apiParse sampleIdna .u8 (Spec.getHref c02Guard) (some c02BaseFile) = some c02Guard :=
  C02_reparse_spec sampleIdna sampleIdna_ok c02Guard (by unfold c02Guard; decide_ascii) _

/-- hence all observable values of the re-parsed URL are those of the URL -/
theorem C02_reparse_spec_href :
    ∀ idna, IdnaOk idna → ∀ u : Url, Norm idna u → ∀ base : Option Url,
      (Spec.apiParse idna .u8 (Spec.getHref u) base).map Spec.getHref = some (Spec.getHref u) := by
  intro idna h u hn base
  rw [C02_reparse_spec idna h u hn base]; rfl

example : (Spec.apiParse sampleIdna .u8 (Spec.getHref c02Opq) none).map Spec.getHref = some (asciiStr "git://u@H%41:0?#") :=
  (C02_reparse_spec_href sampleIdna sampleIdna_ok c02Opq (by unfold c02Opq; decide_ascii) none).trans (by decide_ascii)

/-- **C02, parsed URLs**: whatever the Standard's parser returns — any input in any encoding, no base or a
    normal-form base — re-parses, through the Standard's serializer and the Standard's parser, with no
    base or against any base, to itself.  (`Norm` appears only as the condition on the base.) -/
theorem C02_reparse_parsed_spec :
    ∀ idna, IdnaOk idna → IdnaStable idna → ∀ (e : Enc) (units : List Nat) (base : Option Url) (u : Url),
      UnitsOk e units → (base = none ∨ ∃ b, base = some b ∧ Norm idna b) →
      Spec.apiParse idna e units base = some u →
      ∀ base' : Option Url, Spec.apiParse idna .u8 (Spec.getHref u) base' = some u := by
  intro idna h hs e units base u hu hb hp base'
  rw [← C01_parse_conforms idna h e units base hu] at hp
  exact C02_reparse_spec idna h u (C02_parse_norm idna hs e units base u hb hp) base'

example : IdnaOk sampleIdna ∧ IdnaStable sampleIdna ∧ UnitsOk .u8 c02bInput :=
  ⟨sampleIdna_ok, sampleIdna_stable, c02bInput_units⟩
-- an instance: input " HTTP://EXA\tMPLE.com:80/a/../%2e/b c/.?q'#f g ", second parse against an opaque-path base
example : ∀ u, Spec.apiParse sampleIdna .u8 c02bInput none = some u →
    Spec.apiParse sampleIdna .u8 (Spec.getHref u) (some c02BaseOpaque) = some u :=
  fun u hp => C02_reparse_parsed_spec sampleIdna sampleIdna_ok sampleIdna_stable .u8 c02bInput none u
    (c02bInput_units) (Or.inl rfl) hp _

/-- what the Standard's parser can return, starting without a base and using earlier results as bases -/
inductive SpecParsed (idna : Idna) : Url → Prop
  | nobase (e : Enc) (units : List Nat) (u : Url) :
      UnitsOk e units → Spec.apiParse idna e units none = some u → SpecParsed idna u
  | base (e : Enc) (units : List Nat) (b u : Url) :
      SpecParsed idna b → UnitsOk e units → Spec.apiParse idna e units (some b) = some u → SpecParsed idna u

theorem SpecParsed.norm {idna : Idna} (h : IdnaOk idna) (hs : IdnaStable idna) {u : Url}
    (hp : SpecParsed idna u) : Norm idna u := by
  induction hp with
  | nobase e units u hu hp =>
    rw [← C01_parse_conforms idna h e units none hu] at hp
    exact C02_parse_norm idna hs e units none u (Or.inl rfl) hp
  | base e units b u _ hu hp ih =>
    rw [← C01_parse_conforms idna h e units (some b) hu] at hp
    exact C02_parse_norm idna hs e units (some b) u (Or.inr ⟨b, rfl, ih⟩) hp

/-- **C02 with no `Impl` definition and no `Norm` in the statement**: every URL obtained from the Standard's
    parser (bases being earlier results) re-parses from the Standard's serialization to itself, with no
    base or against any base whatsoever. -/
theorem C02_reparse_parsed_spec_closed :
    ∀ idna, IdnaOk idna → IdnaStable idna → ∀ u : Url, SpecParsed idna u →
      ∀ base' : Option Url, Spec.apiParse idna .u8 (Spec.getHref u) base' = some u :=
  fun idna h hs u hp base' => C02_reparse_spec idna h u (hp.norm h hs) base'

example : ∀ b u, Spec.apiParse sampleIdna .u8 c02bInput none = some b →
    Spec.apiParse sampleIdna .u16 c02bRel (some b) = some u →
    Spec.apiParse sampleIdna .u8 (Spec.getHref u) (some b) = some u :=
  fun b u hb hu => C02_reparse_parsed_spec_closed sampleIdna sampleIdna_ok sampleIdna_stable u
    (.base .u16 c02bRel b u (.nobase .u8 c02bInput b (c02bInput_units) hb) (u16ok _ (by unfold c02bRel; decide_ascii)) hu) _

/-! ## C03 — the observable values after a setter are the Standard's getters of the Standard's setter -/

/-- **C03, one call**, under the hypotheses of `C03_setter_conforms` (`IdnaOk`, `UnitsOk`, `RecOk`):
    the ten getters after `Impl.setValid` return the Standard's getter steps of `Spec.apiSet …`; so does
    `origin`, for a result record with "null host ⇒ null port" and a byte-string path (the hypotheses of
    `C01_origin`; `IdnaStable` is its IDNA hypothesis: the blob branch parses the path as a URL). -/
theorem C03_setter_observables :
    ∀ idna, IdnaOk idna → IdnaStable idna → ∀ (s : Impl.Setter) (e : Enc) (units : List Nat) (u : Url),
      UnitsOk e units → RecOk u = true →
      GettersAre (Impl.setValid idna s e units u).1 (Spec.apiSet idna s e units u) ∧
      (((Impl.setValid idna s e units u).1.host = none → (Impl.setValid idna s e units u).1.port = none) →
        (∀ x ∈ Impl.pathText (Impl.setValid idna s e units u).1, x < 256) →
        Impl.origin idna (Impl.setValid idna s e units u).1 = Spec.getOrigin idna (Spec.apiSet idna s e units u)) := by
  intro idna h hs s e units u hu hok
  rw [← C03_setter_conforms idna h s e units u hu hok]
  exact ⟨C01_getters_are _, C01_origin idna h hs _⟩

/-- **C03, one call on a canonical record** (C08: every URL the parser and the setters produce): all
    eleven observable values, unconditionally -/
theorem C03_setter_observables_canon :
    ∀ idna, IdnaOk idna → IdnaStable idna → ∀ (s : Impl.Setter) (e : Enc) (units : List Nat) (u : Url),
      UnitsOk e units → Impl.Canon u = true →
      ObservablesAre idna (Impl.setValid idna s e units u).1 (Spec.apiSet idna s e units u) := by
  intro idna h hs s e units u hu hc
  rw [← C03_setter_conforms idna h s e units u hu (C03_canon_recok u hc)]
  exact C01_observables_canon idna h hs _ (C08_set_canon idna hs.canon s e units u hc)

example : IdnaOk sampleIdna ∧ IdnaStable sampleIdna ∧ UnitsOk .u8 (asciiStr "x.y:443") ∧ RecOk c03Start = true ∧
    Impl.Canon c03Start = true :=
  ⟨sampleIdna_ok, sampleIdna_stable, xy443_units, C03_canon_recok _ c03Start_canon, c03Start_canon⟩
-- host := "x.y:443" on "http://u:p@h:81/a/b?q#f": the Standard's getters of the Standard's setter result
example : Spec.getHref (Spec.apiSet sampleIdna .host .u8 (asciiStr "x.y:443") c03Start) = asciiStr "http://u:p@x.y:443/a/b?q#f" ∧
    Spec.getHost (Spec.apiSet sampleIdna .host .u8 (asciiStr "x.y:443") c03Start) = asciiStr "x.y:443" ∧
    Spec.getOrigin sampleIdna (Spec.apiSet sampleIdna .host .u8 (asciiStr "x.y:443") c03Start) = asciiStr "http://x.y:443" := by
  obtain ⟨⟨a, _, _, _, b, _⟩, c⟩ := C03_setter_observables_canon sampleIdna sampleIdna_ok sampleIdna_stable .host .u8
    (asciiStr "x.y:443") c03Start xy443_units c03Start_canon
  rw [← a, ← b, ← c]
  unfold c03Start; decide_ascii

/-- the setters keep a canonical record canonical along a call sequence -/
theorem C08_history_canon :
    ∀ idna, IdnaCanon idna → ∀ (calls : List (Impl.Setter × Enc × List Nat)) (u : Url), Impl.Canon u = true →
      Impl.Canon (calls.foldl (fun u c => (Impl.setValid idna c.1 c.2.1 c.2.2 u).1) u) = true := by
  intro idna hi calls
  induction calls with
  | nil => exact fun u h => h
  | cons c cs ih => exact fun u h => ih _ (C08_set_canon idna hi c.1 c.2.1 c.2.2 u h)

/-- **C03, histories** (`C03_history_partial`: `RecInv` start record, `IdnaNonEmpty`): after every sequence
    of setter calls the ten getters return the Standard's getter steps of the record the Standard's
    setters leave; `origin` under the two side conditions of `C01_origin` on the final record -/
theorem C03_history_observables_partial :
    ∀ idna, IdnaOk idna → IdnaStable idna → ∀ (calls : List (Impl.Setter × Enc × List Nat)) (u : Url),
      (∀ c ∈ calls, UnitsOk c.2.1 c.2.2) → RecInv u = true →
      GettersAre (calls.foldl (fun u c => (Impl.setValid idna c.1 c.2.1 c.2.2 u).1) u)
        (calls.foldl (fun u c => Spec.apiSet idna c.1 c.2.1 c.2.2 u) u) ∧
      (((calls.foldl (fun u c => (Impl.setValid idna c.1 c.2.1 c.2.2 u).1) u).host = none →
          (calls.foldl (fun u c => (Impl.setValid idna c.1 c.2.1 c.2.2 u).1) u).port = none) →
        (∀ x ∈ Impl.pathText (calls.foldl (fun u c => (Impl.setValid idna c.1 c.2.1 c.2.2 u).1) u), x < 256) →
        Impl.origin idna (calls.foldl (fun u c => (Impl.setValid idna c.1 c.2.1 c.2.2 u).1) u) =
          Spec.getOrigin idna (calls.foldl (fun u c => Spec.apiSet idna c.1 c.2.1 c.2.2 u) u)) := by
  intro idna h hs calls u hu hinv
  rw [← C03_history_partial idna h (Proofs.C03.IdnaNonEmpty.of_canon hs.canon) calls u hu hinv]
  exact ⟨C01_getters_are _, C01_origin idna h hs _⟩

/-- **C03, histories from a canonical record**: all eleven observable values, unconditionally -/
theorem C03_history_observables :
    ∀ idna, IdnaOk idna → IdnaStable idna → ∀ (calls : List (Impl.Setter × Enc × List Nat)) (u : Url),
      (∀ c ∈ calls, UnitsOk c.2.1 c.2.2) → Impl.Canon u = true →
      ObservablesAre idna (calls.foldl (fun u c => (Impl.setValid idna c.1 c.2.1 c.2.2 u).1) u)
        (calls.foldl (fun u c => Spec.apiSet idna c.1 c.2.1 c.2.2 u) u) := by
  intro idna h hs calls u hu hc
  obtain ⟨hg, ho⟩ := C03_history_observables_partial idna h hs calls u hu (C03_canon_recinv u hc)
  obtain ⟨hw, hp⟩ := Proofs.Obs.canon_origin_hyps (C08_history_canon idna hs.canon calls u hc)
  exact ⟨hg, ho hw hp⟩

/-- **C03, histories from a parsed URL**: the start URL is whatever the Standard's parser returns -/
theorem C03_history_observables_parsed :
    ∀ idna, IdnaOk idna → IdnaStable idna → ∀ (e0 : Enc) (units0 : List Nat) (u : Url),
      UnitsOk e0 units0 → Spec.apiParse idna e0 units0 none = some u →
      ∀ calls : List (Impl.Setter × Enc × List Nat), (∀ c ∈ calls, UnitsOk c.2.1 c.2.2) →
      ObservablesAre idna (calls.foldl (fun u c => (Impl.setValid idna c.1 c.2.1 c.2.2 u).1) u)
        (calls.foldl (fun u c => Spec.apiSet idna c.1 c.2.1 c.2.2 u) u) := by
  intro idna h hs e0 units0 u hu0 hp calls hu
  rw [← C01_parse_conforms idna h e0 units0 none hu0] at hp
  exact C03_history_observables idna h hs calls u hu (C08_parse_canon idna hs.canon e0 units0 none u (Or.inl rfl) hp)

-- the call sequence of C03b (protocol "https", host "x.y:443", port "", pathname "/../c d", search "?k=v w",
-- hash "", username "a b") on "http://u:p@h:81/a/b?q#f": hypotheses hold, and the Standard's observables
example : (∀ c ∈ c03Calls, UnitsOk c.2.1 c.2.2) ∧ Impl.Canon c03Start = true ∧ RecInv c03Start = true :=
  ⟨c03Calls_units, c03Start_canon, C03_canon_recinv _ c03Start_canon⟩
example : Spec.getHref (c03Calls.foldl (fun u c => Spec.apiSet sampleIdna c.1 c.2.1 c.2.2 u) c03Start) =
      asciiStr "https://a%20b:p@x.y/c%20d?k=v%20w" ∧
    Spec.getOrigin sampleIdna (c03Calls.foldl (fun u c => Spec.apiSet sampleIdna c.1 c.2.1 c.2.2 u) c03Start) =
      asciiStr "https://x.y" := by
  obtain ⟨⟨a, _⟩, c⟩ := C03_history_observables sampleIdna sampleIdna_ok sampleIdna_stable c03Calls c03Start
    c03Calls_units c03Start_canon
  rw [← a, ← c]
  unfold c03Calls c03Start; decide_ascii

/-! ## C05 — equal strings are equal records; the offset-based getters of the stored representation are the
    Standard's getter steps -/

/-- **C05, equality and hash**: `operator==` compares the stored serializations and `std::hash<url>` hashes it
    (url.h: `norm_url_`); on URLs in normal form the serializer is INJECTIVE, so two valid objects compare equal
    (and hash equally) exactly when their records — every component, every null / empty status, host type, path
    kind — are equal.  (Corollary of C02: a normal-form URL is recovered from its href by the parser.) -/
theorem C05_eq_iff_record (idna : Idna) (u v : Url) (hu : Norm idna u) (hv : Norm idna v) :
    Impl.serialize u = Impl.serialize v ↔ u = v := by
  constructor
  · intro h
    have a := C02_reparse idna u hu none (.inl rfl)
    have b := C02_reparse idna v hv none (.inl rfl)
    rw [h] at a
    exact Option.some.inj (a.symm.trans b)
  · intro h; rw [h]

/-- the same over stored representations: two representations of normal-form records have equal strings (what
    `operator==` and `std::hash` read) exactly when they represent the same record -/
theorem C05_eq_iff_record_rep (idna : Idna) (u v : Url) (hu : Norm idna u) (hv : Norm idna v) :
    (Impl.layout u).norm = (Impl.layout v).norm ↔ u = v := by
  rw [C05_layout_href, C05_layout_href]; exact C05_eq_iff_record idna u v hu hv

private theorem repGetters_of {r : Impl.Rep} {u : Url}
    (h : r.href = Impl.serialize u ∧ r.protocol = Impl.getProtocol u ∧ r.username = u.username ∧
      r.password = u.password ∧ r.host = Impl.getHost u ∧ r.hostname = Impl.getHostname u ∧
      r.port = Impl.getPort u ∧ r.pathname = Impl.pathText u ∧ r.path = Impl.getPath u ∧
      r.search = Impl.getSearch u ∧ r.hash = Impl.getHash u ∧ r.serializeNoFragment = Impl.serialize u true) :
    RepGettersAre r u := by
  obtain ⟨g1, g2, g3, g4, g5, g6, g7, g8, g9, g10, g11, g12⟩ := h
  obtain ⟨a, b, c, d, e, f, g, i⟩ := C01_getters u
  refine ⟨g1.trans a, g2.trans b, g3, g4, g5.trans c, g6.trans d, g7.trans e, g8.trans f, g10.trans g,
    g11.trans i, g1.trans (C01_href u false), g12.trans (C01_href u true), ?_⟩
  rw [g9, ← f]; rfl

/-- **C05, layout**: the getters computed from the offsets of the representation `url_serializer` lays out
    for the record `u` are the Standard's getter steps on `u`; `href` is `Spec.urlSerialize u false`,
    `serialize(true)` is `Spec.urlSerialize u true` -/
theorem C05_getters_spec : ∀ u : Url, RecWF u → RepGettersAre (Impl.layout u) u := fun u wf => by
  obtain ⟨c1, c2, c3, c4, c5, c6, c7, c8, c9, c10, c11⟩ := C05_getters u wf
  exact repGetters_of ⟨C05_layout_href u, c1, c2, c3, c4, c5, c6, c7, c8, c9, c10, c11⟩

/-- … and on ANY representation of `u` (two legal encodings of trailing offsets, C05b) -/
theorem C05b_getters_spec : ∀ (u : Url) (r : Impl.Rep), RecWF u → RepFor r u → RepGettersAre r u :=
  fun u r wf h => repGetters_of (C05b_getters u r wf h)

example : RecWF c05Full ∧ RecWF c05Prefix ∧ RepFor c05PrefixRep c05Prefix := by unfold c05Full c05Prefix; decide_ascii
example : (Impl.layout c05Prefix).href = asciiStr "a:/.//x" ∧ Spec.urlSerialize c05Prefix false = asciiStr "a:/.//x" ∧
    c05PrefixRep.pathname = asciiStr "//x" ∧ Spec.getPathname c05Prefix = asciiStr "//x" ∧
    (Impl.layout c05Full).serializeNoFragment = asciiStr "https://user:pw@example.org:8080/a/b?q=1" ∧
    Spec.urlSerialize c05Full true = asciiStr "https://user:pw@example.org:8080/a/b?q=1" ∧
    (Impl.layout c05Full).host = Spec.getHost c05Full := by unfold c05Full c05Prefix; decide_ascii
example : RepGettersAre c05PrefixRep c05Prefix := C05b_getters_spec _ _ (by decide +kernel) (by decide +kernel)

/-- **C05, objects**: in every reachable state (any history of operations on two objects from the two
    default-constructed ones, `C05g_history`) the representation-level object is valid exactly when the
    record-level object is, and the offset-based getters of a valid object's representation `r` are the
    Standard's getter steps of its record — the record `r.toRecord` read back from the representation,
    which is the record of the record-level model; under `IdnaOk`, `origin` of that record is the
    Standard's origin. -/
theorem C05g_getters_spec :
    ∀ (idna : Idna), IdnaStable idna → ∀ ops : List Impl.Op, (∀ op ∈ ops, op.WF) → ∀ k : Impl.Slot,
      (Impl.getSlot (Impl.runR idna ops ({}, {})) k).rep.isSome = (Impl.getSlot (Impl.runU idna ops ({}, {})) k).url.isSome ∧
      ∀ r, (Impl.getSlot (Impl.runR idna ops ({}, {})) k).rep = some r →
        (Impl.getSlot (Impl.runU idna ops ({}, {})) k).url = some r.toRecord ∧
        RepGettersAre r r.toRecord ∧
        (IdnaOk idna → Impl.origin idna r.toRecord = Spec.getOrigin idna r.toRecord) := by
  intro idna hi ops hops k
  have h := sim₂_get (C05g_history idna hi ops hops).1 k
  generalize Impl.getSlot (Impl.runR idna ops ({}, {})) k = ro at h
  generalize Impl.getSlot (Impl.runU idna ops ({}, {})) k = o at h
  refine ⟨h.2.2.isSome, fun r hr => ?_⟩
  obtain ⟨u, hu, hrep, hg⟩ := h.valid hr
  obtain ⟨ok, _, sh, _⟩ := hg.ok
  have htr : r.toRecord = u := C05d_toRecord u r ok.1 sh hrep
  rw [htr, hu]
  refine ⟨rfl, C05b_getters_spec u r ok.1 hrep, fun hok => ?_⟩
  have hx : NormX idna u := hg
  -- of the fifteen clauses of `NormX`, the two about the path (list path: `segOk`; opaque path: `opaqueOk`)
  obtain ⟨_, _, _, _, _, _, _, _, _, _, _, hsegs, hopq, _, _⟩ := hx
  exact C01_origin idna hok hi u (fun hn => (ok.1.2 hn).2.2)
    (fun x hx => by have := Proofs.Obs.pathText_ascii hsegs hopq x hx; omega)

-- the hypotheses hold of the example history of C05g (twelve operations on two objects) …
example : IdnaStable sampleIdna ∧ (∀ op ∈ c05gHist, op.WF) ∧ IdnaOk sampleIdna :=
  ⟨sampleIdna_stable, by decide, sampleIdna_ok⟩
-- … slot 1 is valid at its end, and the theorem applies to its representation
example : ((Impl.getSlot (Impl.runR sampleIdna c05gHist ({}, {})) true).rep.map (·.norm)) =
    some (asciiStr "http://user@example.org:443/p/q?z=1#g") := by
  simp only [← runRK_eq]
  unfold c05gHist; decide_ascii
example : ∀ r, (Impl.getSlot (Impl.runR sampleIdna c05gHist ({}, {})) true).rep = some r →
    RepGettersAre r r.toRecord ∧ Impl.origin sampleIdna r.toRecord = Spec.getOrigin sampleIdna r.toRecord :=
  fun r hr =>
    have h := (C05g_getters_spec sampleIdna sampleIdna_stable c05gHist (by decide) true).2 r hr
    ⟨h.2.1, h.2.2 sampleIdna_ok⟩

/-! ## C08 — the canonical-form facts, over the Standard's serializer and getter steps -/

/-- **C08** over the Standard: for a canonical record (`Impl.Canon`; every URL the parser, the setters and
    the params write-back produce: `C08_parse_canon`, `C08_set_canon`, `C08_update_canon`) the Standard's
    serialization and getter values are delimiter-safe. -/
theorem C08_canon_spec : ∀ u : Url, Impl.Canon u = true →
    -- href, and serialize(exclude_fragment): printable ASCII, U+0020 possible only inside an opaque path
    (∀ (ex : Bool), ∀ c ∈ Spec.urlSerialize u ex,
      Impl.isPrintable c = true ∨ (c = 0x20 ∧ u.hasOpaquePath = true ∧ c ∈ Spec.getPathname u)) ∧
    (∀ c ∈ Spec.getHref u,
      Impl.isPrintable c = true ∨ (c = 0x20 ∧ u.hasOpaquePath = true ∧ c ∈ Spec.getPathname u)) ∧
    -- protocol: [a-z][a-z0-9+.-]* followed by ':'
    (∃ s, Spec.getProtocol u = s ++ [0x3A] ∧ Impl.schemeOk s = true) ∧
    -- username, password: printable, none of / : @ ? #
    Impl.userinfoOk (Spec.getUsername u) = true ∧ Impl.userinfoOk (Spec.getPassword u) = true ∧
    -- port: empty, or a decimal without leading zeros, at most 65535, not the scheme's default
    (Spec.getPort u = [] ∨ ∃ p, Spec.getPort u = toDecimal p ∧ p ≤ 65535 ∧ Impl.defaultPort u.scheme ≠ some p ∧
      (∀ c ∈ toDecimal p, isDigit c = true) ∧ toDecimal p ≠ [] ∧
      Impl.stripLeadingZeros (toDecimal p) = toDecimal p) ∧
    -- hostname: the serialized host, of the alphabet of its kind (`Impl.hostOk`); non-empty when special, not file
    (∀ h, u.host = some h → Spec.getHostname u = h.text ∧ Impl.hostOk h = true) ∧
    (u.isSpecial = true → u.isFile = false → Spec.getHostname u ≠ []) ∧
    -- no credentials, no port when the host is null or empty or the scheme is file
    ((Spec.getHostname u = [] ∨ u.isFile = true) →
      Spec.getUsername u = [] ∧ Spec.getPassword u = [] ∧ Spec.getPort u = []) ∧
    -- pathname: starts with '/' when special; no '?', no '#'
    (u.isSpecial = true → ∃ t, Spec.getPathname u = 0x2F :: t) ∧
    (∀ c ∈ Spec.getPathname u, c ≠ 0x3F ∧ c ≠ 0x23) ∧
    -- search: printable (so no space), no '#', no apostrophe when special;  hash: printable
    (∀ c ∈ Spec.getSearch u, Impl.isPrintable c = true ∧ c ≠ 0x23 ∧ (u.isSpecial = true → c ≠ 0x27)) ∧
    (∀ c ∈ Spec.getHash u, Impl.isPrintable c = true) := by
  intro u h
  obtain ⟨ha, hp, hq, hf⟩ := (Proofs.C08.canon_iff u).1 h
  have hser : ∀ (ex : Bool), ∀ c ∈ Spec.urlSerialize u ex,
      Impl.isPrintable c = true ∨ (c = 0x20 ∧ u.hasOpaquePath = true ∧ c ∈ Spec.getPathname u) := by
    intro ex c hc
    rw [← C01_href u ex] at hc
    rw [← C01_pathname u]
    exact Proofs.Obs.canon_serialize h ex c hc
  have hhn : Spec.getHostname u = u.hostText := (C01_getters u).2.2.2.1.symm
  have hport : u.port = none → Spec.getPort u = [] := fun hn => by simp [Spec.getPort, hn]
  refine ⟨hser, hser false, ⟨u.scheme, rfl, ha.scheme⟩, ha.user, ha.pass, ?_, ?_, ?_, ?_, ?_, ?_, ?_, ?_⟩
  · cases hpt : u.port with
    | none => exact .inl (hport hpt)
    | some p =>
      obtain ⟨h1, h2⟩ := ha.port p hpt
      obtain ⟨r1, r2, r3, _, _⟩ := C02_port_roundtrip p (by omega)
      exact .inr ⟨p, by simp [Spec.getPort, hpt], h1, h2, r1, r2, r3⟩
  · intro x hx
    exact ⟨by simp [Spec.getHostname, hx], ha.host x hx⟩
  · intro hs hfl
    obtain ⟨x, hx, hne⟩ := ha.spHost hs hfl
    simpa [Spec.getHostname, hx] using hne
  · intro hc
    rw [hhn] at hc
    obtain ⟨a, b, c⟩ := ha.noCred hc
    exact ⟨a, b, hport c⟩
  · intro hs
    rw [← C01_pathname u]
    exact Proofs.Obs.canon_pathText_slash hp hs
  · intro c hc
    rw [← C01_pathname u] at hc
    exact (Proofs.Obs.canon_pathText hp c hc).2
  · exact Proofs.Obs.mem_delimited 0x3F ⟨by decide, by decide, fun _ => by decide⟩
      (fun q hqq => Proofs.Obs.canon_query hq q hqq)
  · exact Proofs.Obs.mem_delimited 0x23 (by decide) (fun f hff => List.all_eq_true.1 (hf f hff))

-- the hypothesis holds of every parsed URL (C08_parse_canon); "http://EXAMPLE.com:80/a/../b c?q'#f g"
example : (Impl.parse sampleIdna .u8 sampleUrl none).map Impl.Canon = some true := by decide +kernel
example : Impl.Canon c03Start = true ∧ Impl.Canon sampleOpaque = true := ⟨c03Start_canon, by decide_ascii⟩
-- an instance: every element of the Standard's href of a parsed URL
example : ∀ u, Impl.parse sampleIdna .u8 sampleUrl none = some u →
    ∀ c ∈ Spec.getHref u, Impl.isPrintable c = true ∨ (c = 0x20 ∧ u.hasOpaquePath = true ∧ c ∈ Spec.getPathname u) :=
  fun u hu => (C08_canon_spec u (C08_parse_canon sampleIdna sampleIdna_canon .u8 sampleUrl none u (Or.inl rfl) hu)).2.1
-- U+0020 does occur inside an opaque path: "a:x y?" is canonical
example : Impl.Canon { scheme := asciiStr "a", hasOpaquePath := true, opaquePath := asciiStr "x y", query := some [] } = true ∧
    Spec.getHref { scheme := asciiStr "a", hasOpaquePath := true, opaquePath := asciiStr "x y", query := some [] } =
      asciiStr "a:x y?" := by decide_ascii

/-- **C08, the `/.` guard**: a canonical URL with null host whose pathname starts with `//` is serialized by the
    Standard's serializer with `/.` between the scheme and the path (so the href does not re-parse as an authority) -/
theorem C08_guard_spec : ∀ u : Url, Impl.Canon u = true → u.host = none → u.hasOpaquePath = false →
    (∃ t, Spec.getPathname u = 0x2F :: 0x2F :: t) →
    Spec.getHref u = Spec.getProtocol u ++ [0x2F, 0x2E] ++ Spec.getPathname u ++
      (match u.query with | some q => 0x3F :: q | none => []) ++
      (match u.fragment with | some f => 0x23 :: f | none => []) := by
  intro u h hn ho ⟨t, ht⟩
  obtain ⟨_, hp, _, _⟩ := (Proofs.C08.canon_iff u).1 h
  have hcond := Proofs.Obs.canon_guard hp ho ((C01_pathname u).trans ht)
  unfold Spec.getHref Spec.urlSerialize Spec.getProtocol Spec.getPathname
  cases hq : u.query <;> cases hf : u.fragment <;> simp [hn, ho, hcond.1, hcond.2]

example : Impl.Canon c02Guard = true ∧ c02Guard.host = none ∧ c02Guard.hasOpaquePath = false ∧
    Spec.getPathname c02Guard = asciiStr "//x" ∧ Spec.getHref c02Guard = asciiStr "a:/.//x" := by
  unfold c02Guard; decide_ascii

/-! ## C09 — `can_parse` is "the Standard's parser succeeds" -/

/-- **C09** over the Standard (`C09_agree` composed with `C01_parse_conforms`; `UnitsOk` is the second
    hypothesis of that bridge: code units in the range of their character type) -/
theorem C09_agree_spec :
    ∀ idna, IdnaOk idna → ∀ (e : Enc) (units : List Nat) (base : Option Url), UnitsOk e units →
      Impl.canParse idna e units base = (Spec.apiParse idna e units base).isSome := by
  intro idna h e units base hu
  rw [C09_agree, C01_parse_conforms idna h e units base hu]

example : IdnaOk sampleIdna ∧ UnitsOk .u8 (asciiStr "http://h:99999/") ∧ UnitsOk .u8 (asciiStr "//x") :=
  ⟨sampleIdna_ok, c09_units⟩
-- both verdicts, through the theorem (the kernel cannot run the Standard's host parser)
example : (Spec.apiParse sampleIdna .u8 (asciiStr "http://h:99999/") none).isSome = false ∧
    (Spec.apiParse sampleIdna .u8 (asciiStr "//x") (some c02BaseHttps)).isSome = true := by
  rw [← C09_agree_spec sampleIdna sampleIdna_ok .u8 _ none c09_units.1,
    ← C09_agree_spec sampleIdna sampleIdna_ok .u8 _ _ c09_units.2]
  unfold c02BaseHttps; decide_ascii

/-! `UnitsOk` (hypothesis of the bridge `C01_parse_conforms`, absent from `C02_reparse_parsed`, `C09_agree`) is
    needed as soon as `Spec.apiParse` reads arbitrary code units: in the model a code unit is a `Nat`, the
    library's decoder masks a continuation unit ≥ 256 where the Standard's decoder rejects it.
    "a:/" 0xC2 0x1A0 — the two parsers return different records (in the C++ a `char` is a byte). -/
example : ¬ UnitsOk .u8 (asciiStr "a:/" ++ [0xC2, 0x1A0]) ∧
    (Impl.parse sampleIdna .u8 (asciiStr "a:/" ++ [0xC2, 0x1A0]) none).map Spec.getHref = some (asciiStr "a:/%C2%A0") ∧
    (Spec.apiParse sampleIdna .u8 (asciiStr "a:/" ++ [0xC2, 0x1A0]) none).map Spec.getHref =
      some (asciiStr "a:/%EF%BF%BD%EF%BF%BD") := by
  refine ⟨fun h => absurd (h 0x1A0 (by decide_ascii)) (by decide), by decide_ascii, by decide_ascii⟩

#print axioms C01_getters_are
#print axioms C01_observables_canon
#print axioms C02_href_units
#print axioms C02_reparse_spec
#print axioms C02_reparse_spec_href
#print axioms C02_reparse_parsed_spec
#print axioms SpecParsed.norm
#print axioms C02_reparse_parsed_spec_closed
#print axioms C03_setter_observables
#print axioms C03_setter_observables_canon
#print axioms C08_history_canon
#print axioms C03_history_observables_partial
#print axioms C03_history_observables
#print axioms C03_history_observables_parsed
#print axioms C05_getters_spec
#print axioms C05b_getters_spec
#print axioms C05g_getters_spec
#print axioms C08_canon_spec
#print axioms C08_guard_spec
#print axioms C09_agree_spec
end Upa.Props
#print axioms Upa.Props.C01_observables_parsed
#print axioms Upa.Props.C05_eq_iff_record
#print axioms Upa.Props.C05_eq_iff_record_rep
