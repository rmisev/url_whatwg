import Upa.Proofs.Ipv6Equiv
import Upa.Proofs.Ipv6Round
import Upa.Proofs.Literal
import Upa.Proofs.Ipv6
import Upa.Proofs.Ipv6Parse
/-
  C12 — IPv6 parser / serializer: the code-shaped model (`Upa.Impl`, mirrors include/upa/url_ip.h
  `ipv6_parse` and src/url_ip.cpp `ipv6_serialize`) against the Standard (`Upa.Spec`).
  Helper lemmas: Upa/Proofs/Ipv6.lean (serializer), Ipv6Parse.lean (phases and state invariant of the parser),
  Ipv6Equiv.lean (= Standard), Ipv6Round.lean (round trip).
-/
namespace Upa.Props
open Upa

/-- The C++ serializer (scan for the longest zero run with its "skip" behaviour, then print) produces
    the same text as the Standard's IPv6 serializer: the FIRST longest run of ≥ 2 zero pieces is
    compressed, runs of length 1 are not. -/
theorem C12_serialize : ∀ a : List Nat, a.length = 8 → (∀ x ∈ a, x < 65536) →
    Impl.ipv6Serialize a = Spec.ipv6Serialize a :=
  fun a h8 _ => Proofs.V6.serialize_eq a h8

-- hypotheses satisfiable, evaluated instances
example : ([1, 0, 0, 2, 0, 0, 0, 3] : List Nat).length = 8 ∧
    ∀ x ∈ ([1, 0, 0, 2, 0, 0, 0, 3] : List Nat), x < 65536 := by decide +kernel
example : Impl.ipv6Serialize [1, 0, 0, 2, 0, 0, 0, 3] = asciiStr "1:0:0:2::3" := by decide_ascii      -- longest run
example : Impl.ipv6Serialize [1, 0, 0, 2, 3, 0, 0, 3] = asciiStr "1::2:3:0:0:3" := by decide_ascii    -- first of equal runs
example : Impl.ipv6Serialize [0, 1, 0, 1, 0, 1, 0, 1] = asciiStr "0:1:0:1:0:1:0:1" := by decide_ascii -- runs of 1 stay
example : Impl.ipv6Serialize [0, 0, 0, 0, 0, 0, 0, 0] = asciiStr "::" := by decide_ascii
example : Impl.ipv6Serialize [1, 0, 0, 0, 0, 0, 0, 0] = asciiStr "1::" := by decide_ascii
example : Impl.ipv6Serialize [0, 0, 0, 0, 0, 0, 0, 1] = asciiStr "::1" := by decide_ascii
example : Spec.ipv6Serialize [0xabcd, 0x123, 0x10, 0, 0, 0, 0, 1] = asciiStr "abcd:123:10::1" := by decide_ascii

/-- The C++ IPv6 parser (suffix based, bounded hex read, IPv4 tail after the main loop, pre-rejection
    of inputs shorter than 2, shift loop) computes exactly the Standard's IPv6 parser: failure on the
    same inputs, the same eight pieces otherwise. -/
theorem C12_parse : ∀ s : List Nat, Impl.ipv6Parse s = Spec.ipv6Parse s :=
  Proofs.V6.parse_eq

-- evaluated instances (both sides)
example : Impl.ipv6Parse (asciiStr "::") = some [0, 0, 0, 0, 0, 0, 0, 0] := by decide_ascii
example : Spec.ipv6Parse (asciiStr "::") = some [0, 0, 0, 0, 0, 0, 0, 0] := by decide_ascii
example : Impl.ipv6Parse (asciiStr "1::") = some [1, 0, 0, 0, 0, 0, 0, 0] := by decide_ascii
example : Impl.ipv6Parse (asciiStr "::1") = some [0, 0, 0, 0, 0, 0, 0, 1] := by decide_ascii
example : Impl.ipv6Parse (asciiStr "1:2:3:4:5:6:7:8") = some [1, 2, 3, 4, 5, 6, 7, 8] := by decide_ascii
example : Impl.ipv6Parse (asciiStr "::ffff:1.2.3.4") = some [0, 0, 0, 0, 0, 0xffff, 0x102, 0x304] := by
  decide_ascii
example : Spec.ipv6Parse (asciiStr "::ffff:1.2.3.4") = some [0, 0, 0, 0, 0, 0xffff, 0x102, 0x304] := by
  decide_ascii
example : Impl.ipv6Parse (asciiStr "1:2:3:4:5:6:1.2.3.4") = some [1, 2, 3, 4, 5, 6, 0x102, 0x304] := by
  decide_ascii
example : Impl.ipv6Parse (asciiStr "1::2::3") = none := by decide_ascii        -- two compressions
example : Spec.ipv6Parse (asciiStr "1::2::3") = none := by decide_ascii
example : Impl.ipv6Parse (asciiStr "1:2:3:4:5:6:7") = none := by decide_ascii  -- too few pieces
example : Spec.ipv6Parse (asciiStr "1:2:3:4:5:6:7") = none := by decide_ascii
example : Impl.ipv6Parse (asciiStr ":") = none ∧ Spec.ipv6Parse (asciiStr ":") = none := by decide_ascii
example : Impl.ipv6Parse (asciiStr "::1.2.3.256") = none := by decide_ascii    -- IPv4 part out of range
example : Impl.ipv6Parse (asciiStr "::01.2.3.4") = none := by decide_ascii     -- leading zero in IPv4 part
example : Impl.ipv6Parse (asciiStr "12345::") = none := by decide_ascii        -- more than 4 hex digits

/-- Parsing the serialization of ANY address (eight 16-bit pieces) gives the address back. -/
theorem C12_roundtrip : ∀ a : List Nat, a.length = 8 → (∀ x ∈ a, x < 65536) →
    Impl.ipv6Parse (Impl.ipv6Serialize a) = some a :=
  Proofs.V6.roundtrip

example : Impl.ipv6Parse (Impl.ipv6Serialize [1, 0, 0, 2, 0, 0, 0, 3]) = some [1, 0, 0, 2, 0, 0, 0, 3] :=
  C12_roundtrip _ (by decide) (by decide)
example : Impl.ipv6Parse (Impl.ipv6Serialize [0, 0, 0, 0, 0, 0xffff, 0x102, 0x304]) =
    some [0, 0, 0, 0, 0, 0xffff, 0x102, 0x304] := by decide +kernel
example : Impl.ipv6Serialize [0, 0, 0, 0, 0, 0xffff, 0x102, 0x304] = asciiStr "::ffff:102:304" := by decide_ascii

/-- A successful parse yields exactly eight pieces, each a 16-bit value. -/
theorem C12_parse_range : ∀ s a, Impl.ipv6Parse s = some a → a.length = 8 ∧ ∀ x ∈ a, x < 65536 :=
  fun s a h => Proofs.V6.parse_good s a h

example : ∃ a, Impl.ipv6Parse (asciiStr "ffff:FFFF::255.255.255.255") = some a ∧ a.length = 8 ∧
    ∀ x ∈ a, x < 65536 :=
  ⟨[0xffff, 0xffff, 0, 0, 0, 0, 0xffff, 0xffff], by decide_ascii, by decide, by decide⟩

#print axioms C12_serialize
#print axioms C12_parse
#print axioms C12_roundtrip
#print axioms C12_parse_range

end Upa.Props
