import Upa.Proofs.Utf
/-
  C10 — "results do not depend on input encoding": leaf theorems about the UTF decoders/encoders of
  include/upa/url_utf.h (model: Upa/Impl/Utf.lean) against the WHATWG Encoding Standard UTF-8 decoder,
  Infra's UTF-16 scalar conversion and the UTF-8/UTF-16 encoders (Upa/Spec/Encoding.lean).
  Helper lemmas: Upa/Proofs/Utf.lean.
-/
namespace Upa.Props

/-! ### 1. UTF-8: the ICU-macro-shaped decoder with the two bit tables is the WHATWG UTF-8 decoder -/

theorem C10_utf8_decoder :
    ∀ bytes : List Nat, (∀ b ∈ bytes, b < 256) → Impl.decode .u8 bytes = Spec.utf8Decode bytes :=
  fun bytes h => Impl.decode_u8_eq_spec bytes h

-- hypotheses satisfiable on a non-trivial input (ASCII, 3-byte, 4-byte, encoded surrogate ED A0 80,
-- overlong C0 80, above-range F4 90, truncated E2 82): every maximal ill-formed subsequence → one U+FFFD
example : ∀ b ∈ ([0x61, 0xE2, 0x82, 0xAC, 0xF0, 0x9F, 0x98, 0x80, 0xED, 0xA0, 0x80, 0xC0, 0x80, 0xF4, 0x90,
    0xE2, 0x82] : List Nat), b < 256 := by decide
example : Impl.decode .u8 [0x61, 0xE2, 0x82, 0xAC, 0xF0, 0x9F, 0x98, 0x80, 0xED, 0xA0, 0x80, 0xC0, 0x80, 0xF4,
    0x90, 0xE2, 0x82] =
    [0x61, 0x20AC, 0x1F600, 0xFFFD, 0xFFFD, 0xFFFD, 0xFFFD, 0xFFFD, 0xFFFD, 0xFFFD, 0xFFFD] := by
  decide +kernel
example : Spec.utf8Decode [0x61, 0xE2, 0x82, 0xAC, 0xF0, 0x9F, 0x98, 0x80, 0xED, 0xA0, 0x80, 0xC0, 0x80, 0xF4,
    0x90, 0xE2, 0x82] =
    [0x61, 0x20AC, 0x1F600, 0xFFFD, 0xFFFD, 0xFFFD, 0xFFFD, 0xFFFD, 0xFFFD, 0xFFFD, 0xFFFD] := by
  decide +kernel

/-! ### 2. UTF-16 -/

theorem C10_utf16_decoder :
    ∀ units : List Nat, (∀ u ∈ units, u < 65536) → Impl.decode .u16 units = Spec.utf16Decode units :=
  fun units h => Impl.decode_u16_eq_spec units h

example : ∀ u ∈ ([0x61, 0xD83D, 0xDE00, 0xDC00, 0xD800, 0x62, 0xD800] : List Nat), u < 65536 := by decide
example : Impl.decode .u16 [0x61, 0xD83D, 0xDE00, 0xDC00, 0xD800, 0x62, 0xD800] =
    [0x61, 0x1F600, 0xFFFD, 0xFFFD, 0x62, 0xFFFD] := by decide +kernel
example : Spec.utf16Decode [0x61, 0xD83D, 0xDE00, 0xDC00, 0xD800, 0x62, 0xD800] =
    [0x61, 0x1F600, 0xFFFD, 0xFFFD, 0x62, 0xFFFD] := by
  simp [Impl.utf16Decode_two, Impl.utf16Decode_one]

/-! ### 3. UTF-32 -/

theorem C10_utf32_decoder : ∀ units : List Nat, Impl.decode .u32 units = Spec.utf32Decode units :=
  fun units => Impl.decode_u32_eq_spec units

example : Impl.decode .u32 [0x61, 0x1F600, 0xD800, 0x110000, 0x10FFFF] =
    [0x61, 0x1F600, 0xFFFD, 0xFFFD, 0x10FFFF] := by decide +kernel
example : Spec.utf32Decode [0x61, 0x1F600, 0xD800, 0x110000, 0x10FFFF] =
    [0x61, 0x1F600, 0xFFFD, 0xFFFD, 0x10FFFF] := by decide +kernel

/-! ### 4. encoders: bit arithmetic (append_utf8 / append_utf16) = div/mod arithmetic (Encoding Standard) -/

theorem C10_encode_utf8 :
    ∀ c : Nat, Spec.isScalar c = true → Impl.encodeUtf8Char c = Spec.utf8EncodeChar c :=
  fun c h => Impl.encodeUtf8Char_eq c ((Impl.isScalar_iff c).1 h).1

theorem C10_encode_utf16 :
    ∀ c : Nat, Spec.isScalar c = true → Impl.encodeUtf16Char c = Spec.utf16EncodeChar c :=
  fun c h => Impl.encodeUtf16Char_eq c ((Impl.isScalar_iff c).1 h).1

example : Spec.isScalar 0x1F600 = true ∧ Spec.isScalar 0x20AC = true := by decide
example : Impl.encodeUtf8Char 0x1F600 = [0xF0, 0x9F, 0x98, 0x80] ∧
    Spec.utf8EncodeChar 0x1F600 = [0xF0, 0x9F, 0x98, 0x80] := by decide +kernel
example : Impl.encodeUtf8Char 0x20AC = [0xE2, 0x82, 0xAC] ∧
    Spec.utf8EncodeChar 0x20AC = [0xE2, 0x82, 0xAC] := by decide +kernel
example : Impl.encodeUtf16Char 0x1F600 = [0xD83D, 0xDE00] ∧
    Spec.utf16EncodeChar 0x1F600 = [0xD83D, 0xDE00] := by decide +kernel

/-! ### 5. round trip: well-formed text decodes to itself in every encoding -/

theorem C10_roundtrip :
    ∀ (e : Enc) (s : List Nat), (∀ c ∈ s, Spec.isScalar c = true) →
      Impl.decode e (Spec.encode e s) = s :=
  fun e s h => Impl.decode_encode e s h

/-- hence the decoded input does not depend on the encoding the scalar string arrives in -/
theorem C10_roundtrip_indep :
    ∀ (e₁ e₂ : Enc) (s : List Nat), (∀ c ∈ s, Spec.isScalar c = true) →
      Impl.decode e₁ (Spec.encode e₁ s) = Impl.decode e₂ (Spec.encode e₂ s) :=
  fun e₁ e₂ s h => (Impl.decode_encode e₁ s h).trans (Impl.decode_encode e₂ s h).symm

-- boundary scalar values of every UTF-8 / UTF-16 length
example : ∀ c ∈ ([0x61, 0x7FF, 0x800, 0xD7FF, 0xE000, 0xFFFF, 0x10000, 0x10FFFF] : List Nat),
    Spec.isScalar c = true := by decide
example : Spec.encode .u8 [0x61, 0x7FF, 0x800, 0xD7FF, 0xE000, 0xFFFF, 0x10000, 0x10FFFF] =
    [0x61, 0xDF, 0xBF, 0xE0, 0xA0, 0x80, 0xED, 0x9F, 0xBF, 0xEE, 0x80, 0x80, 0xEF, 0xBF, 0xBF,
     0xF0, 0x90, 0x80, 0x80, 0xF4, 0x8F, 0xBF, 0xBF] := by decide +kernel
example : Impl.decode .u8 [0x61, 0xDF, 0xBF, 0xE0, 0xA0, 0x80, 0xED, 0x9F, 0xBF, 0xEE, 0x80, 0x80, 0xEF, 0xBF,
    0xBF, 0xF0, 0x90, 0x80, 0x80, 0xF4, 0x8F, 0xBF, 0xBF] =
    [0x61, 0x7FF, 0x800, 0xD7FF, 0xE000, 0xFFFF, 0x10000, 0x10FFFF] := by decide +kernel
example : Impl.decode .u16 (Spec.encode .u16 [0x61, 0x7FF, 0x800, 0xD7FF, 0xE000, 0xFFFF, 0x10000, 0x10FFFF]) =
    [0x61, 0x7FF, 0x800, 0xD7FF, 0xE000, 0xFFFF, 0x10000, 0x10FFFF] := by decide +kernel
-- the exported key lemma on an instance (the rest of the input is arbitrary, even out of byte range)
example : Impl.readU8 (Spec.utf8EncodeChar 0x20AC ++ [0x41, 0x1234]) = (true, 0x20AC, [0x41, 0x1234]) :=
  Impl.readU8_encode 0x20AC [0x41, 0x1234] (by decide)

/-! ### 6. a code unit < 0x80 ends every pending sequence: decoding distributes over ASCII delimiters -/

/-- No side condition on UTF-16 units is needed.  (The side condition on `a` for UTF-8 is not needed
    either: `Impl.decode_ascii_split` is the same statement without it.) -/
theorem C10_ascii_split :
    ∀ (e : Enc) (a b : List Nat) (c : Nat), c < 0x80 → (e = .u8 → ∀ x ∈ a, x < 256) →
      Impl.decode e (a ++ c :: b) = Impl.decode e a ++ c :: Impl.decode e b :=
  fun e a b c hc _ => Impl.decode_ascii_split e b c hc a

-- a truncated 3-byte sequence before `/`, a stray trail byte after it
example : (0x2F : Nat) < 0x80 ∧ (Enc.u8 = .u8 → ∀ x ∈ ([0xE2, 0x82] : List Nat), x < 256) := by decide
example : Impl.decode .u8 ([0xE2, 0x82] ++ 0x2F :: [0xAC, 0xC3, 0xA9]) = [0xFFFD, 0x2F, 0xFFFD, 0xE9] ∧
    Impl.decode .u8 [0xE2, 0x82] ++ 0x2F :: Impl.decode .u8 [0xAC, 0xC3, 0xA9] =
      [0xFFFD, 0x2F, 0xFFFD, 0xE9] := by decide +kernel
-- a lead surrogate before `/`, its would-be trail after it
example : Impl.decode .u16 ([0xD83D] ++ 0x2F :: [0xDE00, 0x41]) = [0xFFFD, 0x2F, 0xFFFD, 0x41] ∧
    Impl.decode .u16 [0xD83D] ++ 0x2F :: Impl.decode .u16 [0xDE00, 0x41] =
      [0xFFFD, 0x2F, 0xFFFD, 0x41] := by decide +kernel

/-! ### 7. check_fix_utf8 -/

theorem C10_check_fix_idem :
    ∀ b : List Nat, (∀ x ∈ b, x < 256) →
      Impl.checkFixUtf8 (Impl.checkFixUtf8 b) = Impl.checkFixUtf8 b :=
  fun b h => Impl.checkFix_idem b h

theorem C10_check_fix_wf :
    ∀ s : List Nat, (∀ c ∈ s, Spec.isScalar c = true) →
      Impl.checkFixUtf8 (Spec.utf8Encode s) = Spec.utf8Encode s :=
  fun s h => Impl.checkFix_wf s h

example : ∀ x ∈ ([0x61, 0xE2, 0x82, 0xF0, 0x9F, 0x98, 0x80, 0xFF] : List Nat), x < 256 := by decide
example : Impl.checkFixUtf8 [0x61, 0xE2, 0x82, 0xF0, 0x9F, 0x98, 0x80, 0xFF] =
    [0x61, 0xEF, 0xBF, 0xBD, 0xF0, 0x9F, 0x98, 0x80, 0xEF, 0xBF, 0xBD] := by decide +kernel
example : Impl.checkFixUtf8 [0x61, 0xEF, 0xBF, 0xBD, 0xF0, 0x9F, 0x98, 0x80, 0xEF, 0xBF, 0xBD] =
    [0x61, 0xEF, 0xBF, 0xBD, 0xF0, 0x9F, 0x98, 0x80, 0xEF, 0xBF, 0xBD] := by decide +kernel
example : Impl.checkFixUtf8 (Spec.utf8Encode [0x61, 0x20AC, 0x1F600]) =
    [0x61, 0xE2, 0x82, 0xAC, 0xF0, 0x9F, 0x98, 0x80] := by decide +kernel
-- decoder output is scalar values (exported helper) on an ill-formed input
example : ∀ c ∈ Impl.decode .u8 [0xED, 0xA0, 0x80, 0xF4, 0x90, 0x80, 0x80], Spec.isScalar c = true :=
  Impl.decode_u8_isScalar _

end Upa.Props

#print axioms Upa.Props.C10_utf8_decoder
#print axioms Upa.Props.C10_utf16_decoder
#print axioms Upa.Props.C10_utf32_decoder
#print axioms Upa.Props.C10_encode_utf8
#print axioms Upa.Props.C10_encode_utf16
#print axioms Upa.Props.C10_roundtrip
#print axioms Upa.Props.C10_roundtrip_indep
#print axioms Upa.Props.C10_ascii_split
#print axioms Upa.Props.C10_check_fix_idem
#print axioms Upa.Props.C10_check_fix_wf
#print axioms Upa.Impl.readU8_encode
#print axioms Upa.Impl.decode_u8_scalar
