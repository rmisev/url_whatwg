import Upa.Proofs.Literal
import Upa.Proofs.BoundsSerialize
import Upa.Proofs.BoundsOpaqueHost
import Upa.Proofs.BoundsParsePath
import Upa.Proofs.BoundsParseHost
import Upa.Props.C01
/-
  C04g — AGREEMENT of ipv6_serialize, parse_opaque_host, hostname_ends_in_a_number, parse_path and two cases of
  parse_host (bounds-instrumented models of `Upa/Impl/BoundsMisc.lean`, `Upa/Impl/Bounds.lean`; their in-bounds /
  pointer / termination theorems: `Upa/Props/C04e.lean`, `C04b.lean`) with the list models of `Upa/Impl/*.lean`: the
  instrumented model returns `.ok` of what the list model computes — on `slice a first last` where the function
  works on code units that are never decoded (ipv6_serialize), on `Impl.decode e (slice a first last)` where the
  C++ decodes lazily while it scans (parse_opaque_host, parse_path; the encoders themselves are in
  `Upa/Props/C10d.lean`).
-/
namespace Upa.Props
open Upa Upa.Impl.B

/-! ### src/url_ip.cpp ipv6_serialize -/

/-- `ipv6_serialize(address, output)` = `Impl.ipv6Serialize` on the pieces.  The pieces are `uint16_t`
    (third hypothesis; the instrumented model reads `*it` as `% 65536`, the list model takes the numbers
    as they are: see the last example). -/
theorem C04_agrees_ipv6_serialize : ∀ (a : Array Nat) (first last : Nat), first < last → last ≤ a.size →
    (∀ i, first ≤ i → i < last → a[i]! < 65536) →
    ipv6SerializeM a first last = .ok (Impl.ipv6Serialize (slice a first last)) :=
  ipv6SerializeM_agrees
example : ∀ i, i < 8 → 0 ≤ i → (#[1, 0, 0, 2, 0, 0, 0, 0xFFFF] : Array Nat)[i]! < 65536 := by decide +kernel
example : ipv6SerializeM #[1, 0, 0, 2, 0, 0, 0, 0xFFFF] 0 8 = .ok (asciiStr "1:0:0:2::ffff") := by decide_ascii
example : Impl.ipv6Serialize [1, 0, 0, 2, 0, 0, 0, 0xFFFF] = asciiStr "1:0:0:2::ffff" := by decide_ascii
-- outside the type the two differ (not reachable: `uint16_t address[8]`)
example : ipv6SerializeM #[65536, 1] 0 2 = .ok (asciiStr "0:1") ∧ Impl.ipv6Serialize [65536, 1] = asciiStr "10000:1" := by
  decide_ascii

/-! ### url_host.h parse_opaque_host, parse_host(is_opaque = true) -/

/-- `host_parser::parse_opaque_host(first, last, dest)`: the forbidden-host-code-point scan runs over the
    raw code units, the encode loop decodes lazily; the result is `Impl.parseOpaqueHost` of the eagerly
    decoded input, for every character width, ill-formed input included -/
theorem C04_agrees_parse_opaque_host : ∀ (e : Enc) (a : Array Nat) (first last : Nat), first ≤ last →
    last ≤ a.size → UnitsOk e (slice a first last) →
    parseOpaqueHostM e a first last = .ok (Impl.parseOpaqueHost (Impl.decode e (slice a first last))) :=
  fun e a f l h hl hu =>
    R.eq_ok_of_sat ((parseOpaqueHostM_spec e a f l h hl).mp (unitsOk_uOk hu))
example : parseOpaqueHostM .u16 #[0x61, 0xD800, 0x01, 0xE9] 0 4 =
    .ok (some { kind := .opaque, text := asciiStr "a%EF%BF%BD%01%C3%A9" }) := by decide_ascii
example : Impl.parseOpaqueHost (Impl.decode .u16 [0x61, 0xD800, 0x01, 0xE9]) =
    some { kind := .opaque, text := asciiStr "a%EF%BF%BD%01%C3%A9" } := by decide_ascii
example : parseOpaqueHostM .u8 #[0x61, 0xC3, 0x20] 0 3 = .ok none := by decide +kernel

/-- `host_parser::parse_host(first, last, is_opaque = true, dest)` = `Impl.parseHost … true` on the decoded
    input, when the input does not start with `[`.
    PARTIAL: the opaque case without brackets only.  The whole of parse_host (bracketed input, `is_opaque = false`
    with its IPv4 and IDNA paths) is `C04_agrees_parse_host` in `Upa/Props/C04h.lean`; this is its case
    `is_opaque = true`, and the hypothesis about `[` is not used. -/
theorem C04_agrees_parse_host_partial : ∀ (idna : Idna) (e : Enc) (a : Array Nat) (first last : Nat),
    first ≤ last → last ≤ a.size → UnitsOk e (slice a first last) → (first < last → a[first]! ≠ 0x5B) →
    parseHostM idna e a first last true = .ok (Impl.parseHost idna (Impl.decode e (slice a first last)) true) :=
  fun i e a f l h hl hu _ => parseHostM_agrees i e a f l true h hl (unitsOk_uOk hu)
example : parseHostM some .u8 (ofStr "a\x01b") 0 3 true = .ok (some { kind := .opaque, text := asciiStr "a%01b" }) := by unfold ofStr; decide_ascii
example : parseHostM some .u8 (ofStr "") 0 0 true = .ok (some { kind := .empty, text := [] }) := by unfold ofStr; decide_ascii

/-- url_ip.h `hostname_ends_in_a_number(first, last)` (instrumented model: `endsInNumber` of
    `Upa/Impl/Bounds.lean`) = `Impl.endsInNumber` -/
theorem C04_agrees_hostname_ends_in_a_number : ∀ (a : Array Nat) (first last : Nat), first ≤ last → last ≤ a.size →
    endsInNumber a first last = .ok (Impl.endsInNumber (slice a first last)) :=
  endsInNumber_agrees
example : endsInNumber (ofStr "a.0x1F.") 0 7 = .ok true := by unfold ofStr; decide_ascii
example : endsInNumber (ofStr "a.0x1G") 0 6 = .ok false := by unfold ofStr; decide_ascii

/-- `parse_host(first, last, is_opaque = false, dest)` on a host of ASCII domain characters only, without an
    `xn--` label, that does not end in a number (the common case `example.com`): the lower-cased domain =
    `Impl.parseHost … false`, for every character width.
    PARTIAL: hosts that end in a number and the IDNA path (non-ASCII-domain unit, `%`, `xn--`) are covered by
    `C04_agrees_parse_host` in `Upa/Props/C04h.lean`; this is a case of it, and the hypotheses about `xn--` and a
    final number are not used. -/
theorem C04_agrees_parse_host_domain_partial : ∀ (idna : Idna) (e : Enc) (a : Array Nat) (first last : Nat),
    first < last → last ≤ a.size → (∀ i, first ≤ i → i < last → Spec.asciiDomainChar a[i]! = true) →
    Impl.hasXnLabel (slice a first last) = false → Impl.endsInNumber (slice a first last) = false →
    parseHostM idna e a first last false = .ok (Impl.parseHost idna (Impl.decode e (slice a first last)) false) := by
  intro idna e a first last h hl hdom _ _
  -- a case of `C04_agrees_parse_host` (C04h): such units are ASCII, so in range for every character type
  refine parseHostM_agrees idna e a first last false (Nat.le_of_lt h) hl (.of_ascii e fun x hx => ?_)
  obtain ⟨i, hi1, hi2, rfl⟩ := mem_slice a first last x hl hx
  exact asciiDomainChar_ascii _ (hdom i hi1 hi2)
example : (∀ i, i < 11 → 0 ≤ i → Spec.asciiDomainChar (ofStr "EXAMPLE.com")[i]! = true) ∧
    Impl.hasXnLabel (slice (ofStr "EXAMPLE.com") 0 11) = false ∧
    Impl.endsInNumber (slice (ofStr "EXAMPLE.com") 0 11) = false := by unfold ofStr; decide_ascii
example : parseHostM some .u16 (ofStr "EXAMPLE.com") 0 11 false =
    .ok (some { kind := .domain, text := asciiStr "example.com" }) := by unfold ofStr; decide_ascii

/-! ### url.h parse_path -/

/-- `url_parser::parse_path(urls, first, last)` = `Impl.parsePath` (what `Impl.pathState` runs on the path
    part) on the decoded input — every character width, every serializer state `u`, ill-formed input
    included.  The C++ finds the segment ends, the dot segments and the Windows drive letter on the RAW
    code units and decodes only inside do_path_segment; the list model splits and tests the decoded text:
    the delimiters and every accepted pattern are ASCII, and an ASCII unit always ends a pending sequence. -/
theorem C04_agrees_parse_path : ∀ (e : Enc) (a : Array Nat) (first last : Nat) (u : Url), first ≤ last →
    last ≤ a.size → UnitsOk e (slice a first last) →
    parsePathM e a first last u = .ok (Impl.parsePath u (Impl.decode e (slice a first last))) :=
  fun e a f l u h hl hu =>
    R.eq_ok_of_sat ((parsePathM_spec e a f l u h hl).mp (unitsOk_uOk hu))
example : UnitsOk .u8 (slice (ofStr "a/../b/%2E/c|") 0 13) := by
  show ∀ x ∈ slice (ofStr "a/../b/%2E/c|") 0 13, x < 256
  unfold ofStr
  decide_ascii
example : parsePathM .u8 (ofStr "a/../b/%2E/c|") 0 13 { scheme := Impl.sHttp } =
    .ok { scheme := Impl.sHttp, path := [asciiStr "b", asciiStr "c|"] } := by unfold ofStr; decide_ascii
example : Impl.parsePath { scheme := Impl.sHttp } (Impl.decode .u8 (asciiStr "a/../b/%2E/c|")) =
    { scheme := Impl.sHttp, path := [asciiStr "b", asciiStr "c|"] } := by decide_ascii
-- ill-formed UTF-8 next to a delimiter (E2 82 then '/'), a two-unit segment that is one scalar value
example : parsePathM .u8 #[0xE2, 0x82, 0x2F, 0xC3, 0xA9] 0 5 { scheme := Impl.sFile } =
    .ok { scheme := Impl.sFile, path := [asciiStr "%EF%BF%BD", asciiStr "%C3%A9"] } := by decide_ascii
example : Impl.parsePath { scheme := Impl.sFile } (Impl.decode .u8 [0xE2, 0x82, 0x2F, 0xC3, 0xA9]) =
    { scheme := Impl.sFile, path := [asciiStr "%EF%BF%BD", asciiStr "%C3%A9"] } := by decide_ascii

#print axioms C04_agrees_ipv6_serialize
#print axioms C04_agrees_parse_opaque_host
#print axioms C04_agrees_parse_host_partial
#print axioms C04_agrees_parse_path
#print axioms C04_agrees_hostname_ends_in_a_number
#print axioms C04_agrees_parse_host_domain_partial
#print axioms unitsOk_uOk
end Upa.Props
