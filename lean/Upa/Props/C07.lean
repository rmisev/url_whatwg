import Upa.Proofs.Host
import Upa.Proofs.EvalFuel
import Upa.Impl.Api
import Upa.Gen.Tables
import Upa.Proofs.Literal
/-
  C07 — "host parsing conforms to the WHATWG host parser for domains, IPv4, IPv6 and opaque hosts".

  Models: `Impl.parseHost` (include/upa/url_host.h:159-361, code-shaped: bracket check, opaque branch,
  fast path for pure-ASCII domains, early rejection of a forbidden ASCII character, percent-decode →
  UTF-16 → ToASCII → forbidden check → ends-in-a-number → IPv4 / domain) against `Spec.hostParse`
  (URL Standard §3.5 host parser and opaque-host parser).

  "domain to ASCII" (UTS #46 ToASCII through ICU, `beStrict = false`) is a PARAMETER `idna : Idna`
  (UTF-16 code units in, ASCII out, `none` = failure or empty result).  The conformance theorem
  quantifies over every `idna` that satisfies the two hypotheses of `IdnaOk`; both are properties of
  UTS #46 ToASCII with the Standard's flags (CheckHyphens = false, CheckBidi = true, CheckJoiners = true,
  UseSTD3ASCIIRules = false, Transitional_Processing = false, VerifyDnsLength = false) and are validated
  against ICU by testing (`upa::domain_to_ascii`: all inputs of length ≤ 3 plus random long ones for
  `ascii`, 3.3 M structured / random inputs around U+0338, other marks, ignorables, full-width forms,
  `xn--`, surrogates for `persist`: no violation with ICU 72), not proved here.
  Helper lemmas: Upa/Proofs/Host.lean; the code's parser with its stages named (`Proofs.C07.impl_cons`,
  `implFast`, `implFinish`): Upa/Proofs/ParserRules.lean.
-/
namespace Upa.Props

/-- Hypotheses on the IDNA parameter.  Exactly two are needed: `ascii` makes the fast path of
    url_host.h:189-205 equal to the full path, `persist` makes the early rejection of
    url_host.h:206-214 sound.  Everything after the call (forbidden-domain check on the output,
    ends-in-a-number, IPv4) is the same function of the output in the code and in the Standard, so no
    property of the output (ASCII-ness, non-emptiness, …) is required. -/
structure IdnaOk (idna : Idna) : Prop where
  /-- A non-empty input that consists of "ASCII domain characters" only (U+0020..U+007F minus the
      forbidden domain code points, i.e. ``! " $ & ' ( ) * + , - . 0-9 ; = A-Z _ ` a-z { } ~``) and has
      no label starting with `xn--` (any case; labels are delimited by U+002E, the only ASCII label
      separator of UTS #46) maps to its ASCII lower-casing.
      UTS #46: with UseSTD3ASCIIRules = false every ASCII code point is valid, A-Z map to a-z; NFC, the
      Punycode step, CheckBidi and CheckJoiners leave a pure-ASCII string alone; no label is an A-label,
      so nothing is Punycode-decoded or validated; the only errors that can be recorded (empty label,
      label / domain name too long, leading / trailing hyphen, hyphens in positions 3 and 4) belong to
      CheckHyphens and VerifyDnsLength, which the Standard switches off (`C07_idna_fatal_mask`);
      the result is not empty because the input is not. -/
  ascii : ∀ s : List Nat, s ≠ [] → (∀ c ∈ s, Spec.asciiDomainChar c = true) →
    Impl.hasXnLabel s = false → idna s = some (s.map toLower)
  /-- An ASCII forbidden domain code point in the input persists.  The UTF-16 input is
      `pre ++ p :: post` where `pre` consists of ASCII domain characters, `p` is an ASCII code unit that
      is a forbidden domain code point other than `%` (so: a C0 control, space, `#` `/` `:` `<` `>` `?`
      `@` `[` `\` `]` `^` `|` or DEL) and — when `p` is `<` or `>` — the unit after it, if any, is ASCII
      (`=` U+003D is inside the code's range test `0x3C..0x3E` but is not a forbidden domain code point, so
      it never is `p`).  Then ToASCII fails or its output still contains a forbidden domain code point.
      UTS #46: with UseSTD3ASCIIRules = false `p` is valid and maps to itself; NFC changes an ASCII
      non-letter only by composing `<` `=` `>` with an immediately following U+0338 (canonical
      reordering can move U+0338 only across other combining marks, all ≥ U+0080; an ASCII unit is a
      starter and blocks composition), which the side condition excludes; Punycode encoding copies
      basic code points; an A-label of the input is decoded, validated (`p` is valid) and kept.
      `post` is restricted to 16-bit units (it is UTF-16). -/
  persist : ∀ (pre : List Nat) (p : Nat) (post : List Nat),
    (∀ c ∈ pre, Spec.asciiDomainChar c = true) →
    p < 0x80 → p ≠ 0x25 → Spec.forbiddenDomain p = true →
    (∀ u ∈ post, u < 0x10000) →
    ¬ ((p = 0x3C ∨ p = 0x3E) ∧ ∃ n r, post = n :: r ∧ 0x80 ≤ n) →
    ∀ a, idna (pre ++ p :: post) = some a → a.any Spec.forbiddenDomain = true

/-- The test stub "lower-case every unit" satisfies both hypotheses: `ascii` by definition, and
    `persist` because it never composes or drops anything — the forbidden `p` is not a letter, so it is
    copied to the output.  (A real ToASCII differs from the stub on non-ASCII input and on `xn--` labels,
    where `IdnaOk` says nothing.)  So `IdnaOk` is not contradictory. -/
def C07_stubIdna : Idna := fun l => some (l.map toLower)

theorem C07_stubIdna_ok : IdnaOk C07_stubIdna where
  ascii := fun _ _ _ _ => rfl
  persist := by
    intro pre p post _ _ _ hf _ _ a ha
    cases ha
    rw [List.any_eq_true]
    exact ⟨toLower p, List.mem_map_of_mem (List.mem_append_right pre List.mem_cons_self),
      (Proofs.C07.forbiddenDomain_lower p).trans hf⟩


/-- The library's host parser returns what the Standard's host parser returns — failure, host type and
    serialization — for every scalar-value input, for the opaque and the non-opaque case.
    Contains: empty input; the bracket rule and IPv6 (C12); the opaque-host parser (forbidden host code
    points, C0 control percent-encode set, C14); fast path = full path (`ascii`; IPv4 parsing is
    insensitive to ASCII case); soundness of the early rejection (`persist`); `buff_uc` = UTF-8 decode
    without BOM of the string percent-decoding, as UTF-16 (C14 + C10); forbidden domain code point check;
    ends-in-a-number routing and IPv4 (C11). -/
theorem C07_host_conforms :
    ∀ idna : Idna, IdnaOk idna → ∀ (s : List Nat) (isOpaque : Bool),
      (∀ c ∈ s, Spec.isScalar c = true) →
      Impl.parseHost idna s isOpaque = Spec.hostParse idna s isOpaque :=
  fun idna h s isOpaque hs => Proofs.C07.parseHost_eq idna h.ascii h.persist s isOpaque hs

-- hypotheses satisfiable: `C07_stubIdna_ok`, and a non-trivial scalar input
example : ∀ c ∈ asciiStr "EXAMPLE.com" ++ [0xE9, 0x1F600], Spec.isScalar c = true := by decide_ascii

-- Evaluated instances, both parsers, stub IDNA.  The kernel evaluates the code's fast path, IPv6 and the
-- opaque branch directly; where `percent_decode` (code) or "percent-decode" (Standard) is reached, the
-- equations `Proofs.C07.impl_eval_slow` / `Proofs.C07.spec_eval` (`spec_eval_plain` when the input has no `%`)
-- name the decoded buffer, which is evaluated through the decoders' twins (Upa/Proofs/EvalFuel.lean).
section Instances
open Upa.Proofs.C07

-- fast path, lower-casing
example : Impl.parseHost C07_stubIdna (asciiStr "EXAMPLE.com") false = some ⟨.domain, asciiStr "example.com"⟩ := by
  decide_ascii
example : Spec.hostParse C07_stubIdna (asciiStr "EXAMPLE.com") false = some ⟨.domain, asciiStr "example.com"⟩ := by
  repeat rw [asciiStr_ofList]
  rw [spec_eval_plain C07_stubIdna _ (by decide) (by decide +kernel)]; decide +kernel
-- fast path, ends in a number → IPv4 (hex, fewer than four parts); upper-case `0X7F` as well
example : Impl.parseHost C07_stubIdna (asciiStr "0x7f.1") false = some ⟨.ipv4, asciiStr "127.0.0.1"⟩ ∧
    Impl.parseHost C07_stubIdna (asciiStr "0X7F.1") false = some ⟨.ipv4, asciiStr "127.0.0.1"⟩ := by
  decide_ascii
example : Spec.hostParse C07_stubIdna (asciiStr "0x7f.1") false = some ⟨.ipv4, asciiStr "127.0.0.1"⟩ := by
  repeat rw [asciiStr_ofList]
  rw [spec_eval_plain C07_stubIdna _ (by decide) (by decide +kernel)]; decide +kernel
example : Spec.hostParse C07_stubIdna (asciiStr "0X7F.1") false = some ⟨.ipv4, asciiStr "127.0.0.1"⟩ := by
  repeat rw [asciiStr_ofList]
  rw [spec_eval_plain C07_stubIdna _ (by decide) (by decide +kernel)]; decide +kernel
-- IPv6, opaque or not; unclosed bracket
example : Impl.parseHost C07_stubIdna (asciiStr "[::1]") false = some ⟨.ipv6, asciiStr "[::1]"⟩ ∧
    Spec.hostParse C07_stubIdna (asciiStr "[::1]") false = some ⟨.ipv6, asciiStr "[::1]"⟩ ∧
    Impl.parseHost C07_stubIdna (asciiStr "[::1]") true = some ⟨.ipv6, asciiStr "[::1]"⟩ ∧
    Spec.hostParse C07_stubIdna (asciiStr "[::1]") true = some ⟨.ipv6, asciiStr "[::1]"⟩ := by
  decide_ascii
example : Impl.parseHost C07_stubIdna (asciiStr "[::1") false = none ∧
    Spec.hostParse C07_stubIdna (asciiStr "[::1") false = none := by decide_ascii
-- space: forbidden host and domain code point (early rejection in the code / step 7 in the Standard)
example : Impl.parseHost C07_stubIdna (asciiStr "a b") false = none ∧
    Impl.parseHost C07_stubIdna (asciiStr "a b") true = none ∧
    Spec.hostParse C07_stubIdna (asciiStr "a b") true = none := by decide_ascii
example : Spec.hostParse C07_stubIdna (asciiStr "a b") false = none := by
  repeat rw [asciiStr_ofList]
  rw [spec_eval_plain C07_stubIdna _ (by decide) (by decide +kernel)]; decide +kernel
-- opaque host: C0 control percent-encode set (DEL and non-ASCII are encoded, `!` is not); empty input
example : Impl.parseHost C07_stubIdna [0x61, 0x7F, 0x21, 0xE9] true = some ⟨.opaque, asciiStr "a%7F!%C3%A9"⟩ ∧
    Spec.hostParse C07_stubIdna [0x61, 0x7F, 0x21, 0xE9] true = some ⟨.opaque, asciiStr "a%7F!%C3%A9"⟩ := by
  decide_ascii
example : Impl.parseHost C07_stubIdna [] true = some ⟨.empty, []⟩ ∧
    Spec.hostParse C07_stubIdna [] true = some ⟨.empty, []⟩ ∧
    Impl.parseHost C07_stubIdna [] false = none ∧ Spec.hostParse C07_stubIdna [] false = none := by decide +kernel
-- percent-decoding before ToASCII (full path)
example : Impl.parseHost C07_stubIdna (asciiStr "%41") false = some ⟨.domain, asciiStr "a"⟩ := by
  repeat rw [asciiStr_ofList]
  rw [impl_eval_slow C07_stubIdna _ [0x41] (by decide) (by decide +kernel)
    (by rw [Proofs.Eval.percentDecode_eq_fuel]; decide +kernel)]
  decide +kernel
example : Spec.hostParse C07_stubIdna (asciiStr "%41") false = some ⟨.domain, asciiStr "a"⟩ := by
  repeat rw [asciiStr_ofList]
  rw [spec_eval C07_stubIdna _ [0x41] (by decide)
    (by unfold specBuf Spec.stringPercentDecode; rw [Proofs.C15.pd_eq_pdK]; decide +kernel)]
  decide +kernel
-- an `xn--` label leaves the fast path (the stub keeps it; a real ToASCII validates it)
example : Impl.hasXnLabel (asciiStr "xn--a") = true ∧ Impl.hasXnLabel (asciiStr "a.XN--b") = true ∧
    Impl.hasXnLabel (asciiStr "axn--a") = false := by decide_ascii
example : Impl.parseHost C07_stubIdna (asciiStr "xn--a") false = some ⟨.domain, asciiStr "xn--a"⟩ := by
  repeat rw [asciiStr_ofList]
  rw [impl_eval_slow C07_stubIdna _ [0x78, 0x6E, 0x2D, 0x2D, 0x61] (by decide) (by decide +kernel)
    (by rw [Proofs.Eval.percentDecode_eq_fuel]; decide +kernel)]
  decide +kernel
example : Spec.hostParse C07_stubIdna (asciiStr "xn--a") false = some ⟨.domain, asciiStr "xn--a"⟩ := by
  repeat rw [asciiStr_ofList]
  rw [spec_eval_plain C07_stubIdna _ (by decide) (by decide +kernel)]; decide +kernel
-- ends in a number but is not an IPv4 address
example : Impl.parseHost C07_stubIdna (asciiStr "1.2.3.4.5") false = none := by decide_ascii
example : Spec.hostParse C07_stubIdna (asciiStr "1.2.3.4.5") false = none := by
  repeat rw [asciiStr_ofList]
  rw [spec_eval_plain C07_stubIdna _ (by decide) (by decide +kernel)]; decide +kernel
-- `<` followed by an escape is not rejected early; it is caught after ToASCII
example : implFast (asciiStr "a<%41") = none ∧ implFast (asciiStr "a<b") = some none := by decide_ascii
example : Impl.parseHost C07_stubIdna (asciiStr "a<%41") false = none := by
  repeat rw [asciiStr_ofList]
  rw [impl_eval_slow C07_stubIdna _ [0x61, 0x3C, 0x41] (by decide) (by decide +kernel)
    (by rw [Proofs.Eval.percentDecode_eq_fuel]; decide +kernel)]
  decide +kernel
example : Spec.hostParse C07_stubIdna (asciiStr "a<%41") false = none := by
  repeat rw [asciiStr_ofList]
  rw [spec_eval C07_stubIdna _ [0x61, 0x3C, 0x41] (by decide)
    (by unfold specBuf Spec.stringPercentDecode; rw [Proofs.C15.pd_eq_pdK]; decide +kernel)]
  decide +kernel
-- non-ASCII input reaches ToASCII as UTF-16 (U+1F600 → D83D DE00; the stub returns it unchanged)
example : Impl.parseHost C07_stubIdna [0x61, 0x1F600] false = some ⟨.domain, [0x61, 0xD83D, 0xDE00]⟩ := by
  rw [impl_eval_slow C07_stubIdna _ [0x61, 0xF0, 0x9F, 0x98, 0x80] (by decide) (by decide +kernel)
    (by rw [Proofs.Eval.percentDecode_eq_fuel]; decide +kernel)]
  decide +kernel
example : Spec.hostParse C07_stubIdna [0x61, 0x1F600] false = some ⟨.domain, [0x61, 0xD83D, 0xDE00]⟩ := by
  rw [spec_eval C07_stubIdna _ [0x61, 0xD83D, 0xDE00] (by decide)
    (by unfold specBuf Spec.stringPercentDecode; rw [Proofs.C15.pd_eq_pdK]; decide +kernel)]
  decide +kernel

-- both hypotheses are needed: a "ToASCII" that drops `<` violates `persist`, one that always fails
-- violates `ascii`, and for each the code and the Standard disagree
example : Impl.parseHost (fun l => some ((l.filter (· != 0x3C)).map toLower)) (asciiStr "a<b") false = none := by
  decide_ascii
example : Spec.hostParse (fun l => some ((l.filter (· != 0x3C)).map toLower)) (asciiStr "a<b") false =
    some ⟨.domain, asciiStr "ab"⟩ := by
  repeat rw [asciiStr_ofList]
  rw [spec_eval_plain _ _ (by decide) (by decide +kernel)]; decide +kernel
example : Impl.parseHost (fun _ => none) (asciiStr "a") false = some ⟨.domain, asciiStr "a"⟩ := by
  decide_ascii
example : Spec.hostParse (fun _ => none) (asciiStr "a") false = none := by
  repeat rw [asciiStr_ofList]
  rw [spec_eval_plain _ _ (by decide) (by decide +kernel)]; rfl

end Instances

/-- The file host state (url.h file_host_state, `Impl.fileHostState`) never leaves a host whose text is
    "localhost": if the URL did not have such a host before (the file state has just set the empty host),
    it does not have one afterwards — whatever the host type. -/
theorem C07_localhost_file_only_text :
    ∀ (idna : Idna) (ov : Option Override) (u : Url) (p : List Nat),
      (∀ h, u.host = some h → h.text ≠ Impl.sLocalhost) →
      ∀ h, (Impl.fileHostState idna ov u p).url.host = some h → h.text ≠ Impl.sLocalhost :=
  fun idna ov u p h0 =>
    Proofs.C07.fileHostState_host idna ov u p (fun o => ∀ h, o = some h → h.text ≠ Impl.sLocalhost) h0
      (fun _ e => Option.some.inj e ▸ by decide +kernel) (fun _ hne _ e => Option.some.inj e ▸ hne)

/-- the same for the domain "localhost" -/
theorem C07_localhost_file_only :
    ∀ (idna : Idna) (ov : Option Override) (u : Url) (p : List Nat),
      u.host ≠ some { kind := .domain, text := Impl.sLocalhost } →
      (Impl.fileHostState idna ov u p).url.host ≠ some { kind := .domain, text := Impl.sLocalhost } :=
  fun idna ov u p h0 =>
    Proofs.C07.fileHostState_host idna ov u p (· ≠ some { kind := .domain, text := Impl.sLocalhost }) h0
      (fun e => nomatch e) (fun _ hne e => hne (congrArg Host.text (Option.some.inj e)))

/-- Outside the file host state (`hostState` enters it only for a "file" URL under a state override)
    the host state stores exactly what the host parser returned — "localhost" included. -/
theorem C07_host_state_keeps :
    ∀ (idna : Idna) (ov : Option Override) (u : Url) (p : List Nat),
      (ov.isSome && u.isFile) = false →
      (Impl.hostState idna ov u p).url.host = u.host ∨
      ∃ hostPart h, Impl.parseHost idna hostPart (!u.isSpecial) = some h ∧
        (Impl.hostState idna ov u p).url.host = some h :=
  fun idna ov u p hnf =>
    Proofs.C07.hostState_host idna ov u p hnf
      (fun o => o = u.host ∨ ∃ hostPart h, Impl.parseHost idna hostPart (!u.isSpecial) = some h ∧ o = some h)
      (Or.inl rfl) (fun hostPart h e => Or.inr ⟨hostPart, h, e, rfl⟩)

-- hypotheses satisfiable (the file state enters with the empty host) and evaluated instances:
-- file://localhost/x and file://LOCALHOST/x get the empty host, http://localhost/ keeps "localhost"
example : (Impl.emptyHost).text ≠ Impl.sLocalhost := by decide +kernel
example : (Impl.parse C07_stubIdna .u8 (asciiStr "file://localhost/x") none).map (·.host) =
    some (some ⟨.empty, []⟩) := by decide_ascii
example : (Impl.parse C07_stubIdna .u8 (asciiStr "file://LOCALHOST/x") none).map (·.host) =
    some (some ⟨.empty, []⟩) := by decide_ascii
example : (Impl.parse C07_stubIdna .u8 (asciiStr "file://example/x") none).map (·.host) =
    some (some ⟨.domain, asciiStr "example"⟩) := by decide_ascii
example : (Impl.parse C07_stubIdna .u8 (asciiStr "http://localhost/") none).map (·.host) =
    some (some ⟨.domain, Impl.sLocalhost⟩) := by unfold Impl.sLocalhost; decide_ascii
example : (Impl.parse C07_stubIdna .u8 (asciiStr "foo://localhost/") none).map (·.host) =
    some (some ⟨.opaque, Impl.sLocalhost⟩) := by unfold Impl.sLocalhost; decide_ascii

/-! How ICU is called (regenerated from src/url_idna.cpp on every run). -/

/-- `uidna_openUTS46` options: UIDNA_CHECK_BIDI (4) | UIDNA_CHECK_CONTEXTJ (8) |
    UIDNA_NONTRANSITIONAL_TO_ASCII (0x10) | UIDNA_NONTRANSITIONAL_TO_UNICODE (0x20) = 60:
    CheckBidi, CheckJoiners, Transitional_Processing = false; UIDNA_USE_STD3_RULES (2) is not set
    (UseSTD3ASCIIRules = false). -/
theorem C07_idna_options : Upa.Gen.idnaOptions = 60 := rfl

example : (4 ||| 8 ||| 0x10 ||| 0x20 : Nat) = 60 ∧ (60 &&& 2 : Nat) = 0 := by decide

/-- Every UIDNAInfo error bit is fatal except UIDNA_ERROR_EMPTY_LABEL (1), LABEL_TOO_LONG (2),
    DOMAIN_NAME_TOO_LONG (4), LEADING_HYPHEN (8), TRAILING_HYPHEN (0x10), HYPHEN_3_4 (0x20): the errors
    the Standard ignores because CheckHyphens and VerifyDnsLength are false. -/
theorem C07_idna_fatal_mask : Upa.Gen.idnaFatalMask = 0xFFFFFFC0 := rfl

example : (0xFFFFFFC0 : Nat) = 0xFFFFFFFF - (1 ||| 2 ||| 4 ||| 8 ||| 0x10 ||| 0x20) := by decide

/-- an empty ToASCII result is a failure (`idna … = none`) -/
theorem C07_idna_empty_fatal : Upa.Gen.idnaEmptyFatal = true := rfl

end Upa.Props

#print axioms Upa.Props.C07_stubIdna_ok
#print axioms Upa.Props.C07_host_conforms
#print axioms Upa.Props.C07_localhost_file_only_text
#print axioms Upa.Props.C07_localhost_file_only
#print axioms Upa.Props.C07_host_state_keeps
#print axioms Upa.Props.C07_idna_options
#print axioms Upa.Props.C07_idna_fatal_mask
#print axioms Upa.Props.C07_idna_empty_fatal
