import Upa.Props.C05e
import Upa.Proofs.ObjRep
import Upa.Proofs.ObjRepEval
import Upa.Props.C04c
import Upa.Proofs.Literal
/-
  C05g — property C05 at the level of OBJECTS and arbitrary histories.

  "After any sequence of completed operations (parse on a new or reused object, clear, setters,
   URLSearchParams edits, copy, move, swap, safe_assign, use as base) a valid URL object is
   indistinguishable from one freshly parsed from its own href … An empty object or one whose last
   parse failed reports is_valid() == false and ignores every setter except href, and a failing href
   setter leaves the object unchanged."

  Two object models run the same operation list (`Op`, Impl/ObjRep.lean: two object slots; parse with
  no base / a string base / the other slot / the same slot as base; the ten setters; search_params();
  the URLSearchParams edits incl. `remove` (update() only when something was removed); a list assigned
  or safe_assign-ed from a standalone params object; `search_params() &&` (the owned list is moved out);
  clear; copy assignment / construction; move assignment; safe_assign; swap):

    runR   on `RObj`   = (stored representation `Rep`, params object): `parseRep`, `setRep`, `updateRep`,
                         the params refilled from the QUERY part VIEW — the operations the C++ executes;
                         nothing at this level looks at a record              (Impl/ObjRep.lean)
    runU   on `UrlObj` = (abstract record `Url`, params object): `Impl.parse`, `setValid`, `UrlObj.update`
                         — the model C01 / C03 / C06 tie to the Standard       (Impl/Api.lean)

  The relation (Proofs/ObjRep.lean):

    Sim idna ro o  :=  ro.sp = o.sp  ∧  SpBytes o.sp  ∧
                       match ro.rep, o.url with
                       | some r, some u => RepFor r u ∧ Good idna u
                       | none,   none   => True
                       | _,      _      => False                              (`C05g_sim_def`)

    RepFor r u     r.equiv (layout u) ∧ r.wf (C05b): r is a representation of the record u
    Good idna u    := NormX idna u  (C02b: `Norm` without its two file-only clauses;
                       Good ↔ Norm ∨ (NormX ∧ FileExc), `C05g_good_iff`).  It is the predicate
                       at hand that EVERY operation keeps, the protocol setter included
                       (`C02_set_normx`; `Norm` itself is not kept: `C02_set_protocol`), and it implies
                       every hypothesis of the representation theorems (`C05g_good_ok`):
                         RepOk, HostInv         hypotheses of `C05d_setter` (setRep ~ setValid)
                         RepOk                  hypothesis of `C05f_update` (updateRep ~ UrlObj.update)
                         RecWF, RecShape        hypotheses of `C05b_getters`, `C05d_toRecord`
                         RepOk, HostInv, RecShape, file ⇒ no port
                                                hypotheses on the base of `C05e_parse_base`
                       kept by:  parse     `Proofs.C02b.parse_all` (no base, or a Good base)
                                 setters   `C02_set_normx` (= `Proofs.C02b.set_all`), all ten
                                 update    `Proofs.C02b.update_all` (needs `SpBytes`)
    SpBytes sp     the stored names and values are byte strings (< 256).  In the C++ a `char` IS a
                   byte; in the model a code unit is a `Nat`, so the operations that hand in names,
                   values or a query string carry the side condition `Op.WF` (bytes < 256).
                   It is needed: `C05g_needs_bytes`.

  Hypothesis on the IDNA parameter: `IdnaStable` of C02b (needed by `parse_all` / `set_all`).

  The lemmas of Proofs/ObjRep.lean are proved for two strengths of the invariant at once (`GoodS idna st`: `Norm` for
  `st = true`, `NormX` for `st = false`; `SimS`, `SimS₂`; `Sim = SimS · false`).  `Norm` is kept by every
  operation but the protocol setter, hence `C05g_no_protocol`: a history without a protocol call
  never meets the file exception.

  Evaluated examples go through `runRK_eq` / `runUK_eq` (Proofs/ObjRepEval.lean: the same interpreters
  with fuel-driven copies of `formParse` and `List.mergeSort`, which the kernel cannot unfold).
-/
namespace Upa.Props
open Upa Upa.Impl Upa.Proofs.C05 Upa.Proofs.SetRep Upa.Proofs.ObjRep
open Upa.Proofs.C02b (IdnaStable sampleIdna_stable)
open Upa.Proofs.C08 (sampleIdna)
open Upa.Proofs.SetRepApi (RecShape)

/-! ## 0. the relation -/

theorem C05g_sim_def : ∀ (idna : Idna) (ro : RObj) (o : UrlObj),
    Sim idna ro o ↔
      (ro.sp = o.sp ∧
       (∀ p, o.sp = some p → ∀ pr ∈ p.list, (∀ b ∈ pr.1, b < 256) ∧ (∀ b ∈ pr.2, b < 256)) ∧
       match ro.rep, o.url with
       | some r, some u => RepFor r u ∧ Good idna u
       | none, none => True
       | _, _ => False) := by
  intro idna ro o
  unfold Sim SimS SpBytes PairsBytes RecSimS Good
  cases ro.rep <;> cases o.url <;> exact Iff.rfl

theorem C05g_good_iff : ∀ (idna : Idna) (u : Url),
    (Good idna u ↔ NormX idna u) ∧ (Good idna u ↔ (Norm idna u ∨ (NormX idna u ∧ FileExc u))) :=
  fun idna u => ⟨Iff.rfl, good_iff idna u⟩

/-- `Good` implies every hypothesis the representation theorems C05b / C05d / C05e / C05f ask for -/
theorem C05g_good_ok : ∀ (idna : Idna) (u : Url), Good idna u →
    RepOk u ∧ HostInv u ∧ RecShape u ∧ (u.isFile = true → u.port = none) :=
  fun _ _ h => h.ok

/-- the two default-constructed objects are related -/
theorem C05g_init : ∀ idna : Idna, Sim₂ idna ({}, {}) ({}, {}) :=
  fun idna => ⟨sim_empty idna false, sim_empty idna false⟩

/-! ## 1. one operation -/

/-- Every operation keeps the relation on both slots, and returns the same result on both levels
    (`parse(...) == ok`, the setter's bool).  For the string-base overload the base is parsed first
    into a fresh object, on both levels (`stepR` / `stepU`); a base string that does not parse
    counts as an invalid base object: the parse fails and the url is left empty and invalid. -/
theorem C05g_step :
    ∀ (idna : Idna), IdnaStable idna → ∀ (op : Op), op.WF →
    ∀ (rs : RObj × RObj) (us : UrlObj × UrlObj), Sim₂ idna rs us →
      Sim₂ idna (stepR idna op rs).1 (stepU idna op us).1 ∧ (stepR idna op rs).2 = (stepU idna op us).2 :=
  -- `sim_step` is for both strengths; `fun hc => …` is its side condition `st = true → op.NoProtocol` at `st = false`
  fun _ hi op hop _ _ h => sim_step hi op hop (fun hc => by cases hc) h

/-- the operations one by one, on two related objects (what `C05g_step` is assembled from) -/
theorem C05g_ops :
    ∀ (idna : Idna), IdnaStable idna → ∀ (ro rs : RObj) (o s : UrlObj), Sim idna ro o → Sim idna rs s →
      -- parse: no base, the other object as base, the object itself as base
      (∀ e units, Sim idna (ro.parse idna e units none).1 (o.parse idna e units none).1 ∧
        (ro.parse idna e units none).2 = (o.parse idna e units none).2) ∧
      (∀ e units, Sim idna (ro.parse idna e units (some rs.rep)).1 (o.parse idna e units (some s.url)).1 ∧
        (ro.parse idna e units (some rs.rep)).2 = (o.parse idna e units (some s.url)).2) ∧
      (∀ e units, Sim idna (ro.parse idna e units (some ro.rep)).1 (o.parse idna e units (some o.url)).1 ∧
        (ro.parse idna e units (some ro.rep)).2 = (o.parse idna e units (some o.url)).2) ∧
      -- the ten setters
      (∀ st e units, Sim idna (ro.set idna st e units).1 (o.set idna st e units).1 ∧
        (ro.set idna st e units).2 = (o.set idna st e units).2) ∧
      -- search_params(), a params mutation that keeps byte strings + update(), clear
      Sim idna ro.searchParams o.searchParams ∧
      (∀ (f : SpOp) (always : Bool), f.WF → Sim idna (ro.spApply f.fn always) (o.spApply f.fn always)) ∧
      Sim idna ro.clear o.clear ∧
      -- copy, move, safe_assign, swap
      Sim idna (rCopyAssign ro rs) (copyAssign o s) ∧
      Sim idna (rCopyConstruct rs) (copyConstruct s) ∧
      (Sim idna (rMoveAssign rs).1 (moveAssign s).1 ∧ Sim idna (rMoveAssign rs).2 (moveAssign s).2) ∧
      (Sim idna (rSafeAssign ro rs).1 (safeAssign o s).1 ∧ Sim idna (rSafeAssign ro rs).2 (safeAssign o s).2) ∧
      rSwap ro rs = (rs, ro) ∧ uSwap o s = (s, o) :=
  fun idna hi _ _ _ _ h hs =>
    ⟨fun e units => sim_parse hi h e units (BaseSimS.none (idna := idna) (st := false)),
     fun e units => sim_parse hi h e units (BaseSimS.obj hs.2.2),
     fun e units => sim_parse hi h e units (BaseSimS.obj h.2.2),
     fun st e units => sim_set hi h st e units (fun _ => rfl),
     sim_searchParams h,
     fun f always hf => sim_spApply h f.fn (pairsBytes_spOp f hf) always,
     sim_clear h, sim_copyAssign h hs, sim_copyConstruct hs, sim_moveAssign hs, sim_safeAssign h hs,
     rfl, rfl⟩

/-- … and the operations on the owned params object that are not a `SpOp`: a list taken from a
    standalone params object (`search_params() = other`, `search_params().safe_assign(std::move(other))`:
    the list replaced, then `update()`), with or without the unconditional `update()`; and
    `search_params() &&`, which moves the owned list out WITHOUT `update()`: the list no longer lists
    the query (`C06b_move_from_owned_breaks_lock`), but it does so on both levels alike, and the
    record is not touched, so the relation is kept -/
theorem C05g_ops_params :
    ∀ (idna : Idna) (ro : RObj) (o : UrlObj), Sim idna ro o →
      (∀ (list : List BPair) (sorted always : Bool),
        (∀ pr ∈ list, (∀ b ∈ pr.1, b < 256) ∧ (∀ b ∈ pr.2, b < 256)) →
        Sim idna (ro.spApply (fun _ => { list := list, isSorted := sorted }) always)
          (o.spApply (fun _ => { list := list, isSorted := sorted }) always)) ∧
      Sim idna ro.searchParamsRvalue (uSearchParamsRvalue o) :=
  fun _ _ _ h =>
    ⟨fun list sorted always hl =>
      sim_spApply h (fun _ => { list := list, isSorted := sorted }) (fun _ _ => hl) always,
     sim_searchParamsRvalue h⟩

/-- the history of the examples.  Slot 0 is parsed (upper-case host, explicit port);
    slot 1 is parsed against slot 0; its protocol becomes https, which makes 443 the default port:
    the port is cleared; slot 0 gets a params object, a pair is appended, the list is sorted (query
    rewritten); slot 1 gets a params object; slot 1 safe_assign-s slot 0 (both have params: the list
    moves, slot 0 is left invalid with an empty list); slot 1 is parsed against ITSELF; the invalid
    slot 0 ignores `hostname`, a failing `href` on slot 1 changes nothing; slot 0 is parsed against
    a string base. -/
def c05gHist : List Op :=
  [.parse false .u8 (asciiStr " http://user@EXAMPLE.org:443/p/q?b=2&a=1#f") .none,
   .parse true .u8 (asciiStr "../x?y") .other,
   .set true .protocol .u8 (asciiStr "https"),
   .searchParams false, .sp false (.append (asciiStr "c") (asciiStr "d e")), .sp false .sort,
   .searchParams true,
   .safeAssign true false,
   .parse true .u8 (asciiStr "?z=1#g") .same,
   .set false .hostname .u8 (asciiStr "x"),
   .set true .href .u8 (asciiStr "//no-scheme"),
   .parse false .u8 (asciiStr "..\\e") (.str .u8 (asciiStr "file:///C:/d/"))]

-- the side condition is satisfiable on it
example : ∀ op ∈ c05gHist, op.WF := by decide

-- one step evaluated on both levels: the protocol setter on slot 1 (after the first two operations)
-- removes the port that has become the default one, in place, and the relation holds again
example :
    let rs := runR sampleIdna (c05gHist.take 2) ({}, {})
    let us := runU sampleIdna (c05gHist.take 2) ({}, {})
    let op : Op := .set true .protocol .u8 (asciiStr "https")
    rs.2.rep.map (fun r => (r.norm, r.partEnd)) =
      some (asciiStr "http://user@example.org:443/x?y", [4, 7, 11, 11, 12, 23, 27, 27, 29, 31, 0]) ∧
    (stepR sampleIdna op rs).1.2.rep.map (fun r => (r.norm, r.partEnd, r.schemeIdx)) =
      some (asciiStr "https://user@example.org/x?y", [5, 8, 12, 12, 13, 24, 24, 24, 26, 28, 0], some 5) ∧
    (stepU sampleIdna op us).1.2.url.map serialize = some (asciiStr "https://user@example.org/x?y") ∧
    (stepR sampleIdna op rs).2 = true ∧ (stepU sampleIdna op us).2 = true ∧
    Sim₂ sampleIdna rs us ∧ Sim₂ sampleIdna (stepR sampleIdna op rs).1 (stepU sampleIdna op us).1 := by
  simp only [← runRK_eq, ← runUK_eq, ← stepRK_eq, ← stepUK_eq]
  unfold c05gHist
  decide_ascii

/-- the example history evaluated once on each level: slot 0 was parsed against the string base, slot 1
    against itself after the safe_assign -/
private theorem c05gHist_R : runR sampleIdna c05gHist ({}, {}) =
    ({ rep := some { norm := asciiStr "file:///C:/e", partEnd := [4, 7, 7, 7, 7, 7, 7, 7, 12, 0, 0],
                     hostNotNull := true, portNotNull := false, queryNotNull := false, fragmentNotNull := false,
                     opaquePath := false, hostType := 0, segCount := 2, schemeIdx := some 4 },
       sp := some { list := [], isSorted := false } },
     { rep := some { norm := asciiStr "http://user@example.org:443/p/q?z=1#g",
                     partEnd := [4, 7, 11, 11, 12, 23, 27, 27, 31, 35, 37],
                     hostNotNull := true, portNotNull := true, queryNotNull := true, fragmentNotNull := true,
                     opaquePath := false, hostType := 2, segCount := 2, schemeIdx := some 3 },
       sp := some { list := [(asciiStr "z", asciiStr "1")], isSorted := false } }) := by
  rw [← runRK_eq]
  unfold c05gHist
  decide_ascii

private theorem c05gHist_U : runU sampleIdna c05gHist ({}, {}) =
    ({ url := some { scheme := asciiStr "file", host := some emptyHost, path := [asciiStr "C:", asciiStr "e"] },
       sp := some { list := [], isSorted := false } },
     { url := some { scheme := asciiStr "http", username := asciiStr "user",
                     host := some { kind := .domain, text := asciiStr "example.org" }, port := some 443,
                     path := [asciiStr "p", asciiStr "q"], query := some (asciiStr "z=1"),
                     fragment := some (asciiStr "g") },
       sp := some { list := [(asciiStr "z", asciiStr "1")], isSorted := false } }) := by
  rw [← runUK_eq]
  unfold c05gHist
  decide_ascii

-- a string base that does not parse (url.h:202-212): as with an invalid base object, the parse fails
-- and the url — here the valid slot 1 at the end of the example history, with its params object —
-- is left empty and invalid, its list cleared; on both levels alike
example :
    let rs := runR sampleIdna c05gHist ({}, {})
    let us := runU sampleIdna c05gHist ({}, {})
    let op : Op := .parse true .u8 (asciiStr "x") (.str .u8 (asciiStr "//no-scheme"))
    rs.2.rep.map (·.norm) = some (asciiStr "http://user@example.org:443/p/q?z=1#g") ∧
    (stepR sampleIdna op rs).1.2 = { rep := none, sp := some { list := [], isSorted := true } } ∧
    (stepU sampleIdna op us).1.2 = { url := none, sp := some { list := [], isSorted := true } } ∧
    (stepR sampleIdna op rs).1.1 = rs.1 ∧
    (stepR sampleIdna op rs).2 = false ∧ (stepU sampleIdna op us).2 = false ∧
    -- the same as parsing against the (cleared, hence invalid) object in slot 0
    (stepR sampleIdna op rs).1.2 =
      (stepR sampleIdna (.parse true .u8 (asciiStr "x") .other) (rs.1.clear, rs.2)).1.2 ∧
    Sim₂ sampleIdna (stepR sampleIdna op rs).1 (stepU sampleIdna op us).1 := by
  rw [c05gHist_R, c05gHist_U]
  simp only [← stepRK_eq, ← stepUK_eq]
  decide_ascii

/-! ## 2. arbitrary histories -/

/-- After ANY history from the two default-constructed objects, both slots are related, and the
    operations returned the same results on both levels. -/
theorem C05g_history :
    ∀ (idna : Idna), IdnaStable idna → ∀ ops : List Op, (∀ op ∈ ops, op.WF) →
      Sim₂ idna (runR idna ops ({}, {})) (runU idna ops ({}, {})) ∧
      retR idna ops ({}, {}) = retU idna ops ({}, {}) :=
  fun idna hi ops hops => sim_run hi ops hops (fun hc => by cases hc) (C05g_init idna)

theorem C05g_history_from :
    ∀ (idna : Idna), IdnaStable idna → ∀ ops : List Op, (∀ op ∈ ops, op.WF) →
    ∀ (rs : RObj × RObj) (us : UrlObj × UrlObj), Sim₂ idna rs us →
      Sim₂ idna (runR idna ops rs) (runU idna ops us) ∧ retR idna ops rs = retU idna ops us :=
  fun _ hi ops hops _ _ h => sim_run hi ops hops (fun hc => by cases hc) h

-- the example history evaluated on both levels
example :
    let rs := runR sampleIdna c05gHist ({}, {})
    let us := runU sampleIdna c05gHist ({}, {})
    -- slot 0: parsed against the string base
    rs.1.rep.map (fun r => (r.norm, r.partEnd, r.segCount)) =
      some (asciiStr "file:///C:/e", [4, 7, 7, 7, 7, 7, 7, 7, 12, 0, 0], 2) ∧
    rs.1.sp = some { list := [], isSorted := false } ∧
    us.1.url.map serialize = some (asciiStr "file:///C:/e") ∧
    -- slot 1: parsed against itself after the safe_assign
    rs.2.rep.map (fun r => (r.norm, r.partEnd)) =
      some (asciiStr "http://user@example.org:443/p/q?z=1#g", [4, 7, 11, 11, 12, 23, 27, 27, 31, 35, 37]) ∧
    rs.2.sp = some { list := [(asciiStr "z", asciiStr "1")], isSorted := false } ∧
    us.2.url.map serialize = some (asciiStr "http://user@example.org:443/p/q?z=1#g") ∧
    us.2.sp = rs.2.sp ∧
    -- the results of the twelve operations
    retR sampleIdna c05gHist ({}, {}) = [true, true, true, true, true, true, true, true, true, false, false, true] ∧
    retU sampleIdna c05gHist ({}, {}) = retR sampleIdna c05gHist ({}, {}) ∧
    -- the conclusion of the theorem, evaluated
    Sim₂ sampleIdna rs us := by
  rw [c05gHist_R, c05gHist_U]
  simp only [← retRK_eq, ← retUK_eq]
  unfold c05gHist
  decide_ascii
-- the state 7 operations in (after the sort and `u1.search_params()`, before the safe_assign)
example :
    let rs := runR sampleIdna (c05gHist.take 7) ({}, {})
    rs.1.rep.map (·.norm) = some (asciiStr "http://user@example.org:443/p/q?a=1&b=2&c=d+e#f") ∧
    rs.1.sp = some { list := [(asciiStr "a", asciiStr "1"), (asciiStr "b", asciiStr "2"),
                              (asciiStr "c", asciiStr "d e")], isSorted := true } ∧
    rs.2.rep.map (·.norm) = some (asciiStr "https://user@example.org/x?y") ∧
    rs.2.sp = some { list := [(asciiStr "y", [])], isSorted := false } ∧
    -- … and after it: the list has moved with the record, the source is invalid with an empty list
    runR sampleIdna (c05gHist.take 8) ({}, {}) =
      ({ rep := none, sp := some { list := [], isSorted := false } }, { rep := rs.1.rep, sp := rs.1.sp }) := by
  simp only [← runRK_eq]
  unfold c05gHist
  decide_ascii
-- an instance of the theorem
example : Sim₂ sampleIdna (runR sampleIdna c05gHist ({}, {})) (runU sampleIdna c05gHist ({}, {})) :=
  (C05g_history sampleIdna sampleIdna_stable c05gHist (by decide)).1

/-- a second history, through the operations on the owned params object: `remove("zz")` creates the
    params object and removes nothing (no `update()`); `remove("a", "3")` removes a pair (`update()`:
    query rewritten); `search_params() &&` moves the list out (query kept, list empty — no longer in
    lock-step); `remove("a")` on the empty list removes nothing, so the query STAYS (`del("a")` would
    null it, see the example); a list assigned from a standalone params object; slot 1 copy-constructed
    (no params object: `search_params() &&` does not touch it); a sorted list safe_assign-ed into
    slot 1 (its params object is created first); `del` of an absent name (always `update()`). -/
def c05gHist2 : List Op :=
  [.parse false .u8 (asciiStr "http://h/p?a=1&b=2&a=3") .none,
   .sp false (.remove (asciiStr "zz")),
   .sp false (.remove2 (asciiStr "a") (asciiStr "3")),
   .searchParamsRvalue false,
   .sp false (.remove (asciiStr "a")),
   .spAssign false [(asciiStr "x", asciiStr "1 2")] false,
   .copyConstruct true false,
   .searchParamsRvalue true,
   .spSafeAssign true [(asciiStr "k", asciiStr "v"), (asciiStr "j", asciiStr "w")] true,
   .sp true (.del (asciiStr "nothing"))]

example : (∀ op ∈ c05gHist2, op.WF) ∧ (∀ op ∈ c05gHist2, op.NoProtocol) := by decide

-- evaluated, state by state (slot 0)
example :
    let stAt (n : Nat) := runR sampleIdna (c05gHist2.take n) ({}, {})
    let q (o : RObj) := o.rep.map (·.search)
    let l (o : RObj) := o.sp.map (·.list)
    -- remove("zz"): params object created, nothing removed, query as parsed
    q (stAt 2).1 = some (asciiStr "?a=1&b=2&a=3") ∧
    l (stAt 2).1 = some [(asciiStr "a", asciiStr "1"), (asciiStr "b", asciiStr "2"), (asciiStr "a", asciiStr "3")] ∧
    -- remove("a", "3"): one pair removed, update()
    q (stAt 3).1 = some (asciiStr "?a=1&b=2") ∧
    l (stAt 3).1 = some [(asciiStr "a", asciiStr "1"), (asciiStr "b", asciiStr "2")] ∧
    -- search_params() &&: the list is gone, the query stays
    q (stAt 4).1 = some (asciiStr "?a=1&b=2") ∧ l (stAt 4).1 = some [] ∧
    -- remove("a") removes nothing from the empty list: no update(), the query stays …
    q (stAt 5).1 = some (asciiStr "?a=1&b=2") ∧ l (stAt 5).1 = some [] ∧
    -- … where del("a") updates and nulls the query
    q (stepR sampleIdna (.sp false (.del (asciiStr "a"))) (stAt 4)).1.1 = some [] ∧
    -- search_params() = other
    q (stAt 6).1 = some (asciiStr "?x=1+2") ∧ l (stAt 6).1 = some [(asciiStr "x", asciiStr "1 2")] := by
  simp only [← runRK_eq, ← stepRK_eq]
  decide +kernel
-- slot 1: copy, `&&` without a params object, safe_assign of a sorted list, del of an absent name
example :
    let stAt (n : Nat) := runR sampleIdna (c05gHist2.take n) ({}, {})
    (stAt 8).2 = (stAt 7).2 ∧ (stAt 7).2.sp = none ∧
    (stAt 10).2.rep.map (·.search) = some (asciiStr "?k=v&j=w") ∧
    (stAt 10).2.sp =
      some { list := [(asciiStr "k", asciiStr "v"), (asciiStr "j", asciiStr "w")], isSorted := true } ∧
    (stAt 10).1 = (stAt 6).1 := by
  simp only [← runRK_eq]
  unfold c05gHist2
  decide_ascii
-- the record level did the same; the relation holds at the end and in the lock-broken state
example :
    let us5 := runU sampleIdna (c05gHist2.take 5) ({}, {})
    Sim₂ sampleIdna (runR sampleIdna c05gHist2 ({}, {})) (runU sampleIdna c05gHist2 ({}, {})) ∧
    Sim₂ sampleIdna (runR sampleIdna (c05gHist2.take 5) ({}, {})) us5 ∧
    us5.1.url.map getSearch = some (asciiStr "?a=1&b=2") ∧ us5.1.sp.map (·.list) = some [] := by
  simp only [← runRK_eq, ← runUK_eq]
  unfold c05gHist2
  decide_ascii
-- an instance of the theorem
example : Sim₂ sampleIdna (runR sampleIdna c05gHist2 ({}, {})) (runU sampleIdna c05gHist2 ({}, {})) :=
  (C05g_history sampleIdna sampleIdna_stable c05gHist2 (by decide)).1
/-! ## 3. what can be observed of a valid object -/

/-- In every reachable state, for each slot: the two levels agree on validity and on the params
    object; and for a valid object with stored representation `r` and record `u`:
    * the twelve getters computed from the offsets of `r` are the record-level getters of `u`;
    * the null status of host / port / query / fragment, the path kind, the host type, the segment
      count and the scheme index stored in `r` are those of `u`;
    * `r.toRecord` reads the record back; the offsets are inside the string (`OffsetsOk`, C04c);
    * unless `u` is one of the two file-exception records of C02 (`FileExc u`: scheme `file` and
      the host text is `localhost` or a two-character drive letter, or the first path segment is
      `X|` — `C02_file_exception`; only the protocol setter produces them, `C02_set_norm` /
      `C02_parse_norm`, and copies and a parse against such an object as base pass them on):
      parsing the href again, with no base or any base, gives the record `u` back, and — at the
      representation level — `parseRep` on the href, with no base or against the representation of
      any related base, succeeds with a representation that is indistinguishable from `r`
      (`Indist`: `Rep.equiv`, all flags, host type, segment count, scheme index, the twelve getters, and the
      record read back). -/
theorem C05g_getters :
    ∀ (idna : Idna), IdnaStable idna → ∀ ops : List Op, (∀ op ∈ ops, op.WF) → ∀ k : Slot,
      let ro := getSlot (runR idna ops ({}, {})) k
      let o := getSlot (runU idna ops ({}, {})) k
      ro.sp = o.sp ∧ ro.rep.isSome = o.url.isSome ∧
      ∀ r, ro.rep = some r → ∃ u, o.url = some u ∧
        (r.href = serialize u ∧ r.protocol = getProtocol u ∧ r.username = u.username ∧
         r.password = u.password ∧ r.host = getHost u ∧ r.hostname = getHostname u ∧
         r.port = getPort u ∧ r.pathname = pathText u ∧ r.path = getPath u ∧
         r.search = getSearch u ∧ r.hash = getHash u ∧ r.serializeNoFragment = serialize u true) ∧
        (r.hostNotNull = u.host.isSome ∧ r.portNotNull = u.port.isSome ∧ r.queryNotNull = u.query.isSome ∧
         r.fragmentNotNull = u.fragment.isSome ∧ r.opaquePath = u.hasOpaquePath ∧
         r.hostType = (match u.host with | some x => hostKindCode x.kind | none => 0) ∧
         r.segCount = (if u.hasOpaquePath then 0 else u.path.length) ∧ r.schemeIdx = schemeIndex u.scheme) ∧
        r.toRecord = u ∧ OffsetsOk r ∧
        (¬ FileExc u →
          (∀ base' : Option Url, parse idna .u8 r.href base' = some u) ∧
          (∀ (rb : Option Rep) (b : Option Url), RecSim idna rb b →
            ∃ r', parseRep idna .u8 r.href rb = some r' ∧ Indist r' r)) := by
  intro idna hi ops hops k
  have h := sim₂_get (C05g_history idna hi ops hops).1 k
  generalize getSlot (runR idna ops ({}, {})) k = ro at h
  generalize getSlot (runU idna ops ({}, {})) k = o at h
  refine ⟨h.1, h.2.2.isSome, fun r hr => ?_⟩
  obtain ⟨u, hu, hrep, hg⟩ := h.valid hr
  obtain ⟨ok, _, sh, _⟩ := hg.ok
  refine ⟨u, hu, C05b_getters u r ok.1 hrep, flags_of_repFor hrep, C05d_toRecord u r ok.1 sh hrep,
    C04_rep_offsets_ok r u hrep, fun hx => ?_⟩
  have hn := hg.norm hx
  refine ⟨fun base' => ?_, fun rb b hb => ?_⟩
  · rw [(C05b_getters u r ok.1 hrep).1]
    exact C02_reparse idna u hn base' (by cases base' <;> simp)
  · obtain ⟨r', h1, h2⟩ := fresh_parse hi hrep hn hb
    exact ⟨r', h1, indist_of_repFor ok.1 sh h2 hrep⟩

/-- The same at the representation level only (no record in the statement): in every reachable
    state the stored representation `r` of a valid object has its offsets in bounds, and — unless
    the record it stands for (`r.toRecord`) is a file-exception record — a fresh object parsed
    from `r.href`, with no base or with ANY reachable valid object as base, is indistinguishable
    from it. -/
theorem C05g_fresh_parse :
    ∀ (idna : Idna), IdnaStable idna → ∀ ops : List Op, (∀ op ∈ ops, op.WF) → ∀ (k : Slot) (r : Rep),
      (getSlot (runR idna ops ({}, {})) k).rep = some r →
      OffsetsOk r ∧
      (¬ FileExc r.toRecord →
        (∃ r', parseRep idna .u8 r.href none = some r' ∧ Indist r' r) ∧
        ∀ (ops' : List Op) (k' : Slot) (rb : Rep), (∀ op ∈ ops', op.WF) →
          (getSlot (runR idna ops' ({}, {})) k').rep = some rb →
          ∃ r', parseRep idna .u8 r.href (some rb) = some r' ∧ Indist r' r) := by
  intro idna hi ops hops k r hr
  obtain ⟨_, _, g⟩ := C05g_getters idna hi ops hops k
  obtain ⟨u, _, _, _, htr, hoff, hfresh⟩ := g r hr
  refine ⟨hoff, fun hx => ?_⟩
  rw [htr] at hx
  obtain ⟨_, hf⟩ := hfresh hx
  refine ⟨hf none none (recSim_none idna false), fun ops' k' rb hops' hrb => ?_⟩
  obtain ⟨b, _, h'⟩ := (sim₂_get (C05g_history idna hi ops' hops').1 k').valid hrb
  exact hf (some rb) (some b) h'

-- the getters of the two objects at the end of the example history, computed from the offsets
example :
    let rs := runR sampleIdna c05gHist ({}, {})
    rs.2.rep.map (fun r => [r.protocol, r.username, r.password, r.host, r.hostname, r.port]) =
      some [asciiStr "http:", asciiStr "user", [], asciiStr "example.org:443", asciiStr "example.org",
            asciiStr "443"] ∧
    rs.2.rep.map (fun r => [r.pathname, r.path, r.search, r.hash, r.serializeNoFragment]) =
      some [asciiStr "/p/q", asciiStr "/p/q?z=1", asciiStr "?z=1", asciiStr "#g",
            asciiStr "http://user@example.org:443/p/q?z=1"] ∧
    rs.1.rep.map (fun r => [r.protocol, r.host, r.port, r.pathname, r.search, r.hash]) =
      some [asciiStr "file:", [], [], asciiStr "/C:/e", [], []] := by
  rw [c05gHist_R]
  decide_ascii
-- the record read back is the record of the other level; a fresh parse of the href of slot 1 (no
-- base; slot 0 as base) gives the same representation, here even with the same raw offsets
example :
    let rs := runR sampleIdna c05gHist ({}, {})
    let us := runU sampleIdna c05gHist ({}, {})
    rs.2.rep.map (·.toRecord) = us.2.url ∧ rs.1.rep.map (·.toRecord) = us.1.url ∧
    rs.2.rep.bind (fun r => parseRep sampleIdna .u8 r.href none) = rs.2.rep ∧
    rs.2.rep.bind (fun r => parseRep sampleIdna .u8 r.href rs.1.rep) = rs.2.rep := by
  rw [c05gHist_R, c05gHist_U]
  decide_ascii
-- after in-place edits the raw offsets of never-started parts differ from a fresh parse (`Rep.equiv`, not `=`):
-- parse `s://h`, port "8", port "": PORT was started and keeps the end-of-string offset
example :
    let ops : List Op := [.parse false .u8 (asciiStr "s://h") .none, .set false .port .u8 (asciiStr "8"),
                          .set false .port .u8 []]
    let rs := runR sampleIdna ops ({}, {})
    rs.1.rep.map (·.partEnd) = some [1, 4, 4, 4, 4, 5, 5, 0, 0, 0, 0] ∧
    (rs.1.rep.bind (fun r => parseRep sampleIdna .u8 r.href none)).map (·.partEnd) =
      some [1, 4, 4, 4, 4, 5, 0, 0, 0, 0, 0] ∧
    (rs.1.rep.bind (fun r => (parseRep sampleIdna .u8 r.href none).map (fun r' => decide (Indist r' r)))) =
      some true := by
  simp only [← runRK_eq]
  decide_ascii

/-- Histories WITHOUT a call of the protocol setter never meet the exception: they keep the relation
    with `Norm` in place of `NormX` (every operation but the protocol setter keeps `Norm`:
    `C02_parse_norm`, `C02_set_norm`, `C02_update_norm`), so every valid object's record is in normal
    form, is not a file-exception record, and a fresh object parsed from the href is
    indistinguishable from the object — without any exception. -/
theorem C05g_no_protocol :
    ∀ (idna : Idna), IdnaStable idna → ∀ ops : List Op, (∀ op ∈ ops, op.WF) → (∀ op ∈ ops, op.NoProtocol) →
      SimS₂ idna true (runR idna ops ({}, {})) (runU idna ops ({}, {})) ∧
      (∀ (k : Slot) (u : Url), (getSlot (runU idna ops ({}, {})) k).url = some u → Norm idna u ∧ ¬ FileExc u) ∧
      (∀ (k : Slot) (r : Rep), (getSlot (runR idna ops ({}, {})) k).rep = some r →
        ¬ FileExc r.toRecord ∧ ∃ r', parseRep idna .u8 r.href none = some r' ∧ Indist r' r) := by
  intro idna hi ops hops hnp
  have h0 : SimS₂ idna true (({}, {}) : RObj × RObj) (({}, {}) : UrlObj × UrlObj) :=
    ⟨sim_empty idna true, sim_empty idna true⟩
  have h := (sim_run hi ops hops (fun _ => hnp) h0).1
  refine ⟨h, fun k u hu => ?_, fun k r hr => ?_⟩
  · have hg := (sim₂_get h k).2.2.baseRel.2 u hu
    exact ⟨hg, hg.not_fileExc⟩
  · obtain ⟨u, _, hrep, hg⟩ := (sim₂_get h k).valid hr
    obtain ⟨ok, _, sh, _⟩ := hg.ok
    have hx : ¬ FileExc r.toRecord := by
      rw [C05d_toRecord u r ok.1 sh hrep]; exact hg.not_fileExc
    exact ⟨hx, ((C05g_fresh_parse idna hi ops hops k r hr).2 hx).1⟩

-- the example history without its protocol call satisfies the hypothesis; with it, it does not
example : (∀ op ∈ c05gHist.take 2 ++ c05gHist.drop 3, op.NoProtocol) ∧ ¬ (∀ op ∈ c05gHist, op.NoProtocol) := by
  decide
example : ∀ (k : Slot) (r : Rep),
    (getSlot (runR sampleIdna (c05gHist.take 2 ++ c05gHist.drop 3) ({}, {})) k).rep = some r →
    ∃ r', parseRep sampleIdna .u8 r.href none = some r' ∧ Indist r' r :=
  fun k r hr => ((C05g_no_protocol sampleIdna sampleIdna_stable _ (by decide) (by decide)).2.2 k r hr).2

-- the second history has no protocol call either (its lock-broken states included)
example : ∀ (k : Slot) (r : Rep), (getSlot (runR sampleIdna c05gHist2 ({}, {})) k).rep = some r →
    ∃ r', parseRep sampleIdna .u8 r.href none = some r' ∧ Indist r' r :=
  fun k r hr => ((C05g_no_protocol sampleIdna sampleIdna_stable _ (by decide) (by decide)).2.2 k r hr).2

/-- The file exception is real and reachable: `http://localhost/C|/x`, then `protocol = "file"`.
    The object is related to its record (the theorem applies), its record is a `FileExc` record,
    and a fresh parse of its href `file://localhost/C|/x` is a DIFFERENT URL, `file:///C:/x`
    (the Standard's file host state maps `localhost` to the empty host and the path state
    normalises the drive letter; the protocol setter does neither). -/
theorem C05g_file_exception :
    let ops : List Op := [.parse false .u8 (asciiStr "http://localhost/C|/x") .none,
                          .set false .protocol .u8 (asciiStr "file")]
    let rs := runR sampleIdna ops ({}, {})
    let us := runU sampleIdna ops ({}, {})
    Sim₂ sampleIdna rs us ∧
    rs.1.rep.map (·.href) = some (asciiStr "file://localhost/C|/x") ∧
    us.1.url.map (fun u => decide (FileExc u)) = some true ∧
    rs.1.rep.map (fun r => decide (FileExc r.toRecord)) = some true ∧
    (rs.1.rep.bind (fun r => parseRep sampleIdna .u8 r.href none)).map (·.href) =
      some (asciiStr "file:///C:/x") := by
  simp only [← runRK_eq, ← runUK_eq]
  decide_ascii

/-! ## 4. invalid objects, failing href -/

/-- an invalid object (never parsed, cleared, moved-from, or the last parse failed) ignores every
    setter but `href`: representation and params object unchanged, `false` returned -/
theorem C05g_invalid_inert :
    ∀ (idna : Idna) (sp : Option Params) (s : Setter) (e : Enc) (units : List Nat), s ≠ .href →
      RObj.set idna ⟨none, sp⟩ s e units = (⟨none, sp⟩, false) :=
  rObj_set_invalid

/-- … and `update()` of its params object does not touch it either -/
theorem C05g_invalid_update : ∀ (sp : Option Params), RObj.update ⟨none, sp⟩ = ⟨none, sp⟩ :=
  fun _ => rfl

/-- a failing `href` setter leaves the object — representation and params object — unchanged; it
    fails exactly when the parser fails on the input without a base, on either level -/
theorem C05g_href_atomic :
    ∀ (idna : Idna) (o : RObj) (e : Enc) (units : List Nat),
      ((o.set idna .href e units).2 = false → (o.set idna .href e units).1 = o) ∧
      ((o.set idna .href e units).2 = false ↔ parseRep idna e units none = none) ∧
      ((o.set idna .href e units).2 = false ↔ parse idna e units none = none) := by
  intro idna o e units
  have hiff : (parseRep idna e units none = none) ↔ (parse idna e units none = none) := by
    have := (C05e_parse_nobase idna e units).1
    cases h1 : parseRep idna e units none <;> cases h2 : parse idna e units none <;> simp_all
  rw [rObj_set_href, rObj_parse_fresh, ← hiff]
  cases parseRep idna e units none <;> simp

-- evaluated: slot 0 of the example history is invalid after the safe_assign (9 operations in), with
-- an (empty) params object: `hostname` is ignored; and a failing `href` on the valid slot 1
example :
    let rs := runR sampleIdna (c05gHist.take 9) ({}, {})
    rs.1 = { rep := none, sp := some { list := [], isSorted := false } } ∧
    stepR sampleIdna (.set false .hostname .u8 (asciiStr "x")) rs = (rs, false) ∧
    rs.2.rep.map (·.norm) = some (asciiStr "http://user@example.org:443/p/q?z=1#g") ∧
    parseRep sampleIdna .u8 (asciiStr "//no-scheme") none = none ∧
    stepR sampleIdna (.set true .href .u8 (asciiStr "//no-scheme")) rs = (rs, false) ∧
    -- a succeeding href on the invalid slot 0 makes it valid again and refills its params object
    (stepR sampleIdna (.set false .href .u8 (asciiStr "a:b?k=v")) rs).1.1 =
      { rep := parseRep sampleIdna .u8 (asciiStr "a:b?k=v") none,
        sp := some { list := [(asciiStr "k", asciiStr "v")], isSorted := false } } := by
  simp only [← runRK_eq, ← stepRK_eq]
  unfold c05gHist
  decide_ascii

/-! ## 5. the side condition is needed; the relation bites -/

/-- `Op.WF` is needed (in the MODEL, where a code unit is a `Nat`; a C++ `char` is always a byte):
    appending the "name" [4096] makes `urlencode` write the "hex digit" 311 into the query; the
    representation still stands for the record (`RepFor`), but the record is no longer `Good`,
    and a fresh parse of the href yields a different string. -/
theorem C05g_needs_bytes :
    let ops : List Op := [.parse false .u8 (asciiStr "http://h/") .none, .sp false (.append [4096] [])]
    let rs := runR sampleIdna ops ({}, {})
    let us := runU sampleIdna ops ({}, {})
    ¬ (∀ op ∈ ops, op.WF) ∧ ¬ Sim₂ sampleIdna rs us ∧
    rs.1.rep.map (·.norm) = some (asciiStr "http://h/?%" ++ [311] ++ asciiStr "0=") ∧
    (rs.1.rep.bind fun r => us.1.url.map fun u => (decide (RepFor r u), decide (Good sampleIdna u))) =
      some (true, false) ∧
    (rs.1.rep.bind (fun r => parseRep sampleIdna .u8 r.href none)).map (·.norm) =
      some (asciiStr "http://h/?%%EF%BF%BD0=") := by
  simp only [← runRK_eq, ← runUK_eq]
  decide_ascii

/-- a WRONG `safe_assign` that moves the record but keeps the destination's old params list (the
    kind of the seeded changes `c05_stale_params_on_reuse` / `c20_safe_assign_record_first`) -/
def rSafeAssignStale (dst src : RObj) : RObj × RObj :=
  let dst' : RObj :=
    match dst.sp with
    | some p => { rep := src.rep, sp := some p }
    | none => { rep := src.rep, sp := none }
  (dst', { rep := none, sp := src.sp.map (fun _ => { list := [], isSorted := false }) })

/-- … agrees with the real one when the destination has no params object, but after
    `u1.search_params()` it leaves the list of the OLD query `y` next to the new record
    (`…?a=1&b=2&c=d+e#f`): the relation fails (first conjunct), and observably so — the list is not
    the parse of `search()` -/
theorem C05g_bites_stale_params :
    let rs := runR sampleIdna (c05gHist.take 7) ({}, {})
    let us := runU sampleIdna (c05gHist.take 7) ({}, {})
    let good := rSafeAssign rs.2 rs.1
    let bad := rSafeAssignStale rs.2 rs.1
    Sim₂ sampleIdna rs us ∧
    rSafeAssignStale { rs.2 with sp := none } rs.1 = rSafeAssign { rs.2 with sp := none } rs.1 ∧
    Sim sampleIdna good.1 (safeAssign us.2 us.1).1 ∧
    bad.1.rep = good.1.rep ∧ bad.2 = good.2 ∧
    bad.1.sp = some { list := [(asciiStr "y", [])], isSorted := false } ∧
    good.1.sp = some { list := [(asciiStr "a", asciiStr "1"), (asciiStr "b", asciiStr "2"),
                                (asciiStr "c", asciiStr "d e")], isSorted := true } ∧
    ¬ Sim sampleIdna bad.1 (safeAssign us.2 us.1).1 ∧
    good.1.rep.map (·.search) = some (asciiStr "?a=1&b=2&c=d+e") := by
  simp only [← runRK_eq, ← runUK_eq]
  decide +kernel

#print axioms C05g_sim_def
#print axioms C05g_good_iff
#print axioms C05g_good_ok
#print axioms C05g_init
#print axioms C05g_step
#print axioms C05g_ops
#print axioms C05g_ops_params
#print axioms C05g_history
#print axioms C05g_history_from
#print axioms C05g_getters
#print axioms C05g_fresh_parse
#print axioms C05g_no_protocol
#print axioms C05g_file_exception
#print axioms C05g_invalid_inert
#print axioms C05g_invalid_update
#print axioms C05g_href_atomic
#print axioms C05g_needs_bytes
#print axioms C05g_bites_stale_params

end Upa.Props
