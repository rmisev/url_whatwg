import Upa.Proofs.Scheme
import Upa.Gen.Tables
import Upa.Proofs.Literal
/-
  C13b — the scheme lookup `url::get_scheme_info` (src/url.cpp:47-82) for ALL strings.

  `Upa/Props/C13.lean` (`C13_schemes_cppNN`) compares the regenerated lookup results with the model on
  the six table entries and 15 near misses.  Here the lookup ALGORITHM (length-indexed range
  `kLengthToSchemesInd[len] .. [len+1]`, linear scan, `traits::compare` on `len` characters) is modelled
  in the code's shape over the tables as parameters (`Impl.Scheme.getSchemeInfo`), and proved, under a
  DECIDABLE condition on the tables that `decide` checks for the concrete ones, to be the search by
  equality over the whole table — for every string of every length — without any out-of-range table
  access, and to agree with the literal comparisons the model uses (`Impl.schemeIndex`,
  `Impl.isSpecialScheme`, `Impl.isFileScheme`, `Impl.defaultPort`).
-/
namespace Upa.Props
open Upa Upa.Impl Upa.Impl.Scheme Upa.Proofs.Scheme

/-! ## the concrete tables satisfy the conditions -/

theorem C13_tables_ok : TablesOk schemeNames lengthToSchemesInd maxSchemeLength := by decide +kernel

theorem C13_info_ok : InfoOk schemeNames schemePorts schemeSpecial schemeFile := by decide +kernel

/-- the conditions are not idle: each of these one-place edits of the tables is rejected
    (entries swapped so that the table is not sorted by length; an index off by one; the index
    table one entry short; `max_scheme_length` too small; too large) -/
example : ¬ TablesOk [[119, 115, 115], [119, 115], [102, 116, 112], [104, 116, 116, 112],
    [102, 105, 108, 101], [104, 116, 116, 112, 115]] lengthToSchemesInd maxSchemeLength := by decide +kernel
example : ¬ TablesOk schemeNames [0, 0, 0, 1, 2, 5, 6] maxSchemeLength := by decide +kernel
example : ¬ TablesOk schemeNames [0, 0, 0, 1, 3, 5] maxSchemeLength := by decide +kernel
example : ¬ TablesOk schemeNames lengthToSchemesInd 4 := by decide +kernel
example : ¬ TablesOk schemeNames lengthToSchemesInd 6 := by decide +kernel
example : ¬ InfoOk schemeNames [80, 443, 21, 80, -1, 80] schemeSpecial schemeFile := by decide +kernel
example : ¬ InfoOk schemeNames schemePorts schemeSpecial [false, false, false, true, false, false] := by
  decide +kernel
example : ¬ InfoOk (schemeNames.take 5) (schemePorts.take 5) (schemeSpecial.take 5) (schemeFile.take 5) := by
  decide +kernel

/-! ## lookup = search by equality, for every string -/

/-- `get_scheme_info(s)` returns `&kSchemes[i]` for the first `i` with `kSchemes[i].scheme == s`, and
    `nullptr` when there is none — for every `s`, whatever its length and characters -/
theorem C13_scheme_lookup {names : List (List Nat)} {lenToInd : List Nat} {maxLen : Nat} :
    TablesOk names lenToInd maxLen →
    ∀ s, getSchemeInfo names lenToInd maxLen s = Res.ofOption (names.idxOf? s) :=
  fun h s => getSchemeInfo_eq h s

/-- no access outside `kLengthToSchemesInd`, `kSchemes` or the characters of an entry -/
theorem C13_scheme_lookup_in_range {names : List (List Nat)} {lenToInd : List Nat} {maxLen : Nat} :
    TablesOk names lenToInd maxLen →
    ∀ s, getSchemeInfo names lenToInd maxLen s ≠ Res.oob :=
  fun h s => getSchemeInfo_ne_oob h s

theorem C13_scheme_lookup_idx {names : List (List Nat)} {lenToInd : List Nat} {maxLen : Nat} :
    TablesOk names lenToInd maxLen →
    ∀ s, (getSchemeInfo names lenToInd maxLen s).toOption = names.idxOf? s := by
  intro h s
  rw [getSchemeInfo_eq h, toOption_ofOption]

/-- `TablesOk` implies what the comment at the table demands: sorted by length -/
theorem C13_tables_sorted {names : List (List Nat)} {lenToInd : List Nat} {maxLen : Nat} :
    TablesOk names lenToInd maxLen →
    ∀ i j, i < j → j < names.length → (names.getD i []).length ≤ (names.getD j []).length :=
  fun h i j hij hj => tables_sorted h i j hij hj

theorem C13_scheme_lookup_concrete (s : List Nat) :
    getSchemeInfo schemeNames lengthToSchemesInd maxSchemeLength s = Res.ofOption (schemeNames.idxOf? s) ∧
    getSchemeInfo schemeNames lengthToSchemesInd maxSchemeLength s ≠ Res.oob :=
  ⟨C13_scheme_lookup C13_tables_ok s, C13_scheme_lookup_in_range C13_tables_ok s⟩

/-- evaluated: found, not found (near misses: prefix, extension, other case, too long, empty) -/
example :
    getSchemeInfo schemeNames lengthToSchemesInd maxSchemeLength (asciiStr "file") = .at 4 ∧
    getSchemeInfo schemeNames lengthToSchemesInd maxSchemeLength (asciiStr "wss") = .at 1 ∧
    getSchemeInfo schemeNames lengthToSchemesInd maxSchemeLength (asciiStr "htt") = .null ∧
    getSchemeInfo schemeNames lengthToSchemesInd maxSchemeLength (asciiStr "httpss") = .null ∧
    getSchemeInfo schemeNames lengthToSchemesInd maxSchemeLength (asciiStr "HTTP") = .null ∧
    getSchemeInfo schemeNames lengthToSchemesInd maxSchemeLength (asciiStr "w") = .null ∧
    getSchemeInfo schemeNames lengthToSchemesInd maxSchemeLength [] = .null := by decide_ascii

/-- the hypothesis is needed, and the model shows what the C++ would do without it:
    * table not sorted by length ("wss" in the range of length 2): `compare(…, 2)` matches "ws" against
      the first two characters of "wss" and the WRONG entry is returned;
    * index table too short: out-of-range read of `kLengthToSchemesInd[len + 1]`;
    * range reaching past the end of `kSchemes`: out-of-range read of `kSchemes[ind]`. -/
example :
    getSchemeInfo [[119, 115, 115], [119, 115], [102, 116, 112], [104, 116, 116, 112],
      [102, 105, 108, 101], [104, 116, 116, 112, 115]] lengthToSchemesInd maxSchemeLength (asciiStr "ws") = .at 0 ∧
    getSchemeInfo schemeNames [0, 0, 0, 1, 3, 5] maxSchemeLength (asciiStr "httpx") = .oob ∧
    getSchemeInfo schemeNames [0, 0, 0, 1, 3, 5, 7] maxSchemeLength (asciiStr "httpx") = .oob := by
  decide_ascii

/-! ## the lookup is the model's scheme functions -/

/-- with tables that satisfy the two decidable conditions, the lookup is the model's: the index is
    `Impl.schemeIndex`, a non-null result means `Impl.isSpecialScheme`, and the `is_special`, `is_file`
    and `default_port` columns read through the result are `Impl.isSpecialScheme`,
    `Impl.isFileScheme`, `Impl.defaultPort` — for every string -/
theorem C13_scheme_model {names : List (List Nat)} {lenToInd : List Nat} {maxLen : Nat}
    {ports : List Int} {special file : List Bool} :
    TablesOk names lenToInd maxLen → InfoOk names ports special file →
    ∀ s,
      getSchemeInfo names lenToInd maxLen s = Res.ofOption (schemeIndex s) ∧
      (getSchemeInfo names lenToInd maxLen s).toOption.isSome = isSpecialScheme s ∧
      (getSchemeInfo names lenToInd maxLen s).flag special = isSpecialScheme s ∧
      (getSchemeInfo names lenToInd maxLen s).flag file = isFileScheme s ∧
      (getSchemeInfo names lenToInd maxLen s).port ports = defaultPort s := by
  intro ht hi s
  obtain ⟨h1, h2, h3, h4⟩ := bridge ht hi s
  refine ⟨h1, ?_, h2, h3, h4⟩
  rw [h1, toOption_ofOption, schemeIndex_isSome]

theorem C13_scheme_model_concrete (s : List Nat) :
    getSchemeInfo schemeNames lengthToSchemesInd maxSchemeLength s = Res.ofOption (schemeIndex s) ∧
    (getSchemeInfo schemeNames lengthToSchemesInd maxSchemeLength s).toOption.isSome = isSpecialScheme s ∧
    (getSchemeInfo schemeNames lengthToSchemesInd maxSchemeLength s).flag schemeSpecial = isSpecialScheme s ∧
    (getSchemeInfo schemeNames lengthToSchemesInd maxSchemeLength s).flag schemeFile = isFileScheme s ∧
    (getSchemeInfo schemeNames lengthToSchemesInd maxSchemeLength s).port schemePorts = defaultPort s :=
  C13_scheme_model C13_tables_ok C13_info_ok s

/-- evaluated: both sides computed independently -/
example :
    (getSchemeInfo schemeNames lengthToSchemesInd maxSchemeLength (asciiStr "https")).port schemePorts = some 443 ∧
    defaultPort (asciiStr "https") = some 443 ∧
    (getSchemeInfo schemeNames lengthToSchemesInd maxSchemeLength (asciiStr "file")).port schemePorts = none ∧
    defaultPort (asciiStr "file") = none ∧
    (getSchemeInfo schemeNames lengthToSchemesInd maxSchemeLength (asciiStr "file")).flag schemeFile = true ∧
    (getSchemeInfo schemeNames lengthToSchemesInd maxSchemeLength (asciiStr "file")).flag schemeSpecial = true ∧
    (getSchemeInfo schemeNames lengthToSchemesInd maxSchemeLength (asciiStr "ftps")).flag schemeSpecial = false ∧
    isSpecialScheme (asciiStr "ftps") = false := by decide_ascii

/-! ### the tables of the CURRENT tree (regenerated from src/url.cpp on every run, `Gen/Tables.lean`) -/

/-- the declared lengths of the `str_view` literals in `kSchemes` are the lengths of the texts -/
theorem C13_scheme_decl_lens_gen : Gen.schemeDeclLens = Gen.schemeNames.map List.length := by decide +kernel

theorem C13_tables_ok_gen : TablesOk Gen.schemeNames Gen.lengthToSchemesInd Gen.maxSchemeLength := by decide +kernel

theorem C13_info_ok_gen : InfoOk Gen.schemeNames Gen.schemePorts Gen.schemeSpecial Gen.schemeFile := by decide +kernel

/-- `url::get_scheme_info` with the tables of the current tree, for EVERY string: no table access out of range,
    the result is the entry whose text equals the string (none otherwise), and its columns are what the parser
    model uses (`Impl.isSpecialScheme`, `Impl.isFileScheme`, `Impl.defaultPort`) -/
theorem C13_scheme_model_gen (s : List Nat) :
    getSchemeInfo Gen.schemeNames Gen.lengthToSchemesInd Gen.maxSchemeLength s ≠ Res.oob ∧
    getSchemeInfo Gen.schemeNames Gen.lengthToSchemesInd Gen.maxSchemeLength s = Res.ofOption (Gen.schemeNames.idxOf? s) ∧
    getSchemeInfo Gen.schemeNames Gen.lengthToSchemesInd Gen.maxSchemeLength s = Res.ofOption (schemeIndex s) ∧
    (getSchemeInfo Gen.schemeNames Gen.lengthToSchemesInd Gen.maxSchemeLength s).flag Gen.schemeSpecial = isSpecialScheme s ∧
    (getSchemeInfo Gen.schemeNames Gen.lengthToSchemesInd Gen.maxSchemeLength s).flag Gen.schemeFile = isFileScheme s ∧
    (getSchemeInfo Gen.schemeNames Gen.lengthToSchemesInd Gen.maxSchemeLength s).port Gen.schemePorts = defaultPort s := by
  obtain ⟨a, _, c, d, e⟩ := C13_scheme_model C13_tables_ok_gen C13_info_ok_gen s
  exact ⟨C13_scheme_lookup_in_range C13_tables_ok_gen s, C13_scheme_lookup C13_tables_ok_gen s, a, c, d, e⟩

end Upa.Props

#print axioms Upa.Props.C13_tables_ok
#print axioms Upa.Props.C13_info_ok
#print axioms Upa.Props.C13_scheme_lookup
#print axioms Upa.Props.C13_scheme_lookup_in_range
#print axioms Upa.Props.C13_scheme_lookup_idx
#print axioms Upa.Props.C13_tables_sorted
#print axioms Upa.Props.C13_scheme_lookup_concrete
#print axioms Upa.Props.C13_scheme_model
#print axioms Upa.Props.C13_scheme_model_concrete
#print axioms Upa.Props.C13_scheme_decl_lens_gen
#print axioms Upa.Props.C13_tables_ok_gen
#print axioms Upa.Props.C13_info_ok_gen
#print axioms Upa.Props.C13_scheme_model_gen
