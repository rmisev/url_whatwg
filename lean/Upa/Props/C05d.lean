import Upa.Proofs.SetRepApiSim
import Upa.Props.C02b
/-
  C05d — the WHOLE setters of `upa::url` executed IN PLACE on the stored representation
  (`Impl.setRep`, Upa/Impl/SetRepApi.lean: the guards of url.h:1523-1666, then the state blocks of
  `url_parse` under a state override, every write through the `url_setter` operations of
  Upa/Impl/SetRep.lean, every decision read off the representation) agree with the record-level
  model of the setters (`Impl.setValid`, Upa/Impl/Api.lean, the one C03 ties to the Standard):

      RepFor r u  ⟹  RepFor (setRep … r).1 (setValid … u).1  ∧  (setRep … r).2 = (setValid … u).2

  for every setter but `href` (href parses a fresh object and move-assigns it: no in-place edit).
  `RepFor r u := r ≈ layout u ∧ r.wf` (C05b).  Composed with C05b_getters: after ANY history of setter
  calls every getter computed from the offsets of the edited representation is the getter of the
  record the Standard-conformant record-level setters produce.

  Hypotheses on the record (all decidable; `Proofs/SetRepOps.lean`, `Proofs/SetRepApi.lean`):
    RepOk u       RecWF u ∧ (null host, list path ⇒ path ≠ []) ∧ (opaque path ⇒ null host)      (C05b)
    file ⇒ host   `u.isFile → u.host.isSome`: needed by host / hostname only, and needed
                  (`C05d_setter_needs_file_host`); the C++ cannot reach a file URL with a null host
                  (`file_state` calls `set_empty_host()` first, url.h:2081-2085; the protocol setter
                  keeps specialness, url.h:1741-1744).  For histories the invariant is
                  `HostInv u := u.isSpecial → u.host.isSome` (kept by every setter).
    RecShape u    only for `Rep.toRecord`: the path field `hasOpaquePath` does not select is empty,
                  and no segment of a list path contains "/".
  No hypothesis on the IDNA parameter is needed: the host parser is the same function on both sides.
  (`Norm idna u` of C02 — true of every parsed URL under `IdnaStable` — implies all three.)
-/
namespace Upa.Props
open Upa Upa.Impl Upa.Proofs.C05 Upa.Proofs.SetRep Upa.Proofs.SetRepApi

/-- an IDNA stub for the evaluated examples (ASCII hosts take the fast path and never call it) -/
def c05dIdna : Idna := fun _ => none

/-! ## 1. one setter call -/

/-- Every setter but `href`, run in place on a representation of `u`, yields a representation of the
    record the record-level setter yields, and returns the same bool (also when it returns false
    after having written the host: `host = "h:99999"`). -/
theorem C05d_setter :
    ∀ (idna : Idna) (s : Setter) (e : Enc) (units : List Nat) (u : Url) (r : Rep),
      s ≠ .href → RepOk u → (u.isFile = true → u.host.isSome = true) → RepFor r u →
      RepFor (setRep idna s e units r).1 (setValid idna s e units u).1 ∧
      (setRep idna s e units r).2 = (setValid idna s e units u).2 :=
  fun idna s e units _ _ hs ok hfile h => sim_setter idna s e units hs ok (fun _ => hfile) h

/-- the hypothesis `file ⇒ host` is used by `host` and `hostname` only -/
theorem C05d_setter_no_host :
    ∀ (idna : Idna) (s : Setter) (e : Enc) (units : List Nat) (u : Url) (r : Rep),
      s ≠ .href → s ≠ .host → s ≠ .hostname → RepOk u → RepFor r u →
      RepFor (setRep idna s e units r).1 (setValid idna s e units u).1 ∧
      (setRep idna s e units r).2 = (setValid idna s e units u).2 :=
  fun idna s e units _ _ hs h1 h2 ok h =>
    sim_setter idna s e units hs ok (fun hc => by rcases hc with hc | hc <;> contradiction) h

-- hypotheses satisfiable, and one evaluated instance per setter on
-- https://user:pw@example.org:8080/a/b?q=1#frag
example : RepOk c05Full ∧ HostInv c05Full ∧ RepFor (layout c05Full) c05Full := by unfold c05Full; decide_ascii
example :
    let run := fun (s : Setter) (v : String) => setRep c05dIdna s .u8 (asciiStr v) (layout c05Full)
    (run .protocol "HTTP:").1.norm = asciiStr "http://user:pw@example.org:8080/a/b?q=1#frag" ∧
    (run .protocol "HTTP:").1.schemeIdx = some 3 ∧
    (run .username "a b").1.norm = asciiStr "https://a%20b:pw@example.org:8080/a/b?q=1#frag" ∧
    (run .password "").1.norm = asciiStr "https://user@example.org:8080/a/b?q=1#frag" ∧
    (run .host "X.y:443").1.norm = asciiStr "https://user:pw@x.y/a/b?q=1#frag" ∧
    (run .host "X.y:443").1.partEnd = [5, 8, 12, 15, 16, 19, 19, 19, 23, 27, 32] ∧
    run .hostname "x:8" = (layout c05Full, false) ∧
    (run .host "x:99999").1.norm = asciiStr "https://user:pw@x:8080/a/b?q=1#frag" ∧
    (run .host "x:99999").2 = false ∧
    (run .port "\t0\n0099").1.norm = asciiStr "https://user:pw@example.org:99/a/b?q=1#frag" ∧
    (run .port "").1.norm = asciiStr "https://user:pw@example.org/a/b?q=1#frag" ∧
    (run .pathname "/../c d/./e/%2E%2e").1.norm = asciiStr "https://user:pw@example.org:8080/c%20d/?q=1#frag" ∧
    (run .pathname "/../c d/./e/%2E%2e").1.segCount = 2 ∧
    (run .search "?k=v w'").1.norm = asciiStr "https://user:pw@example.org:8080/a/b?k=v%20w%27#frag" ∧
    (run .hash "").1.norm = asciiStr "https://user:pw@example.org:8080/a/b?q=1" ∧
    (run .hash "").1.partEnd = [5, 8, 12, 15, 16, 27, 32, 32, 36, 40, 40] := by
  unfold c05Full; decide_ascii
-- an instance of the theorem, both sides evaluated
example :
    let x := setRep c05dIdna .host .u8 (asciiStr "X.y:443") (layout c05Full)
    let y := setValid c05dIdna .host .u8 (asciiStr "X.y:443") c05Full
    y.1 = { c05Full with host := some ⟨.domain, asciiStr "x.y"⟩, port := none } ∧ y.2 = true ∧
    x.2 = true ∧ x.1.equiv (layout y.1) ∧ x.1.wf := by unfold c05Full; decide_ascii

/-- `file ⇒ host` is needed: on the record {file, null host, path ["", "x"]} (`file:/.//x`, which no
    parse and no setter history produces) the host setter with "" runs `set_empty_host()`, which does
    not remove the "/." prefix (`hostDone` would); the record-level result is `file:////x` -/
theorem C05d_setter_needs_file_host :
    let u : Url := { scheme := sFile, host := none, path := [[], asciiStr "x"] }
    RepOk u ∧ ¬ HostInv u ∧ (layout u).norm = asciiStr "file:/.//x" ∧
    (setRep c05dIdna .host .u8 [] (layout u)).1.norm = asciiStr "file:///.//x" ∧
    (layout (setValid c05dIdna .host .u8 [] u).1).norm = asciiStr "file:////x" ∧
    ¬ RepFor (setRep c05dIdna .host .u8 [] (layout u)).1 (setValid c05dIdna .host .u8 [] u).1 := by
  decide_ascii

/-! ## 2. the invariants are kept -/

/-- `RepOk` is kept by every setter but `href` (also when the setter returns false), without any
    side condition; so is `HostInv`; so is `RecShape` -/
theorem C05d_repok_preserved :
    ∀ (idna : Idna) (s : Setter) (e : Enc) (units : List Nat) (u : Url), s ≠ .href →
      (RepOk u → RepOk (setValid idna s e units u).1) ∧
      (HostInv u → HostInv (setValid idna s e units u).1) ∧
      (RecShape u → RecShape (setValid idna s e units u).1) :=
  fun idna s e units u hs =>
    ⟨fun ok => repOk_setter idna s e units hs ok,
     fun hi => (hstep_setter idna s e units u hs).keeps hi,
     fun sh => recShape_setter idna s e units hs sh⟩

/-- `NormX` of C02b (what EVERY operation keeps) implies the hypotheses of the representation theorems: `RepOk`,
    `HostInv`, `RecShape` and "file ⇒ no port" (`C05e_parse_base`; the conjunction is `ParseRep.BaseOk`) -/
theorem normx_ok {idna : Idna} {u : Url} (h : NormX idna u) :
    RepOk u ∧ HostInv u ∧ RecShape u ∧ (u.isFile = true → u.port = none) := by
  -- of `NormX`: `h1` the scheme, `h2` / `h3` the two path kinds, `h4` special ⇒ host and path, `h6` file or empty
  -- host ⇒ no credentials and no port, `h7` non-special, no host, list path ⇒ path not empty, `h12` the segments
  obtain ⟨h1, h2, h3, h4, _, h6, h7, _, _, _, _, h12, _⟩ := h
  have hs : u.scheme ≠ [] := by
    intro hc; rw [hc] at h1; simp [Proofs.C02.schemeOk] at h1
  have hsp : HostInv u := fun hsp => by
    have := (h4 hsp).1
    cases hh : u.host with
    | none => exact absurd hh this
    | some x => rfl
  refine ⟨⟨⟨hs, fun hn => h6 (Or.inr (by simp [Url.hostText, hn]))⟩, fun hn ho => ?_, fun ho => (h2 ho).1⟩,
    hsp, ⟨fun ho => (h2 ho).2.1, fun ho => ⟨h3 ho, fun seg hseg c hc => ?_⟩⟩, fun hf => (h6 (Or.inl hf)).2.2⟩
  · cases hsp' : u.isSpecial with
    | true => exact (h4 hsp').2
    | false => exact h7 hsp' hn ho
  · have := h12 seg hseg
    simp only [Proofs.C02.segOk, Bool.and_eq_true, List.all_eq_true] at this
    have := this.1.1 c hc
    simp only [Proofs.C02.segCharOk, Bool.and_eq_true, bne_iff_ne, ne_eq] at this
    exact this.1.2

/-- the normal form of C02 (every parsed URL, under `IdnaStable`) implies all three -/
theorem C05d_norm_ok : ∀ (idna : Idna) (u : Url), Norm idna u → RepOk u ∧ HostInv u ∧ RecShape u :=
  fun idna u h =>
    have ⟨a, b, c, _⟩ := normx_ok ((C02_norm_iff_normx idna u).1 h).1
    ⟨a, b, c⟩

/-- in particular every URL the parser returns, and so the `href` setter keeps the invariants too -/
theorem C05d_repok_href :
    ∀ (idna : Idna), Proofs.C02b.IdnaStable idna → ∀ (e : Enc) (units : List Nat) (u : Url),
      RepOk u ∧ HostInv u ∧ RecShape u →
      RepOk (setValid idna .href e units u).1 ∧ HostInv (setValid idna .href e units u).1 ∧
        RecShape (setValid idna .href e units u).1 := by
  intro idna hi e units u h
  unfold setValid
  simp only
  cases hp : parse idna e units none with
  | none => exact h
  | some u' => exact C05d_norm_ok idna u' (C02_parse_norm idna hi e units none u' (Or.inl rfl) hp)

example : RepOk (setValid c05dIdna .pathname .u8 [] c05Prefix).1 ∧
    (setValid c05dIdna .pathname .u8 [] c05Prefix).1 = { c05Prefix with path := [[]] } := by unfold c05Prefix; decide_ascii

/-! ## 3. the record a representation stands for -/

/-- `Rep.toRecord` inverts `layout`, on every representation (zeros for never-started trailing
    parts included) of a record of the shape the parser and the setters produce -/
theorem C05d_toRecord : ∀ (u : Url) (r : Rep), RecWF u → RecShape u → RepFor r u → r.toRecord = u :=
  fun _ _ wf sh h => toRecord_of_repFor wf sh h

theorem C05d_toRecord_layout : ∀ u : Url, RecWF u → RecShape u → (layout u).toRecord = u :=
  fun u wf sh => toRecord_layout u wf sh

example : RecShape c05Full ∧ RecShape c05Prefix ∧ RecShape c05Opaque ∧ RecShape c05bMail := by unfold c05Full c05Prefix c05Opaque c05bMail; decide_ascii
example : (layout c05Full).toRecord = c05Full ∧ c05PrefixRep.toRecord = c05Prefix ∧
    c05bHostOnlyRep.toRecord = c05bHostOnly ∧ (layout c05Opaque).toRecord = c05Opaque := by unfold c05PrefixRep c05bHostOnlyRep c05Full c05Prefix c05Opaque c05bHostOnly; decide_ascii

/-- `RecShape` is needed: a "/" inside a segment is read back as a segment boundary, and the path
    field not selected by `hasOpaquePath` is not stored at all -/
theorem C05d_toRecord_needs_shape :
    let u : Url := { scheme := asciiStr "a", host := some ⟨.opaque, asciiStr "h"⟩, path := [asciiStr "x/y"] }
    let v : Url := { c05Opaque with path := [asciiStr "p"] }
    RepOk u ∧ ¬ RecShape u ∧ (layout u).toRecord = { u with path := [asciiStr "x", asciiStr "y"] } ∧
    RepOk v ∧ ¬ RecShape v ∧ (layout v).toRecord = c05Opaque := by unfold c05Opaque; decide_ascii

/-! ## 4. histories -/

/-- one call: (setter, encoding, code units) -/
abbrev Call := Setter × Enc × List Nat

/-- a history run in place on the representation; the returned bools are collected -/
def runRep (idna : Idna) (calls : List Call) (r : Rep) : Rep × List Bool :=
  calls.foldl (fun acc c => let x := setRep idna c.1 c.2.1 c.2.2 acc.1; (x.1, acc.2 ++ [x.2])) (r, [])

/-- the same history on the record -/
def runRec (idna : Idna) (calls : List Call) (u : Url) : Url × List Bool :=
  calls.foldl (fun acc c => let x := setValid idna c.1 c.2.1 c.2.2 acc.1; (x.1, acc.2 ++ [x.2])) (u, [])

theorem foldl_collect_cons {α : Type} (g : α → Call → α × Bool) (c : Call) (cs : List Call) (a : α) :
    (c :: cs).foldl (fun acc c => let x := g acc.1 c; (x.1, acc.2 ++ [x.2])) (a, []) =
      (let t := cs.foldl (fun acc c => let x := g acc.1 c; (x.1, acc.2 ++ [x.2])) ((g a c).1, [])
       (t.1, (g a c).2 :: t.2)) := by
  suffices ∀ (cs : List Call) (a : α) (l : List Bool),
      cs.foldl (fun acc c => let x := g acc.1 c; (x.1, acc.2 ++ [x.2])) (a, l) =
        (let t := cs.foldl (fun acc c => let x := g acc.1 c; (x.1, acc.2 ++ [x.2])) (a, [])
         (t.1, l ++ t.2)) from this cs _ _
  intro cs
  induction cs with
  | nil => intro a l; simp
  | cons d ds ih =>
    intro a l
    simp only [List.foldl_cons, List.nil_append]
    rw [ih _ (l ++ _), ih _ [_]]
    simp

theorem runRep_cons (idna : Idna) (c : Call) (cs : List Call) (r : Rep) :
    runRep idna (c :: cs) r =
      ((runRep idna cs (setRep idna c.1 c.2.1 c.2.2 r).1).1,
        (setRep idna c.1 c.2.1 c.2.2 r).2 :: (runRep idna cs (setRep idna c.1 c.2.1 c.2.2 r).1).2) :=
  foldl_collect_cons (fun r c => setRep idna c.1 c.2.1 c.2.2 r) c cs r

theorem runRec_cons (idna : Idna) (c : Call) (cs : List Call) (u : Url) :
    runRec idna (c :: cs) u =
      ((runRec idna cs (setValid idna c.1 c.2.1 c.2.2 u).1).1,
        (setValid idna c.1 c.2.1 c.2.2 u).2 :: (runRec idna cs (setValid idna c.1 c.2.1 c.2.2 u).1).2) :=
  foldl_collect_cons (fun u c => setValid idna c.1 c.2.1 c.2.2 u) c cs u

theorem runRec_fst (idna : Idna) (calls : List Call) (u : Url) :
    (runRec idna calls u).1 = applySetters idna u calls := by
  induction calls generalizing u with
  | nil => rfl
  | cons c cs ih => rw [runRec_cons]; exact ih _

/-- Any history of setter calls (no `href`), run in place from any representation `r₀` of a record
    `u₀`, ends in a representation of the record the record-level setters end in, with the same
    sequence of returned bools; and the invariants hold again at the end. -/
theorem C05d_history :
    ∀ (idna : Idna) (calls : List Call) (u₀ : Url) (r₀ : Rep),
      (∀ c ∈ calls, c.1 ≠ .href) → RepOk u₀ → HostInv u₀ → RepFor r₀ u₀ →
      RepFor (runRep idna calls r₀).1 (runRec idna calls u₀).1 ∧
      (runRep idna calls r₀).2 = (runRec idna calls u₀).2 ∧
      RepOk (runRec idna calls u₀).1 ∧ HostInv (runRec idna calls u₀).1 := by
  intro idna calls
  induction calls with
  | nil => intro u r _ ok hi h; exact ⟨h, rfl, ok, hi⟩
  | cons c cs ih =>
    intro u r hc ok hi h
    have hs : c.1 ≠ .href := hc c List.mem_cons_self
    obtain ⟨k1, k2⟩ := C05d_setter idna c.1 c.2.1 c.2.2 u r hs ok hi.file h
    obtain ⟨p1, p2, _⟩ := C05d_repok_preserved idna c.1 c.2.1 c.2.2 u hs
    rw [runRep_cons, runRec_cons, k2]
    obtain ⟨a, b, c', d⟩ := ih _ _ (fun d hd => hc d (List.mem_cons_of_mem _ hd)) (p1 ok) (p2 hi) k1
    exact ⟨a, by rw [b], c', d⟩

/-- from the from-scratch layout of the start record (what `url::parse` leaves, up to `≈`) -/
theorem C05d_history_layout :
    ∀ (idna : Idna) (calls : List Call) (u₀ : Url),
      (∀ c ∈ calls, c.1 ≠ .href) → RepOk u₀ → HostInv u₀ →
      RepFor (runRep idna calls (layout u₀)).1 (applySetters idna u₀ calls) ∧
      (runRep idna calls (layout u₀)).2 = (runRec idna calls u₀).2 := by
  intro idna calls u₀ hc ok hi
  obtain ⟨k1, k2, _⟩ := C05d_history idna calls u₀ (layout u₀) hc ok hi (C05b_layout u₀ ok.1)
  rw [runRec_fst] at k1
  exact ⟨k1, k2⟩

theorem recShape_applySetters (idna : Idna) (calls : List Call) (u₀ : Url)
    (hc : ∀ c ∈ calls, c.1 ≠ .href) (sh : RecShape u₀) : RecShape (applySetters idna u₀ calls) := by
  unfold applySetters
  induction calls generalizing u₀ with
  | nil => exact sh
  | cons c cs ih =>
    exact ih _ (fun d hd => hc d (List.mem_cons_of_mem _ hd))
      ((C05d_repok_preserved idna c.1 c.2.1 c.2.2 u₀ (hc c List.mem_cons_self)).2.2 sh)

/-- After any such history every getter computed from the offsets of the edited representation is
    the record-level getter of the record-level result (the one C03 ties to the Standard's setters);
    and `toRecord` reads that record back (for start records of the parser's shape). -/
theorem C05d_history_getters :
    ∀ (idna : Idna) (calls : List Call) (u₀ : Url) (r₀ : Rep),
      (∀ c ∈ calls, c.1 ≠ .href) → RepOk u₀ → HostInv u₀ → RepFor r₀ u₀ →
      let r := (runRep idna calls r₀).1
      let u := applySetters idna u₀ calls
      r.href = serialize u ∧ r.protocol = getProtocol u ∧ r.username = u.username ∧
      r.password = u.password ∧ r.host = getHost u ∧ r.hostname = getHostname u ∧
      r.port = getPort u ∧ r.pathname = pathText u ∧ r.path = getPath u ∧
      r.search = getSearch u ∧ r.hash = getHash u ∧
      r.serializeNoFragment = serialize u true ∧
      (RecShape u₀ → r.toRecord = u) := by
  intro idna calls u₀ r₀ hc ok hi h
  obtain ⟨k1, _, k3, _⟩ := C05d_history idna calls u₀ r₀ hc ok hi h
  rw [runRec_fst] at k1 k3
  obtain ⟨g1, g2, g3, g4, g5, g6, g7, g8, g9, g10, g11, g12⟩ := C05b_getters _ _ k3.1 k1
  exact ⟨g1, g2, g3, g4, g5, g6, g7, g8, g9, g10, g11, g12,
    fun sh => C05d_toRecord _ _ k3.1 (recShape_applySetters idna calls u₀ hc sh) k1⟩

/-- in particular from every URL the parser returns without a base (its from-scratch layout is what `url::parse`
    leaves, up to `≈`): no hypothesis on the record is left, only `IdnaStable` of C02 on the IDNA
    parameter (through `C02_parse_norm`) -/
theorem C05d_history_parsed :
    ∀ (idna : Idna), Proofs.C02b.IdnaStable idna → ∀ (e₀ : Enc) (units₀ : List Nat) (u₀ : Url),
      parse idna e₀ units₀ none = some u₀ →
      ∀ calls : List Call, (∀ c ∈ calls, c.1 ≠ .href) →
      RepFor (runRep idna calls (layout u₀)).1 (applySetters idna u₀ calls) ∧
      (runRep idna calls (layout u₀)).2 = (runRec idna calls u₀).2 ∧
      (runRep idna calls (layout u₀)).1.toRecord = applySetters idna u₀ calls ∧
      (runRep idna calls (layout u₀)).1.href = serialize (applySetters idna u₀ calls) := by
  intro idna hi e₀ units₀ u₀ hp calls hc
  obtain ⟨ok, hinv, sh⟩ := C05d_norm_ok idna u₀ (C02_parse_norm idna hi e₀ units₀ none u₀ (Or.inl rfl) hp)
  obtain ⟨k1, k2⟩ := C05d_history_layout idna calls u₀ hc ok hinv
  have g := C05d_history_getters idna calls u₀ (layout u₀) hc ok hinv (C05b_layout u₀ ok.1)
  exact ⟨k1, k2, g.2.2.2.2.2.2.2.2.2.2.2.2 sh, g.1⟩

example : parse c05dIdna .u8 (asciiStr " HTTPS://user:pw@EXAMPLE.org:8080/x/../a/b?q=1#frag") none = some c05Full := by
  unfold c05Full; decide_ascii

/-- protocol "http", host "X.y:80" (default port: removed), pathname "/../c d/./e/..", search "?k=v w",
    hash "", username "", password "" ("@" dropped), port "0099", hostname "a:1" (refused) -/
def c05dCalls : List Call :=
  [(.protocol, .u8, asciiStr "http"), (.host, .u8, asciiStr "X.y:80"),
   (.pathname, .u8, asciiStr "/../c d/./e/.."), (.search, .u8, asciiStr "?k=v w"), (.hash, .u8, []),
   (.username, .u8, []), (.password, .u8, []), (.port, .u8, asciiStr "0099"),
   (.hostname, .u8, asciiStr "a:1")]

example : ∀ c ∈ c05dCalls, c.1 ≠ .href := by unfold c05dCalls; decide_ascii
example :
    (runRep c05dIdna c05dCalls (layout c05Full)).1.norm = asciiStr "http://x.y:99/c%20d/?k=v%20w" ∧
    (runRep c05dIdna c05dCalls (layout c05Full)).1.partEnd = [4, 7, 7, 7, 7, 10, 13, 13, 20, 28, 28] ∧
    (runRep c05dIdna c05dCalls (layout c05Full)).2 = [true, true, true, true, true, true, true, true, false] ∧
    (runRec c05dIdna c05dCalls c05Full).2 = [true, true, true, true, true, true, true, true, false] ∧
    (runRep c05dIdna c05dCalls (layout c05Full)).1.toRecord = applySetters c05dIdna c05Full c05dCalls ∧
    applySetters c05dIdna c05Full c05dCalls =
      { scheme := asciiStr "http", host := some ⟨.domain, asciiStr "x.y"⟩, port := some 99,
        path := [asciiStr "c%20d", []], query := some (asciiStr "k=v%20w") } := by unfold c05dCalls c05Full; decide_ascii
-- from a representation with never-started trailing parts (`s://h` as `url::parse` leaves it)
example :
    let calls : List Call := [(.port, .u8, asciiStr "8"), (.hash, .u8, asciiStr "#f"), (.port, .u8, [])]
    (runRep c05dIdna calls c05bHostOnlyRep).1.norm = asciiStr "s://h#f" ∧
    (runRep c05dIdna calls c05bHostOnlyRep).1.partEnd = [1, 4, 4, 4, 4, 5, 5, 5, 5, 5, 7] ∧
    RepFor (runRep c05dIdna calls c05bHostOnlyRep).1 (applySetters c05dIdna c05bHostOnly calls) := by
  unfold c05bHostOnlyRep c05bHostOnly; decide_ascii

/-! ## 5. non-vacuity: the model bites -/

/-- the port setter WITHOUT `clear_part(PORT)` for the default port (url.h:2064-2067 dropped: the
    digits are always written) -/
def portSetterNoClear (e : Enc) (units : List Nat) (r : Rep) : Rep × Bool :=
  if r.canHaveUsernamePasswordPort then
    if units = [] then (clearPart r PORT, true)
    else
      let digits := (prep e units).takeWhile isDigit
      if digits ≠ [] then
        let d := stripLeadingZeros digits
        if d.length > 5 then (r, false)
        else if decimalValue d > 0xFFFF then (r, false)
        else (writePartFlag r PORT d, true)
      else (r, true)
  else (r, false)

/-- … agrees with the real one on "8081", but on "443" (the default port of https) it leaves
    `:443` in the string: not a representation of the record-level result -/
theorem C05d_bites_port_no_clear :
    portSetterNoClear .u8 (asciiStr "8081") (layout c05Full) =
      setRep c05dIdna .port .u8 (asciiStr "8081") (layout c05Full) ∧
    (setRep c05dIdna .port .u8 (asciiStr "443") (layout c05Full)).1.equiv
      (layout (setValid c05dIdna .port .u8 (asciiStr "443") c05Full).1) ∧
    (portSetterNoClear .u8 (asciiStr "443") (layout c05Full)).1.norm =
      asciiStr "https://user:pw@example.org:443/a/b?q=1#frag" ∧
    ¬ (portSetterNoClear .u8 (asciiStr "443") (layout c05Full)).1.equiv
      (layout (setValid c05dIdna .port .u8 (asciiStr "443") c05Full).1) := by unfold c05Full; decide_ascii

/-- the pathname setter WITHOUT `append_empty_path_segment()` at EOF with a null host
    (url.h:2246-2247 dropped) -/
def pathnameSetterNoAppend (e : Enc) (units : List Nat) (r : Rep) : Rep × Bool :=
  if !r.opaquePath then
    match prep e units with
    | [] => (commitPathBuf r {}, true)
    | p => pathStartStateRep r p
  else (r, false)

/-- … agrees with the real one on "/y", but on "" it turns `a:/.//x` into `a:` (which re-parses with
    an opaque path) where the record-level result is `a:/` -/
theorem C05d_bites_pathname_no_append :
    pathnameSetterNoAppend .u8 (asciiStr "/y") c05PrefixRep =
      setRep c05dIdna .pathname .u8 (asciiStr "/y") c05PrefixRep ∧
    (setRep c05dIdna .pathname .u8 [] c05PrefixRep).1.norm = asciiStr "a:/" ∧
    (setRep c05dIdna .pathname .u8 [] c05PrefixRep).1.equiv
      (layout (setValid c05dIdna .pathname .u8 [] c05Prefix).1) ∧
    (pathnameSetterNoAppend .u8 [] c05PrefixRep).1.norm = asciiStr "a:" ∧
    ¬ (pathnameSetterNoAppend .u8 [] c05PrefixRep).1.equiv
      (layout (setValid c05dIdna .pathname .u8 [] c05Prefix).1) := by unfold c05PrefixRep c05Prefix; decide_ascii

/-- the protocol setter WITHOUT the default-port reset (url.h:1758-1762 dropped) -/
theorem C05d_bites_protocol_no_port_reset :
    let u : Url := { c05Full with port := some 80 }
    let good := setRep c05dIdna .protocol .u8 (asciiStr "http") (layout u)
    let bad := saveScheme (layout u) (asciiStr "http")
    good.1.norm = asciiStr "http://user:pw@example.org/a/b?q=1#frag" ∧
    good.1.equiv (layout (setValid c05dIdna .protocol .u8 (asciiStr "http") u).1) ∧
    bad.norm = asciiStr "http://user:pw@example.org:80/a/b?q=1#frag" ∧
    ¬ bad.equiv (layout (setValid c05dIdna .protocol .u8 (asciiStr "http") u).1) := by unfold c05Full; decide_ascii

#print axioms C05d_setter
#print axioms C05d_setter_no_host
#print axioms C05d_setter_needs_file_host
#print axioms C05d_repok_preserved
#print axioms C05d_norm_ok
#print axioms C05d_repok_href
#print axioms C05d_toRecord
#print axioms C05d_toRecord_layout
#print axioms C05d_toRecord_needs_shape
#print axioms C05d_history
#print axioms C05d_history_layout
#print axioms C05d_history_getters
#print axioms C05d_history_parsed
#print axioms C05d_bites_port_no_clear
#print axioms C05d_bites_pathname_no_append
#print axioms C05d_bites_protocol_no_port_reset

end Upa.Props
