import Upa.Props.C05e
import Upa.Spec.Serializer
import Upa.Props.C01b
import Upa.Proofs.Literal
/-
  C01 — the observable values.  `C01_parse_conforms` gives equality of the URL RECORD with the
  Standard's parser; this file closes the step from the record to what the property names: href,
  origin, protocol, username, password, host, hostname, port, pathname, search, hash as the library's
  getters compute them (`Impl/Api.lean`, mirrors of the C++ getters over the record; over the stored
  representation by C05) equal the Standard's URL serializer (§4.5), origin (§4.7 + HTML's
  serialization of an origin) and the getter steps of the URL class (§6.1), transcribed separately in
  `Spec/Serializer.lean`.  The lemmas are here too: no module under `Upa/Proofs` relates `Impl/Api` to
  `Spec/Serializer`.
-/
namespace Upa.Props
open Upa

private theorem foldl_path (p : List (List Nat)) (acc : List Nat) :
    p.foldl (fun out seg => out ++ 0x2F :: seg) acc = acc ++ p.flatMap (fun seg => 0x2F :: seg) := by
  induction p generalizing acc with
  | nil => simp
  | cons s r ih => simp [List.foldl_cons, ih, List.flatMap_cons, List.append_assoc]

theorem C01_pathname (u : Url) : Impl.pathText u = Spec.getPathname u := by
  unfold Impl.pathText Spec.getPathname Spec.urlPathSerialize
  split
  · rfl
  · rw [foldl_path]; simp

/-- a conditional step "append `x` to output" appends a piece that may be empty -/
private theorem ite_append {α} (c : Prop) [Decidable c] (o x : List α) :
    (if c then o ++ x else o) = o ++ if c then x else [] := by
  split
  · rfl
  · exact (List.append_nil o).symm

theorem needsPathPrefix_iff (u : Url) : Impl.needsPathPrefix u = true ↔
    (u.host.isNone ∧ ¬ u.hasOpaquePath ∧ u.path.length > 1 ∧ u.path.head? = some []) := by
  simp only [Impl.needsPathPrefix, Bool.and_eq_true, Bool.not_eq_true', decide_eq_true_eq, beq_iff_eq,
    Bool.not_eq_true, and_assoc]

/-- the library's serializer is the Standard's URL serializer, with and without fragment -/
theorem C01_href (u : Url) (ex : Bool) : Impl.serialize u ex = Spec.urlSerialize u ex := by
  -- the Standard threads `output` through its steps; name the value after each step (`o5`: after 2.2,
  -- `o6`: after 2, `o7`: after 3, …) and show that each step appends the piece the code concatenates
  unfold Spec.urlSerialize
  extract_lets o1 o2 o3 o4 o5 o6 o7 o8 o9 o10
  have h5 : o5 = o2 ++ if u.hasCredentials then
      u.username ++ (if u.password ≠ [] then 0x3A :: u.password else []) ++ [0x40] else [] := by
    rw [← ite_append (u.hasCredentials = true), ← List.append_assoc, ← List.append_assoc, ← ite_append]
    rfl
  have h7 : o7 = o6 ++ if Impl.needsPathPrefix u then [0x2F, 0x2E] else [] := by
    simp only [needsPathPrefix_iff]; exact ite_append ..
  have h8 : o8 = o7 ++ Impl.pathText u := congrArg (o7 ++ ·) (C01_pathname u).symm
  have h9 : o9 = o8 ++ match u.query with | some q => 0x3F :: q | none => [] := by
    simp only [o9]
    cases u.query with
    | none => exact (List.append_nil o8).symm
    | some q => rfl
  have h10 : o10 = o9 ++ if ex then [] else match u.fragment with | some f => 0x23 :: f | none => [] := by
    simp only [o10]
    cases ex with
    | true => exact (List.append_nil o9).symm
    | false =>
      cases u.fragment with
      | none => exact (List.append_nil o9).symm
      | some q => rfl
  unfold Impl.serialize
  rw [h10, h9, h8, h7]
  -- the last four pieces are the same on both sides; what is left is step 2 (host, credentials, port)
  congr 4
  simp only [o6, h5, o2, o1]
  cases u.host with
  | none => exact List.append_nil _
  | some h => cases u.port <;> simp only [List.append_assoc, List.append_nil]

theorem C01_getters (u : Url) :
    Impl.serialize u = Spec.getHref u ∧ Impl.getProtocol u = Spec.getProtocol u ∧
    Impl.getHost u = Spec.getHost u ∧ Impl.getHostname u = Spec.getHostname u ∧ Impl.getPort u = Spec.getPort u ∧
    Impl.pathText u = Spec.getPathname u ∧ Impl.getSearch u = Spec.getSearch u ∧ Impl.getHash u = Spec.getHash u := by
  refine ⟨C01_href u false, rfl, ?_, ?_, ?_, C01_pathname u, ?_, ?_⟩
  · unfold Impl.getHost Spec.getHost; cases u.host <;> cases u.port <;> simp
  · unfold Impl.getHostname Spec.getHostname Url.hostText; cases u.host <;> rfl
  · unfold Impl.getPort Spec.getPort; cases u.port <;> rfl
  · unfold Impl.getSearch Spec.getSearch
    cases u.query with
    | none => rfl
    | some q => cases q <;> simp
  · unfold Impl.getHash Spec.getHash
    cases u.fragment with
    | none => rfl
    | some q => cases q <;> simp

private theorem five_schemes (s : List Nat) :
    (s = asciiStr "ftp" ∨ s = asciiStr "http" ∨ s = asciiStr "https" ∨ s = asciiStr "ws" ∨ s = asciiStr "wss") ↔
    (Impl.isSpecialScheme s = true ∧ Impl.isFileScheme s = false) := by
  unfold Impl.isSpecialScheme Impl.isFileScheme
  simp only [Bool.or_eq_true, beq_iff_eq, beq_eq_false_iff_ne, Impl.sWs, Impl.sWss, Impl.sFtp, Impl.sHttp,
    Impl.sFile, Impl.sHttps]
  constructor
  · intro h
    refine ⟨?_, fun hf => ?_⟩
    · rcases h with h | h | h | h | h
      · exact .inl (.inl (.inl (.inr h)))
      · exact .inl (.inl (.inr h))
      · exact .inr h
      · exact .inl (.inl (.inl (.inl (.inl h))))
      · exact .inl (.inl (.inl (.inl (.inr h))))
    · -- "file" is none of the five
      rw [hf] at h
      revert h
      decide_ascii
  · intro ⟨h, hf⟩
    rcases h with ((((h | h) | h) | h) | h) | h
    · exact .inr (.inr (.inr (.inl h)))
    · exact .inr (.inr (.inr (.inr h)))
    · exact .inl h
    · exact .inr (.inl h)
    · exact absurd h hf
    · exact .inr (.inr (.inl h))

/-- origin of a URL whose scheme is not "blob": the library's two-way test (special and not file) is the
    Standard's list of five schemes -/
theorem C01_origin_nonblob (u : Url) (hw : u.host = none → u.port = none) :
    (if u.isSpecial then (if u.isFile then Impl.sNull else u.scheme ++ [0x3A, 0x2F, 0x2F] ++ Impl.getHost u) else Impl.sNull) =
    Spec.originSerialize (Spec.originNonBlob u) := by
  unfold Spec.originNonBlob
  by_cases hc : (u.scheme = asciiStr "ftp" ∨ u.scheme = asciiStr "http" ∨ u.scheme = asciiStr "https" ∨ u.scheme = asciiStr "ws" ∨ u.scheme = asciiStr "wss")
  · obtain ⟨a, b⟩ := (five_schemes u.scheme).mp hc
    rw [if_pos hc, Url.isSpecial, Url.isFile, a, b, if_pos rfl, if_neg Bool.false_ne_true]
    unfold Spec.originSerialize Impl.getHost
    cases hh : u.host with
    | none => rw [hw hh]; exact (List.append_nil _).symm
    | some x => exact (List.append_assoc ..).symm
  · rw [if_neg hc]
    split
    · split
      · rfl
      · next a b => exact absurd ((five_schemes _).mpr ⟨a, Bool.eq_false_iff.mpr b⟩) hc
    · rfl

/-- step 4 of §4.7 for the URL `pu` parsed from a blob URL's path: the library lists "http" and "https"
    and answers "null" otherwise; the Standard also sends "file" to the origin of `pu`, which is opaque -/
private theorem origin_of_blob_path (pu : Url) (hw : pu.host = none → pu.port = none) :
    (if pu.scheme = Impl.sHttp ∨ pu.scheme = Impl.sHttps then pu.scheme ++ [0x3A, 0x2F, 0x2F] ++ Impl.getHost pu
      else Impl.sNull) =
    Spec.originSerialize
      (if pu.scheme = asciiStr "http" ∨ pu.scheme = asciiStr "https" ∨ pu.scheme = asciiStr "file" then
        Spec.originNonBlob pu else .opaque) := by
  have h := C01_origin_nonblob pu hw
  unfold Url.isSpecial Url.isFile at h
  by_cases h1 : pu.scheme = Impl.sHttp ∨ pu.scheme = Impl.sHttps
  · obtain ⟨a, b⟩ := (five_schemes pu.scheme).mp (h1.elim (.inr ∘ .inl) (.inr ∘ .inr ∘ .inl))
    rw [a, b, if_pos rfl, if_neg Bool.false_ne_true] at h
    rw [if_pos h1, if_pos (h1.elim .inl (.inr ∘ .inl))]
    exact h
  · rw [if_neg h1]
    by_cases h3 : pu.scheme = asciiStr "file"
    · have b : Impl.isFileScheme pu.scheme = true := beq_iff_eq.2 h3
      have a : Impl.isSpecialScheme pu.scheme = true := by
        unfold Impl.isSpecialScheme; rw [show (pu.scheme == Impl.sFile) = true from b, Bool.or_true, Bool.true_or]
      rw [a, b, if_pos rfl, if_pos rfl] at h
      rw [if_pos (.inr (.inr h3))]
      exact h
    · rw [if_neg (fun h' => h'.elim (h1 ∘ .inl) (·.elim (h1 ∘ .inr) h3))]; rfl

/-- **origin** (§4.7 + HTML's serialization): the library's `origin()` is the Standard's, for every URL record
    whose path text is a byte string (every canonical URL: C08), under the IDNA hypotheses of C01 (the blob
    branch parses the path as a URL) -/
theorem C01_origin (idna : Idna) (h : IdnaOk idna) (hs : Proofs.C02b.IdnaStable idna) (u : Url)
    (hw : u.host = none → u.port = none) (hp : ∀ x ∈ Impl.pathText u, x < 256) :
    Impl.origin idna u = Spec.getOrigin idna u := by
  unfold Impl.origin Spec.getOrigin Spec.origin
  by_cases hb : u.scheme = asciiStr "blob"
  · have hns : u.isSpecial = false := by
      unfold Url.isSpecial Impl.isSpecialScheme Impl.sWs Impl.sWss Impl.sFtp Impl.sHttp Impl.sFile Impl.sHttps
      rw [hb]; decide_ascii
    rw [hns, if_neg Bool.false_ne_true, if_pos (show u.scheme = Impl.sBlob from hb), if_pos hb,
      show Spec.urlPathSerialize u = Impl.pathText u from (C01_pathname u).symm,
      ← C01_parse_conforms idna h .u8 (Impl.pathText u) none hp]
    cases hpu : Impl.parse idna .u8 (Impl.pathText u) none with
    | none => rfl
    | some pu =>
      -- a parsed URL is `RecWF` (`C05e_parse_repok`): a null host comes with a null port
      exact origin_of_blob_path pu fun hn =>
        ((C05e_parse_repok idna hs .u8 (Impl.pathText u) none pu (.inl rfl) hpu).1.1.2 hn).2.2
  · rw [if_neg hb, ← C01_origin_nonblob u hw]
    by_cases hsp : u.isSpecial = true
    · rw [if_pos hsp, if_pos hsp]
    · rw [if_neg hsp, if_neg hsp, if_neg (show ¬ u.scheme = Impl.sBlob from hb)]

/-- the statement of C01 for the observable values: when parsing succeeds, every getter of the result equals the
    Standard's getter of the Standard's parse result; `origin` under the two hypotheses of `C01_origin` on the
    result (last line), which every parsed URL satisfies (`C05e_parse_repok`; C08 for the path text) -/
theorem C01_observables (idna : Idna) (h : IdnaOk idna) (hs : Proofs.C02b.IdnaStable idna) (e : Enc) (units : List Nat) (base : Option Url)
    (hu : UnitsOk e units) :
    (Impl.parse idna e units base).isSome = (Spec.apiParse idna e units base).isSome ∧
    ∀ u, Impl.parse idna e units base = some u → ∃ u', Spec.apiParse idna e units base = some u' ∧
      Impl.serialize u = Spec.getHref u' ∧ Impl.getProtocol u = Spec.getProtocol u' ∧ u.username = Spec.getUsername u' ∧
      u.password = Spec.getPassword u' ∧ Impl.getHost u = Spec.getHost u' ∧ Impl.getHostname u = Spec.getHostname u' ∧
      Impl.getPort u = Spec.getPort u' ∧ Impl.pathText u = Spec.getPathname u' ∧ Impl.getSearch u = Spec.getSearch u' ∧
      Impl.getHash u = Spec.getHash u' ∧
      ((u.host = none → u.port = none) → (∀ x ∈ Impl.pathText u, x < 256) → Impl.origin idna u = Spec.getOrigin idna u') := by
  rw [C01_parse_conforms idna h e units base hu]
  refine ⟨rfl, fun u hu' => ⟨u, hu', ?_⟩⟩
  obtain ⟨a, b, c, d, e', f, g, i⟩ := C01_getters u
  exact ⟨a, b, rfl, rfl, c, d, e', f, g, i, C01_origin idna h hs u⟩

example : Impl.origin (fun l => some l) ⟨asciiStr "blob", [], [], none, none, true, asciiStr "https://h:8/x", [], none, none⟩ =
    asciiStr "https://h:8" := by decide_ascii
example : Spec.getHref ⟨asciiStr "a", [], [], none, none, false, [], [[], asciiStr "x"], some [], some []⟩ = asciiStr "a:/.//x?#" := by decide_ascii

#print axioms C01_pathname
#print axioms C01_href
#print axioms C01_getters
#print axioms C01_origin_nonblob
#print axioms C01_origin
#print axioms C01_observables
end Upa.Props
