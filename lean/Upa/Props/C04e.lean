import Upa.Proofs.Literal
import Upa.Proofs.BoundsMisc
import Upa.Proofs.BoundsTrim
import Upa.Proofs.BoundsParsePath
import Upa.Proofs.BoundsParseHost
/-
  C04e — no out-of-bounds read or write, no pointer outside `[first, last]`, no non-terminating loop in
  the serializers, encoders, host and path scanners of `Upa/Impl/BoundsMisc.lean` (bounds-instrumented models,
  namespace `Upa.Impl.B`, names ending in `M`; conventions as in `Upa/Impl/Bounds.lean` and
  `Upa/Props/C04b.lean`).  For every function `f` of the C++:
    * `C04_inbounds_<f>`   : the model never yields `.oob`  (array reads `rd` / `rdPrev`, sub-range
      hand-over `sub`, fixed-size tables `idx`, resized string cells `Loc`),
    * `C04_ptrs_<f>`       : never `.badptr` (every pointer formed lies in `[first, last]`),
    * `C04_terminates_<f>` : never `.hang` with the fuel the model supplies (functions with loops),
    * `C04_agrees_<f>`     : where a list model exists in `Upa/Impl/*.lean`, the result equals it on
      `slice a first last`,
    * an evaluated instance and a NON-VACUITY example (one guard set to a wrong value reaches `.oob` /
      `.badptr` on an exactly sized input).
-/
namespace Upa.Props
open Upa Upa.Impl.B

/-! ### the two code point tables (url_percent_encode.h:90-94, 272-276) -/

theorem C04_inbounds_char_in_set : ∀ (set : Nat → Bool) (c : Nat), charInSetM set c ≠ .oob :=
  fun s c => R.sat_ne_oob (charInSetM_sat s c)
theorem C04_inbounds_code_point_set_get : ∀ (set : Nat → Bool) (c : Nat), cpsetGetM set c ≠ .oob :=
  fun s c => R.sat_ne_oob (cpsetGetM_sat s c)
example : charInSetM Spec.forbiddenHost 0x2F = .ok true := by decide +kernel
example : charInSetM Spec.forbiddenHost 0x12F = .ok false := by decide +kernel
example : charInSetM Spec.forbiddenHost 0x12F (lim := 0xFFFF) = .oob := by decide +kernel     -- without `is_8bit`: arr_[0x12F]
example : cpsetGetM Impl.pathNoEnc 0x2000 (lim := 0xFFFF) = .oob := by decide +kernel          -- arr_[0x2000 >> 3]

/-! ### util.h unsigned_to_str; src/url_ip.cpp -/

/-- preconditions: `num` fits `uint32_t`; `2 ≤ base ≤ 16` (the callers pass 10 and 16) -/
theorem C04_inbounds_unsigned_to_str : ∀ (num base outLen : Nat), num < 2 ^ 32 → 2 ≤ base → base ≤ 16 →
    unsignedToStrM num base outLen ≠ .oob :=
  fun n b o h1 h2 h3 => R.sat_ne_oob (unsignedToStrM_sat n b o h1 h2 h3)
theorem C04_terminates_unsigned_to_str : ∀ (num base outLen : Nat), num < 2 ^ 32 → 2 ≤ base → base ≤ 16 →
    unsignedToStrM num base outLen ≠ .hang :=
  fun n b o h1 h2 h3 => R.sat_ne_hang (unsignedToStrM_sat n b o h1 h2 h3)
example : unsignedToStrM 255 10 0 = .ok [0x32, 0x35, 0x35] := by decide +kernel
/-- agreement with `Impl.unsignedToStr` (digit table = `hexDigitLower`), whatever `output.length()` was -/
theorem C04_agrees_unsigned_to_str : ∀ (num base outLen : Nat), num < 2 ^ 32 → 2 ≤ base → base ≤ 16 →
    unsignedToStrM num base outLen = .ok (Impl.unsignedToStr base hexDigitLower num) :=
  unsignedToStrM_agrees
example : unsignedToStrM 0xBEEF 16 5 = .ok [0x62, 0x65, 0x65, 0x66] := by decide +kernel
example : unsignedToStrM 7 10 0 (extra := 0) = .oob := by decide +kernel      -- `count = output.length()`: output[--count] with count = 0
example : unsignedToStrM 17 18 0 = .oob := by decide +kernel                   -- the precondition on `base` is needed: digit[17]
example : unsignedToStrM 5 1 0 = .hang := by decide +kernel                    -- … and `2 ≤ base`

theorem C04_inbounds_ipv4_serialize : ∀ ipv4 : Nat, ipv4SerializeM ipv4 ≠ .oob :=
  fun n => R.sat_ne_oob (ipv4SerializeM_sat n)
theorem C04_terminates_ipv4_serialize : ∀ ipv4 : Nat, ipv4SerializeM ipv4 ≠ .hang :=
  fun n => R.sat_ne_hang (ipv4SerializeM_sat n)
example : ipv4SerializeM 0x7F000001 = .ok (asciiStr "127.0.0.1") := by decide_ascii
theorem C04_agrees_ipv4_serialize : ∀ ipv4 : Nat, ipv4SerializeM ipv4 = .ok (Impl.ipv4Serialize ipv4) :=
  ipv4SerializeM_agrees

theorem C04_inbounds_longest_zero_sequence : ∀ (a : Array Nat) (first last : Nat), first ≤ last → last ≤ a.size →
    longestZeroSequenceM a first last ≠ .oob :=
  fun a f l h hl => R.sat_ne_oob (longestZeroSequenceM_sat a f l h hl)
theorem C04_ptrs_longest_zero_sequence : ∀ (a : Array Nat) (first last : Nat), first ≤ last → last ≤ a.size →
    longestZeroSequenceM a first last ≠ .badptr :=
  fun a f l h hl => R.sat_ne_badptr (longestZeroSequenceM_sat a f l h hl)
theorem C04_terminates_longest_zero_sequence : ∀ (a : Array Nat) (first last : Nat), first ≤ last → last ≤ a.size →
    longestZeroSequenceM a first last ≠ .hang :=
  fun a f l h hl => R.sat_ne_hang (longestZeroSequenceM_sat a f l h hl)
/-- what the caller relies on: `compress + compress_length` is still inside the array -/
theorem C04_longest_zero_sequence_range : ∀ (a : Array Nat) (first last : Nat), first ≤ last → last ≤ a.size →
    ∃ n c, longestZeroSequenceM a first last = .ok (n, c) ∧
      (∀ p, c = some p → first ≤ p ∧ p + n ≤ last ∧ 1 ≤ n) ∧ (c = none → n = 0) := by
  intro a f l h hl
  obtain ⟨⟨n, c⟩, hv, hp⟩ := longestZeroSequenceM_sat a f l h hl
  exact ⟨n, c, hv, hp⟩
example : longestZeroSequenceM #[1, 0, 0, 2, 0, 0, 0, 3] 0 8 = .ok (3, some 4) := by decide +kernel
/-- agreement with `Impl.longestZeroSeq` (count, index of the run; `cidx` turns the pointer into the index,
    `nullptr` into the list model's initial 0) -/
theorem C04_agrees_longest_zero_sequence : ∀ (a : Array Nat) (first last : Nat), first ≤ last → last ≤ a.size →
    ∃ n c, longestZeroSequenceM a first last = .ok (n, c) ∧
      (n, cidx first c) = Impl.longestZeroSeq (slice a first last) 0 0 0 0 := by
  intro a f l h hl
  obtain ⟨⟨n, c⟩, hv, hp⟩ := longestZeroSequenceM_agrees a f l h hl
  exact ⟨n, c, hv, hp⟩
example : longestZeroSequenceM #[0, 0, 0, 0, 0, 0, 0, 0] 0 8 = .ok (8, some 0) := by decide +kernel
example : longestZeroSequenceM #[1, 0, 0, 2, 0, 0, 0, 0] 0 8 (slack := 1) = .oob := by decide +kernel   -- without `ite != last &&`

/-- `address` is an array of 8 (`first < last` is all that is used) -/
theorem C04_inbounds_ipv6_serialize : ∀ (a : Array Nat) (first last : Nat), first < last → last ≤ a.size →
    ipv6SerializeM a first last ≠ .oob :=
  fun a f l h hl => R.sat_ne_oob (ipv6SerializeM_sat a f l h hl)
theorem C04_ptrs_ipv6_serialize : ∀ (a : Array Nat) (first last : Nat), first < last → last ≤ a.size →
    ipv6SerializeM a first last ≠ .badptr :=
  fun a f l h hl => R.sat_ne_badptr (ipv6SerializeM_sat a f l h hl)
theorem C04_terminates_ipv6_serialize : ∀ (a : Array Nat) (first last : Nat), first < last → last ≤ a.size →
    ipv6SerializeM a first last ≠ .hang :=
  fun a f l h hl => R.sat_ne_hang (ipv6SerializeM_sat a f l h hl)
example : ipv6SerializeM #[1, 0, 0, 2, 0, 0, 0, 3] 0 8 = .ok (asciiStr "1:0:0:2::3") := by decide_ascii
example : ipv6SerializeM #[0, 0, 0, 0, 0, 0, 0, 0] 0 8 = .ok (asciiStr "::") := by decide_ascii
example : ipv6SerializeM #[1, 2, 3, 4, 5, 6, 0, 0] 0 8 = .ok (asciiStr "1:2:3:4:5:6::") := by decide_ascii
-- without `if (it == last) break;` after `it += compress_length` the next `*it` is address[8]
example : ipv6SerializeM #[1, 2, 3, 4, 5, 6, 0, 0] 0 8 (slack := 1) = .oob := by decide +kernel

/-! ### url_percent_encode.h (encode side), url_utf.h append_utf8, url_search_params.h urlencode,
          src/url_utf.cpp convert_utf8_to_utf16 -/

/-- `uc` is an `unsigned char` -/
theorem C04_inbounds_append_percent_encoded_byte : ∀ uc : Nat, uc < 256 → appendPercentEncodedByteM uc ≠ .oob :=
  fun uc h => R.sat_ne_oob (appendPercentEncodedByteM_sat uc h)
example : appendPercentEncodedByteM 0x1F = .ok (asciiStr "%1F") := by decide_ascii
example : appendPercentEncodedByteM 0x1F (mask := 0x1F) = .oob := by decide +kernel     -- `uc & 0x1f`: kHexCharLookup[31]
example : appendPercentEncodedByteM 0x100 = .oob := by decide +kernel                    -- the precondition is needed

theorem C04_inbounds_append_utf8_percent_encoded_byte : ∀ cp : Nat, appendUtf8PctM cp ≠ .oob :=
  fun cp => R.sat_ne_oob (appendUtf8PctM_sat cp)
example : appendUtf8PctM 0x20AC = .ok (asciiStr "%E2%82%AC") := by decide_ascii

/-- precondition `it < last`: every caller is inside `while (pointer < last)` -/
theorem C04_inbounds_append_utf8_percent_encoded_char : ∀ (e : Enc) (a : Array Nat) (first last it : Nat),
    first ≤ it → it < last → last ≤ a.size → appendUtf8PercentEncodedCharM e a first last it ≠ .oob :=
  fun e a f l i h1 h2 hl => R.sat_ne_oob (appendUtf8PercentEncodedCharM_sat e a f l i h1 h2 hl)
theorem C04_ptrs_append_utf8_percent_encoded_char : ∀ (e : Enc) (a : Array Nat) (first last it : Nat),
    first ≤ it → it < last → last ≤ a.size → appendUtf8PercentEncodedCharM e a first last it ≠ .badptr :=
  fun e a f l i h1 h2 hl => R.sat_ne_badptr (appendUtf8PercentEncodedCharM_sat e a f l i h1 h2 hl)
example : appendUtf8PercentEncodedCharM .u8 #[0x61, 0xC3, 0xA9] 0 3 1 = .ok (true, 3, asciiStr "%C3%A9") := by decide_ascii
example : appendUtf8PercentEncodedCharM .u8 #[0x61] 0 1 1 = .oob := by decide +kernel     -- the precondition is needed

theorem C04_inbounds_append_utf8_percent_encoded : ∀ (e : Enc) (noEnc : Nat → Bool) (a : Array Nat) (first last : Nat),
    first ≤ last → last ≤ a.size → appendUtf8PercentEncodedM e noEnc a first last ≠ .oob :=
  fun e n a f l h hl => R.sat_ne_oob (appendUtf8PercentEncodedM_sat e n a f l h hl)
theorem C04_ptrs_append_utf8_percent_encoded : ∀ (e : Enc) (noEnc : Nat → Bool) (a : Array Nat) (first last : Nat),
    first ≤ last → last ≤ a.size → appendUtf8PercentEncodedM e noEnc a first last ≠ .badptr :=
  fun e n a f l h hl => R.sat_ne_badptr (appendUtf8PercentEncodedM_sat e n a f l h hl)
theorem C04_terminates_append_utf8_percent_encoded : ∀ (e : Enc) (noEnc : Nat → Bool) (a : Array Nat) (first last : Nat),
    first ≤ last → last ≤ a.size → appendUtf8PercentEncodedM e noEnc a first last ≠ .hang :=
  fun e n a f l h hl => R.sat_ne_hang (appendUtf8PercentEncodedM_sat e n a f l h hl)
example : appendUtf8PercentEncodedM .u8 Impl.componentNoEnc (ofStr "a b&") 0 4 = .ok (asciiStr "a%20b%26") := by unfold ofStr; decide_ascii
example : appendUtf8PercentEncodedM .u16 Impl.componentNoEnc #[0x61, 0xD83D, 0xDE00, 0xD800] 0 4 =
    .ok (asciiStr "a%F0%9F%98%80%EF%BF%BD") := by decide_ascii
example : appendUtf8PercentEncodedM .u8 Impl.componentNoEnc (ofStr "a") 0 1 (slack := 1) = .oob := by unfold ofStr; decide_ascii  -- `it <= last`

theorem C04_inbounds_do_path_segment : ∀ (e : Enc) (a : Array Nat) (first last : Nat), first ≤ last → last ≤ a.size →
    pathSegmentEncM e a first last ≠ .oob :=
  fun e a f l h hl => R.sat_ne_oob (pathSegmentEncM_sat e a f l h hl)
theorem C04_ptrs_do_path_segment : ∀ (e : Enc) (a : Array Nat) (first last : Nat), first ≤ last → last ≤ a.size →
    pathSegmentEncM e a first last ≠ .badptr :=
  fun e a f l h hl => R.sat_ne_badptr (pathSegmentEncM_sat e a f l h hl)
theorem C04_terminates_do_path_segment : ∀ (e : Enc) (a : Array Nat) (first last : Nat), first ≤ last → last ≤ a.size →
    pathSegmentEncM e a first last ≠ .hang :=
  fun e a f l h hl => R.sat_ne_hang (pathSegmentEncM_sat e a f l h hl)
example : pathSegmentEncM .u8 (ofStr "a b{") 0 4 = .ok (true, asciiStr "a%20b%7B") := by unfold ofStr; decide_ascii
example : pathSegmentEncM .u8 #[0x61, 0xE2, 0x82] 0 3 = .ok (false, asciiStr "a%EF%BF%BD") := by decide_ascii
example : pathSegmentEncM .u8 (ofStr "a") 0 1 (slack := 1) = .oob := by unfold ofStr; decide_ascii                     -- `pointer <= last`

theorem C04_inbounds_do_simple_path : ∀ (e : Enc) (a : Array Nat) (first last : Nat), first ≤ last → last ≤ a.size →
    simplePathM e a first last ≠ .oob :=
  fun e a f l h hl => R.sat_ne_oob (simplePathM_sat e a f l h hl)
theorem C04_ptrs_do_simple_path : ∀ (e : Enc) (a : Array Nat) (first last : Nat), first ≤ last → last ≤ a.size →
    simplePathM e a first last ≠ .badptr :=
  fun e a f l h hl => R.sat_ne_badptr (simplePathM_sat e a f l h hl)
theorem C04_terminates_do_simple_path : ∀ (e : Enc) (a : Array Nat) (first last : Nat), first ≤ last → last ≤ a.size →
    simplePathM e a first last ≠ .hang :=
  fun e a f l h hl => R.sat_ne_hang (simplePathM_sat e a f l h hl)
example : simplePathM .u16 #[0x7F, 0x1F, 0xD83D, 0xDE00, 0x41] 0 5 = .ok (true, asciiStr "%7F%1F%F0%9F%98%80A") := by decide_ascii
example : simplePathM .u32 #[0x41] 0 1 (slack := 1) = .oob := by decide +kernel

theorem C04_inbounds_urlencode : ∀ (a : Array Nat) (first last : Nat), first ≤ last → last ≤ a.size →
    urlencodeM a first last ≠ .oob :=
  fun a f l h hl => R.sat_ne_oob (urlencodeM_sat a f l h hl)
theorem C04_terminates_urlencode : ∀ (a : Array Nat) (first last : Nat), first ≤ last → last ≤ a.size →
    urlencodeM a first last ≠ .hang :=
  fun a f l h hl => R.sat_ne_hang (urlencodeM_sat a f l h hl)
example : urlencodeM (ofStr "a b&c") 0 5 = .ok (asciiStr "a+b%26c") := by unfold ofStr; decide_ascii
/-- agreement with `Impl.urlencode` (C13 ties it to the urlencoded serializer); the units are bytes -/
theorem C04_agrees_urlencode : ∀ (a : Array Nat) (first last : Nat), first ≤ last → last ≤ a.size →
    (∀ i, first ≤ i → i < last → a[i]! < 256) →
    urlencodeM a first last = .ok (Impl.urlencode (slice a first last)) :=
  urlencodeM_agrees
-- a `char` that is not cast to `unsigned char` (here: a unit ≥ 0x100) indexes past kEncByte[0x100]
example : urlencodeM #[300] 0 1 (cast := 65536) = .oob := by decide +kernel

theorem C04_inbounds_convert_utf8_to_utf16 : ∀ (a : Array Nat) (first last : Nat), first ≤ last → last ≤ a.size →
    convertUtf8ToUtf16M a first last ≠ .oob :=
  fun a f l h hl => R.sat_ne_oob (convertUtf8ToUtf16M_sat a f l h hl)
theorem C04_ptrs_convert_utf8_to_utf16 : ∀ (a : Array Nat) (first last : Nat), first ≤ last → last ≤ a.size →
    convertUtf8ToUtf16M a first last ≠ .badptr :=
  fun a f l h hl => R.sat_ne_badptr (convertUtf8ToUtf16M_sat a f l h hl)
theorem C04_terminates_convert_utf8_to_utf16 : ∀ (a : Array Nat) (first last : Nat), first ≤ last → last ≤ a.size →
    convertUtf8ToUtf16M a first last ≠ .hang :=
  fun a f l h hl => R.sat_ne_hang (convertUtf8ToUtf16M_sat a f l h hl)
example : convertUtf8ToUtf16M #[0xF0, 0x9F, 0x98, 0x80, 0xFF] 0 5 = .ok (false, [0xD83D, 0xDE00, 0xFFFD]) := by decide +kernel
example : convertUtf8ToUtf16M #[0x41] 0 1 (slack := 1) = .oob := by decide +kernel

/-! ### url_host.h -/

theorem C04_inbounds_host_parse_ipv4 : ∀ (a : Array Nat) (first last : Nat), first ≤ last → last ≤ a.size →
    parseIpv4M a first last ≠ .oob :=
  fun a f l h hl => R.sat_ne_oob (parseIpv4M_sat a f l h hl)
theorem C04_inbounds_host_parse_ipv6 : ∀ (a : Array Nat) (first last : Nat), first ≤ last → last ≤ a.size →
    parseIpv6M a first last ≠ .oob :=
  fun a f l h hl => R.sat_ne_oob (parseIpv6M_sat a f l h hl)

theorem C04_inbounds_parse_opaque_host : ∀ (e : Enc) (a : Array Nat) (first last : Nat), first ≤ last → last ≤ a.size →
    parseOpaqueHostM e a first last ≠ .oob :=
  fun e a f l h hl => R.sat_ne_oob (parseOpaqueHostM_sat e a f l h hl)
theorem C04_ptrs_parse_opaque_host : ∀ (e : Enc) (a : Array Nat) (first last : Nat), first ≤ last → last ≤ a.size →
    parseOpaqueHostM e a first last ≠ .badptr :=
  fun e a f l h hl => R.sat_ne_badptr (parseOpaqueHostM_sat e a f l h hl)
theorem C04_terminates_parse_opaque_host : ∀ (e : Enc) (a : Array Nat) (first last : Nat), first ≤ last → last ≤ a.size →
    parseOpaqueHostM e a first last ≠ .hang :=
  fun e a f l h hl => R.sat_ne_hang (parseOpaqueHostM_sat e a f l h hl)
example : parseOpaqueHostM .u8 (ofStr "a\x01b") 0 3 = .ok (some { kind := .opaque, text := asciiStr "a%01b" }) := by unfold ofStr; decide_ascii
example : parseOpaqueHostM .u8 (ofStr "a b") 0 3 = .ok none := by unfold ofStr; decide_ascii

/-- the `<`, `=`, `>` + U+0338 pre-check: `ptr[1]` is read only behind `ptr + 1 < last` -/
theorem C04_inbounds_parse_host_precheck : ∀ (a : Array Nat) (first last ptr : Nat), first ≤ ptr → ptr < last →
    last ≤ a.size → hostForbiddenCheckM a first last ptr ≠ .oob :=
  fun a f l p h1 h2 hl => R.sat_ne_oob (hostForbiddenCheckM_sat a f l p h1 h2 hl)
theorem C04_ptrs_parse_host_precheck : ∀ (a : Array Nat) (first last ptr : Nat), first ≤ ptr → ptr < last →
    last ≤ a.size → hostForbiddenCheckM a first last ptr ≠ .badptr :=
  fun a f l p h1 h2 hl => R.sat_ne_badptr (hostForbiddenCheckM_sat a f l p h1 h2 hl)
example : hostForbiddenCheckM (ofStr "a<") 0 2 1 = .ok true := by unfold ofStr; decide_ascii
example : hostForbiddenCheckM (ofStr "a<%") 0 3 1 = .ok false := by unfold ofStr; decide_ascii
example : hostForbiddenCheckM (ofStr "a<") 0 2 1 (slack := 1) = .oob := by unfold ofStr; decide_ascii     -- `ptr + 1 <= last`: ptr[1]

/-- host_parser::parse_host, any `domain_to_ascii`, any character width, opaque or not -/
theorem C04_inbounds_parse_host : ∀ (idna : Idna) (e : Enc) (a : Array Nat) (first last : Nat) (isOpaque : Bool),
    first ≤ last → last ≤ a.size → parseHostM idna e a first last isOpaque ≠ .oob :=
  fun i e a f l o h hl => R.sat_ne_oob (parseHostM_sat i e a f l o h hl)
theorem C04_ptrs_parse_host : ∀ (idna : Idna) (e : Enc) (a : Array Nat) (first last : Nat) (isOpaque : Bool),
    first ≤ last → last ≤ a.size → parseHostM idna e a first last isOpaque ≠ .badptr :=
  fun i e a f l o h hl => R.sat_ne_badptr (parseHostM_sat i e a f l o h hl)
theorem C04_terminates_parse_host : ∀ (idna : Idna) (e : Enc) (a : Array Nat) (first last : Nat) (isOpaque : Bool),
    first ≤ last → last ≤ a.size → parseHostM idna e a first last isOpaque ≠ .hang :=
  fun i e a f l o h hl => R.sat_ne_hang (parseHostM_sat i e a f l o h hl)
/-- agreement of the fast-path DECISION with `Impl.parseHost`: `hostFastL` is the `let fast` of
    `Impl.parseHost` verbatim (`C04_parse_host_list_shape`); the instrumented scan finds the same `ptr`
    (`find_if_not`), goes on to the IDNA path for exactly the same inputs, and returns the same verdict
    whenever a non-domain character was found.  (`Upa.Impl.B.hostFastPathM_spec` states the verdict in every case,
    also when the whole input is ASCII-domain and the result is that of IPv4 parsing / lower-casing.) -/
theorem C04_agrees_parse_host_fast_path : ∀ (a : Array Nat) (first last : Nat), first ≤ last → last ≤ a.size →
    ∃ ptr fast, hostFastPathM a first last = .ok (ptr, fast) ∧
      slice a ptr last = (slice a first last).dropWhile Spec.asciiDomainChar ∧
      (fast = none ↔ hostFastL (slice a first last) = none) ∧
      (ptr ≠ last → fast = hostFastL (slice a first last)) := by
  intro a f l h hl
  obtain ⟨⟨ptr, fast⟩, hv, hp⟩ := hostFastPathM_agrees a f l h hl
  exact ⟨ptr, fast, hv, hp⟩
theorem C04_parse_host_list_shape : ∀ (idna : Idna) (c0 : Nat) (t : List Nat), c0 ≠ 0x5B →
    Impl.parseHost idna (c0 :: t) false =
      match hostFastL (c0 :: t) with
      | some r => r
      | none =>
        match idna (Impl.encodeUtf16 (Impl.decode .u8 (Impl.percentDecode (c0 :: t)))) with
        | none => none
        | some ascii =>
          if ascii.any Spec.forbiddenDomain then none
          else if Impl.endsInNumber ascii then Impl.hostParseIpv4 ascii
          else some { kind := .domain, text := ascii } := fun idna c0 t hc => by
  -- the non-bracket, non-opaque case of `C07.impl_cons`; `hostFastL` is `C07.implFast` (`hostFastL_eq_implFast`)
  rw [Upa.Proofs.C07.impl_cons, if_neg hc]
  rfl
/-- the pre-check returns what the list model computes from `*ptr` and the rest -/
theorem C04_agrees_parse_host_precheck : ∀ (a : Array Nat) (first last ptr : Nat), first ≤ ptr → ptr < last →
    last ≤ a.size → hostForbiddenCheckM a first last ptr = .ok (hostBadL a[ptr]! (slice a (ptr + 1) last)) :=
  hostForbiddenCheckM_agrees
example : parseHostM some .u8 (ofStr "[1::2]") 0 6 false = .ok (some { kind := .ipv6, text := asciiStr "[1::2]" }) := by unfold ofStr; decide_ascii
example : parseHostM some .u8 (ofStr "[") 0 1 false = .ok none := by unfold ofStr; decide_ascii      -- `*(last - 1)` is `*first`: no `]`
example : parseHostM some .u8 (ofStr "[]") 0 2 false = .ok none := by unfold ofStr; decide_ascii     -- parse_ipv6(first + 1, last - 1): empty range
example : parseHostM some .u8 (ofStr "EXAMPLE.com") 0 11 false =
    .ok (some { kind := .domain, text := asciiStr "example.com" }) := by unfold ofStr; decide_ascii
example : parseHostM some .u8 (ofStr "0x7f.1") 0 6 false = .ok (some { kind := .ipv4, text := asciiStr "127.0.0.1" }) := by unfold ofStr; decide_ascii
example : parseHostM some .u8 (ofStr "xn--a.%41") 0 9 false = .ok (some { kind := .domain, text := asciiStr "xn--a.A" }) := by unfold ofStr; decide_ascii
example : parseHostM some .u8 (ofStr "a<") 0 2 false = .ok none := by unfold ofStr; decide_ascii
example : parseHostM some .u8 (ofStr "a<") 0 2 false (slack := 1) = .oob := by unfold ofStr; decide_ascii

/-! ### url.h -/

theorem C04_inbounds_port_from_str : ∀ (a : Array Nat) (first last : Nat), first ≤ last → last ≤ a.size →
    portFromStrM a first last ≠ .oob :=
  fun a f l h hl => R.sat_ne_oob (portFromStrM_sat a f l h hl)
theorem C04_ptrs_port_from_str : ∀ (a : Array Nat) (first last : Nat), first ≤ last → last ≤ a.size →
    portFromStrM a first last ≠ .badptr :=
  fun a f l h hl => R.sat_ne_badptr (portFromStrM_sat a f l h hl)
theorem C04_terminates_port_from_str : ∀ (a : Array Nat) (first last : Nat), first ≤ last → last ≤ a.size →
    portFromStrM a first last ≠ .hang :=
  fun a f l h hl => R.sat_ne_hang (portFromStrM_sat a f l h hl)
example : portFromStrM (ofStr "8080") 0 4 = .ok 8080 := by unfold ofStr; decide_ascii
theorem C04_agrees_port_from_str : ∀ (a : Array Nat) (first last : Nat), first ≤ last → last ≤ a.size →
    portFromStrM a first last = .ok (decimalValue (slice a first last)) :=
  portFromStrM_agrees
example : portFromStrM (ofStr "8080") 0 4 (slack := 1) = .oob := by unfold ofStr; decide_ascii

theorem C04_inbounds_do_trim : ∀ (a : Array Nat) (first last : Nat), first ≤ last → last ≤ a.size →
    trimM a first last ≠ .oob :=
  fun a f l h hl => R.sat_ne_oob (trimM_sat a f l h hl)
theorem C04_ptrs_do_trim : ∀ (a : Array Nat) (first last : Nat), first ≤ last → last ≤ a.size →
    trimM a first last ≠ .badptr :=
  fun a f l h hl => R.sat_ne_badptr (trimM_sat a f l h hl)
theorem C04_terminates_do_trim : ∀ (a : Array Nat) (first last : Nat), first ≤ last → last ≤ a.size →
    trimM a first last ≠ .hang :=
  fun a f l h hl => R.sat_ne_hang (trimM_sat a f l h hl)
theorem C04_do_trim_range : ∀ (a : Array Nat) (first last : Nat), first ≤ last → last ≤ a.size →
    ∃ f l, trimM a first last = .ok (f, l) ∧ first ≤ f ∧ f ≤ l ∧ l ≤ last := by
  intro a f l h hl
  obtain ⟨⟨f', l'⟩, hv, hp⟩ := trimM_sat a f l h hl
  exact ⟨f', l', hv, hp⟩
example : trimM (ofStr "  a b \n") 0 7 = .ok (2, 5) := by unfold ofStr; decide_ascii
/-- agreement with `Impl.doTrim`: the new range holds exactly the trimmed list -/
theorem C04_agrees_do_trim : ∀ (a : Array Nat) (first last : Nat), first ≤ last → last ≤ a.size →
    ∃ f l, trimM a first last = .ok (f, l) ∧ first ≤ f ∧ f ≤ l ∧ l ≤ last ∧
      slice a f l = Impl.doTrim (slice a first last) := by
  intro a f l h hl
  obtain ⟨⟨f', l'⟩, hv, hp⟩ := trimM_agrees a f l h hl
  exact ⟨f', l', hv, hp⟩
example : trimM (ofStr "   ") 0 3 = .ok (3, 3) := by unfold ofStr; decide_ascii
example : trimM (ofStr " ") 0 1 (slack := 1) = .oob := by unfold ofStr; decide_ascii                -- `first <= last`: *first at `last`

theorem C04_inbounds_do_remove_whitespace : ∀ (a : Array Nat) (first last : Nat), first ≤ last → last ≤ a.size →
    removeWhitespaceM a first last ≠ .oob :=
  fun a f l h hl => R.sat_ne_oob (removeWhitespaceM_sat a f l h hl)
theorem C04_ptrs_do_remove_whitespace : ∀ (a : Array Nat) (first last : Nat), first ≤ last → last ≤ a.size →
    removeWhitespaceM a first last ≠ .badptr :=
  fun a f l h hl => R.sat_ne_badptr (removeWhitespaceM_sat a f l h hl)
theorem C04_terminates_do_remove_whitespace : ∀ (a : Array Nat) (first last : Nat), first ≤ last → last ≤ a.size →
    removeWhitespaceM a first last ≠ .hang :=
  fun a f l h hl => R.sat_ne_hang (removeWhitespaceM_sat a f l h hl)
example : removeWhitespaceM (ofStr "ab") 0 2 = .ok none := by unfold ofStr; decide_ascii
/-- agreement with `Impl.removeWs`: `none` = the input is kept (and then contains nothing removable),
    `some buff` = the new buffer -/
theorem C04_agrees_do_remove_whitespace : ∀ (a : Array Nat) (first last : Nat), first ≤ last → last ≤ a.size →
    ∃ r, removeWhitespaceM a first last = .ok r ∧
      r.getD (slice a first last) = Impl.removeWs (slice a first last) := by
  intro a f l h hl
  obtain ⟨r, hv, hp⟩ := removeWhitespaceM_agrees a f l h hl
  exact ⟨r, hv, hp⟩
example : removeWhitespaceM (ofStr "a\tb\nc") 0 5 = .ok (some (asciiStr "abc")) := by unfold ofStr; decide_ascii
example : removeWhitespaceM (ofStr "a\t") 0 2 (slack := 1) = .oob := by unfold ofStr; decide_ascii  -- inner loop `it <= last`

/-- url_parser::parse_path with do_path_segment, any serializer state `u`, any character width -/
theorem C04_inbounds_parse_path : ∀ (e : Enc) (a : Array Nat) (first last : Nat) (u : Url), first ≤ last →
    last ≤ a.size → parsePathM e a first last u ≠ .oob :=
  fun e a f l u h hl => R.sat_ne_oob (parsePathM_sat e a f l u h hl)
theorem C04_ptrs_parse_path : ∀ (e : Enc) (a : Array Nat) (first last : Nat) (u : Url), first ≤ last →
    last ≤ a.size → parsePathM e a first last u ≠ .badptr :=
  fun e a f l u h hl => R.sat_ne_badptr (parsePathM_sat e a f l u h hl)
theorem C04_terminates_parse_path : ∀ (e : Enc) (a : Array Nat) (first last : Nat) (u : Url), first ≤ last →
    last ≤ a.size → parsePathM e a first last u ≠ .hang :=
  fun e a f l u h hl => R.sat_ne_hang (parsePathM_sat e a f l u h hl)
example : parsePathM .u8 (ofStr "a/../b/./c%2e") 0 13 { scheme := Impl.sHttp } =
    .ok { scheme := Impl.sHttp, path := [asciiStr "b", asciiStr "c%2e"] } := by unfold ofStr; decide_ascii
example : parsePathM .u8 (ofStr "C|/x") 0 4 { scheme := Impl.sFile } =
    .ok { scheme := Impl.sFile, path := [asciiStr "C:", asciiStr "x"] } := by unfold ofStr; decide_ascii
example : parsePathM .u8 (ofStr "") 0 0 { scheme := Impl.sFile } = .ok { scheme := Impl.sFile, path := [[]] } := by unfold ofStr; decide_ascii
-- `len == 1` instead of `len == 2` before `is_windows_drive(pointer[0], pointer[1])`
example : parsePathM .u8 (ofStr "C") 0 1 { scheme := Impl.sFile } (driveLen := 1) = .oob := by unfold ofStr; decide_ascii

theorem C04_inbounds_find_last : ∀ (a : Array Nat) (first last value : Nat), first ≤ last → last ≤ a.size →
    findLastM a first last value ≠ .oob :=
  fun a f l v h hl => R.sat_ne_oob (findLastM_sat a f l v h hl)
theorem C04_ptrs_find_last : ∀ (a : Array Nat) (first last value : Nat), first ≤ last → last ≤ a.size →
    findLastM a first last value ≠ .badptr :=
  fun a f l v h hl => R.sat_ne_badptr (findLastM_sat a f l v h hl)
theorem C04_terminates_find_last : ∀ (a : Array Nat) (first last value : Nat), first ≤ last → last ≤ a.size →
    findLastM a first last value ≠ .hang :=
  fun a f l v h hl => R.sat_ne_hang (findLastM_sat a f l v h hl)
example : findLastM (ofStr "/a/b") 0 4 0x2F = .ok 2 := by unfold ofStr; decide_ascii
example : findLastM (ofStr "ab") 0 2 0x2F = .ok 2 := by unfold ofStr; decide_ascii
example : findLastM (ofStr "ab") 0 2 0x2F (stop := 1) = .badptr := by unfold ofStr; decide_ascii    -- `it >= first`: `--it` below `first`

theorem C04_inbounds_get_path_first_string : ∀ (a : Array Nat) (first last len : Nat) (opaquePath : Bool),
    first ≤ last → last ≤ a.size → getPathFirstStringM a first last len opaquePath ≠ .oob :=
  fun a f l n o h hl => R.sat_ne_oob (getPathFirstStringM_sat a f l n o h hl)
theorem C04_ptrs_get_path_first_string : ∀ (a : Array Nat) (first last len : Nat) (opaquePath : Bool),
    first ≤ last → last ≤ a.size → getPathFirstStringM a first last len opaquePath ≠ .badptr :=
  fun a f l n o h hl => R.sat_ne_badptr (getPathFirstStringM_sat a f l n o h hl)
example : getPathFirstStringM (ofStr "/C:/x") 0 5 2 false = .ok (1, 3) := by unfold ofStr; decide_ascii
example : getPathFirstStringM (ofStr "/C") 0 2 2 false = .ok (1, 1) := by unfold ofStr; decide_ascii
example : getPathFirstStringM (ofStr "/C") 0 2 2 false (slack := 2) = .oob := by unfold ofStr; decide_ascii   -- `length() + 2 > len`: pathv[2]

#print axioms C04_inbounds_char_in_set
#print axioms C04_inbounds_code_point_set_get
#print axioms C04_inbounds_unsigned_to_str
#print axioms C04_terminates_unsigned_to_str
#print axioms C04_inbounds_ipv4_serialize
#print axioms C04_terminates_ipv4_serialize
#print axioms C04_inbounds_longest_zero_sequence
#print axioms C04_ptrs_longest_zero_sequence
#print axioms C04_terminates_longest_zero_sequence
#print axioms C04_longest_zero_sequence_range
#print axioms C04_inbounds_ipv6_serialize
#print axioms C04_ptrs_ipv6_serialize
#print axioms C04_terminates_ipv6_serialize
#print axioms C04_inbounds_append_percent_encoded_byte
#print axioms C04_inbounds_append_utf8_percent_encoded_byte
#print axioms C04_inbounds_append_utf8_percent_encoded_char
#print axioms C04_ptrs_append_utf8_percent_encoded_char
#print axioms C04_inbounds_append_utf8_percent_encoded
#print axioms C04_ptrs_append_utf8_percent_encoded
#print axioms C04_terminates_append_utf8_percent_encoded
#print axioms C04_inbounds_do_path_segment
#print axioms C04_ptrs_do_path_segment
#print axioms C04_terminates_do_path_segment
#print axioms C04_inbounds_do_simple_path
#print axioms C04_ptrs_do_simple_path
#print axioms C04_terminates_do_simple_path
#print axioms C04_inbounds_urlencode
#print axioms C04_terminates_urlencode
#print axioms C04_inbounds_convert_utf8_to_utf16
#print axioms C04_ptrs_convert_utf8_to_utf16
#print axioms C04_terminates_convert_utf8_to_utf16
#print axioms C04_inbounds_host_parse_ipv4
#print axioms C04_inbounds_host_parse_ipv6
#print axioms C04_inbounds_parse_opaque_host
#print axioms C04_ptrs_parse_opaque_host
#print axioms C04_terminates_parse_opaque_host
#print axioms C04_inbounds_parse_host_precheck
#print axioms C04_ptrs_parse_host_precheck
#print axioms C04_inbounds_parse_host
#print axioms C04_ptrs_parse_host
#print axioms C04_terminates_parse_host
#print axioms C04_inbounds_port_from_str
#print axioms C04_ptrs_port_from_str
#print axioms C04_terminates_port_from_str
#print axioms C04_inbounds_do_trim
#print axioms C04_ptrs_do_trim
#print axioms C04_terminates_do_trim
#print axioms C04_do_trim_range
#print axioms C04_inbounds_do_remove_whitespace
#print axioms C04_ptrs_do_remove_whitespace
#print axioms C04_terminates_do_remove_whitespace
#print axioms C04_inbounds_parse_path
#print axioms C04_ptrs_parse_path
#print axioms C04_terminates_parse_path
#print axioms C04_inbounds_find_last
#print axioms C04_ptrs_find_last
#print axioms C04_terminates_find_last
#print axioms C04_inbounds_get_path_first_string
#print axioms C04_ptrs_get_path_first_string
#print axioms C04_agrees_unsigned_to_str
#print axioms C04_agrees_ipv4_serialize
#print axioms C04_agrees_longest_zero_sequence
#print axioms C04_agrees_urlencode
#print axioms C04_agrees_port_from_str
#print axioms C04_agrees_do_trim
#print axioms C04_agrees_do_remove_whitespace
#print axioms C04_agrees_parse_host_fast_path
#print axioms C04_parse_host_list_shape
#print axioms C04_agrees_parse_host_precheck
end Upa.Props
