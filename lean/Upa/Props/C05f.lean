import Upa.Impl.UpdateRep
import Upa.Impl.Api
import Upa.Props.C05b
import Upa.Proofs.ParserRules
/-!
# C05 (representation), the write-back of a URL-owned URLSearchParams list

`url_search_params::update()` edits the QUERY part of the owning url in place.  The operation on the
representation (`Impl.updateRep`) maps any representation of `u` to a representation of the record the
record-level model (`UrlObj.update`, the one the lock-step theorems of C06 are about) computes.

There is no lemma module of its own: the proofs below are short and rest on the steps of C05b
(`C05b_write_query`, `C05b_clear_query`, `C05b_strip_trailing_spaces`), on `repOk_strip` of
`Proofs/SetRepOps.lean`, which comes in with `Props/C05b`, and on `update_rule` of `Proofs/ParserRules.lean`.
-/
namespace Upa.Props
open Upa Upa.Impl Upa.Proofs.C05 Upa.Proofs.SetRep

theorem formSerialize_eq_nil : ∀ l : List BPair, formSerialize l = [] ↔ l = [] := by
  intro l
  constructor
  · intro h
    match l, h with
    | [], _ => rfl
    | [(n, v)], h => simp [formSerialize] at h
    | (n, v) :: _ :: _, h => simp [formSerialize] at h
  · intro h; subst h; rfl

/-- what the correspondence check replays (only the serialized list is visible there) is `updateRep` -/
theorem C05f_update_ser : ∀ (r : Rep) (l : List BPair), updateRepSer r (formSerialize l) = updateRep r l := by
  intro r l
  unfold updateRepSer updateRep
  by_cases h : l = []
  · subst h; rfl
  · have : formSerialize l ≠ [] := fun hh => h ((formSerialize_eq_nil l).mp hh)
    have hne : (formSerialize l).isEmpty = false := by
      cases hs : formSerialize l with
      | nil => exact absurd hs this
      | cons _ _ => rfl
    simp [h, hne]

/-- `update()` on any representation of `u` gives a representation of the updated record -/
theorem C05f_update : ∀ (u : Url) (p : Params) (r : Rep), RepOk u → RepFor r u →
    ∃ u', (UrlObj.update { url := some u, sp := some p }).url = some u' ∧ RepFor (updateRep r p.list) u' := by
  intro u p r ok h
  unfold UrlObj.update updateRep
  by_cases hl : p.list = []
  · simp only [hl, if_true]
    refine ⟨_, rfl, ?_⟩
    have ok' : RepOk { u with query := none } := ok
    exact C05b_strip_trailing_spaces _ _ ok' (C05b_clear_query u r ok h)
  · simp only [hl, if_false]
    exact ⟨_, rfl, C05b_write_query u _ r ok h⟩

/-- the updated record again satisfies `RepOk` (so edits and setter calls compose) -/
theorem C05f_update_repok : ∀ (u : Url) (p : Params), RepOk u →
    ∀ u', (UrlObj.update { url := some u, sp := some p }).url = some u' → RepOk u' := by
  intro u p ok
  exact Upa.Proofs.C08.update_rule (P := RepOk) _ (fun _ h => by cases h; exact ok)
    (fun _ _ h _ => by cases h; exact ⟨repOk_strip (u := { u with query := none }) ok, ok⟩)

-- sp.append("k","v w") on http://h/p#f and sp.clear() on an opaque path with trailing spaces
example : (updateRep (layout { scheme := asciiStr "http", host := some { kind := .domain, text := asciiStr "h" }, path := [asciiStr "p"], fragment := some (asciiStr "f") })
    [(asciiStr "k", asciiStr "v w")]).norm = asciiStr "http://h/p?k=v+w#f" := by decide_ascii
example : (updateRep (layout { scheme := asciiStr "a", hasOpaquePath := true, opaquePath := asciiStr "x  ", query := some (asciiStr "q") }) []).norm = asciiStr "a:x" := by decide_ascii

end Upa.Props

#print axioms Upa.Props.C05f_update
#print axioms Upa.Props.C05f_update_ser
#print axioms Upa.Props.C05f_update_repok
