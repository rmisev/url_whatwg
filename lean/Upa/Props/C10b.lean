import Upa.Proofs.EncIndep
import Upa.Proofs.FilePath
import Upa.Props.C01
import Upa.Proofs.EvalFuel
/-
  C10 (API level) — "the same sequence of Unicode scalar values supplied as UTF-8, UTF-16, UTF-32 produces
  identical results in every API; ill-formed input behaves exactly as if each maximal ill-formed
  subsequence — taken after the parser's removal of ASCII tab and newline code units — were U+FFFD".

  The decoder theorems of `Upa/Props/C10.lean` lifted to the models of the public API
  (`Upa/Impl/Api.lean`, `CanParse.lean`, `Host.lean`, `Percent.lean`, `FilePath.lean`, `Utf.lean`).
  Helper lemmas: `Upa/Proofs/EncIndep.lean` (namespace `Upa.Proofs.C10b`).
  The UTF-32 API is the reference: its code units are the scalar values themselves.
-/
namespace Upa.Props
open Upa Upa.Proofs.C10b

/-- stub IDNA (ASCII lower-casing) for the evaluated instances -/
def c10Idna : Idna := fun l => some (l.map toLower)
def c10Txt (x : String) : List Nat := x.toList.map Char.toNat
def c10Ser (u : Option Url) : Option (List Nat) := u.map (fun u => Impl.serialize u)

/-- so that `decide_ascii` (`Proofs/Literal.lean`) evaluates the examples -/
theorem c10Txt_eq : c10Txt = asciiStr := rfl

/-- the running example: leading/trailing C0-or-space, tab/newline inside, 2-, 3- and 4-byte characters
    in path, query and fragment -/
private def sample : List Nat := c10Txt "  ht\ttp://BUECHER.de/ä€😀?ö#\nü \t\n "
/-- the same with a non-ASCII host.  (Its host goes through `percentDecode` inside the parse, where the
    kernel-evaluable twin of Upa/Proofs/EvalFuel.lean — see there — cannot be rewritten in: it is used with the
    theorems only.) -/
private def sampleH : List Nat := c10Txt "http://bücher.de/ä?ö#ü"

example : ∀ c ∈ sample, Spec.isScalar c = true := by
  unfold sample
  rw [c10Txt_eq]; decide_ascii
example : ∀ c ∈ sampleH, Spec.isScalar c = true := by
  unfold sampleH
  rw [c10Txt_eq]; decide_ascii
example : Spec.encode .u8 sample =
    [0x20, 0x20, 0x68, 0x74, 0x09, 0x74, 0x70, 0x3A, 0x2F, 0x2F, 0x42, 0x55, 0x45, 0x43, 0x48, 0x45, 0x52, 0x2E,
     0x64, 0x65, 0x2F, 0xC3, 0xA4, 0xE2, 0x82, 0xAC, 0xF0, 0x9F, 0x98, 0x80, 0x3F, 0xC3, 0xB6, 0x23, 0x0A,
     0xC3, 0xBC, 0x20, 0x09, 0x0A, 0x20] := by
  unfold sample
  rw [c10Txt_eq]; decide_ascii
example : Spec.encode .u16 sample =
    [0x20, 0x20, 0x68, 0x74, 0x09, 0x74, 0x70, 0x3A, 0x2F, 0x2F, 0x42, 0x55, 0x45, 0x43, 0x48, 0x45, 0x52, 0x2E,
     0x64, 0x65, 0x2F, 0xE4, 0x20AC, 0xD83D, 0xDE00, 0x3F, 0xF6, 0x23, 0x0A, 0xFC, 0x20, 0x09, 0x0A, 0x20] := by
  unfold sample
  rw [c10Txt_eq]; decide_ascii

/-! ### 1. preprocessing commutes with every encoder -/

/-- `do_trim` on code units = `do_trim` on the text: an ASCII scalar value is encoded as exactly that one
    unit and no unit of a multi-unit sequence is ≤ 0x20.  (No well-formedness hypothesis is needed.) -/
theorem C10_trim_encode :
    ∀ (e : Enc) (s : List Nat), Impl.doTrim (Spec.encode e s) = Spec.encode e (Impl.doTrim s) :=
  doTrim_encode

/-- `do_remove_whitespace` on code units = on the text -/
theorem C10_removeWs_encode :
    ∀ (e : Enc) (s : List Nat), Impl.removeWs (Spec.encode e s) = Spec.encode e (Impl.removeWs s) :=
  removeWs_encode

example : Impl.doTrim (Spec.encode .u8 sample) = Spec.encode .u8 (c10Txt "ht\ttp://BUECHER.de/ä€😀?ö#\nü") ∧
    Impl.doTrim (Spec.encode .u16 sample) = Spec.encode .u16 (c10Txt "ht\ttp://BUECHER.de/ä€😀?ö#\nü") ∧
    Impl.doTrim sample = c10Txt "ht\ttp://BUECHER.de/ä€😀?ö#\nü" := by
  unfold sample
  rw [c10Txt_eq]; decide_ascii
example : Impl.removeWs (Spec.encode .u8 sample) = Spec.encode .u8 (c10Txt "  http://BUECHER.de/ä€😀?ö#ü  ") ∧
    Impl.removeWs (Spec.encode .u16 sample) = Spec.encode .u16 (c10Txt "  http://BUECHER.de/ä€😀?ö#ü  ") ∧
    Impl.removeWs sample = c10Txt "  http://BUECHER.de/ä€😀?ö#ü  " := by
  unfold sample
  rw [c10Txt_eq]; decide_ascii

/-- the parser sees the same scalar value string whatever the encoding -/
theorem C10_prep_same_text :
    ∀ (e : Enc) (s : List Nat), (∀ c ∈ s, Spec.isScalar c = true) →
      Impl.prep e (Impl.doTrim (Spec.encode e s)) = Impl.removeWs (Impl.doTrim s) :=
  prep_trim_encode

example : Impl.prep .u8 (Impl.doTrim (Spec.encode .u8 sample)) = c10Txt "http://BUECHER.de/ä€😀?ö#ü" ∧
    Impl.prep .u16 (Impl.doTrim (Spec.encode .u16 sample)) = c10Txt "http://BUECHER.de/ä€😀?ö#ü" ∧
    Impl.prep .u32 (Impl.doTrim (Spec.encode .u32 sample)) = c10Txt "http://BUECHER.de/ä€😀?ö#ü" := by
  unfold sample
  rw [c10Txt_eq]; decide_ascii

/-! ### 2. every API gives the same result for the same text -/

theorem C10_parse_same_text :
    ∀ (idna : Idna) (e : Enc) (s : List Nat) (base : Option Url), (∀ c ∈ s, Spec.isScalar c = true) →
      Impl.parse idna e (Spec.encode e s) base = Impl.parse idna .u32 s base :=
  fun idna e s base h => parse_encode idna e s base h

/-- … hence for any two encodings -/
theorem C10_parse_indep :
    ∀ (idna : Idna) (e₁ e₂ : Enc) (s : List Nat) (base : Option Url), (∀ c ∈ s, Spec.isScalar c = true) →
      Impl.parse idna e₁ (Spec.encode e₁ s) base = Impl.parse idna e₂ (Spec.encode e₂ s) base :=
  fun idna e₁ e₂ s base h => (parse_encode idna e₁ s base h).trans (parse_encode idna e₂ s base h).symm

-- the three runs, computed independently
example : c10Ser (Impl.parse c10Idna .u8 (Spec.encode .u8 sample) none) =
      some (c10Txt "http://buecher.de/%C3%A4%E2%82%AC%F0%9F%98%80?%C3%B6#%C3%BC") ∧
    c10Ser (Impl.parse c10Idna .u16 (Spec.encode .u16 sample) none) =
      some (c10Txt "http://buecher.de/%C3%A4%E2%82%AC%F0%9F%98%80?%C3%B6#%C3%BC") ∧
    c10Ser (Impl.parse c10Idna .u32 sample none) =
      some (c10Txt "http://buecher.de/%C3%A4%E2%82%AC%F0%9F%98%80?%C3%B6#%C3%BC") := by
  unfold sample
  rw [c10Txt_eq]; decide_ascii
-- non-ASCII host: instance of the theorem
example : Impl.parse c10Idna .u8 (Spec.encode .u8 sampleH) none = Impl.parse c10Idna .u16 (Spec.encode .u16 sampleH) none :=
  C10_parse_indep c10Idna .u8 .u16 sampleH none (by unfold sampleH; rw [c10Txt_eq]; decide_ascii)

theorem C10_can_parse_same_text :
    ∀ (idna : Idna) (e : Enc) (s : List Nat) (base : Option Url), (∀ c ∈ s, Spec.isScalar c = true) →
      Impl.canParse idna e (Spec.encode e s) base = Impl.canParse idna .u32 s base :=
  fun idna e s base h => canParse_encode idna e s base h

example : Impl.canParse c10Idna .u8 (Spec.encode .u8 sample) none = true ∧
    Impl.canParse c10Idna .u16 (Spec.encode .u16 sample) none = true ∧
    Impl.canParse c10Idna .u32 sample none = true ∧
    Impl.canParse c10Idna .u8 (Spec.encode .u8 (c10Txt "//ä")) none = false ∧
    Impl.canParse c10Idna .u16 (Spec.encode .u16 (c10Txt "//ä")) none = false ∧
    Impl.canParse c10Idna .u32 (c10Txt "//ä") none = false := by
  unfold sample
  rw [c10Txt_eq]; decide_ascii

/-- all ten setters, including the raw-unit tests of `port` (empty value) and `search` / `hash`
    (one leading `?` / `#`): `Spec.encode e s = [] ↔ s = []`, and the head unit is `?` iff the head
    scalar value is -/
theorem C10_set_same_text :
    ∀ (idna : Idna) (st : Impl.Setter) (e : Enc) (s : List Nat) (u : Url), (∀ c ∈ s, Spec.isScalar c = true) →
      Impl.setValid idna st e (Spec.encode e s) u = Impl.setValid idna st .u32 s u :=
  fun idna st e s u h => setValid_encode idna st e s u h

theorem C10_encode_nil_iff : ∀ (e : Enc) (s : List Nat), Spec.encode e s = [] ↔ s = [] := encode_eq_nil_iff

theorem C10_encode_head :
    ∀ (e : Enc) (a : Nat), a < 0x80 → ∀ (c : Nat) (r : List Nat),
      ((Spec.encode e (c :: r)).head? = some a ↔ c = a) ∧
      (c = a → Spec.encode e (c :: r) = a :: Spec.encode e r) := by
  intro e a ha c r
  have hcons : c = a → Spec.encode e (c :: r) = a :: Spec.encode e r :=
    fun h => h ▸ encode_cons_ascii e c r (h ▸ ha)
  exact ⟨⟨fun h => Option.some.inj ((encode_asciiHom e).head_ascii (l := c :: r) h ha),
    fun h => by rw [hcons h]; rfl⟩, hcons⟩

example : (Spec.encode .u8 (c10Txt "?ä")).head? = some 0x3F ∧ (Spec.encode .u16 (c10Txt "😀?")).head? = some 0xD83D ∧
    (Spec.encode .u8 (c10Txt "ä?")).head? = some 0xC3 := by
  rw [c10Txt_eq]; decide_ascii

private def u0 : Url := (Impl.parse c10Idna .u8 (c10Txt "http://u:p@h:81/p?q#f") none).getD {}
private def serSet (r : Url × Bool) : List Nat × Bool := (Impl.serialize r.1, r.2)

example : Impl.serialize u0 = c10Txt "http://u:p@h:81/p?q#f" := by
  unfold u0
  rw [c10Txt_eq]; decide_ascii
example : ∀ st ∈ [Impl.Setter.href, .protocol, .username, .password, .host, .hostname, .port, .pathname, .search,
      .hash], ∀ e ∈ [Enc.u8, .u16], ∀ v ∈ [c10Txt "?ä€\t😀", c10Txt "#ü", c10Txt "/ä/😀", c10Txt "", c10Txt "8\n2", c10Txt "wss",
      c10Txt "x:😀@h/€?ü#\t☃"],
    (∀ c ∈ v, Spec.isScalar c = true) ∧
    Impl.setValid c10Idna st e (Spec.encode e v) u0 = Impl.setValid c10Idna st .u32 v u0 := by
  unfold u0
  rw [c10Txt_eq]; decide_ascii
example : serSet (Impl.setValid c10Idna .search .u8 (Spec.encode .u8 (c10Txt "?ä€\t😀")) u0) =
      (c10Txt "http://u:p@h:81/p?%C3%A4%E2%82%AC%F0%9F%98%80#f", true) ∧
    serSet (Impl.setValid c10Idna .search .u16 (Spec.encode .u16 (c10Txt "?ä€\t😀")) u0) =
      (c10Txt "http://u:p@h:81/p?%C3%A4%E2%82%AC%F0%9F%98%80#f", true) ∧
    serSet (Impl.setValid c10Idna .search .u32 (c10Txt "?ä€\t😀") u0) =
      (c10Txt "http://u:p@h:81/p?%C3%A4%E2%82%AC%F0%9F%98%80#f", true) ∧
    serSet (Impl.setValid c10Idna .hash .u16 (Spec.encode .u16 (c10Txt "ü")) u0) =
      (c10Txt "http://u:p@h:81/p?q#%C3%BC", true) ∧
    serSet (Impl.setValid c10Idna .pathname .u8 (Spec.encode .u8 (c10Txt "/Ö/€")) u0) =
      (c10Txt "http://u:p@h:81/%C3%96/%E2%82%AC?q#f", true) ∧
    serSet (Impl.setValid c10Idna .username .u16 (Spec.encode .u16 (c10Txt "😀\n")) u0) =
      (c10Txt "http://%F0%9F%98%80%0A:p@h:81/p?q#f", true) ∧
    serSet (Impl.setValid c10Idna .port .u16 (Spec.encode .u16 []) u0) = (c10Txt "http://u:p@h/p?q#f", true) := by
  unfold u0
  rw [c10Txt_eq]; decide_ascii

/-- the `url` object (record + owned `url_search_params`): `parse` and the setters -/
theorem C10_obj_same_text :
    ∀ (idna : Idna) (o : Impl.UrlObj) (e : Enc) (s : List Nat), (∀ c ∈ s, Spec.isScalar c = true) →
      (∀ base, Impl.UrlObj.parse idna o e (Spec.encode e s) base = Impl.UrlObj.parse idna o .u32 s base) ∧
      (∀ st, Impl.UrlObj.set idna o st e (Spec.encode e s) = Impl.UrlObj.set idna o st .u32 s) :=
  fun idna o e s h => ⟨fun base => objParse_encode idna o e s base h, fun st => objSet_encode idna o st e s h⟩

private def o0 : Impl.UrlObj := Impl.UrlObj.searchParams { url := some u0 }
-- (`formParse` percent-decodes: instance of the theorem; the record part evaluated)
example : Impl.UrlObj.set c10Idna o0 .search .u16 (Spec.encode .u16 (c10Txt "?ä=€&b=😀")) =
    Impl.UrlObj.set c10Idna o0 .search .u32 (c10Txt "?ä=€&b=😀") :=
  (C10_obj_same_text c10Idna o0 .u16 (c10Txt "?ä=€&b=😀") (by rw [c10Txt_eq]; decide_ascii)).2 .search
example : c10Ser (Impl.UrlObj.set c10Idna o0 .search .u16 (Spec.encode .u16 (c10Txt "?ä=€&b=😀"))).1.url =
      some (c10Txt "http://u:p@h:81/p?%C3%A4=%E2%82%AC&b=%F0%9F%98%80#f") ∧
    c10Ser (Impl.UrlObj.set c10Idna o0 .search .u8 (Spec.encode .u8 (c10Txt "?ä=€&b=😀"))).1.url =
      some (c10Txt "http://u:p@h:81/p?%C3%A4=%E2%82%AC&b=%F0%9F%98%80#f") := by
  unfold o0 u0
  rw [c10Txt_eq]; decide_ascii

/-- `url_host` / host parser -/
theorem C10_host_same_text :
    ∀ (idna : Idna) (e : Enc) (s : List Nat) (isOpaque : Bool), (∀ c ∈ s, Spec.isScalar c = true) →
      Impl.parseHost idna (Impl.decode e (Spec.encode e s)) isOpaque = Impl.parseHost idna s isOpaque :=
  fun idna e s o h => by rw [C10_roundtrip e s h]

example : Impl.parseHost c10Idna (Impl.decode .u8 (Spec.encode .u8 (c10Txt "BÜcher.%41.😀"))) true =
      some { kind := .opaque, text := c10Txt "B%C3%9Ccher.%41.%F0%9F%98%80" } ∧
    Impl.parseHost c10Idna (Impl.decode .u16 (Spec.encode .u16 (c10Txt "BÜcher.%41.😀"))) true =
      some { kind := .opaque, text := c10Txt "B%C3%9Ccher.%41.%F0%9F%98%80" } ∧
    Impl.parseHost c10Idna (c10Txt "BÜcher.%41.😀") true =
      some { kind := .opaque, text := c10Txt "B%C3%9Ccher.%41.%F0%9F%98%80" } := by
  rw [c10Txt_eq]; decide_ascii
-- a domain (IDNA path, not evaluable in the kernel): instance of the theorem
example : Impl.parseHost c10Idna (Impl.decode .u16 (Spec.encode .u16 (c10Txt "BÜcher.%41.😀"))) false =
    Impl.parseHost c10Idna (c10Txt "BÜcher.%41.😀") false :=
  C10_host_same_text c10Idna .u16 (c10Txt "BÜcher.%41.😀") false (by rw [c10Txt_eq]; decide_ascii)

/-- `percent_encode` / `encode_url_component` / `percent_decode` (the driver calls the models on
    `Impl.decode e units`) -/
theorem C10_percent_same_text :
    ∀ (noEnc : Nat → Bool) (e : Enc) (s : List Nat), (∀ c ∈ s, Spec.isScalar c = true) →
      Impl.percentEncode noEnc (Impl.decode e (Spec.encode e s)) = Impl.percentEncode noEnc s ∧
      Impl.percentDecode (Impl.decode e (Spec.encode e s)) = Impl.percentDecode s :=
  fun noEnc e s h => by rw [C10_roundtrip e s h]; exact ⟨rfl, rfl⟩

example : Impl.percentEncode Impl.pathNoEnc (Impl.decode .u8 (Spec.encode .u8 (c10Txt "a ä€😀"))) =
      c10Txt "a%20%C3%A4%E2%82%AC%F0%9F%98%80" ∧
    Impl.percentEncode Impl.pathNoEnc (Impl.decode .u16 (Spec.encode .u16 (c10Txt "a ä€😀"))) =
      c10Txt "a%20%C3%A4%E2%82%AC%F0%9F%98%80" ∧
    Impl.percentEncode Impl.pathNoEnc (c10Txt "a ä€😀") = c10Txt "a%20%C3%A4%E2%82%AC%F0%9F%98%80" := by
  rw [c10Txt_eq]; decide_ascii
-- (`percentDecodeAux` is compiled by well-founded recursion: the decoding is run through its fuel-driven copy,
-- `Proofs.Eval.percentDecode_eq_fuel`)
example : Impl.decode .u8 (Spec.encode .u8 (c10Txt "%41ä%E2%82%AC%FF€")) = c10Txt "%41ä%E2%82%AC%FF€" ∧
    Impl.decode .u16 (Spec.encode .u16 (c10Txt "%41ä%E2%82%AC%FF€")) = c10Txt "%41ä%E2%82%AC%FF€" ∧
    c10Txt "%41ä%E2%82%AC%FF€" =
      [0x25, 0x34, 0x31, 0xE4, 0x25, 0x45, 0x32, 0x25, 0x38, 0x32, 0x25, 0x41, 0x43, 0x25, 0x46, 0x46, 0x20AC] := by
  rw [c10Txt_eq]; decide_ascii
example : Impl.percentDecode
      [0x25, 0x34, 0x31, 0xE4, 0x25, 0x45, 0x32, 0x25, 0x38, 0x32, 0x25, 0x41, 0x43, 0x25, 0x46, 0x46, 0x20AC] =
    [0x41, 0xC3, 0xA4, 0xE2, 0x82, 0xAC, 0xEF, 0xBF, 0xBD, 0xE2, 0x82, 0xAC] := by
  rw [Proofs.Eval.percentDecode_eq_fuel]; decide +kernel

/-- `url_from_file_path` -/
theorem C10_file_path_same_text :
    ∀ (idna : Idna) (e : Enc) (s : List Nat) (fmt : Impl.PathFormat), (∀ c ∈ s, Spec.isScalar c = true) →
      Impl.urlFromFilePath idna (Impl.decode e (Spec.encode e s)) fmt = Impl.urlFromFilePath idna s fmt :=
  fun idna e s fmt h => by rw [C10_roundtrip e s h]

-- (`hasDotDotSegment` is compiled by well-founded recursion: the input is evaluated in the kernel, the
-- scan replaced by its characterisation `Proofs.C17.urlFromFilePath_posix`, the parse evaluated)
example : Impl.decode .u8 (Spec.encode .u8 (c10Txt "/tmp/ä €/😀")) = c10Txt "/tmp/ä €/😀" ∧
    Impl.decode .u16 (Spec.encode .u16 (c10Txt "/tmp/ä €/😀")) = c10Txt "/tmp/ä €/😀" := by
  rw [c10Txt_eq]; decide_ascii
example : c10Ser (Impl.urlFromFilePath c10Idna (c10Txt "/tmp/ä €/😀") .posix) =
    some (c10Txt "file:///tmp/%C3%A4%20%E2%82%AC/%F0%9F%98%80") := by
  rw [Proofs.C17.urlFromFilePath_posix, if_pos (by rw [c10Txt_eq]; decide_ascii)]
  decide +kernel
example : Impl.urlFromFilePath c10Idna (Impl.decode .u16 (Spec.encode .u16 (c10Txt "C:\\ä\\😀"))) .windows =
    Impl.urlFromFilePath c10Idna (c10Txt "C:\\ä\\😀") .windows :=
  C10_file_path_same_text c10Idna .u16 (c10Txt "C:\\ä\\😀") .windows (by rw [c10Txt_eq]; decide_ascii)

/-- `url_search_params`: the stored string is the UTF-8 encoding of the text in every encoding — for
    `char` input too, where `make_string` is the identity (finding F3 concerns ill-formed bytes only) -/
theorem C10_params_same_text :
    ∀ (e : Enc) (s : List Nat), (∀ c ∈ s, Spec.isScalar c = true) →
      Impl.makeString e (Spec.encode e s) = Spec.utf8Encode s :=
  makeString_encode

example : ∀ e ∈ [Enc.u8, .u16, .u32], Impl.makeString e (Spec.encode e (c10Txt "a=ä€😀")) =
    [0x61, 0x3D, 0xC3, 0xA4, 0xE2, 0x82, 0xAC, 0xF0, 0x9F, 0x98, 0x80] := by
  rw [c10Txt_eq]; decide_ascii
-- F3: with ill-formed bytes the `char` API keeps them, the other APIs repair
example : Impl.makeString .u8 [0x61, 0xE2, 0x82] = [0x61, 0xE2, 0x82] ∧
    Impl.makeString .u16 [0x61, 0xD83D] = [0x61, 0xEF, 0xBF, 0xBD] := by decide +kernel

/-! ### 3. ill-formed input -/

/-- the parser input is the Standard's decoding — one U+FFFD per maximal ill-formed subsequence — of the
    units that remain AFTER tab/newline removal (`C01_input_conversion`, restated with `Spec.decode`) -/
theorem C10_illformed_as_replacement :
    ∀ (e : Enc) (units : List Nat), UnitsOk e units →
      Impl.prep e units = Spec.decode e (Impl.removeWs units) :=
  fun e units h => C01_input_conversion e units h

example : UnitsOk .u8 [0x61, 0xE2, 0x0A, 0x82, 0xAC, 0xE2, 0x20, 0x82, 0xAC, 0xC3, 0x09, 0xF0, 0x9F, 0x0D, 0x98] := by
  simp only [UnitsOk]; decide +kernel
example : Impl.prep .u8 [0x61, 0xE2, 0x0A, 0x82, 0xAC, 0xE2, 0x20, 0x82, 0xAC, 0xC3, 0x09, 0xF0, 0x9F, 0x0D, 0x98] =
      [0x61, 0x20AC, 0xFFFD, 0x20, 0xFFFD, 0xFFFD, 0xFFFD, 0xFFFD] ∧
    Spec.decode .u8 (Impl.removeWs [0x61, 0xE2, 0x0A, 0x82, 0xAC, 0xE2, 0x20, 0x82, 0xAC, 0xC3, 0x09, 0xF0, 0x9F,
      0x0D, 0x98]) = [0x61, 0x20AC, 0xFFFD, 0x20, 0xFFFD, 0xFFFD, 0xFFFD, 0xFFFD] := by decide +kernel
example : UnitsOk .u16 [0xD83D, 0x0A, 0xDE00, 0xD83D, 0x20, 0xDE00, 0xD800] := by
  simp only [UnitsOk]; decide +kernel
example : Impl.prep .u16 [0xD83D, 0x0A, 0xDE00, 0xD83D, 0x20, 0xDE00, 0xD800] =
      [0x1F600, 0xFFFD, 0x20, 0xFFFD, 0xFFFD] ∧
    Impl.removeWs [0xD83D, 0x0A, 0xDE00, 0xD83D, 0x20, 0xDE00, 0xD800] =
      [0xD83D, 0xDE00, 0xD83D, 0x20, 0xDE00, 0xD800] := by decide +kernel
-- (`Spec.utf16Decode` is compiled by well-founded recursion: unfolded with its equations)
example : Spec.decode .u16 [0xD83D, 0xDE00, 0xD83D, 0x20, 0xDE00, 0xD800] =
    [0x1F600, 0xFFFD, 0x20, 0xFFFD, 0xFFFD] := by
  simp [Spec.decode, Impl.utf16Decode_two, Impl.utf16Decode_one]

/-- the decoded parser input is well-formed text on which the whole preprocessing of the UTF-32 API is
    the identity: it contains no tab/newline (the decoder never produces an ASCII value that was not a
    unit) and neither end is ≤ 0x20 (the first / last scalar value is ASCII only if the first / last
    unit is) -/
theorem C10_decoded_input_clean :
    ∀ (e : Enc) (units : List Nat), UnitsOk e units →
      let t := Spec.decode e (Impl.removeWs (Impl.doTrim units))
      (∀ c ∈ t, Spec.isScalar c = true) ∧ Impl.removeWs t = t ∧ Impl.doTrim t = t ∧
        Impl.prep .u32 (Impl.doTrim t) = t := by
  intro e units h
  have hl := unitsOk_uOk h
  simp only [← decode_eq e _ hl.doTrim.removeWs]
  refine ⟨decode_scalars e _ hl.doTrim.removeWs, removeWs_decode_self e _, ?_,
    prep_u32_decoded e units hl⟩
  exact doTrim_decoded e units

/-- parsing ill-formed units = parsing the well-formed text obtained by the replacement (no further
    hypothesis on trimming is needed) -/
theorem C10_parse_illformed :
    ∀ (idna : Idna) (e : Enc) (units : List Nat) (base : Option Url), UnitsOk e units →
      Impl.parse idna e units base =
        Impl.parse idna .u32 (Spec.decode e (Impl.removeWs (Impl.doTrim units))) base := by
  intro idna e units base h
  have hl := unitsOk_uOk h
  rw [← decode_eq e _ hl.doTrim.removeWs]
  exact parse_illformed idna e units base hl

/-- the same with the Standard's conversion of the untrimmed units (`Spec.parserInput`): trimming
    commutes with decoding, tab/newline removal does not -/
theorem C10_parse_illformed_input :
    ∀ (idna : Idna) (e : Enc) (units : List Nat) (base : Option Url), UnitsOk e units →
      Impl.parse idna e units base = Impl.parse idna .u32 (Spec.parserInput e units) base ∧
      Impl.canParse idna e units base = Impl.canParse idna .u32 (Spec.parserInput e units) base := by
  intro idna e units base h
  have hl := unitsOk_uOk h
  rw [← C01_input_conversion e units h]
  exact ⟨parse_parserInput idna e units base hl, canParse_parserInput idna e units base hl⟩

theorem C10_trim_decode :
    ∀ (e : Enc) (units : List Nat), UnitsOk e units →
      Impl.doTrim (Impl.decode e units) = Impl.decode e (Impl.doTrim units) :=
  fun e units _ => doTrim_decode e units

private def bad8 : List Nat :=
  [0x20, 0x09] ++ c10Txt "http://h/" ++ [0xE2, 0x0A, 0x82, 0xAC, 0x2F, 0xE2, 0x20, 0x82, 0xAC, 0xC3, 0x09, 0x20, 0x0A]
private def bad16 : List Nat := c10Txt " http://h/" ++ [0xD83D, 0x0A, 0xDE00, 0x2F, 0xD83D, 0x20, 0xDE00, 0xD800, 0x09]

example : UnitsOk .u8 bad8 ∧ UnitsOk .u16 bad16 := by
  constructor <;> (simp only [UnitsOk]; decide +kernel)
example : Spec.decode .u8 (Impl.removeWs (Impl.doTrim bad8)) =
      c10Txt "http://h/€/\uFFFD \uFFFD\uFFFD\uFFFD" ∧
    Spec.parserInput .u8 bad8 = c10Txt " http://h/€/\uFFFD \uFFFD\uFFFD\uFFFD " ∧
    c10Ser (Impl.parse c10Idna .u8 bad8 none) =
      some (c10Txt "http://h/%E2%82%AC/%EF%BF%BD%20%EF%BF%BD%EF%BF%BD%EF%BF%BD") ∧
    c10Ser (Impl.parse c10Idna .u32 (c10Txt "http://h/€/\uFFFD \uFFFD\uFFFD\uFFFD") none) =
      some (c10Txt "http://h/%E2%82%AC/%EF%BF%BD%20%EF%BF%BD%EF%BF%BD%EF%BF%BD") := by
  unfold bad8
  rw [c10Txt_eq]; decide_ascii
example : Impl.decode .u16 (Impl.removeWs (Impl.doTrim bad16)) = c10Txt "http://h/😀/\uFFFD \uFFFD\uFFFD" ∧
    c10Ser (Impl.parse c10Idna .u16 bad16 none) = some (c10Txt "http://h/%F0%9F%98%80/%EF%BF%BD%20%EF%BF%BD%EF%BF%BD") ∧
    c10Ser (Impl.parse c10Idna .u32 (c10Txt "http://h/😀/\uFFFD \uFFFD\uFFFD") none) =
      some (c10Txt "http://h/%F0%9F%98%80/%EF%BF%BD%20%EF%BF%BD%EF%BF%BD") := by
  unfold bad16
  rw [c10Txt_eq]; decide_ascii
-- tab/newline removal does NOT commute with decoding (that is the clause of C10)
example : Impl.removeWs (Impl.decode .u8 [0xE2, 0x0A, 0x82, 0xAC]) = [0xFFFD, 0xFFFD, 0xFFFD] ∧
    Impl.decode .u8 (Impl.removeWs [0xE2, 0x0A, 0x82, 0xAC]) = [0x20AC] := by decide +kernel

/-- setters on ill-formed input.  Every parser-based setter sees the Standard's conversion taken after
    tab/newline removal; `port`, `search`, `hash` test the raw units (empty value, one leading `?` / `#`)
    BEFORE tab/newline removal — as the Standard's setters do — so for them the first unit must not be a
    tab/newline (counterexample below: `port` with value "\n" is a no-op, with value "" it resets the port).
    `username` / `password` never reach the parser and use the plain conversion. -/
theorem C10_set_illformed :
    ∀ (idna : Idna) (st : Impl.Setter) (e : Enc) (units : List Nat) (u : Url), UnitsOk e units →
      ((st ≠ .username ∧ st ≠ .password) →
        ((st = .port ∨ st = .search ∨ st = .hash) →
          ∀ c, units.head? = some c → Impl.isRemovable c = false) →
        Impl.setValid idna st e units u = Impl.setValid idna st .u32 (Spec.parserInput e units) u) ∧
      ((st = .username ∨ st = .password) →
        Impl.setValid idna st e units u = Impl.setValid idna st .u32 (Impl.decode e units) u) := by
  intro idna st e units u h
  have hl := unitsOk_uOk h
  rw [← C01_input_conversion e units h]
  exact ⟨setValid_illformed idna st e units u hl, setValid_illformed_cred idna st e units u hl⟩

example : serSet (Impl.setValid c10Idna .search .u8 [0x3F, 0xE2, 0x0A, 0x82, 0xAC, 0xE2, 0x20, 0x82] u0) =
      (c10Txt "http://u:p@h:81/p?%E2%82%AC%EF%BF%BD%20%EF%BF%BD#f", true) ∧
    Spec.parserInput .u8 [0x3F, 0xE2, 0x0A, 0x82, 0xAC, 0xE2, 0x20, 0x82] = c10Txt "?€\uFFFD \uFFFD" ∧
    serSet (Impl.setValid c10Idna .search .u32 (c10Txt "?€\uFFFD \uFFFD") u0) =
      (c10Txt "http://u:p@h:81/p?%E2%82%AC%EF%BF%BD%20%EF%BF%BD#f", true) := by
  unfold u0
  rw [c10Txt_eq]; decide_ascii
example : serSet (Impl.setValid c10Idna .pathname .u8 [0x2F, 0xE2, 0x0A, 0x82, 0xAC, 0x2F, 0xE2, 0x82] u0) =
      (c10Txt "http://u:p@h:81/%E2%82%AC/%EF%BF%BD?q#f", true) ∧
    Spec.parserInput .u8 [0x2F, 0xE2, 0x0A, 0x82, 0xAC, 0x2F, 0xE2, 0x82] = c10Txt "/€/\uFFFD" ∧
    serSet (Impl.setValid c10Idna .pathname .u32 (c10Txt "/€/\uFFFD") u0) =
      (c10Txt "http://u:p@h:81/%E2%82%AC/%EF%BF%BD?q#f", true) ∧
    serSet (Impl.setValid c10Idna .username .u8 [0xE2, 0x0A, 0x82, 0xAC] u0) =
      (c10Txt "http://%EF%BF%BD%0A%EF%BF%BD%EF%BF%BD:p@h:81/p?q#f", true) ∧
    serSet (Impl.setValid c10Idna .username .u32 (Impl.decode .u8 [0xE2, 0x0A, 0x82, 0xAC]) u0) =
      (c10Txt "http://%EF%BF%BD%0A%EF%BF%BD%EF%BF%BD:p@h:81/p?q#f", true) := by
  unfold u0
  rw [c10Txt_eq]; decide_ascii
-- the port counterexample mentioned above
example : serSet (Impl.setValid c10Idna .port .u8 [0x0A] u0) = (c10Txt "http://u:p@h:81/p?q#f", true) ∧
    Spec.parserInput .u8 [0x0A] = [] ∧
    serSet (Impl.setValid c10Idna .port .u32 [] u0) = (c10Txt "http://u:p@h/p?q#f", true) := by
  unfold u0
  rw [c10Txt_eq]; decide_ascii

/-! ### 4. the tab/newline clause on a concrete URL -/

/-- `E2 0A 82 AC` — the UTF-8 of U+20AC interrupted by a newline — is parsed as `%E2%82%AC`;
    `E2 20 82 AC` — interrupted by a space — is three maximal ill-formed subsequences around `%20`.
    The same for a surrogate pair in UTF-16. -/
theorem C10_tab_newline_example :
    c10Ser (Impl.parse c10Idna .u8 (c10Txt "http://h/" ++ [0xE2, 0x0A, 0x82, 0xAC]) none) =
      some (c10Txt "http://h/%E2%82%AC") ∧
    c10Ser (Impl.parse c10Idna .u8 (c10Txt "http://h/" ++ [0xE2, 0x20, 0x82, 0xAC]) none) =
      some (c10Txt "http://h/%EF%BF%BD%20%EF%BF%BD%EF%BF%BD") ∧
    c10Ser (Impl.parse c10Idna .u16 (c10Txt "http://h/" ++ [0xD83D, 0x09, 0xDE00]) none) =
      some (c10Txt "http://h/%F0%9F%98%80") ∧
    c10Ser (Impl.parse c10Idna .u16 (c10Txt "http://h/" ++ [0xD83D, 0x20, 0xDE00]) none) =
      some (c10Txt "http://h/%EF%BF%BD%20%EF%BF%BD") := by
  rw [c10Txt_eq]; decide_ascii

end Upa.Props

#print axioms Upa.Props.C10_trim_encode
#print axioms Upa.Props.C10_removeWs_encode
#print axioms Upa.Props.C10_prep_same_text
#print axioms Upa.Props.C10_parse_same_text
#print axioms Upa.Props.C10_parse_indep
#print axioms Upa.Props.C10_can_parse_same_text
#print axioms Upa.Props.C10_set_same_text
#print axioms Upa.Props.C10_encode_nil_iff
#print axioms Upa.Props.C10_encode_head
#print axioms Upa.Props.C10_obj_same_text
#print axioms Upa.Props.C10_host_same_text
#print axioms Upa.Props.C10_percent_same_text
#print axioms Upa.Props.C10_file_path_same_text
#print axioms Upa.Props.C10_params_same_text
#print axioms Upa.Props.C10_illformed_as_replacement
#print axioms Upa.Props.C10_decoded_input_clean
#print axioms Upa.Props.C10_parse_illformed
#print axioms Upa.Props.C10_parse_illformed_input
#print axioms Upa.Props.C10_trim_decode
#print axioms Upa.Props.C10_set_illformed
#print axioms Upa.Props.C10_tab_newline_example
