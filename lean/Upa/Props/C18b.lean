import Upa.Proofs.StrView
/-
  C18 — the C++11/14 builds (bundled `upa::str_view`, include/upa/str_view.h) and the C++17/20 builds
  (`std::basic_string_view`) compute the same values.  Model and the transcription of [string.view.ops],
  [string.view.modifiers], [string.view.comparison], [char.traits.require]: Impl/StrView.lean
  (`Upa.Impl.SV`, `Upa.Impl.SV.StdView`); lemmas: Proofs/StrView.lean.
  `mag` = the unspecified magnitude of a non-zero result of `Traits::compare`: the theorems hold for every one.
-/
namespace Upa.Props
open Upa.Impl.SV

/-- `compare`: for views that lie within their arrays the bundled class reads nothing outside them, and the
    SIGN of its result is the one `std::basic_string_view::compare` specifies, which is the lexicographic
    order of the code units (UNSIGNED values), a proper prefix being smaller. -/
theorem C18_str_view_compare (mag : Nat → Nat → Nat) (v x : View) (hv : v.Valid) (hx : x.Valid) :
    ∃ r, compare mag v x = some r ∧
      r.sign = StdView.compareSign v.toList x.toList ∧
      r.sign = ordSign (lexCmp v.toList x.toList) ∧
      (r < 0 ↔ v.toList < x.toList) ∧ (r = 0 ↔ v.toList = x.toList) := by
  obtain ⟨r, h1, h2⟩ := compare_spec mag v x hv hx
  have h3 : r.sign = ordSign (lexCmp v.toList x.toList) := by rw [h2, compareSign_lex]
  refine ⟨r, h1, h2, h3, ?_, ?_⟩
  · rw [← lexCmp_lt_iff, ← Int.sign_eq_neg_one_iff_neg, h3]
    cases lexCmp v.toList x.toList <;> simp [ordSign]
  · rw [← lexCmp_eq, ← Int.sign_eq_zero_iff_zero, h3, ordSign_eq_zero]

example : compare (fun _ _ => 0) (ofList [0x61, 0x62]) (ofList [0x61, 0x62, 0x63]) = some (-1) := by decide +kernel
example : compare (fun x y => x + y) { base := [9, 0x62, 0x7a, 9], off := 1, len := 2 } (ofList [0x62, 0x61]) = some 220 := by
  decide +kernel
example : ({ base := [9, 0x62, 0x7a, 9], off := 1, len := 2 } : View).Valid := by simp [View.Valid]
/-- where signedness would matter: as `unsigned char` 0x80 > 0x7f; as (signed) `char` it is −128 < 127 -/
theorem signedCompareDiffers :
    compare (fun _ _ => 0) (ofList [0x80]) (ofList [0x7f]) = some 1 ∧ signedByte 0x80 < signedByte 0x7f := by
  decide +kernel

/-- `==` / `!=`: same length and equal elements, which is what `std`'s `lhs.compare(rhs) == 0` gives -/
theorem C18_str_view_eq (mag : Nat → Nat → Nat) (v x : View) (hv : v.Valid) (hx : x.Valid) :
    equal mag v x = some (StdView.eq v.toList x.toList) ∧
    equal mag v x = some (decide (v.toList = x.toList)) ∧
    notEqual mag v x = some (!(StdView.eq v.toList x.toList)) := by
  have h := equal_spec mag v x hv hx
  have e := stdEq_iff v.toList x.toList
  refine ⟨by rw [h, e], h, ?_⟩
  simp only [notEqual, h, e, Option.map_some]

example : equal (fun _ _ => 0) (ofList [1, 2, 3]) { base := [0, 1, 2, 3, 4], off := 1, len := 3 } = some true := by
  decide +kernel
example : equal (fun _ _ => 0) (ofList [1, 2, 3]) (ofList [1, 2]) = some false := by decide +kernel

/-- `remove_prefix(n)`, `remove_suffix(n)` under the standard's precondition n ≤ size(), and `operator[]`
    under i < size(): `drop n`, dropping the last n, the i-th element; the view stays within its array. -/
theorem C18_str_view_remove (v : View) (n : Nat) (hv : v.Valid) (hl : v.len < 18446744073709551616)
    (hn : n ≤ v.len) :
    ((removePrefix v n).Valid ∧ (removePrefix v n).toList = StdView.removePrefix v.toList n ∧
      (removePrefix v n).toList = v.toList.drop n) ∧
    ((removeSuffix v n).Valid ∧ (removeSuffix v n).toList = StdView.removeSuffix v.toList n ∧
      (removeSuffix v n).toList = v.toList.take (v.len - n)) ∧
    (∀ i, i < v.len → get v i = v.toList[i]?) := by
  obtain ⟨p1, _, p3⟩ := removePrefix_spec v n hv hl hn
  obtain ⟨s1, _, s3⟩ := removeSuffix_spec v n hv hl hn
  refine ⟨⟨p1, p3, p3⟩, ⟨s1, s3, ?_⟩, fun i hi => get_spec v i hi⟩
  rw [s3, toList_length v hv]

example : (removePrefix (ofList [1, 2, 3, 4]) 1).toList = [2, 3, 4] ∧ (removeSuffix (ofList [1, 2, 3, 4]) 3).toList = [1] ∧
    get (ofList [1, 2, 3, 4]) 2 = some 3 := by decide +kernel
/-- outside the precondition (undefined behaviour in `std`; the bundled class has no check): `len_` wraps -/
example : (removePrefix (ofList [1, 2]) 3).len = 18446744073709551615 := by decide +kernel

/-- the harness line is about views over whole arrays: always valid -/
theorem C18_str_view_line (a b : List Nat) :
    (ofList a).Valid ∧ (ofList b).Valid ∧ (ofList a).toList = a ∧ (ofList b).toList = b :=
  ⟨ofList_valid a, ofList_valid b, ofList_toList a, ofList_toList b⟩

example : runSvLine [0x61, 0x62, 0x63] [0x61, 0x62, 0x64] 1 = "sv cmp=-1 eq=0 pre=6263 suf=6162" := by decide +kernel

#print axioms C18_str_view_compare
#print axioms signedCompareDiffers
#print axioms C18_str_view_eq
#print axioms C18_str_view_remove
#print axioms C18_str_view_line
end Upa.Props
