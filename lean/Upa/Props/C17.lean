import Upa.Proofs.FilePath
import Upa.Proofs.EvalFuel
import Upa.Proofs.Literal
/-
  C17 — url_from_file_path / path_from_file_url (include/upa/url.h:3251-3401, scanners 1058-1074 and 3100-3182;
  model: Upa/Impl/FilePath.lean): the conversions are injection-safe and well-shaped.
  Helper lemmas: Upa/Proofs/FilePathScan.lean (the scanners), Upa/Proofs/FilePath.lean (namespace Upa.Proofs.C17).
  The hypothesis `∀ c ∈ s, Spec.isScalar c = true` that the statements about the encoded text and about the URL
  made from a path carry is not used by their proofs: the lemmas behind them (`posix_safe`, `enc_word`,
  `urlFromFilePath_posix_eq`, `from_path_windows`) hold for every `List Nat`.  Only the round trips
  (`C17_encode_roundtrip`, `C17_roundtrip_posix`, Props/C17b.lean) need scalar input.
-/
namespace Upa.Props
open Upa.Proofs.C14 (PctWord)
open Upa.Proofs.C17 (SafePosix SafeRaw winClassify)
open Upa.Proofs.C08 (fileBase)
open Upa.Proofs.Eval (percentDecode_eq_fuel)

/-- stub IDNA used by the evaluated examples -/
def c17Idna : Idna := fun l => some (l.map toLower)

/-! ### 1. has_dot_dot_segment: the skipping scan is exact -/

theorem C17_dotdot :
    ∀ (isSl : Nat → Bool) (s : List Nat), isSl 0x2E = false →
      (Impl.hasDotDotSegment isSl none s = true ↔ [0x2E, 0x2E] ∈ splitOnP isSl s) := by
  intro isSl s h
  have := Proofs.C17.hasDotDot_gen isSl h none s
  simpa [Proofs.C17.atBoundary, Proofs.C17.dd] using this

/-- the induction-strength form: `prev` = the character before the scanned suffix -/
theorem C17_dotdot_gen :
    ∀ (isSl : Nat → Bool) (prev : Option Nat) (s : List Nat), isSl 0x2E = false →
      (Impl.hasDotDotSegment isSl prev s = true ↔
        (if (match prev with | none => true | some p => isSl p) = true
         then [0x2E, 0x2E] ∈ splitOnP isSl s else [0x2E, 0x2E] ∈ (splitOnP isSl s).tail)) := by
  intro isSl prev s h
  have := Proofs.C17.hasDotDot_gen isSl h prev s
  cases prev with
  | none => exact this
  | some p => exact this

-- hypothesis satisfiable: both separator predicates the library uses
example : (fun c => c == 0x2F) 0x2E = false ∧ Impl.isWindowsSlash 0x2E = false := by decide +kernel
-- "/a/../b": found; "/a/..b/.../c.." : every `..` is part of a longer name, none found;
-- "/./.." : the scan skips "./" and still sees the final ".."
example : [0x2E, 0x2E] ∈ splitOnP (· == 0x2F) (asciiStr "/a/../b") := by decide_ascii
example : Impl.hasDotDotSegment (· == 0x2F) none [0x2F, 0x61, 0x2F, 0x2E, 0x2E, 0x2F, 0x62] = true := by
  simp [Impl.hasDotDotSegment]
example : [0x2E, 0x2E] ∉ splitOnP (· == 0x2F) (asciiStr "/a/..b/.../c..") := by decide_ascii
example : Impl.hasDotDotSegment (· == 0x2F) none
    [0x2F, 0x61, 0x2F, 0x2E, 0x2E, 0x62, 0x2F, 0x2E, 0x2E, 0x2E, 0x2F, 0x63, 0x2E, 0x2E] = false := by
  simp [Impl.hasDotDotSegment]
example : [0x2E, 0x2E] ∈ splitOnP (· == 0x2F) (asciiStr "/./..") := by decide_ascii
example : Impl.hasDotDotSegment (· == 0x2F) none [0x2F, 0x2E, 0x2F, 0x2E, 0x2E] = true := by
  simp [Impl.hasDotDotSegment]
example : [0x2E, 0x2E] ∈ splitOnP Impl.isWindowsSlash (asciiStr "a\\../b") := by decide_ascii

/-! ### 2. is_unc_path: what is accepted -/

theorem C17_unc_shape :
    ∀ s r : List Nat, Impl.isUncPath s = some r →
      ∃ host sl share, s = host ++ sl :: (share ++ r) ∧ Impl.isWindowsSlash sl = true ∧
        host ≠ [] ∧ share ≠ [] ∧
        (∀ c ∈ host ++ share, Impl.isWindowsSlash c = false ∧ c ≠ 0) ∧
        host ≠ [0x3F] ∧ host ≠ [0x2E] ∧ (∀ a b, host = [a, b] → Impl.isWindowsDrive a b = false) ∧
        share ≠ [0x2E] ∧ share ≠ [0x2E, 0x2E] ∧
        (r = [] ∨ ∃ x r', r = x :: r' ∧ Impl.isWindowsSlash x = true) ∧ 0 ∉ r :=
  Proofs.C17.isUncPath_shape

example : Impl.isUncPath (asciiStr "host\\share\\dir/file") = some (asciiStr "\\dir/file") := by decide_ascii
example : Impl.isUncPath (asciiStr "host/share") = some [] := by decide_ascii
-- rejected: "?" / "." host (Win32 file / device namespace), drive-letter host, "." / ".." share,
-- no share, empty component, NUL
example : Impl.isUncPath (asciiStr "?\\share") = none ∧ Impl.isUncPath (asciiStr ".\\share") = none ∧
    Impl.isUncPath (asciiStr "C:\\share") = none ∧ Impl.isUncPath (asciiStr "C|\\share") = none ∧
    Impl.isUncPath (asciiStr "host\\.") = none ∧ Impl.isUncPath (asciiStr "host\\..\\x") = none ∧
    Impl.isUncPath (asciiStr "host") = none ∧ Impl.isUncPath (asciiStr "host\\") = none ∧
    Impl.isUncPath (asciiStr "host\\\\share") = none ∧ Impl.isUncPath (asciiStr "\\host\\share") = none ∧
    Impl.isUncPath (asciiStr "host\\share\\a\\\\b") = none ∧
    Impl.isUncPath ([0x68, 0] ++ asciiStr "\\share") = none ∧
    Impl.isUncPath (asciiStr "host\\share\\" ++ [0x61, 0]) = none := by decide_ascii

/-! ### 3. url_from_file_path rejects: empty, non-absolute, a ".." segment, a NUL (POSIX) -/

theorem C17_reject :
    ∀ (idna : Idna) (s : List Nat) (fmt : Impl.PathFormat),
      (s = [] ∨ (fmt = .posix ∧ s.head? ≠ some 0x2F) ∨
       (fmt = .posix ∧ [0x2E, 0x2E] ∈ splitOnP (· == 0x2F) s) ∨ (fmt = .posix ∧ 0 ∈ s)) →
      Impl.urlFromFilePath idna s fmt = none := by
  intro idna s fmt h
  rcases h with h | ⟨hf, h⟩ | ⟨hf, h⟩ | ⟨hf, h⟩
  · subst h; cases fmt <;> rfl
  all_goals
    subst hf
    rw [Proofs.C17.urlFromFilePath_posix, if_neg]
    intro hc
    simp only [Proofs.C17.dd] at hc
    first | exact h hc.1 | exact hc.2.1 h | exact hc.2.2 h

/-- the exact acceptance condition (POSIX): absolute, no ".." segment, no NUL; then the result is the
    parser's result on `file://` + the percent-encoded path -/
theorem C17_posix_url_text :
    ∀ (idna : Idna) (s : List Nat),
      s.head? = some 0x2F → [0x2E, 0x2E] ∉ splitOnP (· == 0x2F) s → 0 ∉ s →
      Impl.urlFromFilePath idna s .posix =
        Impl.parse idna .u8 (Impl.sFilePrefix ++ Impl.percentEncode Impl.posixPathNoEnc s) none := by
  intro idna s h1 h2 h3
  rw [Proofs.C17.urlFromFilePath_posix, if_pos ⟨h1, h2, h3⟩]

example : Impl.urlFromFilePath c17Idna [] .posix = none ∧ Impl.urlFromFilePath c17Idna [] .windows = none := by
  decide +kernel
example : Impl.urlFromFilePath c17Idna (asciiStr "home/a") .posix = none :=
  C17_reject _ _ _ (Or.inr (Or.inl ⟨rfl, by decide_ascii⟩))
example : Impl.urlFromFilePath c17Idna (asciiStr "/home/../a") .posix = none :=
  C17_reject _ _ _ (Or.inr (Or.inr (Or.inl ⟨rfl, by decide_ascii⟩)))
example : Impl.urlFromFilePath c17Idna (asciiStr "/home/" ++ [0]) .posix = none :=
  C17_reject _ _ _ (Or.inr (Or.inr (Or.inr ⟨rfl, by decide_ascii⟩)))
-- (the same rejection by unfolding the model, independent of the theorems above)
example : Impl.urlFromFilePath c17Idna [0x2F, 0x61, 0x2F, 0x2E, 0x2E] .posix = none := by
  simp [Impl.urlFromFilePath, Impl.hasDotDotSegment]
-- an accepted path with every dangerous character: `?`, `#`, `%41`, `:`, `\`, `|`, space, U+00E9,
-- a "." segment and names that merely contain ".."
example : (Impl.urlFromFilePath c17Idna (asciiStr "/home/u s/./..a/a?b#c%41:\\|" ++ [0xE9]) .posix).map
      (fun u => Impl.serialize u) =
    some (asciiStr "file:///home/u%20s/..a/a%3Fb%23c%2541%3A%5C%7C%C3%A9") := by
  rw [C17_posix_url_text _ _ (by decide_ascii) (by decide_ascii) (by decide_ascii)]
  decide_ascii

/-! ### 4. the text handed to the parser is injection-safe -/

/-- POSIX: no byte of the encoded path is `?` `#` `\` `:` `|`, TAB/LF/CR, a space or control, DEL or
    non-ASCII: nothing can act as a query/fragment delimiter, a backslash separator, a drive-letter
    colon/pipe, or be trimmed or stripped by the parser's preprocessing -/
theorem C17_posix_no_delims :
    ∀ s : List Nat, (∀ c ∈ s, Spec.isScalar c = true) →
      ∀ c ∈ Impl.percentEncode Impl.posixPathNoEnc s,
        c ≠ 0x3F ∧ c ≠ 0x23 ∧ c ≠ 0x5C ∧ c ≠ 0x3A ∧ c ≠ 0x7C ∧ c ≠ 0x09 ∧ c ≠ 0x0A ∧ c ≠ 0x0D ∧
          0x20 < c ∧ c < 0x7F :=
  fun s _ => Proofs.C17.posix_safe s

/-- Windows (raw path set): the same without `:` `\` `|` -/
theorem C17_windows_no_delims :
    ∀ s : List Nat, (∀ c ∈ s, Spec.isScalar c = true) →
      ∀ c ∈ Impl.percentEncode Impl.rawPathNoEnc s,
        c ≠ 0x3F ∧ c ≠ 0x23 ∧ c ≠ 0x09 ∧ c ≠ 0x0A ∧ c ≠ 0x0D ∧ 0x20 < c ∧ c < 0x7F :=
  fun s _ => Proofs.C17.raw_safe s

/-- `%` is encoded too: in the output a `%` occurs only as the start of a `%XX` triplet made by the
    encoder (the `ok` predicate of the word excludes 0x25), so no escape of the input survives -/
theorem C17_percent_encoded :
    ∀ s : List Nat, (∀ c ∈ s, Spec.isScalar c = true) →
      PctWord (fun c => decide (c < 0x80) && Impl.posixPathNoEnc c && (c != 0x25))
        (Impl.percentEncode Impl.posixPathNoEnc s) :=
  fun s _ => Proofs.C17.posix_word s

theorem C17_percent_encoded_windows :
    ∀ s : List Nat, (∀ c ∈ s, Spec.isScalar c = true) →
      PctWord (fun c => decide (c < 0x80) && Impl.rawPathNoEnc c && (c != 0x25))
        (Impl.percentEncode Impl.rawPathNoEnc s) :=
  fun s _ => Proofs.C17.raw_word s

/-- hence decoding the encoded text gives the UTF-8 bytes of the path back (with C14_roundtrip) -/
theorem C17_encode_roundtrip :
    ∀ s : List Nat, (∀ c ∈ s, Spec.isScalar c = true) →
      Impl.percentDecode (Impl.percentEncode Impl.posixPathNoEnc s) = Spec.utf8Encode s ∧
      Impl.percentDecode (Impl.percentEncode Impl.rawPathNoEnc s) = Spec.utf8Encode s :=
  fun s hs => ⟨Proofs.C14.percentDecode_percentEncode _ s hs (by decide),
    Proofs.C14.percentDecode_percentEncode _ s hs (by decide)⟩

example : ∀ c ∈ asciiStr "/a?b#c%41:\\| \t\n" ++ [0xE9, 0x7F, 1], Spec.isScalar c = true := by decide_ascii
example : Impl.percentEncode Impl.posixPathNoEnc (asciiStr "/a?b#c%41:\\| \t\n" ++ [0xE9, 0x7F, 1]) =
    asciiStr "/a%3Fb%23c%2541%3A%5C%7C%20%09%0A%C3%A9%7F%01" := by decide_ascii
example : Impl.percentEncode Impl.rawPathNoEnc (asciiStr "C:\\a?b#c%41| \t\n" ++ [0xE9, 0x7F, 1]) =
    asciiStr "C:\\a%3Fb%23c%2541|%20%09%0A%C3%A9%7F%01" := by decide_ascii

/-! ### 5. the URL made from a POSIX path has nothing but a scheme, an empty host and a path -/

theorem C17_from_path_safe_posix :
    ∀ (idna : Idna) (s : List Nat) (u : Url), (∀ c ∈ s, Spec.isScalar c = true) →
      Impl.urlFromFilePath idna s .posix = some u →
      u.query = none ∧ u.fragment = none ∧ u.host = some Impl.emptyHost ∧ u.scheme = Impl.sFile ∧
        u.username = [] ∧ u.password = [] ∧ u.port = none ∧ u.hasOpaquePath = false ∧
        u.opaquePath = [] ∧
        u = Impl.parsePath { scheme := Impl.sFile, host := some Impl.emptyHost }
              (Impl.percentEncode Impl.posixPathNoEnc (s.drop 1)) := by
  intro idna s u _ h
  rw [Proofs.C17.urlFromFilePath_posix_eq] at h
  split at h
  · next hc =>
    cases h
    refine ⟨rfl, rfl, rfl, rfl, rfl, rfl, rfl, rfl, rfl, ?_⟩
    cases s with
    | nil => cases hc.1
    | cons c0 r =>
      obtain rfl : c0 = 0x2F := by simpa using hc.1
      have hdd := hc.2.1
      rw [Proofs.C17.splitOnP_cons_sep _ _ _ (by decide)] at hdd
      exact (Proofs.C17.parsePath_posix r (fun hm => hdd (List.mem_cons_of_mem _ hm))).symm
  · cases h

example : ∀ c ∈ asciiStr "/a?b#c", Spec.isScalar c = true := by decide_ascii
example : (Impl.urlFromFilePath c17Idna (asciiStr "/a?b#c") .posix).map (fun u => (u.path, u.query, u.fragment)) =
    some ([asciiStr "a%3Fb%23c"], none, none) := by
  rw [C17_posix_url_text _ _ (by decide_ascii) (by decide_ascii) (by decide_ascii)]
  decide_ascii

/-- the path of that URL: the '/'-separated segments of the input, each percent-encoded with the POSIX
    path set; "." segments are dropped (a trailing "." leaves an empty last segment).
    `posixPathOf [t] = if t = "." then [[]] else [enc t]`,
    `posixPathOf (t :: rest) = (if t = "." then [] else [enc t]) ++ posixPathOf rest`. -/
theorem C17_posix_path :
    ∀ (idna : Idna) (s : List Nat) (u : Url), (∀ c ∈ s, Spec.isScalar c = true) →
      Impl.urlFromFilePath idna s .posix = some u →
      u.path = Proofs.C17.posixPathOf (splitOnP (· == 0x2F) (s.drop 1)) := by
  intro idna s u _ h
  rw [Proofs.C17.urlFromFilePath_posix_eq] at h
  split at h
  · cases h; rfl
  · cases h

example : Proofs.C17.posixPathOf (splitOnP (· == 0x2F) (asciiStr "a b/./c?/.")) =
    [asciiStr "a%20b", asciiStr "c%3F", []] := by decide_ascii
example : (Impl.urlFromFilePath c17Idna (asciiStr "/a b/./c?/.") .posix).map (fun u => u.path) =
    some [asciiStr "a%20b", asciiStr "c%3F", []] := by
  rw [C17_posix_url_text _ _ (by decide_ascii) (by decide_ascii) (by decide_ascii)]
  decide_ascii

/-- POSIX round trip: for a path without "." segments the URL's pathname is the percent-encoded path
    and `path_from_file_url` returns the UTF-8 bytes of the original path -/
theorem C17_roundtrip_posix :
    ∀ (idna : Idna) (s : List Nat) (u : Url), (∀ c ∈ s, Spec.isScalar c = true) →
      Impl.urlFromFilePath idna s .posix = some u →
      [0x2E] ∉ splitOnP (· == 0x2F) s →
      Impl.pathText u = Impl.percentEncode Impl.posixPathNoEnc s ∧
      Impl.pathFromFileUrl u .posix = some (Spec.utf8Encode s) :=
  fun idna s u hs h hnd => (Proofs.C17.roundtrip_posix idna s u hs h hnd).2

example : [0x2E] ∉ splitOnP (· == 0x2F) (asciiStr "/a b/c?#%41/") := by decide_ascii
-- with a "." segment the path comes back normalised: "/a/./b" → file:///a/b → "/a/b"
example : (Impl.urlFromFilePath c17Idna (asciiStr "/a/./b") .posix).map Impl.pathText = some (asciiStr "/a/b") := by
  rw [C17_posix_url_text _ _ (by decide_ascii) (by decide_ascii) (by decide_ascii)]
  decide_ascii

/-! ### Windows format: exact acceptance condition, rejections, shape of the URL -/

/-- the acceptance condition (Windows): `winClassify s` = (pointer, is_unc) is the prefix analysis
    (`\\`, `\\?\`, `\\.\`, `\\?\UNC\` skipped); the rest must be a UNC path resp. a drive-absolute path whose
    remainder `chk` (after the share name resp. after `C:\`) has no ".." segment and no NUL; the parsed URL
    is returned unless its hostname is "." (`Impl.rejectDotHost`, the final check of url_from_file_path) -/
theorem C17_windows_eq :
    ∀ (idna : Idna) (s : List Nat),
      Impl.urlFromFilePath idna s .windows =
        if s = [] then none else
        match (if (winClassify s).2 then Impl.isUncPath (winClassify s).1
               else Impl.isWindowsDriveAbsolutePath (winClassify s).1) with
        | none => none
        | some chk =>
          if [0x2E, 0x2E] ∈ splitOnP Impl.isWindowsSlash chk ∨ 0 ∈ chk then none
          else Impl.rejectDotHost (Impl.parse idna .u8
                 (Impl.sFilePrefix ++ (if (winClassify s).2 then [] else [0x2F]) ++
                 Impl.percentEncode Impl.rawPathNoEnc (winClassify s).1) none) :=
  Proofs.C17.urlFromFilePath_windows

/-- Windows rejections: not `\\`-prefixed and not drive-absolute; a ".." segment after `C:\`; a NUL
    anywhere (the third disjunct asks for scalar input; the proof does not use it) -/
theorem C17_reject_windows :
    ∀ (idna : Idna) (s : List Nat),
      ((¬ (∃ a b r, s = a :: b :: r ∧ Impl.isWindowsSlash a = true ∧ Impl.isWindowsSlash b = true) ∧
          Impl.isWindowsDriveAbsolutePath s = none) ∨
       (∃ a b c chk, s = a :: b :: c :: chk ∧ Impl.isWindowsDrive a b = true ∧
          [0x2E, 0x2E] ∈ splitOnP Impl.isWindowsSlash chk) ∨
       ((∀ c ∈ s, Spec.isScalar c = true) ∧ 0 ∈ s)) →
      Impl.urlFromFilePath idna s .windows = none :=
  Proofs.C17.reject_windows

/-- the URL made from a Windows path: no query, no fragment, no credentials, no port; a drive path
    gives an empty host and the path `parsePath` builds from the encoded text; a UNC path gives the host
    `parseHost` returns for the encoded host component -/
theorem C17_from_path_safe_windows :
    ∀ (idna : Idna) (s : List Nat) (u : Url), (∀ c ∈ s, Spec.isScalar c = true) →
      Impl.urlFromFilePath idna s .windows = some u →
      u.query = none ∧ u.fragment = none ∧ u.scheme = Impl.sFile ∧ u.username = [] ∧ u.password = [] ∧
        u.port = none ∧ u.hasOpaquePath = false ∧ u.opaquePath = [] ∧ 0 ∉ s ∧
        (((winClassify s).2 = false ∧ u.host = some Impl.emptyHost ∧
            (∃ a b c chk, (winClassify s).1 = a :: b :: c :: chk ∧ Impl.isWindowsDrive a b = true ∧
              Impl.isWindowsSlash c = true ∧ [0x2E, 0x2E] ∉ splitOnP Impl.isWindowsSlash chk) ∧
            u = Impl.parsePath { scheme := Impl.sFile, host := some Impl.emptyHost }
                  (Impl.percentEncode Impl.rawPathNoEnc (winClassify s).1)) ∨
         ((winClassify s).2 = true ∧
            ∃ host sl share r hst, (winClassify s).1 = host ++ sl :: (share ++ r) ∧
              Impl.isUncPath (winClassify s).1 = some r ∧
              [0x2E, 0x2E] ∉ splitOnP Impl.isWindowsSlash r ∧
              Impl.parseHost idna (Impl.percentEncode Impl.rawPathNoEnc host) false = some hst ∧
              u.host = some (if hst.text == Impl.sLocalhost then Impl.emptyHost else hst) ∧
              u = Impl.parsePath
                    { scheme := Impl.sFile,
                      host := some (if hst.text == Impl.sLocalhost then Impl.emptyHost else hst) }
                    (Impl.percentEncode Impl.rawPathNoEnc (share ++ r)))) := by
  intro idna s u _ h
  obtain ⟨h0, hcase⟩ := Proofs.C17.from_path_windows idna s u h
  rcases hcase with ⟨hcl, hshape, hu⟩ | ⟨hcl, host, sl, share, r, hst, hp, hunc, hdd, hph, hu⟩
  · obtain ⟨p, hp⟩ := Proofs.C08.parsePath_frame fileBase
      (Impl.percentEncode Impl.rawPathNoEnc (winClassify s).1)
    have hu' : u = { fileBase with path := p } := by rw [hu, hp]
    refine ⟨?_, ?_, ?_, ?_, ?_, ?_, ?_, ?_, h0, Or.inl ⟨hcl, ?_, hshape, hu⟩⟩
    all_goals (rw [hu']; rfl)
  · obtain ⟨p, hpp⟩ := Proofs.C08.parsePath_frame (Proofs.C17.uncUrl hst)
      (Impl.percentEncode Impl.rawPathNoEnc (share ++ r))
    have hu' : u = { Proofs.C17.uncUrl hst with path := p } := by rw [hu, hpp]
    refine ⟨?_, ?_, ?_, ?_, ?_, ?_, ?_, ?_, h0,
      Or.inr ⟨hcl, host, sl, share, r, hst, hp, hunc, hdd, hph, ?_, hu⟩⟩
    all_goals (rw [hu']; rfl)

-- `C:\dir\a?b#c%41|.txt`, a UNC path (host lower-cased by the stub IDNA), `\\?\C:\…`, `\\?\UNC\…`
example : (Impl.urlFromFilePath c17Idna (asciiStr "C:\\dir\\a?b#c%41|.txt") .windows).map
      (fun u => Impl.serialize u) = some (asciiStr "file:///C:/dir/a%3Fb%23c%2541|.txt") := by
  rw [C17_windows_eq]; decide_ascii
example : (Impl.urlFromFilePath c17Idna (asciiStr "\\\\Host\\share\\a b") .windows).map
      (fun u => Impl.serialize u) = some (asciiStr "file://host/share/a%20b") := by
  rw [C17_windows_eq]; decide_ascii
example : (Impl.urlFromFilePath c17Idna (asciiStr "\\\\?\\C:\\dir\\f") .windows).map
      (fun u => Impl.serialize u) = some (asciiStr "file:///C:/dir/f") := by
  rw [C17_windows_eq]; decide_ascii
example : (Impl.urlFromFilePath c17Idna (asciiStr "\\\\?\\UNC\\host\\share\\f") .windows).map
      (fun u => Impl.serialize u) = some (asciiStr "file://host/share/f") := by
  rw [C17_windows_eq]; decide_ascii
-- rejected: relative, device namespace, ".." after the drive / after the share, ".." as share
example : Impl.urlFromFilePath c17Idna (asciiStr "dir\\f") .windows = none ∧
    Impl.urlFromFilePath c17Idna (asciiStr "\\\\.\\pipe\\x") .windows = none ∧
    Impl.urlFromFilePath c17Idna (asciiStr "C:\\a\\..\\b") .windows = none ∧
    Impl.urlFromFilePath c17Idna (asciiStr "\\\\host\\share\\..\\x") .windows = none ∧
    Impl.urlFromFilePath c17Idna (asciiStr "\\\\host\\..\\x") .windows = none := by
  simp only [C17_windows_eq]; decide_ascii
-- boundary cases that are NOT rejected (same results from the C++ library):
-- ".." as the UNC host name (only "." and "?" are excluded by is_unc_path); a "localhost" host is dropped
-- by the file host state, so a drive-like share name then is a drive letter for the path state
-- (`\\localhost\C:\x` → `file:///C:/x`); the share name "C|" is rewritten to "C:" by the path state
example : (Impl.urlFromFilePath c17Idna (asciiStr "\\\\..\\share\\x") .windows).map
      (fun u => Impl.serialize u) = some (asciiStr "file://../share/x") := by
  rw [C17_windows_eq]; decide_ascii

example : (Impl.urlFromFilePath c17Idna (asciiStr "\\\\localhost\\C:\\x") .windows).map
      (fun u => Impl.serialize u) = some (asciiStr "file:///C:/x") := by
  rw [C17_windows_eq]; decide_ascii
example : (Impl.urlFromFilePath c17Idna (asciiStr "\\\\host\\C|\\x") .windows).map
      (fun u => Impl.serialize u) = some (asciiStr "file://host/C:/x") := by
  rw [C17_windows_eq]; decide_ascii

/-! ### 6. path_from_file_url: the shape of the returned path -/

theorem C17_to_path_shape_posix :
    ∀ (u : Url) (p : List Nat), Impl.pathFromFileUrl u .posix = some p →
      u.isFile = true ∧ u.hostText = [] ∧ 0 ∉ p ∧ p = Impl.percentDecode (Impl.pathText u) ∧
        (u.hasOpaquePath = false ∧ u.path ≠ [] → p.head? = some 0x2F) := by
  intro u p h
  obtain ⟨h1, h2, h3, h4⟩ := Proofs.C17.pathFromFileUrl_posix u p h
  refine ⟨h1, h2, h4, h3, ?_⟩
  rintro ⟨ho, hp⟩
  rw [h3]
  unfold Impl.pathText
  rw [ho]
  cases hpath : u.path with
  | nil => exact absurd hpath hp
  | cons seg rest =>
    simp only [Bool.false_eq_true, if_false, List.flatMap_cons, List.cons_append]
    rw [Impl.percentDecode, Proofs.C14.aux_none_cons, if_neg (fun h => absurd h.1 (by omega)),
      Impl.encodeUtf8Char_ascii _ (by omega)]
    rfl

theorem C17_to_path_shape_windows :
    ∀ (u : Url) (p : List Nat), Impl.pathFromFileUrl u .windows = some p →
      u.isFile = true ∧ 0 ∉ p ∧ u.hostText ≠ [0x2E] ∧
        ((∀ c ∈ u.hostText, c ≠ 0x2F) → 0x2F ∉ p) ∧
        ((u.hostText = [] ∧ ∃ d rest, p = d :: 0x3A :: 0x5C :: rest ∧ isAlpha d = true) ∨
         (∃ q, p = 0x5C :: 0x5C :: q ∧ (Impl.isUncPath (p.drop 2)).isSome = true)) := by
  intro u p h
  obtain ⟨h1, h2, h3, h4⟩ := Proofs.C17.pathFromFileUrl_windows u p h
  have hb := Proofs.C17.winBody_no_slash u
  refine ⟨h1, h2, h3, ?_, ?_⟩
  · intro hh hm
    rcases h4 with ⟨-, hp, -⟩ | ⟨-, s, a, rest, hbody, -, hcase⟩ | ⟨-, q, hbody, hp, -⟩
    · rw [hp] at hm
      simp only [List.mem_cons, List.mem_append] at hm
      rcases hm with hm | hm | hm | hm
      · omega
      · omega
      · exact hh _ hm rfl
      · exact hb hm
    · rw [hbody] at hb
      rcases hcase with ⟨-, hp⟩ | ⟨r, hr, hp⟩
      · rw [hp] at hm
        simp only [List.mem_cons, List.not_mem_nil, or_false] at hm
        rcases hm with hm | hm | hm
        · apply hb; simp [hm]
        · omega
        · omega
      · rw [hp] at hm; rw [hr] at hb
        simp only [List.mem_cons] at hm hb
        rcases hm with hm | hm | hm | hm
        · exact hb (Or.inr (Or.inl hm))
        · omega
        · omega
        · exact hb (Or.inr (Or.inr (Or.inr (Or.inr hm))))
    · rw [hp] at hm
      simp only [List.mem_cons] at hm
      rcases hm with hm | hm | hm
      · omega
      · omega
      · rcases hbody with hbody | hbody <;> (rw [hbody] at hb; apply hb; simp [hm])
  · rcases h4 with ⟨-, hp, hu⟩ | ⟨hh, s, a, rest, -, ha, hcase⟩ | ⟨-, q, -, hp, hu⟩
    · right; exact ⟨_, hp, by rw [hp]; exact hu⟩
    · left
      refine ⟨hh, ?_⟩
      rcases hcase with ⟨-, hp⟩ | ⟨r, -, hp⟩
      · exact ⟨a, [], hp, ha⟩
      · exact ⟨a, r, hp, ha⟩
    · right; exact ⟨_, hp, by rw [hp]; exact hu⟩

/-- a returned Windows path is never a Win32 file (`\\?\`) or device (`\\.\`) namespace path, and its UNC
    share name is not "." or ".." -/
theorem C17_to_path_not_namespace :
    ∀ (u : Url) (p : List Nat), Impl.pathFromFileUrl u .windows = some p →
      ∀ x sl rest, p = 0x5C :: 0x5C :: x :: sl :: rest → Impl.isWindowsSlash sl = true →
        x ≠ 0x3F ∧ x ≠ 0x2E := by
  intro u p h x sl rest hp hsl
  obtain ⟨-, -, -, -, hshape⟩ := C17_to_path_shape_windows u p h
  rcases hshape with ⟨-, d, r, hd, -⟩ | ⟨q, hq, hunc⟩
  · rw [hd] at hp; simp at hp
  · rw [hp] at hunc
    simp only [List.drop_succ_cons, List.drop_zero] at hunc
    cases hres : Impl.isUncPath (x :: sl :: rest) with
    | none => rw [hres] at hunc; simp at hunc
    | some r =>
      obtain ⟨host, sl', share, hs, -, hne, -, hc, h3f, h2e, -⟩ := C17_unc_shape _ _ hres
      cases host with
      | nil => exact absurd rfl hne
      | cons a host' =>
        simp only [List.cons_append, List.cons.injEq] at hs
        obtain ⟨hxa, hs⟩ := hs
        cases host' with
        | nil =>
          subst hxa
          exact ⟨fun e => h3f (by rw [e]), fun e => h2e (by rw [e])⟩
        | cons b host'' =>
          simp only [List.cons_append, List.cons.injEq] at hs
          have := (hc b (by simp)).1
          rw [← hs.1, hsl] at this
          simp at this

-- `file:///C:/a%20b/c`, `file://host/share/a%2Fb` (an escaped slash becomes a separator), `file:////host/share/x`
-- (empty first segment), and rejected ones: `file://./share/x`, `file:///%3F/C:/x` (would be `\\?\C:\x`),
-- `file:////./pipe/x`, `file:///a%00`
def c17Url (host : List Nat) (path : List (List Nat)) : Url :=
  { scheme := Impl.sFile, host := some { kind := if host = [] then .empty else .domain, text := host },
    path := path }
example : Impl.pathFromFileUrl (c17Url [] [[0x43, 0x3A], [0x61, 0x25, 0x32, 0x30, 0x62], [0x63]]) .windows =
    some (asciiStr "C:\\a b\\c") := by
  simp only [Impl.pathFromFileUrl, percentDecode_eq_fuel]
  decide_ascii
example : Impl.pathFromFileUrl (c17Url [0x68] [[0x73], [0x61, 0x25, 0x32, 0x46, 0x62]]) .windows =
    some (asciiStr "\\\\h\\s\\a\\b") := by
  simp only [Impl.pathFromFileUrl, percentDecode_eq_fuel]
  decide_ascii
example : Impl.pathFromFileUrl (c17Url [] [[], [0x68], [0x73], [0x78]]) .windows =
    some (asciiStr "\\\\h\\s\\x") := by
  simp only [Impl.pathFromFileUrl, percentDecode_eq_fuel]
  decide_ascii
example : Impl.pathFromFileUrl (c17Url [0x2E] [[0x73], [0x78]]) .windows = none := by
  simp only [Impl.pathFromFileUrl, percentDecode_eq_fuel]
  decide +kernel
example : Impl.pathFromFileUrl (c17Url [] [[0x25, 0x33, 0x46], [0x43, 0x3A], [0x78]]) .windows = none := by
  simp only [Impl.pathFromFileUrl, percentDecode_eq_fuel]
  decide +kernel
example : Impl.pathFromFileUrl (c17Url [] [[], [0x2E], [0x70], [0x78]]) .windows = none := by
  simp only [Impl.pathFromFileUrl, percentDecode_eq_fuel]
  decide +kernel
example : Impl.pathFromFileUrl (c17Url [] [[0x61, 0x25, 0x30, 0x30]]) .posix = none := by
  simp only [Impl.pathFromFileUrl, percentDecode_eq_fuel]
  decide +kernel
example : ∃ u p, Impl.pathFromFileUrl u .posix = some p ∧ u.hasOpaquePath = false ∧ u.path ≠ [] :=
  ⟨c17Url [] [[0x61, 0x25, 0x32, 0x30, 0x62]], asciiStr "/a b", by
    simp only [Impl.pathFromFileUrl, percentDecode_eq_fuel]
    decide_ascii, rfl, by simp [c17Url]⟩

end Upa.Props

#print axioms Upa.Props.C17_dotdot
#print axioms Upa.Props.C17_dotdot_gen
#print axioms Upa.Props.C17_unc_shape
#print axioms Upa.Props.C17_reject
#print axioms Upa.Props.C17_posix_url_text
#print axioms Upa.Props.C17_posix_no_delims
#print axioms Upa.Props.C17_windows_no_delims
#print axioms Upa.Props.C17_percent_encoded
#print axioms Upa.Props.C17_percent_encoded_windows
#print axioms Upa.Props.C17_encode_roundtrip
#print axioms Upa.Props.C17_from_path_safe_posix
#print axioms Upa.Props.C17_posix_path
#print axioms Upa.Props.C17_roundtrip_posix
#print axioms Upa.Props.C17_windows_eq
#print axioms Upa.Props.C17_reject_windows
#print axioms Upa.Props.C17_from_path_safe_windows
#print axioms Upa.Props.C17_to_path_shape_posix
#print axioms Upa.Props.C17_to_path_shape_windows
#print axioms Upa.Props.C17_to_path_not_namespace
