import Upa.Proofs.CanParse
import Upa.Proofs.Literal
/-
  C09 — `url::can_parse`, `url::parse` and the throwing constructor always agree
  (include/upa/url.h:223-256 can_parse, 1419-1500 do_parse / for_can_parse, 1675-2392 url_parse).

  `Impl.canParse` is the `need_save() == false` run (one `…NS` function per block, which only takes
  the decisions that can fail and returns right after the authority / file-host states, url.h:2206);
  `Impl.parse` is the saving run.  The helpers (namespace `Upa.Proofs.C09`, `Upa/Proofs/CanParse.lean`)
  prove for every block `X`, with no state override,
      ((XState idna base none u p).out == .ok) = XStateNS … u.isSpecial p          (`X_sim`)
  for every record `u` (the NS block is given the scheme flag of `u`).
-/
namespace Upa.Props
open Upa Upa.Proofs.C09

/-- stub IDNA (identity) and ASCII input for the evaluated instances -/
private def stub : Idna := fun l => some l
private def s (x : String) : List Nat := asciiStr x
private def show' (u : Option Url) : Option String :=
  u.map fun u => String.ofList ((Impl.serialize u).map Char.ofNat)
/-- the expected serialization as a list of characters (see Proofs/Literal.lean) -/
private theorem show'_ofList (u : Option Url) (l : List Char) :
    (show' u = some (String.ofList l)) =
      (u.map (fun u => (Impl.serialize u).map Char.ofNat) = some l) := by
  cases u with
  | none => simp only [show', Option.map_none, reduceCtorEq]
  | some u => simp only [show', Option.map_some, Option.some.injEq, String.ofList_inj]
private def baseHttp : Option Url := Impl.parse stub .u8 (s "http://example.org/a/b?q") none
private def baseOpaque : Option Url := Impl.parse stub .u8 (s "a:b") none

/-! the blocks behind the authority cannot fail (no state override) -/

theorem C09_tail_total :
    (∀ u p, (Impl.pathStartState none u p).out = .ok) ∧
    (∀ u p, (Impl.pathState none u p).out = .ok) ∧
    (∀ u p, (Impl.opaquePathState none u p).out = .ok) ∧
    (∀ u p, (Impl.queryState none u p).out = .ok) ∧
    (∀ u p, (Impl.fragmentState u p).out = .ok) ∧
    (∀ u p, (Impl.afterPath none u p).out = .ok) :=
  ⟨fun u p => ok_of_isOk (isOk_pathStart none u p), fun u p => ok_of_isOk (isOk_path none u p),
    fun u p => ok_of_isOk (isOk_opaquePath none u p), fun u p => ok_of_isOk (isOk_query none u p),
    fun _ _ => rfl, fun u p => ok_of_isOk (isOk_afterPath none u p)⟩

/-- a concrete run of the tail: path start, path (with a `..`), query and fragment are all visited -/
example :
    let r := Impl.pathStartState none { scheme := Impl.sHttp } (s "/a/../b c?q r#f")
    r.out = .ok ∧ r.url.path = [s "b%20c"] ∧ r.url.query = some (s "q%20r") ∧
      r.url.fragment = some (s "f") := by unfold s; decide_ascii

/-! `can_parse` = "`parse` succeeds" -/

theorem C09_agree :
    ∀ (idna : Idna) (e : Enc) (units : List Nat) (base : Option Url),
      Impl.canParse idna e units base = (Impl.parse idna e units base).isSome :=
  canParse_eq

/-- evaluated instances: both sides computed independently, both verdicts occur -/
example : Impl.canParse stub .u8 (s "http://u:p@h:80/p?q#f") none = true ∧
    show' (Impl.parse stub .u8 (s "http://u:p@h:80/p?q#f") none) = some "http://u:p@h/p?q#f" := by
  unfold s; rw [show'_ofList]; decide_ascii
example : Impl.canParse stub .u8 (s "http://h:99999/") none = false ∧
    Impl.parse stub .u8 (s "http://h:99999/") none = none := by unfold s; decide_ascii
example : baseHttp.isSome = true ∧ Impl.canParse stub .u8 (s "//x") baseHttp = true ∧
    show' (Impl.parse stub .u8 (s "//x") baseHttp) = some "http://x/" := by
  unfold baseHttp s; rw [show'_ofList]; decide_ascii
example : Impl.canParse stub .u8 (s "//x") none = false ∧
    Impl.parse stub .u8 (s "//x") none = none := by unfold s; decide_ascii
example : Impl.canParse stub .u8 (s "a:b") none = true ∧
    show' (Impl.parse stub .u8 (s "a:b") none) = some "a:b" := by
  unfold s; rw [show'_ofList]; decide_ascii
example : Impl.canParse stub .u8 (s "") none = false ∧
    Impl.parse stub .u8 (s "") none = none := by unfold s; decide_ascii
/-- file host state: "localhost" (any case), Windows drive letter; trimming and `\` in a special URL;
    missing host after credentials; opaque-path base with and without `#` -/
example : Impl.canParse stub .u8 (s "file://LocalHost/c|/x") none = true ∧
    show' (Impl.parse stub .u8 (s "file://LocalHost/c|/x") none) = some "file:///c:/x" := by
  unfold s; rw [show'_ofList]; decide_ascii
example : Impl.canParse stub .u8 (s "  HtTp:\\\\h:65535\\x  ") none = true ∧
    show' (Impl.parse stub .u8 (s "  HtTp:\\\\h:65535\\x  ") none) = some "http://h:65535/x" := by
  unfold s; rw [show'_ofList]; decide_ascii
example : Impl.canParse stub .u8 (s "http://u@/") none = false ∧
    Impl.parse stub .u8 (s "http://u@/") none = none := by unfold s; decide_ascii
example : Impl.canParse stub .u8 (s "#f") baseOpaque = true ∧
    show' (Impl.parse stub .u8 (s "#f") baseOpaque) = some "a:b#f" := by
  unfold baseOpaque s; rw [show'_ofList]; decide_ascii
example : Impl.canParse stub .u8 (s "x") baseOpaque = false ∧
    Impl.parse stub .u8 (s "x") baseOpaque = none := by unfold baseOpaque s; decide_ascii

/-- `url::parse(str, base)` on any object (so also the throwing constructor, which is `parse` on a fresh
    object followed by `throw` when the result is not ok) returns ok, and leaves a valid object,
    exactly when `can_parse` says so.  `base` is absent or a valid object here; the invalid base
    object is `C09_invalid_base`. -/
theorem C09_agree_obj (idna : Idna) (o : Impl.UrlObj) (e : Enc) (units : List Nat) (base : Option Url) :
    (o.parse idna e units (base.map some)).2 = Impl.canParse idna e units base ∧
    (o.parse idna e units (base.map some)).1.url.isSome = Impl.canParse idna e units base := by
  have h := objParse_valid idna o e units base
  rw [C09_agree, h.1, h.2]
  exact ⟨rfl, rfl⟩

example : (({} : Impl.UrlObj).parse stub .u8 (s "//x") (baseHttp.map some)).2 = true ∧
    (({} : Impl.UrlObj).parse stub .u8 (s "http://h:99999/") ((none : Option Url).map some)).2 = false := by
  unfold baseHttp s; decide_ascii

/-- `can_parse` reads only the scheme and the opaque-path flag of the base URL.  (In the two-string
    overload `can_parse(str_url, str_base)`, url.h:250-256, the base object is itself produced by a
    `need_save() == false` run, which has saved exactly these: `save_scheme` and `set_has_opaque_path`
    in the scheme state, url.h:1717-1800, are not guarded by `need_save()`.) -/
theorem C09_base_key (idna : Idna) (e : Enc) (units : List Nat) (b : Url) :
    Impl.canParse idna e units (some { scheme := b.scheme, hasOpaquePath := b.hasOpaquePath }) =
      Impl.canParse idna e units (some b) :=
  canParse_baseKey idna e units b

example : baseHttp.map baseKey ≠ baseHttp ∧
    Impl.canParse stub .u8 (s "//x:1") (baseHttp.map baseKey) = true := by
  unfold baseHttp s; decide_ascii

theorem C09_invalid_base :
    ∀ (idna : Idna) (o : Impl.UrlObj) (e : Enc) (units : List Nat),
      ((o.parse idna e units (some none)).2 = false) ∧
      ((o.parse idna e units (some none)).1.url = none) :=
  fun _ _ _ _ => ⟨rfl, rfl⟩

/-- a valid object, a parsable absolute input: the invalid base alone makes it fail and invalidates
    the object; without a base the same call succeeds -/
example :
    let o : Impl.UrlObj := { url := baseHttp }
    o.url.isSome = true ∧
    (o.parse stub .u8 (s "http://h/") (some none)).2 = false ∧
    (o.parse stub .u8 (s "http://h/") (some none)).1.url = none ∧
    (o.parse stub .u8 (s "http://h/") none).2 = true := by unfold baseHttp s; decide_ascii

/-- `Impl.canParse : Idna → Enc → List Nat → Option Url → Bool` has no object argument and no object
    result, so there is nothing an evaluation could change: any `UrlObj` paired with the evaluation
    is the `UrlObj` one started with.  (Trivial by the type of the model; stated for the record.  The
    content-bearing statement about objects is `C09_agree_obj`: the verdict equals that of `parse`
    on every object.) -/
theorem C09_pure (o : Impl.UrlObj) (idna : Idna) (e : Enc) (units : List Nat) (base : Option Url) :
    ((fun o' : Impl.UrlObj => (o', Impl.canParse idna e units base)) o).1 = o := rfl

end Upa.Props

#print axioms Upa.Props.C09_tail_total
#print axioms Upa.Props.C09_agree
#print axioms Upa.Props.C09_agree_obj
#print axioms Upa.Props.C09_base_key
#print axioms Upa.Props.C09_invalid_base
#print axioms Upa.Props.C09_pure
