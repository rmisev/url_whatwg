import Upa.Proofs.ListScan
import Upa.Proofs.CharClass
import Upa.Impl.FilePath
/-
  C17, the scanners of url_from_file_path / path_from_file_url at list level (model: Upa/Impl/FilePath.lean):
  has_dot_dot_segment and is_unc_path characterised through `splitOnP` (`hasDotDot_eq`, `isUncPath_peel`), the prefix
  analysis `winClassify`, url_from_file_path (Windows format) as one equation over them (`urlFromFilePath_windows`,
  `windows_accepted`), and what a path returned by path_from_file_url says about the URL
  (`pathFromFileUrl_posix`, `pathFromFileUrl_windows`).  Needs nothing of the encoders or the parser blocks.
-/
namespace Upa.Proofs.C17

/-! ## the NUL test; drive letters -/

theorem not_any_zero (l : List Nat) (h : ¬ (l.any (· == 0)) = true) : 0 ∉ l := by
  intro hm; apply h; simp [hm]

theorem any_zero_iff (l : List Nat) : (l.any (· == 0)) = true ↔ 0 ∈ l := by
  simp

theorem any_zero_false {l : List Nat} (h : 0 ∉ l) : (l.any (· == 0)) = false := by
  cases ha : l.any (· == 0) with
  | false => rfl
  | true => exact absurd ((any_zero_iff l).1 ha) h

theorem winSlash_nz (c : Nat) (h : Impl.isWindowsSlash c = true) : c ≠ 0 := by
  intro e; subst e; simp [Impl.isWindowsSlash] at h

/-- what is used of a letter, in this order: `.1` ASCII, `.2.1` kept by the raw set, `.2.2.1` no separator,
    `.2.2.2.1` not NUL, `.2.2.2.2.1` not `.`, `.2.2.2.2.2` not `/` -/
theorem alpha_facts (a : Nat) (h : isAlpha a = true) :
    a < 0x80 ∧ Impl.rawPathNoEnc a = true ∧ Impl.isWindowsSlash a = false ∧ a ≠ 0 ∧ a ≠ 0x2E ∧ a ≠ 0x2F := by
  have hlt := isAlpha_lt a h
  have tbl : ∀ c, c < 128 → isAlpha c = true →
      Impl.rawPathNoEnc c = true ∧ Impl.isWindowsSlash c = false ∧ c ≠ 0 ∧ c ≠ 0x2E ∧ c ≠ 0x2F := by
    decide +kernel
  exact ⟨hlt, tbl a hlt h⟩

theorem driveSep_facts (b : Nat) (h : b = 0x3A ∨ b = 0x7C) :
    b < 0x80 ∧ Impl.rawPathNoEnc b = true ∧ Impl.isWindowsSlash b = false := by
  rcases h with rfl | rfl <;> exact ⟨by omega, by decide, by decide⟩

theorem isWindowsDrive_iff (a b : Nat) :
    Impl.isWindowsDrive a b = true ↔ isAlpha a = true ∧ (b = 0x3A ∨ b = 0x7C) := by
  simp [Impl.isWindowsDrive]

/-! ## has_dot_dot_segment -/

def atBoundary (isSl : Nat → Bool) : Option Nat → Bool
  | none => true
  | some p => isSl p

/-- the component "..": the Props files write the literal `[0x2E, 0x2E]`, which is this by `rfl` (a hypothesis with
    the literal is accepted as it is; before `rw` / `simp` say `show` or `unfold dd`) -/
def dd : List Nat := [0x2E, 0x2E]

theorem atBoundary_some (isSl : Nat → Bool) (p : Nat) : atBoundary isSl (some p) = isSl p := rfl

/-- `prev` is the unit in front of `s` (`none`: start of the string).  When it is no separator the first piece of
    `s` continues a segment and cannot be a ".." segment: hence the `tail`. -/
theorem hasDotDot_gen (isSl : Nat → Bool) (hdot : isSl 0x2E = false) (prev : Option Nat) (s : List Nat) :
    Impl.hasDotDotSegment isSl prev s = true ↔
      (if atBoundary isSl prev then dd ∈ splitOnP isSl s else dd ∈ (splitOnP isSl s).tail) := by
  fun_induction Impl.hasDotDotSegment isSl prev s with
  | case1 prev => simp [splitOnP, dd]
  | case2 prev x =>
    cases hx : isSl x <;> simp [splitOnP, hx, dd]
  | case3 prev d r2 hcond =>
    simp only [Bool.and_eq_true] at hcond
    obtain ⟨⟨hd, hb⟩, hn⟩ := hcond
    have hd : d = 0x2E := by simpa using hd
    subst hd
    have hB : atBoundary isSl prev = true := by
      cases prev with
      | none => rfl
      | some p => simpa [atBoundary] using hb
    simp only [hB, if_true, true_iff]
    have hnil : (splitOnP isSl r2).headD [] = [] := (splitOnP_headD_nil isSl r2).2 (by
      cases r2 with
      | nil => exact Or.inl rfl
      | cons x r => exact Or.inr ⟨x, r, rfl, hn⟩)
    rw [splitOnP_cons_other _ _ _ hdot, splitOnP_cons_other _ _ _ hdot, List.headD_cons, hnil]
    exact List.mem_cons_self
  | case4 prev d r2 hcond ih =>
    rw [ih]
    have hcond' : d = 0x2E → atBoundary isSl prev = true → (splitOnP isSl r2).headD [] ≠ [] := by
      intro hd hb hnil
      apply hcond
      rcases (splitOnP_headD_nil isSl r2).1 hnil with rfl | ⟨x, r, rfl, hx⟩ <;> cases prev <;>
        simp_all [atBoundary]
    cases hd : isSl d with
    | true =>
      rw [splitOnP_cons_other _ _ _ hdot, splitOnP_cons_sep _ _ _ hd]
      simp [atBoundary, hd, dd]
    | false =>
      rw [splitOnP_cons_other _ _ _ hdot, splitOnP_cons_other _ _ _ hd]
      simp only [atBoundary_some, hd, Bool.false_eq_true, if_false, List.headD_cons, List.tail_cons]
      cases hb : atBoundary isSl prev with
      | false => simp
      | true =>
        simp only [if_true, List.mem_cons]
        refine (or_iff_right fun h => ?_).symm
        simp only [dd, List.cons.injEq] at h
        exact hcond' h.2.1.symm hb h.2.2.symm
  | case5 prev c d r2 hc ih =>
    rw [ih]
    cases hsl : isSl c with
    | true =>
      rw [splitOnP_cons_sep _ _ _ hsl]
      simp [atBoundary, hsl, dd]
    | false =>
      rw [splitOnP_cons_other _ _ _ hsl]
      simp only [atBoundary_some, hsl, Bool.false_eq_true, if_false, List.tail_cons]
      cases hb : atBoundary isSl prev with
      | false => simp
      | true =>
        simp only [if_true, List.mem_cons]
        refine (or_iff_right fun h => ?_).symm
        simp only [dd, List.cons.injEq] at h
        exact hc h.1.symm

theorem hasDotDot_eq (isSl : Nat → Bool) (h : isSl 0x2E = false) (s : List Nat) :
    Impl.hasDotDotSegment isSl none s = decide (dd ∈ splitOnP isSl s) := by
  have := hasDotDot_gen isSl h none s
  simp only [atBoundary, if_true] at this
  cases hd : Impl.hasDotDotSegment isSl none s with
  | true => exact (decide_eq_true (this.1 hd)).symm
  | false =>
    symm; apply decide_eq_false
    intro hm; rw [this.2 hm] at hd; cases hd

/-! ## is_unc_path -/

def notWinSlash (c : Nat) : Bool := !Impl.isWindowsSlash c

/-- the per-component test of is_unc_path (`n` = number of the component, from 1): the term `bad` inside
    `Impl.isUncPathAux`, given a name; `uncAux_succ` is the loop's step written with it -/
def uncBad (n : Nat) (comp : List Nat) : Bool :=
  if n = 1 then
    (match comp with
     | [a] => a == 0x3F || a == 0x2E
     | [a, b] => Impl.isWindowsDrive a b
     | _ => false)
  else if n = 2 then
    (match comp with
     | [a] => a == 0x2E
     | [a, b] => a == 0x2E && b == 0x2E
     | _ => false)
  else false

theorem uncBad_one {comp : List Nat} (h : uncBad 1 comp = false) :
    comp ≠ [0x3F] ∧ comp ≠ [0x2E] ∧ ∀ a b, comp = [a, b] → Impl.isWindowsDrive a b = false := by
  refine ⟨?_, ?_, ?_⟩
  · rintro rfl; exact absurd h (by decide)
  · rintro rfl; exact absurd h (by decide)
  · rintro a b rfl; exact h

theorem uncBad_two (comp : List Nat) : uncBad 2 comp = false ↔ comp ≠ [0x2E] ∧ comp ≠ dd := by
  unfold uncBad
  rw [if_neg (by omega), if_pos rfl]
  split
  · simp [dd]
  · simp [dd]
  · rename_i h1 h2
    exact ⟨fun _ => ⟨fun e => h1 _ e, fun e => h2 _ _ e⟩, fun _ => rfl⟩

theorem uncBad_ge3 (n : Nat) (comp : List Nat) (h : 3 ≤ n) : uncBad n comp = false := by
  unfold uncBad
  rw [if_neg (by omega), if_neg (by omega)]

def Clean (t : List Nat) : Prop := ∀ c ∈ t, Impl.isWindowsSlash c = false ∧ c ≠ 0

theorem uncAux_succ (f : Nat) (s : List Nat) (n : Nat) (sh : Option (List Nat)) (hs : s ≠ []) :
    Impl.isUncPathAux (f + 1) s n sh =
      if s.takeWhile notWinSlash = [] then none
      else if (s.takeWhile notWinSlash).any (· == 0) then none
      else if uncBad (n + 1) (s.takeWhile notWinSlash) then none
      else match s.dropWhile notWinSlash with
        | [] => if n + 1 = 2 then some [] else sh
        | x :: r => Impl.isUncPathAux f r (n + 1) (if n + 1 = 2 then some (x :: r) else sh) := by
  cases s with
  | nil => exact absurd rfl hs
  | cons c cs =>
    rw [Impl.isUncPathAux]
    · show (if _ then _ else if _ then _ else if _ then _ else
        match (c :: cs).dropWhile notWinSlash with
        | [] => if n + 1 = 2 then some ((c :: cs).dropWhile notWinSlash) else sh
        | _ :: r => Impl.isUncPathAux f r (n + 1)
            (if n + 1 = 2 then some ((c :: cs).dropWhile notWinSlash) else sh)) = _
      cases (c :: cs).dropWhile notWinSlash <;> rfl
    · simp

theorem unc_one_step (fuel : Nat) (s : List Nat) (n : Nat) (share : Option (List Nat)) (r : List Nat)
    (h : Impl.isUncPathAux fuel s n share = some r) (hs : s ≠ []) :
    ∃ fuel' comp rest, fuel = fuel' + 1 ∧ s = comp ++ rest ∧ comp ≠ [] ∧ Clean comp ∧
      uncBad (n + 1) comp = false ∧
      ((rest = [] ∧ (if n + 1 = 2 then some [] else share) = some r) ∨
       (∃ x r', rest = x :: r' ∧ Impl.isWindowsSlash x = true ∧
          Impl.isUncPathAux fuel' r' (n + 1) (if n + 1 = 2 then some rest else share) = some r)) := by
  cases fuel with
  | zero => cases s <;> cases h
  | succ f =>
    rw [uncAux_succ f s n share hs] at h
    have hs' : s.takeWhile notWinSlash ++ s.dropWhile notWinSlash = s := List.takeWhile_append_dropWhile
    have hc : ∀ c ∈ s.takeWhile notWinSlash, notWinSlash c = true :=
      List.all_eq_true.1 List.all_takeWhile
    generalize s.takeWhile notWinSlash = comp at h hs' hc
    by_cases h1 : comp = []
    · rw [if_pos h1] at h; cases h
    rw [if_neg h1] at h
    by_cases h2 : (comp.any (· == 0)) = true
    · rw [if_pos h2] at h; cases h
    rw [if_neg h2] at h
    cases h3 : uncBad (n + 1) comp with
    | true => rw [h3, if_pos rfl] at h; cases h
    | false =>
      rw [h3, if_neg (by simp)] at h
      have hcl : Clean comp := fun c hm =>
        ⟨by simpa [notWinSlash] using hc c hm, fun h0 => not_any_zero _ h2 (h0 ▸ hm)⟩
      refine ⟨f, comp, s.dropWhile notWinSlash, rfl, hs'.symm, h1, hcl, h3, ?_⟩
      cases hrest : s.dropWhile notWinSlash with
      | nil => rw [hrest] at h; exact Or.inl ⟨rfl, h⟩
      | cons x r' =>
        have hx := List.head_dropWhile_not notWinSlash (l := s) (by rw [hrest]; simp)
        simp only [hrest, List.head_cons] at hx
        rw [hrest] at h
        exact Or.inr ⟨x, r', rfl, by simpa [notWinSlash] using hx, h⟩

/-- the components after the share name: all but the last one non-empty -/
def GoodTail : List (List Nat) → Prop
  | [] => True
  | [t] => Clean t
  | t :: L => Clean t ∧ t ≠ [] ∧ GoodTail L

theorem goodTail_cons (t : List Nat) (L : List (List Nat)) (hc : Clean t) (hne : t ≠ [])
    (hg : GoodTail L) : GoodTail (t :: L) := by
  cases L with
  | nil => exact hc
  | cons a b => exact ⟨hc, hne, hg⟩

theorem clean_nil : Clean [] := by intro c hc; simp at hc

def uncRest (r : List Nat) : List (List Nat) :=
  match r with
  | [] => []
  | _ :: r' => splitOnP Impl.isWindowsSlash r'

/-- `n ≥ 2`: server and share name have been read; from there on the loop only checks components and hands
    back the share end it was given -/
theorem unc_ge2 (fuel : Nat) : ∀ (s : List Nat) (n : Nat) (share : Option (List Nat)) (r : List Nat),
    2 ≤ n → Impl.isUncPathAux fuel s n share = some r →
    share = some r ∧ 0 ∉ s ∧ GoodTail (splitOnP Impl.isWindowsSlash s) := by
  induction fuel with
  | zero => intro s n share r _ h; cases s <;> cases h
  | succ f ih =>
    intro s n share r hn h
    by_cases hs : s = []
    · subst hs; exact ⟨h, by simp, clean_nil⟩
    obtain ⟨f', comp, rest, hf, rfl, hne, hcl, -, hstep⟩ := unc_one_step _ _ _ _ _ h hs
    obtain rfl : f' = f := by omega
    rw [if_neg (by omega)] at hstep
    have hc0 : 0 ∉ comp := fun hm => (hcl 0 hm).2 rfl
    have hcs : ∀ c ∈ comp, Impl.isWindowsSlash c = false := fun c hc => (hcl c hc).1
    rcases hstep with ⟨rfl, hr⟩ | ⟨x, r', rfl, hx, hrec⟩
    · rw [List.append_nil, splitOnP_nosep _ _ hcs]
      exact ⟨hr, hc0, hcl⟩
    · rw [if_neg (by omega)] at hrec
      obtain ⟨ih1, ih2, ih3⟩ := ih r' (n + 1) share r (by omega) hrec
      refine ⟨ih1, ?_, ?_⟩
      · simp only [List.mem_append, List.mem_cons, not_or]
        exact ⟨hc0, fun e => winSlash_nz x hx e.symm, ih2⟩
      · rw [splitOnP_append_nosep _ _ _ hcs, splitOnP_cons_sep _ _ _ hx]
        simp only [List.headD_cons, List.append_nil, List.tail_cons]
        exact goodTail_cons _ _ hcl hne ih3

/-- `C02.StopsAt notWinSlash r`, "`r` is empty or begins with a separator", is what stands behind a component in a
    text the loop of is_unc_path reads -/
theorem stopsAt_sep {r : List Nat} (h : C02.StopsAt notWinSlash r) :
    r = [] ∨ ∃ x r', r = x :: r' ∧ Impl.isWindowsSlash x = true := by
  cases r with
  | nil => exact .inl rfl
  | cons x r' => exact .inr ⟨x, r', rfl, by simpa [C02.StopsAt, notWinSlash] using h⟩

/-- what `is_unc_path` accepts: server `host`, a separator, the share name `share`, and `r`, what the function
    returns (`end_of_share_name` onward): empty or starting with a separator, its components (`uncRest r`) clean and
    non-empty up to the last -/
structure UncPtr (s host : List Nat) (sl : Nat) (share r : List Nat) : Prop where
  eq : s = host ++ sl :: (share ++ r)
  slash : Impl.isWindowsSlash sl = true
  hostNe : host ≠ []
  shareNe : share ≠ []
  hostClean : Clean host
  shareClean : Clean share
  hostOk : uncBad 1 host = false
  shareOk : uncBad 2 share = false
  rest : C02.StopsAt notWinSlash r
  noNul : 0 ∉ r
  tail : GoodTail (uncRest r)

theorem UncPtr.notDot {s host : List Nat} {sl : Nat} {share r : List Nat} (h : UncPtr s host sl share r) :
    share ≠ [0x2E] := ((uncBad_two share).1 h.shareOk).1

theorem UncPtr.notDD {s host : List Nat} {sl : Nat} {share r : List Nat} (h : UncPtr s host sl share r) :
    share ≠ dd := ((uncBad_two share).1 h.shareOk).2

theorem isUncPath_peel (s r : List Nat) (h : Impl.isUncPath s = some r) :
    ∃ host sl share, UncPtr s host sl share r := by
  unfold Impl.isUncPath at h
  by_cases hs : s = []
  · subst hs; cases h
  obtain ⟨f1, host, rest1, -, hs1, hne1, hc1, hb1, hstep1⟩ := unc_one_step _ _ _ _ _ h hs
  rw [if_neg (by omega), if_neg (by omega)] at hstep1
  rcases hstep1 with ⟨-, hcontra⟩ | ⟨sl, r1, hrest1, hsl, h1⟩
  · cases hcontra
  by_cases hr1 : r1 = []
  · subst hr1
    cases f1 <;> cases h1
  obtain ⟨f2, share, rest2, -, hs2, hne2, hc2, hb2, hstep2⟩ := unc_one_step _ _ _ _ _ h1 hr1
  rw [if_pos rfl, if_pos rfl] at hstep2
  rcases hstep2 with ⟨hrest2, hr⟩ | ⟨x, r', hrest2, hx, h2⟩
  · obtain rfl : [] = r := by simpa using hr
    refine ⟨host, sl, share, ?_, hsl, hne1, hne2, hc1, hc2, hb1, hb2, trivial, by simp, True.intro⟩
    rw [hs1, hrest1, hs2, hrest2]
  · obtain ⟨hr, h0, hg⟩ := unc_ge2 _ _ _ _ _ (by omega) h2
    obtain rfl : rest2 = r := by simpa using hr
    refine ⟨host, sl, share, ?_, hsl, hne1, hne2, hc1, hc2, hb1, hb2, hrest2 ▸ (by simp [C02.StopsAt, notWinSlash, hx]), ?_, ?_⟩
    · rw [hs1, hrest1, hs2]
    · rw [hrest2]
      simp only [List.mem_cons, not_or]
      exact ⟨fun e => winSlash_nz x hx e.symm, h0⟩
    · rw [hrest2]; exact hg

theorem isUncPath_shape (s r : List Nat) (h : Impl.isUncPath s = some r) :
    ∃ host sl share, s = host ++ sl :: (share ++ r) ∧ Impl.isWindowsSlash sl = true ∧
      host ≠ [] ∧ share ≠ [] ∧
      (∀ c ∈ host ++ share, Impl.isWindowsSlash c = false ∧ c ≠ 0) ∧
      host ≠ [0x3F] ∧ host ≠ [0x2E] ∧ (∀ a b, host = [a, b] → Impl.isWindowsDrive a b = false) ∧
      share ≠ [0x2E] ∧ share ≠ [0x2E, 0x2E] ∧
      (r = [] ∨ ∃ x r', r = x :: r' ∧ Impl.isWindowsSlash x = true) ∧ 0 ∉ r := by
  obtain ⟨host, sl, share, hP⟩ := isUncPath_peel s r h
  obtain ⟨hh1, hh2, hh3⟩ := uncBad_one hP.hostOk
  exact ⟨host, sl, share, hP.eq, hP.slash, hP.hostNe, hP.shareNe,
    fun c hc => (List.mem_append.1 hc).elim (hP.hostClean c) (hP.shareClean c), hh1, hh2, hh3, hP.notDot, hP.notDD,
    stopsAt_sep hP.rest, hP.noNul⟩

/-! ## path_from_file_url: what a returned path says about the URL -/

theorem pathFromFileUrl_posix (u : Url) (p : List Nat) (h : Impl.pathFromFileUrl u .posix = some p) :
    u.isFile = true ∧ u.hostText = [] ∧ p = Impl.percentDecode (Impl.pathText u) ∧ 0 ∉ p := by
  unfold Impl.pathFromFileUrl at h
  simp only [] at h
  by_cases hf : u.isFile = true
  · by_cases hh : u.hostText = []
    · simp only [hf, hh, ne_eq, not_true, if_false, Bool.not_true, Bool.false_eq_true] at h
      by_cases h0 : ((Impl.percentDecode (Impl.pathText u)).any fun x => x == 0) = true
      · simp [h0] at h
      · simp only [h0, if_false, Option.some.injEq, Bool.false_eq_true] at h
        refine ⟨hf, hh, h.symm, ?_⟩
        rw [← h]; exact not_any_zero _ h0
    · simp [hf, hh] at h
  · simp [hf] at h

theorem lead_ge2 (path : List Nat) (h : 2 ≤ ((path.take 4).takeWhile (· == 0x5C)).length) :
    ∃ q, path = 0x5C :: 0x5C :: q := by
  match path with
  | [] => simp at h
  | [a] =>
    simp only [List.take, List.takeWhile] at h
    split at h <;> simp at h
  | a :: b :: q =>
    by_cases ha : a = 0x5C
    · by_cases hb : b = 0x5C
      · subst ha hb; exact ⟨q, rfl⟩
      · simp [ha, hb] at h
    · simp [ha] at h

theorem lead_eq3 (path : List Nat) (h : ((path.take 4).takeWhile (· == 0x5C)).length = 3) :
    ∃ q, path = 0x5C :: 0x5C :: 0x5C :: q := by
  obtain ⟨q, rfl⟩ := lead_ge2 path (by omega)
  match q with
  | [] => simp [List.take, List.takeWhile] at h
  | c :: q =>
    by_cases hc : c = 0x5C
    · subst hc; exact ⟨q, rfl⟩
    · simp [hc] at h

theorem hasDrive_cases (path : List Nat) (h : Impl.pathnameHasWindowsDrive path = true) :
    ∃ s a rest, path = s :: a :: 0x3A :: rest ∧ isAlpha a = true ∧
      (rest = [] ∨ ∃ c r, rest = c :: r ∧ Impl.isWindowsSlash c = true) := by
  unfold Impl.pathnameHasWindowsDrive at h
  split at h
  · rename_i s a b
    simp only [Bool.and_eq_true, Impl.isNormalizedWindowsDrive, beq_iff_eq] at h
    obtain ⟨-, ha, hb⟩ := h
    subst hb
    exact ⟨s, a, [], rfl, ha, Or.inl rfl⟩
  · rename_i s a b c r
    simp only [Bool.and_eq_true, Impl.isNormalizedWindowsDrive, beq_iff_eq] at h
    obtain ⟨⟨hc, -⟩, ha, hb⟩ := h
    subst hb
    exact ⟨s, a, c :: r, rfl, ha, Or.inr ⟨c, r, rfl, hc⟩⟩
  · simp at h

def winBody (u : Url) : List Nat :=
  (Impl.percentDecode (Impl.pathText u)).map (fun c => if c = 0x2F then 0x5C else c)

theorem winBody_no_slash (u : Url) : 0x2F ∉ winBody u := by
  unfold winBody
  intro h
  obtain ⟨c, -, hc⟩ := List.mem_map.1 h
  split at hc <;> omega

/-- path_from_file_url (Windows format) on a file URL, in terms of its host text and `winBody`: a host makes a UNC
    path; without one a drive letter behind the first separator, or a UNC path spelt in the pathname; the NUL
    check comes last -/
theorem pathFromFileUrl_windows_eq (u : Url) (hf : u.isFile = true) :
    Impl.pathFromFileUrl u .windows =
      match (if u.hostText ≠ [] then
          (if u.hostText = [0x2E] ∨ (Impl.isUncPath (u.hostText ++ winBody u)).isNone = true then none
           else some (0x5C :: 0x5C :: (u.hostText ++ winBody u)))
        else if Impl.pathnameHasWindowsDrive (winBody u) = true then
          some (if ((winBody u).drop 1).length = 2 then (winBody u).drop 1 ++ [0x5C] else (winBody u).drop 1)
        else
          match (if (((winBody u).take 4).takeWhile (· == 0x5C)).length = 3 then some ((winBody u).drop 1)
                 else if (((winBody u).take 4).takeWhile (· == 0x5C)).length ≠ 2 then none
                 else some (winBody u)) with
          | none => none
          | some path => if (Impl.isUncPath (path.drop 2)).isNone = true then none else some path) with
      | none => none
      | some path => if (path.any fun x => x == 0) = true then none else some path := by
  unfold Impl.pathFromFileUrl
  have hb : (List.map (fun c => if c = 47 then 92 else c) (Impl.percentDecode (Impl.pathText u))) = winBody u := rfl
  simp only [hf, Bool.not_true, Bool.false_eq_true, if_false, hb]
  by_cases hh : u.hostText = []
  · simp [hh]
    rfl
  · by_cases hdot : u.hostText = [0x2E]
    · simp [hdot]
    · simp [hh, hdot]
      rfl

theorem nul_check (r : Option (List Nat)) (p : List Nat)
    (h : (match r with
          | none => none
          | some path => if (path.any fun x => x == 0) = true then none else some path) = some p) :
    r = some p ∧ 0 ∉ p := by
  cases r with
  | none => simp at h
  | some path =>
    by_cases h0 : (path.any fun x => x == 0) = true
    · simp [h0] at h
    · simp only [h0, if_false, Option.some.injEq, Bool.false_eq_true] at h
      subst h
      exact ⟨rfl, not_any_zero _ h0⟩

theorem unc_tail_some {q path p : List Nat}
    (h : (if (Impl.isUncPath q).isNone = true then none else some path) = some p) :
    p = path ∧ (Impl.isUncPath q).isSome = true := by
  cases hq : Impl.isUncPath q with
  | none => rw [hq] at h; cases h
  | some r => rw [hq] at h; exact ⟨(Option.some.inj h).symm, rfl⟩

theorem pathFromFileUrl_windows (u : Url) (p : List Nat) (h : Impl.pathFromFileUrl u .windows = some p) :
    u.isFile = true ∧ 0 ∉ p ∧ u.hostText ≠ [0x2E] ∧
      ((u.hostText ≠ [] ∧ p = 0x5C :: 0x5C :: (u.hostText ++ winBody u) ∧
          (Impl.isUncPath (u.hostText ++ winBody u)).isSome = true) ∨
       (u.hostText = [] ∧ ∃ s a rest, winBody u = s :: a :: 0x3A :: rest ∧ isAlpha a = true ∧
          ((rest = [] ∧ p = [a, 0x3A, 0x5C]) ∨ (∃ r, rest = 0x5C :: r ∧ p = a :: 0x3A :: 0x5C :: r))) ∨
       (u.hostText = [] ∧ ∃ q, (winBody u = 0x5C :: 0x5C :: q ∨ winBody u = 0x5C :: 0x5C :: 0x5C :: q) ∧
          p = 0x5C :: 0x5C :: q ∧ (Impl.isUncPath q).isSome = true)) := by
  have hf : u.isFile = true := by
    cases hf : u.isFile with
    | true => rfl
    | false => simp [Impl.pathFromFileUrl, hf] at h
  rw [pathFromFileUrl_windows_eq u hf] at h
  obtain ⟨h, h0⟩ := nul_check _ _ h
  refine ⟨hf, h0, ?_⟩
  have hbs := winBody_no_slash u
  generalize winBody u = body at h hbs ⊢
  generalize u.hostText = hn at h ⊢
  by_cases hh : hn = []
  · subst hh
    refine ⟨by simp, Or.inr ?_⟩
    simp only [ne_eq, not_true, if_false] at h
    by_cases hd : Impl.pathnameHasWindowsDrive body = true
    · simp only [hd, if_true, Option.some.injEq] at h
      left
      obtain ⟨s, a, rest, hbody, ha, hrest⟩ := hasDrive_cases body hd
      refine ⟨rfl, s, a, rest, hbody, ha, ?_⟩
      subst hbody
      rcases hrest with hr | ⟨c, r, hr, hc⟩
      · subst hr
        left; refine ⟨rfl, ?_⟩
        simpa using h.symm
      · subst hr
        right
        have hc' : c = 0x5C := by
          simp only [Impl.isWindowsSlash, Bool.or_eq_true, beq_iff_eq] at hc
          rcases hc with hc | hc
          · exact hc
          · subst hc; simp at hbs
        subst hc'
        refine ⟨r, rfl, ?_⟩
        simpa using h.symm
    · right
      simp only [hd, Bool.false_eq_true, if_false] at h
      by_cases h3 : (List.takeWhile (fun x => x == 92) (List.take 4 body)).length = 3
      · obtain ⟨q, hq⟩ := lead_eq3 body h3
        subst hq
        simp only [h3, if_true, List.drop_succ_cons, List.drop_zero] at h
        obtain ⟨hp, hu⟩ := unc_tail_some h
        exact ⟨rfl, q, Or.inr rfl, hp, hu⟩
      · simp only [h3, if_false] at h
        by_cases h2 : (List.takeWhile (fun x => x == 92) (List.take 4 body)).length = 2
        · obtain ⟨q, hq⟩ := lead_ge2 body (by omega)
          subst hq
          simp only [h2, not_true, if_false, List.drop_succ_cons, List.drop_zero] at h
          obtain ⟨hp, hu⟩ := unc_tail_some h
          exact ⟨rfl, q, Or.inl rfl, hp, hu⟩
        · simp [h2] at h
  · simp only [ne_eq, hh, not_false_eq_true, if_true] at h
    by_cases hdot : hn = [0x2E]
    · simp [hdot] at h
    refine ⟨hdot, Or.inl ⟨hh, ?_⟩⟩
    simp only [hdot, false_or] at h
    exact unc_tail_some h

/-! ## url_from_file_path, Windows format: prefix analysis and acceptance -/

theorem rejectDotHost_some {o : Option Url} {u : Url} (h : Impl.rejectDotHost o = some u) :
    o = some u ∧ u.hostText ≠ [0x2E] := by
  unfold Impl.rejectDotHost at h
  cases o with
  | none => cases h
  | some v =>
    simp only [Option.bind_some] at h
    by_cases hv : v.hostText = [0x2E]
    · rw [if_pos hv] at h; cases h
    · rw [if_neg hv] at h
      simp only [Option.some.injEq] at h
      subst h
      exact ⟨rfl, hv⟩

theorem rejectDotHost_of_ne {u : Url} (h : u.hostText ≠ [0x2E]) : Impl.rejectDotHost (some u) = some u := by
  unfold Impl.rejectDotHost
  simp only [Option.bind_some]
  rw [if_neg h]

/-- the prefix analysis of url_from_file_path (Windows format): (pointer, is_unc).  It is the anonymous `match` at
    the head of the Windows branch of `Impl.urlFromFilePath`, given a name; `urlFromFilePath_windows` ties the two -/
def winClassify (s : List Nat) : List Nat × Bool :=
  match s with
  | a :: b :: r =>
    if Impl.isWindowsSlash a && Impl.isWindowsSlash b then
      match r with
      | x :: y :: r2 =>
        if (x == 0x3F || x == 0x2E) && Impl.isWindowsSlash y then
          match r2 with
          | u :: n :: c :: sl :: r3 =>
            if (u ||| 0x20) == 0x75 && (n ||| 0x20) == 0x6E && (c ||| 0x20) == 0x63 && Impl.isWindowsSlash sl
            then (r3, true) else (r2, false)
          | _ => (r2, false)
        else (r, true)
      | _ => (r, true)
    else (s, false)
  | _ => (s, false)

theorem winClassify_plain (s : List Nat)
    (h : ∀ a b r, s = a :: b :: r → (Impl.isWindowsSlash a && Impl.isWindowsSlash b) = false) :
    winClassify s = (s, false) := by
  unfold winClassify
  split
  · rename_i a b r
    rw [h a b r rfl]
    rfl
  · rfl

theorem or20_nz (c k : Nat) (h : (c ||| 0x20) = k) (hk : k ≠ 0x20) : c ≠ 0 := by
  intro e; subst e; simp at h; omega

/-- the skipped prefix (`\\`, `\\?\`, `\\.\`, `\\?\UNC\`) is NUL-free -/
theorem winClassify_suffix (s : List Nat) :
    ∃ pre, s = pre ++ (winClassify s).1 ∧ 0 ∉ pre := by
  unfold winClassify
  split
  · rename_i a b r
    split
    · rename_i hab
      simp only [Bool.and_eq_true] at hab
      have ha := winSlash_nz a hab.1
      have hb := winSlash_nz b hab.2
      split
      · rename_i x y r2
        split
        · rename_i hxy
          simp only [Bool.and_eq_true, Bool.or_eq_true, beq_iff_eq] at hxy
          have hx : x ≠ 0 := by omega
          have hy := winSlash_nz y hxy.2
          split
          · rename_i u n c sl r3
            split
            · rename_i hunc
              simp only [Bool.and_eq_true, beq_iff_eq] at hunc
              obtain ⟨⟨⟨hu, hn⟩, hc⟩, hsl⟩ := hunc
              have hu := or20_nz u _ hu (by omega)
              have hn := or20_nz n _ hn (by omega)
              have hc := or20_nz c _ hc (by omega)
              have hsl := winSlash_nz sl hsl
              refine ⟨[a, b, x, y, u, n, c, sl], rfl, ?_⟩
              simp only [List.mem_cons, List.not_mem_nil, or_false, not_or]
              omega
            · refine ⟨[a, b, x, y], rfl, ?_⟩
              simp only [List.mem_cons, List.not_mem_nil, or_false, not_or]
              omega
          · refine ⟨[a, b, x, y], rfl, ?_⟩
            simp only [List.mem_cons, List.not_mem_nil, or_false, not_or]
            omega
        · refine ⟨[a, b], rfl, ?_⟩
          simp only [List.mem_cons, List.not_mem_nil, or_false, not_or]
          omega
      · refine ⟨[a, b], rfl, ?_⟩
        simp only [List.mem_cons, List.not_mem_nil, or_false, not_or]
        omega
    · exact ⟨[], rfl, by simp⟩
  · exact ⟨[], rfl, by simp⟩

/-- no notion: the rest of the Windows branch of `Impl.urlFromFilePath` as a function of the pair, so that the
    `show` in `urlFromFilePath_windows` can fold the model's inline `match` into `winClassify` -/
def winTail (idna : Idna) (cl : List Nat × Bool) : Option Url :=
  match (if cl.2 then Impl.isUncPath cl.1 else Impl.isWindowsDriveAbsolutePath cl.1) with
  | none => none
  | some chk =>
    if Impl.hasDotDotSegment Impl.isWindowsSlash none chk then none
    else if chk.any (· == 0) then none
    else Impl.rejectDotHost (Impl.parse idna .u8 (Impl.sFilePrefix ++ (if cl.2 then [] else [0x2F]) ++
           Impl.percentEncode Impl.rawPathNoEnc cl.1) none)

theorem urlFromFilePath_windows (idna : Idna) (s : List Nat) :
    Impl.urlFromFilePath idna s .windows =
      if s = [] then none else
      match (if (winClassify s).2 then Impl.isUncPath (winClassify s).1
             else Impl.isWindowsDriveAbsolutePath (winClassify s).1) with
      | none => none
      | some chk =>
        if dd ∈ splitOnP Impl.isWindowsSlash chk ∨ 0 ∈ chk then none
        else Impl.rejectDotHost (Impl.parse idna .u8
               (Impl.sFilePrefix ++ (if (winClassify s).2 then [] else [0x2F]) ++
               Impl.percentEncode Impl.rawPathNoEnc (winClassify s).1) none) := by
  cases s with
  | nil => rfl
  | cons c0 r0 =>
    rw [if_neg (by simp)]
    show winTail idna (winClassify (c0 :: r0)) = _
    unfold winTail
    cases (if (winClassify (c0 :: r0)).2 = true then Impl.isUncPath (winClassify (c0 :: r0)).1
           else Impl.isWindowsDriveAbsolutePath (winClassify (c0 :: r0)).1) with
    | none => rfl
    | some chk =>
      simp only [hasDotDot_eq Impl.isWindowsSlash (by decide), decide_eq_true_eq]
      by_cases h1 : dd ∈ splitOnP Impl.isWindowsSlash chk
      · simp [h1]
      · by_cases h0 : 0 ∈ chk
        · simp [h0]
        · simp [h1, h0, any_zero_false h0]

theorem driveAbs_shape (p chk : List Nat) (h : Impl.isWindowsDriveAbsolutePath p = some chk) :
    ∃ a b c, p = a :: b :: c :: chk ∧ Impl.isWindowsDrive a b = true ∧ Impl.isWindowsSlash c = true := by
  unfold Impl.isWindowsDriveAbsolutePath at h
  split at h
  · rename_i a b c r
    by_cases hc : (Impl.isWindowsDrive a b && Impl.isWindowsSlash c) = true
    · rw [if_pos hc] at h
      simp only [Option.some.injEq] at h
      subst h
      simp only [Bool.and_eq_true] at hc
      exact ⟨a, b, c, rfl, hc.1, hc.2⟩
    · rw [if_neg hc] at h; cases h
  · cases h

theorem pointer_sub (s : List Nat) : ∀ x ∈ (winClassify s).1, x ∈ s := by
  obtain ⟨pre, hpre, -⟩ := winClassify_suffix s
  intro x hx
  rw [hpre]; exact List.mem_append_right _ hx

theorem windows_accepted (idna : Idna) (s : List Nat) (u : Url)
    (h : Impl.urlFromFilePath idna s .windows = some u) :
    ∃ chk, (if (winClassify s).2 then Impl.isUncPath (winClassify s).1
            else Impl.isWindowsDriveAbsolutePath (winClassify s).1) = some chk ∧
      dd ∉ splitOnP Impl.isWindowsSlash chk ∧ 0 ∉ chk ∧
      Impl.parse idna .u8 (Impl.sFilePrefix ++ (if (winClassify s).2 then [] else [0x2F]) ++
        Impl.percentEncode Impl.rawPathNoEnc (winClassify s).1) none = some u ∧ u.hostText ≠ [0x2E] := by
  rw [urlFromFilePath_windows] at h
  by_cases hs0 : s = []
  · rw [if_pos hs0] at h; cases h
  rw [if_neg hs0] at h
  cases hd : (if (winClassify s).2 then Impl.isUncPath (winClassify s).1
      else Impl.isWindowsDriveAbsolutePath (winClassify s).1) with
  | none => rw [hd] at h; cases h
  | some chk =>
    rw [hd] at h
    simp only at h
    by_cases hbad : dd ∈ splitOnP Impl.isWindowsSlash chk ∨ 0 ∈ chk
    · rw [if_pos hbad] at h; cases h
    rw [if_neg hbad] at h
    obtain ⟨h, hnd⟩ := rejectDotHost_some h
    simp only [not_or] at hbad
    exact ⟨chk, rfl, hbad.1, hbad.2, h, hnd⟩

end Upa.Proofs.C17
