import Upa.Proofs.SetRepExcOk
import Upa.Proofs.SetRepApiSim
/-
  The representations at the throwing primitives of the whole setters (`setRepT`) and of the params
  write-back (`updateRepT`), started on a representation of a record.  `protocol`, `username`, `password`
  leave a representation of a record (`IsRep`); `host`, `hostname`, `port` reach `PtS` when the URL has
  text behind PATH_PREFIX (`Tail`: path, query or fragment; what the proofs need is only that something
  follows the part written, `tail_follow` / `tail_drop`) and only `Pt` otherwise; every other setter reaches `PtS`.
-/
namespace Upa.Proofs.SetRepExc
open Upa Upa.Impl Upa.Proofs.C05 Upa.Proofs.SetRep Upa.Proofs.SetRepApi Upa.Props

/-- text behind PATH_PREFIX -/
def Tail (u : Url) : Prop := pathText u ++ querySeg u ++ fragSeg u ≠ []

theorem tail_drop {u : Url} (ht : Tail u) (n : Nat) (hn : n ≤ 8) : (List.drop n (segsOf u)).flatten ≠ [] := by
  intro hc
  apply ht
  have e : List.drop n (segsOf u) = List.drop n (List.take 8 (segsOf u)) ++ List.drop 8 (segsOf u) := by
    conv => lhs; rw [← List.take_append_drop 8 (segsOf u)]
    rw [List.drop_append_of_le_length (by simp [segsOf]; omega)]
  rw [e, List.flatten_append, List.append_eq_nil_iff] at hc
  have := hc.2
  simpa [segsOf] using this

theorem tail_follow {u : Url} (ht : Tail u) :
    (portSeg u ++ prefixSeg u ++ pathText u ++ querySeg u ++ fragSeg u) ≠ [] := by
  intro hc
  apply ht
  simp only [List.append_eq_nil_iff] at hc ⊢
  exact ⟨⟨hc.1.1.2, hc.1.2⟩, hc.2⟩

/-- a non-empty list path of a URL without opaque path has text (at least "/") -/
theorem tail_of_path {u : Url} (ho : u.hasOpaquePath = false) (hp : u.path ≠ []) : Tail u := by
  intro hc
  simp only [List.append_eq_nil_iff] at hc
  exact pathText_ne_nil ho hp hc.1.1

/-- a representation of some record -/
def IsRep (r : Rep) : Prop := ∃ u, RepOk u ∧ RepFor r u

theorem IsRep.ptS {r : Rep} (h : IsRep r) : PtS r := by
  obtain ⟨u, ok, hu⟩ := h
  exact ptS_of_repFor ok.1 hu

/-- QUERY / FRAGMENT written through `start_part` … `save_part`: HOST and PORT stay started -/
theorem leaves_writeTailX {r : Rep} {u : Url} (ok : RepOk u) (h : RepFor r u) (pt : Nat)
    (hpt : pt = QUERY ∨ pt = FRAGMENT) (text : List Nat) :
    Leaves (writePartFlagX r pt text) PtS := by
  obtain ⟨A, hA, rfl⟩ := (repFor_iff u ok.1 r).mp h
  have hlo := hA.lo
  have h7 := rp_port_started ok.1 hA segsOf_port
  have hp9 : 9 ≤ pt ∧ pt ≤ 10 := by rcases hpt with rfl | rfl <;> simp [QUERY, FRAGMENT]
  refine Leaves.map ((writePartX_shape (layout u) hA pt text (by omega) hp9.2).mono fun r' hs => ?_)
  exact ⟨_, _, hs, by omega, fun hp => by have := h7 hp; omega⟩

/-- PORT written through `start_part` … `save_part`: when the port is the last part the string is cut
    at the end of the host and `part_end_[PORT]` is 0 until `save_part`; otherwise the call is
    all-or-nothing -/
theorem leaves_writePortX {r : Rep} {u : Url} (ok : RepOk u) (h : RepFor r u) (text : List Nat) :
    Leaves (writePartFlagX r PORT text) (PtW (Tail u)) :=
  (leaves_writePartX ok.1 ((repFor_iff u ok.1 r).mp h) PORT text (by simp [PORT]) (by simp [PORT])
    fun ht => tail_drop ht _ (by simp [PORT])).map

theorem leaves_portStateRepX {r : Rep} {u : Url} (ok : RepOk u) (h : RepFor r u) (p : List Nat) :
    Leaves (portStateRepX r p) (PtW (Tail u)) := by
  have hr : PtS r := ptS_of_repFor ok.1 h
  unfold portStateRepX
  exact leaves_ite
    (fun _ => leaves_exitOr <| leaves_exitOr <| leaves_ite (fun _ => (leaves_writePortX ok h _).map)
        fun _ => (leaves_clearPartX.of_eq hr.ptW).map)
    fun _ => leaves_pure

/-- username, password: a host follows, so the call is all-or-nothing -/
theorem leaves_writeCredX {r : Rep} {u : Url} (ok : RepOk u) (h : RepFor r u)
    (hc : r.canHaveUsernamePasswordPort = true) (pt : Nat) (hpt : pt = USERNAME ∨ pt = PASSWORD)
    (text : List Nat) : Leaves (writePartX r pt text) (· = r) := by
  rw [canHave_eq h] at hc
  obtain ⟨x, hh, hx⟩ := C08.canHave_host hc
  obtain ⟨A, hA, rfl⟩ := (repFor_iff u ok.1 r).mp h
  apply writePartX_strp (layout u) hA pt text
  rcases hpt with rfl | rfl <;> simp [segsOf, USERNAME, PASSWORD, Url.hostText, hh, hx]

/-- a failure leaves the record as it was, or - `save_scheme` done, `clear_part(PORT)` failed - with
    the new scheme -/
theorem leaves_protocolRepX {r : Rep} {u : Url} (ok : RepOk u) (h : RepFor r u) (p : List Nat) :
    Leaves (protocolRepX r p) IsRep := by
  have hr : IsRep r := ⟨u, ok, h⟩
  cases p with
  | nil => exact leaves_pure
  | cons c0 r0 =>
    have hsne : (c0 :: r0.takeWhile isSchemeChar).map (· ||| 0x20) ≠ [] := by simp
    have hs : IsRep (saveScheme r ((c0 :: r0.takeWhile isSchemeChar).map (· ||| 0x20))) :=
      ⟨_, repOk_scheme ok _ hsne, C05b_save_scheme u _ r ok hsne h⟩
    unfold protocolRepX
    -- two exits before anything is written; the scheme pushed to `strp_`; three rejections;
    -- `save_scheme`; `clear_part(PORT)` on the url with the new scheme
    refine leaves_exitOr <| leaves_exitOr <|
      Leaves.bind (leaves_mayThrowN _ hr) (leaves_exitOr <|
        leaves_exitOr <| leaves_exitOr <|
          Leaves.bind (leaves_saveSchemeX.of_eq hr) (Leaves.map (leaves_orExit ?_)))
    rw [saveSchemeX_val]
    exact leaves_clearPartX.of_eq hs

theorem leaves_parseHostRepX {r : Rep} {u : Url} (ok : RepOk u) (ho : u.hasOpaquePath = false)
    (h : RepFor r u) (idna : Idna) (s : List Nat) :
    Leaves (parseHostRepX idna r s) (PtW (Tail u)) := by
  have hw : ∀ text ht, Leaves (writeHostX r text ht) (PtW (Tail u)) := fun text ht =>
    (leaves_writeHostX u text ht ok ((repFor_iff u ok.1 r).mp h) ho).mono fun _ hp => hp.imp tail_follow
  unfold parseHostRepX
  cases s with
  | nil => exact (hw _ _).map
  | cons c t =>
    refine Leaves.bind (leaves_mayThrowN _ (ptS_of_repFor ok.1 h).ptW) ?_
    cases parseHost idna (c :: t) (!r.isSpecialScheme) with
    | none => exact leaves_pure
    | some hd => exact (hw _ _).map

/-- after `parseHostRepX` the object is a representation of a record again: `u`, or `u` with the new
    host (which has the same tail) -/
theorem parseHostRepX_then {r : Rep} {u : Url} (ok : RepOk u) (ho : u.hasOpaquePath = false)
    (h : RepFor r u) (idna : Idna) (s : List Nat) :
    ∃ u', RepOk u' ∧ RepFor (parseHostRepX idna r s).val.1 u' ∧ (Tail u → Tail u') := by
  rw [parseHostRepX_val]
  rcases parseHostRep_fst idna r s with e | ⟨hd, e⟩
  · exact ⟨u, ok, by rw [e]; exact h, id⟩
  · exact ⟨_, repOk_host ok ho hd, by rw [e]; exact C05b_write_host u hd r ok ho h, id⟩

theorem leaves_fileHostStateRepX {r : Rep} {u : Url} (ok : RepOk u) (ho : u.hasOpaquePath = false)
    (h : RepFor r u) (idna : Idna) (p : List Nat) :
    Leaves (fileHostStateRepX idna r p) (PtW (Tail u)) := by
  unfold fileHostStateRepX
  refine leaves_ite (fun _ => ?_) fun _ => Leaves.bind (leaves_parseHostRepX ok ho h idna _) ?_
  · -- `set_empty_host` is `start_part(HOST)`; `save_part()`
    exact (leaves_writePartX ok.1 ((repFor_iff u ok.1 r).mp h) HOST [] (by simp [HOST]) (by simp [HOST])
      fun ht => tail_drop ht _ (by simp [HOST])).map.map
  · obtain ⟨u', ok', h', _⟩ := parseHostRepX_then ok ho h idna (p.takeWhile fun c => !isSpecialAuthorityEnd c)
    exact leaves_exitOr <|
      leaves_orExit ((leaves_emptyHostRepX.of_eq (ptS_of_repFor ok'.1 h').ptW).map)

theorem leaves_hostStateRepX {r : Rep} {u : Url} (ok : RepOk u) (ho : u.hasOpaquePath = false)
    (h : RepFor r u) (idna : Idna) (b : Bool) (p : List Nat) :
    Leaves (hostStateRepX idna b r p) (PtW (Tail u)) := by
  unfold hostStateRepX
  refine leaves_ite (fun _ => leaves_fileHostStateRepX ok ho h idna p) fun _ => ?_
  simp only
  generalize hostScan _ false = sc
  obtain ⟨hostPart, portPart⟩ := sc
  refine leaves_exitOr <| leaves_exitOr <|
    leaves_exitOr <| Leaves.bind (leaves_parseHostRepX ok ho h idna _) ?_
  obtain ⟨u', ok', h', ht'⟩ := parseHostRepX_then ok ho h idna hostPart
  refine leaves_exitOr <| ?_
  cases portPart with
  | none => exact leaves_pure
  | some pp => exact (leaves_portStateRepX ok' h' _).mono fun _ hp => hp.imp ht'

theorem leaves_pathStartStateRepX {r : Rep} {u : Url} (ok : RepOk u) (h : RepFor r u) (p : List Nat) :
    Leaves (pathStartStateRepX r p) PtS := by
  have hr : PtS r := ptS_of_repFor ok.1 h
  obtain ⟨A, hA, rfl⟩ := (repFor_iff u ok.1 r).mp h
  have hc := fun b : PathBuf =>
    (leaves_commitPathX (layout u) hA b.strp b.segEnd.length).map (g := fun r1 => (r1, true))
  unfold pathStartStateRepX
  refine leaves_ite (fun _ => Leaves.bind (leaves_pathSegmentsBufX.of_eq hr) (hc _)) fun _ => ?_
  cases p with
  | nil => exact Leaves.bind (leaves_orExit (leaves_pushX.of_eq hr)) (hc _)
  | cons c rest => exact Leaves.bind (leaves_pathSegmentsBufX.of_eq hr) (hc _)

theorem leaves_credSetterT (idna : Idna) (s : Setter) (hs : s = .username ∨ s = .password) (e : Enc)
    (units : List Nat) {u : Url} {r : Rep} (ok : RepOk u) (h : RepFor r u) :
    Leaves (setRepT idna s e units r) (· = r) := by
  rcases hs with rfl | rfl <;>
    exact leaves_ite (fun hc => Leaves.bind (leaves_mayThrow rfl)
      (leaves_writeCredX ok h hc _ (by decide) _).map) fun _ => leaves_pure

theorem leaves_setRepT_isRep (idna : Idna) (s : Setter) (hs : s = .protocol ∨ s = .username ∨ s = .password)
    (e : Enc) (units : List Nat) {u : Url} {r : Rep} (ok : RepOk u) (h : RepFor r u) :
    Leaves (setRepT idna s e units r) IsRep := by
  have hr : IsRep r := ⟨u, ok, h⟩
  rcases hs with rfl | hs
  · exact Leaves.bind (leaves_preludeX.of_eq hr) (leaves_protocolRepX ok h _)
  · exact (leaves_credSetterT idna s hs e units ok h).of_eq hr

/-- every setter: at every throwing primitive the representation has some shape; HOST is started,
    and PORT too if the port is non-null, unless the setter is `host`, `hostname` or `port` and
    nothing follows the host / port -/
theorem leaves_setRepT (idna : Idna) (s : Setter) (e : Enc) (units : List Nat) {u : Url} {r : Rep}
    (ok : RepOk u) (h : RepFor r u) :
    Leaves (setRepT idna s e units r) (PtW (Tail u ∨ ¬ (s = .host ∨ s = .hostname ∨ s = .port))) := by
  have hr : PtS r := ptS_of_repFor ok.1 h
  have ho : r.opaquePath = u.hasOpaquePath := opaquePath_eq h
  have strong : ∀ {w : Prop} {m : X (Rep × Bool)}, Leaves m PtS → Leaves m (PtW w) :=
    fun hm => hm.mono fun _ hp => hp.ptW
  have hostSetter : s = .host ∨ s = .hostname ∨ s = .port → ∀ {m : X (Rep × Bool)},
      Leaves m (PtW (Tail u)) → Leaves m (PtW (Tail u ∨ ¬ (s = .host ∨ s = .hostname ∨ s = .port))) :=
    fun hs _ hm => hm.mono fun _ hp => hp.imp fun hw => hw.elim id (absurd hs)
  have hostCase : ∀ b, Leaves (if !r.opaquePath then (do preludeX r; hostStateRepX idna b r (prep e units))
      else pure (r, false)) (PtW (Tail u)) := fun b =>
    leaves_ite (fun hc => Leaves.bind (leaves_preludeX.of_eq hr.ptW)
      (leaves_hostStateRepX ok (by rw [ho] at hc; simpa using hc) h idna _ _)) fun _ => leaves_pure
  cases s with
  | href => exact leaves_pure
  | protocol => exact strong ((leaves_setRepT_isRep idna _ (Or.inl rfl) e units ok h).mono fun _ hp => hp.ptS)
  | username => exact strong ((leaves_credSetterT idna _ (Or.inl rfl) e units ok h).of_eq hr)
  | password => exact strong ((leaves_credSetterT idna _ (Or.inr rfl) e units ok h).of_eq hr)
  | host => exact hostSetter (Or.inl rfl) (hostCase false)
  | hostname => exact hostSetter (Or.inr (Or.inl rfl)) (hostCase true)
  | port =>
    exact hostSetter (Or.inr (Or.inr rfl)) (leaves_orExit (leaves_ite
      (fun _ => (leaves_clearPartX.of_eq hr.ptW).map)
      fun _ => Leaves.bind (leaves_preludeX.of_eq hr.ptW) (leaves_portStateRepX ok h _)))
  | pathname =>
    exact strong (leaves_orExit (Leaves.bind (leaves_preludeX.of_eq hr) (leaves_pathStartStateRepX ok h _)))
  | search =>
    cases units with
    | nil => exact strong (leaves_clearPartX.of_eq hr).map
    | cons c rest =>
      refine strong (Leaves.bind (leaves_preludeX.of_eq hr)
        (Leaves.bind (leaves_writeTailX ok h QUERY (Or.inl rfl) _).map
          (Leaves.bind (leaves_mayThrow ?_) leaves_pure)))
      -- `parse_search_params()` runs on the url with the new query
      rw [queryStateRepX_val]
      have k := sim_query ok h .query (prep e (if c = 0x3F then rest else c :: rest))
      have wf : RecWF (queryState (some .query) u (prep e (if c = 0x3F then rest else c :: rest))).url := ok.1
      exact ptS_of_repFor wf k.1
  | hash =>
    cases units with
    | nil => exact strong (leaves_clearPartX.of_eq hr).map
    | cons c rest =>
      exact strong (Leaves.bind (leaves_preludeX.of_eq hr) (leaves_writeTailX ok h FRAGMENT (Or.inr rfl) _).map)

theorem leaves_updateRepT {u : Url} {r : Rep} (ok : RepOk u) (h : RepFor r u) (l : List BPair) :
    Leaves (updateRepT r l) PtS :=
  leaves_ite (fun _ => (leaves_clearPartX.of_eq (ptS_of_repFor ok.1 h)).map)
    fun _ => leaves_writeTailX ok h QUERY (Or.inl rfl) _

theorem leaves_updateRepSerT {u : Url} {r : Rep} (ok : RepOk u) (h : RepFor r u) (ser : List Nat) :
    Leaves (updateRepSerT r ser) PtS :=
  leaves_ite (fun _ => (leaves_clearPartX.of_eq (ptS_of_repFor ok.1 h)).map)
    fun _ => leaves_writeTailX ok h QUERY (Or.inl rfl) _

end Upa.Proofs.SetRepExc
