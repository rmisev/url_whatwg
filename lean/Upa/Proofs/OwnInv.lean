import Upa.Proofs.OwnViews
/-
  C06b: the ownership invariant `OwnInv` — in terms of the two pointer views: `OwnG`, plus key
  uniqueness `NodupK` —, the executable check that decides it, the three ways in which links change
  (`OwnG.link / take / drop`), what the operations that move pointers or content do to the views, and
  key uniqueness under every operation.  That `OwnG` is kept is part of each operation's `Sim`
  statement (`Upa/Proofs/OwnAbs.lean`); the walk over the operations is `stepH_inv` (`OwnLock.lean`).
-/
namespace Upa.Proofs.Own
open Upa Upa.Impl Upa.Impl.Own

/-! ## the invariant -/

/-- **The ownership invariant** of the pointer graph.
    * `fwd`  (a) the `search_params_ptr_` of a live url points to a live params object whose `url_ptr_`
             points back to that url;
    * `back` (b) a live params object whose `url_ptr_` is `u` is the object the live url `u` holds — no
             params object points to a url that does not hold it (no dangling, no crossed back pointer);
    * `excl` (c) no two urls hold the same params object (a consequence of (a): `excl_of_fwd`);
    * `freshU`, `freshP`, `keysU`, `keysP` (d) live ids are below `next`, keys are unique. -/
structure OwnInv (h : Heap) : Prop where
  fwd : ∀ u uc p, h.getU u = some uc → uc.spPtr = some p → ∃ pc, h.getP p = some pc ∧ pc.urlPtr = some u
  back : ∀ p pc u, h.getP p = some pc → pc.urlPtr = some u → ∃ uc, h.getU u = some uc ∧ uc.spPtr = some p
  excl : ∀ u₁ u₂ c₁ c₂ p, h.getU u₁ = some c₁ → h.getU u₂ = some c₂ → c₁.spPtr = some p → c₂.spPtr = some p →
    u₁ = u₂
  freshU : ∀ u, h.liveU u = true → u < h.next
  freshP : ∀ p, h.liveP p = true → p < h.next
  keysU : (h.urls.map (·.1)).Nodup
  keysP : (h.params.map (·.1)).Nodup

/-- the same in terms of the two pointer views (no cells, no existentials) -/
structure OwnG (h : Heap) : Prop where
  fwd : ∀ u p, sp h u = some (some p) → up h p = some (some u)
  back : ∀ p u, up h p = some (some u) → sp h u = some (some p)
  freshU : ∀ u, h.next ≤ u → sp h u = none
  freshP : ∀ p, h.next ≤ p → up h p = none

theorem excl_of_fwd (h : Heap)
    (hf : ∀ u uc p, h.getU u = some uc → uc.spPtr = some p → ∃ pc, h.getP p = some pc ∧ pc.urlPtr = some u) :
    ∀ u₁ u₂ c₁ c₂ p, h.getU u₁ = some c₁ → h.getU u₂ = some c₂ → c₁.spPtr = some p → c₂.spPtr = some p →
      u₁ = u₂ := by
  intro u₁ u₂ c₁ c₂ p h1 h2 h3 h4
  obtain ⟨pc, hp, hu1⟩ := hf u₁ c₁ p h1 h3
  obtain ⟨pc', hp', hu2⟩ := hf u₂ c₂ p h2 h4
  rw [hp] at hp'; cases hp'
  rw [hu1] at hu2; exact Option.some.inj hu2

theorem sp_some_iff {h : Heap} {u p : Nat} :
    sp h u = some (some p) ↔ ∃ uc, h.getU u = some uc ∧ uc.spPtr = some p := by
  unfold sp; cases h.getU u <;> simp
theorem up_some_iff {h : Heap} {p u : Nat} :
    up h p = some (some u) ↔ ∃ pc, h.getP p = some pc ∧ pc.urlPtr = some u := by
  unfold up; cases h.getP p <;> simp

theorem ownInv_iff (h : Heap) : OwnInv h ↔ (OwnG h ∧ NodupK h) := by
  constructor
  · intro hi
    refine ⟨⟨?_, ?_, ?_, ?_⟩, hi.keysU, hi.keysP⟩
    · intro u p hu
      obtain ⟨uc, h1, h2⟩ := sp_some_iff.1 hu
      exact up_some_iff.2 (hi.fwd u uc p h1 h2)
    · intro p u hp
      obtain ⟨pc, h1, h2⟩ := up_some_iff.1 hp
      exact sp_some_iff.2 (hi.back p pc u h1 h2)
    · intro u hu
      cases hs : sp h u with
      | none => rfl
      | some o => exact absurd (hi.freshU u (by rw [liveU_eq, hs]; rfl)) (Nat.not_lt.2 hu)
    · intro p hp
      cases hs : up h p with
      | none => rfl
      | some o => exact absurd (hi.freshP p (by rw [liveP_eq, hs]; rfl)) (Nat.not_lt.2 hp)
  · rintro ⟨hg, hn⟩
    have hfwd : ∀ u uc p, h.getU u = some uc → uc.spPtr = some p → ∃ pc, h.getP p = some pc ∧ pc.urlPtr = some u :=
      fun u uc p hu hp => up_some_iff.1 (hg.fwd u p (sp_some_iff.2 ⟨uc, hu, hp⟩))
    refine ⟨hfwd, fun p pc u hp hu => sp_some_iff.1 (hg.back p u (up_some_iff.2 ⟨pc, hp, hu⟩)), excl_of_fwd h hfwd,
      ?_, ?_, hn.1, hn.2⟩
    · intro u hu
      rw [liveU_eq] at hu
      refine Nat.lt_of_not_le fun hle => ?_
      rw [hg.freshU u hle] at hu; cases hu
    · intro p hp
      rw [liveP_eq] at hp
      refine Nat.lt_of_not_le fun hle => ?_
      rw [hg.freshP p hle] at hp; cases hp

theorem OwnInv.ownG {h : Heap} (hi : OwnInv h) : OwnG h := ((ownInv_iff h).1 hi).1

theorem ownInv_empty : OwnInv {} :=
  (ownInv_iff _).2 ⟨⟨fun _ _ h => (by cases h), fun _ _ h => (by cases h), fun _ _ => rfl, fun _ _ => rfl⟩,
    List.nodup_nil, List.nodup_nil⟩

/-! ## `Heap.check` decides `OwnInv` -/

theorem getU_iff_mem (h : Heap) (hn : (h.urls.map (·.1)).Nodup) (u : Nat) (uc : UCell) :
    h.getU u = some uc ↔ (u, uc) ∈ h.urls := mget_eq_some_iff h.urls hn u uc
theorem getP_iff_mem (h : Heap) (hn : (h.params.map (·.1)).Nodup) (p : Nat) (pc : PCell) :
    h.getP p = some pc ↔ (p, pc) ∈ h.params := mget_eq_some_iff h.params hn p pc

theorem check_iff (h : Heap) : h.check = true ↔ OwnInv h := by
  unfold Heap.check
  simp only [Bool.and_eq_true, List.all_eq_true, decide_eq_true_eq]
  constructor
  · rintro ⟨⟨⟨hu, hp⟩, nu⟩, np⟩
    have hfwd : ∀ u uc p, h.getU u = some uc → uc.spPtr = some p → ∃ pc, h.getP p = some pc ∧ pc.urlPtr = some u := by
      intro u uc p hg hs
      have := (hu (u, uc) ((getU_iff_mem h nu u uc).1 hg)).2
      simp only [hs] at this
      cases hc : h.getP p with
      | none => simp [hc] at this
      | some pc => simp only [hc, beq_iff_eq] at this; exact ⟨pc, rfl, this⟩
    refine ⟨hfwd, ?_, ?_, ?_, ?_, nu, np⟩
    · intro p pc u hg hs
      have := (hp (p, pc) ((getP_iff_mem h np p pc).1 hg)).2
      simp only [hs] at this
      cases hc : h.getU u with
      | none => simp [hc] at this
      | some uc => simp only [hc, beq_iff_eq] at this; exact ⟨uc, rfl, this⟩
    · exact excl_of_fwd h hfwd
    · intro u hl
      unfold Heap.liveU at hl
      obtain ⟨uc, hg⟩ := Option.isSome_iff_exists.1 hl
      exact (hu (u, uc) ((getU_iff_mem h nu u uc).1 hg)).1
    · intro p hl
      unfold Heap.liveP at hl
      obtain ⟨pc, hg⟩ := Option.isSome_iff_exists.1 hl
      exact (hp (p, pc) ((getP_iff_mem h np p pc).1 hg)).1
  · intro hi
    refine ⟨⟨⟨?_, ?_⟩, hi.keysU⟩, hi.keysP⟩
    · rintro ⟨u, uc⟩ hm
      have hg := (getU_iff_mem h hi.keysU u uc).2 hm
      refine ⟨hi.freshU u (by unfold Heap.liveU; rw [hg]; rfl), ?_⟩
      dsimp only
      cases hs : uc.spPtr with
      | none => rfl
      | some p =>
        obtain ⟨pc, h1, h2⟩ := hi.fwd u uc p hg hs
        simp [h1, h2]
    · rintro ⟨p, pc⟩ hm
      have hg := (getP_iff_mem h hi.keysP p pc).2 hm
      refine ⟨hi.freshP p (by unfold Heap.liveP; rw [hg]; rfl), ?_⟩
      dsimp only
      cases hs : pc.urlPtr with
      | none => rfl
      | some u =>
        obtain ⟨uc, h1, h2⟩ := hi.back p pc u hg hs
        simp [h1, h2]

instance (h : Heap) : Decidable (OwnInv h) := decidable_of_iff _ (check_iff h)

/-! ## operations that write no pointer -/

/-- same graph: same pointer views; ids may have been used up -/
def SameG (h h' : Heap) : Prop := (∀ u, sp h' u = sp h u) ∧ (∀ p, up h' p = up h p) ∧ h.next ≤ h'.next

theorem SameG.ownG {h h' : Heap} (hs : SameG h h') (hi : OwnG h) : OwnG h' := by
  obtain ⟨h1, h2, h3⟩ := hs
  constructor
  · intro u p; rw [h1, h2]; exact hi.fwd u p
  · intro p u; rw [h1, h2]; exact hi.back p u
  · intro u hu; rw [h1]; exact hi.freshU u (Nat.le_trans h3 hu)
  · intro p hp; rw [h2]; exact hi.freshP p (Nat.le_trans h3 hp)

theorem sameG_paramsCopyAssign (h : Heap) (d s : Nat) : SameG h (paramsCopyAssign h d s) := by
  unfold paramsCopyAssign SameG; split <;> simp
theorem sameG_paramsMoveAssign (h : Heap) (d s : Nat) : SameG h (paramsMoveAssign h d s) := by
  unfold paramsMoveAssign SameG; split <;> simp
theorem sameG_paramsSafeAssign (h : Heap) (d s : Nat) : SameG h (paramsSafeAssign h d s) := by
  unfold paramsSafeAssign SameG; split <;> simp
theorem sameG_paramsSwap (h : Heap) (a b : Nat) : SameG h (paramsSwap h a b) := by
  unfold paramsSwap SameG; split <;> simp
/-- a list edit through a params object does nothing (a dead object), or writes the content of `p` and
    then runs `update()` or not -/
theorem paramsMutate_cases (h : Heap) (p : Nat) (f : Params → Params) (a : Bool) :
    paramsMutate h p f a = h ∨ ∃ l s, paramsMutate h p f a = update (h.setContent p l s) p ∨
      paramsMutate h p f a = h.setContent p l s := by
  unfold paramsMutate; dsimp only; split
  · exact Or.inl rfl
  · split
    · exact Or.inr ⟨_, _, Or.inl rfl⟩
    · exact Or.inr ⟨_, _, Or.inr rfl⟩

/-- … on a live object, exactly: the new content is `f` of the old one; `update()` runs always, or when
    the length changed -/
theorem paramsMutate_live (h : Heap) (p : Nat) (f : Params → Params) (a : Bool) (hp : h.liveP p = true) :
    paramsMutate h p f a =
      if (a || decide ((f ⟨h.listOf p, h.sortedOf p⟩).list.length ≠ (h.listOf p).length)) = true then
        update (h.setContent p (f ⟨h.listOf p, h.sortedOf p⟩).list (f ⟨h.listOf p, h.sortedOf p⟩).isSorted) p
      else h.setContent p (f ⟨h.listOf p, h.sortedOf p⟩).list (f ⟨h.listOf p, h.sortedOf p⟩).isSorted := by
  simp only [paramsMutate, hp, Bool.not_true, Bool.false_eq_true, if_false]

theorem sameG_paramsMutate (h : Heap) (p : Nat) (f : Params → Params) (a : Bool) :
    SameG h (paramsMutate h p f a) := by
  rcases paramsMutate_cases h p f a with e | ⟨l, s, e | e⟩ <;> rw [e] <;> simp [SameG]
theorem sameG_urlClear (h : Heap) (u : Nat) : SameG h (urlClear h u) := by
  unfold urlClear SameG; simp
theorem sameG_urlSetSearch (h : Heap) (u : Nat) (r : Url) (e : Bool) : SameG h (urlSetSearch h u r e) := by
  unfold urlSetSearch SameG; dsimp only; split
  · simp
  · split <;> simp
theorem sameG_urlSetOther (h : Heap) (u : Nat) (r : Url) : SameG h (urlSetOther h u r) := by
  unfold urlSetOther SameG; split <;> simp
theorem sameG_urlCopyAssign (h : Heap) (d s : Nat) : SameG h (urlCopyAssign h d s) := by
  unfold urlCopyAssign SameG; dsimp only
  repeat' split
  all_goals simp

/-! ## the ownership graph under the primitives

  A write that leaves the pointers alone, the allocation of an object without a pointer and the removal
  of a FREE params object link the same urls to the same params objects as before. -/

theorem OwnG.live_lt {h : Heap} (hi : OwnG h) {u : Nat} {o : Option Nat} (hs : sp h u = some o) : u < h.next :=
  Nat.lt_of_not_le fun hle => by rw [hi.freshU u hle] at hs; cases hs
theorem OwnG.liveP_lt {h : Heap} (hi : OwnG h) {p : Nat} {o : Option Nat} (hs : up h p = some o) : p < h.next :=
  Nat.lt_of_not_le fun hle => by rw [hi.freshP p hle] at hs; cases hs

theorem OwnG.inj {h : Heap} (hi : OwnG h) {u v p : Nat} (hu : sp h u = some (some p)) (hv : sp h v = some (some p)) :
    u = v := by
  have := hi.fwd u p hu
  rw [hi.fwd v p hv] at this
  exact (Option.some.inj (Option.some.inj this)).symm

theorem OwnG.sameLinks {h h' : Heap} (hi : OwnG h)
    (hsp : ∀ u p, sp h' u = some (some p) ↔ sp h u = some (some p))
    (hup : ∀ p u, up h' p = some (some u) ↔ up h p = some (some u))
    (hfu : ∀ u, h'.next ≤ u → sp h' u = none) (hfp : ∀ p, h'.next ≤ p → up h' p = none) : OwnG h' :=
  ⟨fun u p hu => (hup p u).2 (hi.fwd u p ((hsp u p).1 hu)), fun p u hp => (hsp u p).2 (hi.back p u ((hup p u).1 hp)),
   hfu, hfp⟩

theorem OwnG.setContent {h : Heap} (hi : OwnG h) (p : Nat) (l : List BPair) (s : Bool) : OwnG (h.setContent p l s) :=
  SameG.ownG ⟨sp_setContent h p l s, up_setContent h p l s, Nat.le_of_eq (next_setContent h p l s).symm⟩ hi

theorem OwnG.allocU_none {h : Heap} (hi : OwnG h) (c : UCell) (hc : c.spPtr = none) : OwnG (h.allocU c) := by
  have hf := hi.freshU h.next (Nat.le_refl _)
  refine hi.sameLinks (fun u p => ?_) (fun p u => Iff.rfl) (fun u hu => ?_) (fun p hp => hi.freshP p (Nat.le_of_succ_le hp))
  · rw [sp_allocU]; split
    · subst_vars; rw [hc, hf]; simp
    · rfl
  · rw [sp_allocU, if_neg (by rintro rfl; exact Nat.lt_irrefl _ hu)]; exact hi.freshU u (Nat.le_of_succ_le hu)

theorem OwnG.allocP_none {h : Heap} (hi : OwnG h) (c : PCell) (hc : c.urlPtr = none) : OwnG (h.allocP c) := by
  have hf := hi.freshP h.next (Nat.le_refl _)
  refine hi.sameLinks (fun u p => Iff.rfl) (fun p u => ?_) (fun u hu => hi.freshU u (Nat.le_of_succ_le hu)) (fun p hp => ?_)
  · rw [up_allocP]; split
    · subst_vars; rw [hc, hf]; simp
    · rfl
  · rw [up_allocP, if_neg (by rintro rfl; exact Nat.lt_irrefl _ hp)]; exact hi.freshP p (Nat.le_of_succ_le hp)

/-- only a FREE object can be destroyed by the user -/
theorem OwnG.delP_free {h : Heap} (hi : OwnG h) (p : Nat) (hp : ∀ u, up h p ≠ some (some u)) : OwnG (h.delP p) := by
  refine hi.sameLinks (fun u p => Iff.rfl) (fun q u => ?_) hi.freshU (fun q hq => ?_)
  · rw [up_delP]; split
    · subst_vars; simp [hp u]
    · rfl
  · rw [up_delP]; split
    · rfl
    · exact hi.freshP q hq

/-! ## the three ways in which links change

  The pointer writes of `search_params() &`, of the two moves and of `~url()` break the invariant on
  the way; what counts is the graph they leave behind.  `od` / `os`: what a url holds (`none`: nothing,
  also for a dead id).  In each case a link `(v, p)` of `h` survives iff `v` is none of the urls named,
  and that is the case iff `p` is none of their objects, links being one-to-one (`fwd`, `back`); the new
  link is written on both sides. -/

/-- the url `u`, which had no params object, holds the new one -/
theorem OwnG.link {h h' : Heap} (hi : OwnG h) {u : Nat} (hu : sp h u = some none)
    (hsp : ∀ v, sp h' v = if v = u then some (some h.next) else sp h v)
    (hup : ∀ p, up h' p = if p = h.next then some (some u) else up h p)
    (hn : h'.next = h.next + 1) : OwnG h' := by
  have hlt := hi.live_lt hu
  refine ⟨fun v p hv => ?_, fun p v hp => ?_, fun v hv => ?_, fun p hp => ?_⟩
  · rw [hsp] at hv; rw [hup]
    split at hv
    · cases hv; subst_vars; rw [if_pos rfl]
    · -- an old link: its object is an old one
      rw [if_neg (Nat.ne_of_lt (hi.liveP_lt (hi.fwd v p hv))), hi.fwd v p hv]
  · rw [hup] at hp; rw [hsp]
    split at hp
    · cases hp; subst_vars; rw [if_pos rfl]
    · -- an old link does not start at `u`, which held nothing
      have hv := hi.back p v hp
      rw [if_neg (fun he => by rw [he, hu] at hv; cases hv), hv]
  · rw [hsp, if_neg (by omega)]; exact hi.freshU v (by omega)
  · rw [hup, if_neg (by omega)]; exact hi.freshP p (by omega)

/-- the url `d` gives up what it held (`od`, destroyed) and takes over what `s` holds (`os`) -/
theorem OwnG.take {h h' : Heap} (hi : OwnG h) {d s : Nat} {od os : Option Nat} (hds : d ≠ s)
    (hd : (sp h d).join = od) (hs : sp h s = some os)
    (hsp : ∀ u, sp h' u = if u = d then some os else if u = s then some none else sp h u)
    (hup : ∀ p, up h' p = if some p = os then some (some d) else if some p = od then none else up h p)
    (hn : h.next ≤ h'.next) (hlt : d < h'.next) : OwnG h' := by
  have hd' : ∀ p, some p = od ↔ sp h d = some (some p) := fun p => by rw [← hd, eq_comm, Option.join_eq_some_iff]
  have hs' : ∀ p, some p = os ↔ sp h s = some (some p) := fun p => by rw [hs, eq_comm, Option.some.injEq]
  refine ⟨fun u p hu => ?_, fun p u hp => ?_, fun u hu => ?_, fun p hp => ?_⟩
  · rw [hsp] at hu; rw [hup]
    split at hu
    · -- the link `(d, p)`: `p` is what `s` held
      rw [if_pos (Option.some.inj hu).symm]; subst_vars; rfl
    · split at hu
      · cases hu
      · -- an old link `(u, p)` with `u ≠ d`, `u ≠ s`: `p` is neither url's object
        rename_i hud hus
        rw [if_neg (fun he => hus (hi.inj hu ((hs' p).1 he))), if_neg (fun he => hud (hi.inj hu ((hd' p).1 he))),
          hi.fwd u p hu]
  · rw [hup] at hp; rw [hsp]
    split at hp
    · rename_i he
      cases hp; rw [if_pos rfl, he]
    · split at hp
      · cases hp
      · -- `p` is neither url's object, so its holder is neither `d` nor `s`
        rename_i hps hpd
        have hu := hi.back p u hp
        rw [if_neg (fun (he : u = d) => hpd ((hd' p).2 (he ▸ hu))), if_neg (fun (he : u = s) => hps ((hs' p).2 (he ▸ hu))), hu]
  · have := hi.live_lt hs
    rw [hsp, if_neg (by omega), if_neg (by omega)]; exact hi.freshU u (by omega)
  · rw [hup]; split
    · rename_i he
      have := hi.liveP_lt (hi.fwd s p ((hs' p).1 he)); omega
    · split
      · rfl
      · exact hi.freshP p (by omega)

/-- the url `u` is destroyed together with what it held (`od`) -/
theorem OwnG.drop {h h' : Heap} (hi : OwnG h) {u : Nat} {od : Option Nat} (hd : (sp h u).join = od)
    (hsp : ∀ v, sp h' v = if v = u then none else sp h v)
    (hup : ∀ p, up h' p = if some p = od then none else up h p)
    (hn : h'.next = h.next) : OwnG h' := by
  have hd' : ∀ p, some p = od ↔ sp h u = some (some p) := fun p => by rw [← hd, eq_comm, Option.join_eq_some_iff]
  refine ⟨fun v p hv => ?_, fun p v hp => ?_, fun v hv => ?_, fun p hp => ?_⟩
  · rw [hsp] at hv
    split at hv
    · cases hv
    · -- `p` is held by `v ≠ u`, so it is not what `u` held
      rename_i hne
      rw [hup, if_neg (fun he => hne (hi.inj hv ((hd' p).1 he))), hi.fwd v p hv]
  · rw [hup] at hp
    split at hp
    · cases hp
    · -- `p` is not what `u` held, so its holder is not `u`
      rename_i hne
      have hv := hi.back p v hp
      rw [hsp, if_neg (fun (he : v = u) => hne ((hd' p).2 (he ▸ hv))), hv]
  · rw [hsp]; split
    · rfl
    · exact hi.freshU v (hn ▸ hv)
  · rw [hup]; split
    · rfl
    · exact hi.freshP p (hn ▸ hp)

/-! ## the views after the operations that allocate, destroy or write pointers

  One `X_views` per operation: a conjunction of equations over ALL ids, always in the order
  `sp`, `up`, `next`, `cont`, `recOf` (`obtain ⟨h1, h2, h3, h4, h5⟩`); the two operations that write no
  pointer (`sameG_urlSafeAssign`, `sameG_urlCopyAssign`) state only the two views their docstring names.
  Arguments: the heap and the ids, then `OwnG`, then `d ≠ s`, then liveness in the form
  `sp h d = some od` (from `h.liveU d = true`, which is what `pre` and `X_sim` in `OwnAbs.lean` carry,
  by `sp_of_liveU`); `X_sim` takes `OwnG` before the ids and `d ≠ s` last.  `X_keep`: the content of a
  params object the operation does not name is as before. -/

theorem urlSearchParams_eq (h : Heap) (u : Nat) :
    urlSearchParams h u =
      if sp h u = some none then
        (h.allocP { list := formParse false (queryBytes (h.recOf u)), isSorted := false, urlPtr := some u }).setSpPtr
          u (some h.next)
      else h := by
  unfold urlSearchParams
  rw [liveU_eq, spOf_eq]
  rcases sp h u with _ | _ | p <;> rfl

theorem urlMoveConstruct_views (h : Heap) (s : Nat) (hi : OwnG h) {os : Option Nat} (hs : sp h s = some os) :
    let h' := (urlMoveConstruct h s).1
    (∀ u, sp h' u = if u = h.next then some os else if u = s then some none else sp h u) ∧
    (∀ p, up h' p = if some p = os then some (some h.next) else up h p) ∧ h'.next = h.next + 1 ∧
    (∀ p, cont h' p = cont h p) ∧
    (∀ u, h'.recOf u = if u = h.next then h.recOf s else if u = s then none else h.recOf u) := by
  have hne : s ≠ h.next := Nat.ne_of_lt (hi.live_lt hs)
  unfold urlMoveConstruct
  rw [spOf_eq, hs]
  rcases os with _ | ps
  · simp [hs, hne]; grind
  · -- the object `s` holds is alive (`fwd`), so `setUrlPtr` really writes a cell
    have := hi.fwd s ps hs
    simp [hs, hne]; grind

theorem urlMoveAssign_views (h : Heap) (d s : Nat) (hi : OwnG h) (hds : d ≠ s) {od os : Option Nat}
    (hd : sp h d = some od) (hs : sp h s = some os) :
    let h' := urlMoveAssign h d s
    (∀ u, sp h' u = if u = d then some os else if u = s then some none else sp h u) ∧
    (∀ p, up h' p = if some p = os then some (some d) else if some p = od then none else up h p) ∧
    h'.next = h.next ∧
    (∀ p, cont h' p = if some p = od then none else cont h p) ∧
    (∀ u, h'.recOf u = if u = d then h.recOf s else if u = s then none else h.recOf u) := by
  have hl : ¬(d = s ∨ (!(h.liveU d && h.liveU s)) = true) := by simp [liveU_eq, hd, hs, hds]
  unfold urlMoveAssign
  rw [if_neg hl, spOf_eq, spOf_eq, hd, hs]
  -- what `d` and `s` hold is alive (`fwd`), so `delP` and `setUrlPtr` really hit cells
  rcases od with _ | pd <;> rcases os with _ | ps
  · simp [hd, hs]; grind
  · have := hi.fwd s ps hs
    simp [hd, hs, eq_comm]; grind
  · simp [hd, hs, eq_comm]; grind
  · have := hi.fwd s ps hs
    have := hi.fwd d pd hd
    simp [hd, hs, eq_comm]; grind

/-- move assignment destroys only what the destination held: what another url holds keeps its content -/
theorem urlMoveAssign_keep (h : Heap) (d s : Nat) (hi : OwnG h) (hds : d ≠ s) {od os : Option Nat}
    (hd : sp h d = some od) (hs : sp h s = some os) {u p : Nat} (hu : u ≠ d) (hp : sp h u = some (some p)) :
    cont (urlMoveAssign h d s) p = cont h p := by
  rw [(urlMoveAssign_views h d s hi hds hd hs).2.2.2.1, if_neg fun (he : some p = od) => hu (hi.inj hp (he ▸ hd))]

/-- `safe_assign` writes no pointer; its temporary params object uses up an id -/
theorem sameG_urlSafeAssign (h : Heap) (d s : Nat) (hi : OwnG h) : SameG h (urlSafeAssign h d s) := by
  have hf := hi.freshP h.next (Nat.le_refl _)
  unfold urlSafeAssign SameG
  split
  · simp
  · split
    · split
      · simp
      · simp only [sp_delP, sp_moveParams, sp_moveRecord, sp_allocP, up_delP, up_moveParams, up_moveRecord, up_allocP,
          next_delP, next_moveParams, next_moveRecord, next_allocP, implies_true, true_and, Nat.le_succ, and_true]
        intro p; split
        · subst_vars; exact hf.symm
        · rfl
    · simp

/-- content and records after `safe_assign` (it writes no pointer: `sameG_urlSafeAssign`) -/
theorem urlSafeAssign_views (h : Heap) (d s : Nat) (hi : OwnG h) (hds : d ≠ s) {od os : Option Nat}
    (hd : sp h d = some od) (hs : sp h s = some os) :
    let h' := urlSafeAssign h d s
    (∀ p, cont h' p =
      match (generalizing := false) od, os with
      | some pd, some ps =>
        if p = ps then (cont h ps).map (fun c => { list := [], isSorted := c.isSorted })
        else if p = pd then (cont h pd).map (fun _ => { list := h.listOf ps, isSorted := h.sortedOf ps }) else cont h p
      | some pd, none =>
        if p = pd then (cont h pd).map (fun _ => { list := formParse false (queryBytes (h.recOf s)), isSorted := false })
        else cont h p
      | none, _ => cont h p) ∧
    (∀ u, h'.recOf u = if u = d then h.recOf s else if u = s then none else h.recOf u) := by
  have hl : ¬(d = s ∨ (!(h.liveU d && h.liveU s)) = true) := by simp [liveU_eq, hd, hs, hds]
  have hf := hi.freshP h.next (Nat.le_refl _)
  unfold urlSafeAssign
  rw [if_neg hl, spOf_eq, spOf_eq, hd, hs]
  rcases od with _ | pd
  · simp [hd]
  · rcases os with _ | ps
    · have hne : pd ≠ h.next := Nat.ne_of_lt (hi.liveP_lt (hi.fwd d pd hd))
      have hc : cont h h.next = none := (cont_eq_none h _).2 hf
      simp [hd, moveParams, listOf_eq, sortedOf_eq, hne, Ne.symm hne]
      grind
    · have hpp : pd ≠ ps := fun he => hds (hi.inj hd (he ▸ hs))
      obtain ⟨c, hc⟩ := cont_live (hi.fwd s ps hs)
      simp [hd, moveParams, listOf_eq, sortedOf_eq, Ne.symm hpp, hc]

theorem urlSafeAssign_keep (h : Heap) (d s : Nat) (hi : OwnG h) (hds : d ≠ s) {od os : Option Nat}
    (hd : sp h d = some od) (hs : sp h s = some os) (p : Nat) (h1 : some p ≠ od) (h2 : some p ≠ os) :
    cont (urlSafeAssign h d s) p = cont h p := by
  rw [(urlSafeAssign_views h d s hi hds hd hs).1]
  rcases od with _ | pd
  · rfl
  · rcases os with _ | ps
    · exact if_neg (fun he => h1 (congrArg some he))
    · dsimp only; rw [if_neg (fun he => h2 (congrArg some he)), if_neg (fun he => h1 (congrArg some he))]

/-- what copy assignment writes into the cell of the destination -/
def copySrc (h : Heap) (d s : Nat) (c : Params) : Params :=
  if d = s then c else
  match (sp h s).join with
  | some ps => { list := h.listOf ps, isSorted := h.sortedOf ps }
  | none => { list := formParse false (queryBytes (h.recOf s)), isSorted := false }

/-- records and content after copy assignment (it writes no pointer: `sameG_urlCopyAssign`) -/
theorem urlCopyAssign_views (h : Heap) (d s : Nat) (hi : OwnG h) {od os : Option Nat}
    (hd : sp h d = some od) (hs : sp h s = some os) :
    (∀ v, (urlCopyAssign h d s).recOf v = if v = d then h.recOf s else h.recOf v) ∧
    (∀ p, cont (urlCopyAssign h d s) p =
      if some p = (sp h d).join then (cont h p).map (copySrc h d s) else cont h p) := by
  have hl : ¬(!(h.liveU d && h.liveU s)) = true := by simp [liveU_eq, hd, hs]
  unfold urlCopyAssign copySrc
  rw [if_neg hl, spOf_eq, spOf_eq, hd, hs]
  rcases od with _ | pd
  · simp [hd]
  · have hpd := hi.fwd d pd hd
    obtain ⟨c, hc⟩ := cont_live hpd
    by_cases hds : d = s
    · subst hds; simp [hd, eq_comm]
    · rcases os with _ | ps
      · simp [hd, hds, urlPtrOf_eq, hpd, eq_comm, hc]; grind
      · simp [hd, hds, listOf_eq, sortedOf_eq, eq_comm, hc]; grind

theorem destroyUrl_views (h : Heap) (u : Nat) :
    (∀ v, sp (destroyUrl h u) v = if v = u then none else sp h v) ∧
    (∀ p, up (destroyUrl h u) p = if some p = (sp h u).join then none else up h p) ∧
    (destroyUrl h u).next = h.next ∧
    (∀ p, cont (destroyUrl h u) p = if some p = (sp h u).join then none else cont h p) ∧
    (∀ v, (destroyUrl h u).recOf v = if v = u then none else h.recOf v) := by
  unfold destroyUrl
  rw [spOf_eq]
  rcases (sp h u).join with _ | p <;> simp [eq_comm]

/-- `~url()` destroys only what the url held: what another url holds keeps its content -/
theorem destroyUrl_keep (h : Heap) (u : Nat) (hi : OwnG h) {v p : Nat} (hv : v ≠ u) (hp : sp h v = some (some p)) :
    cont (destroyUrl h u) p = cont h p := by
  rw [(destroyUrl_views h u).2.2.2.1, if_neg fun he => hv (hi.inj hp (Option.join_eq_some_iff.1 he.symm))]

/-! ## key uniqueness

  Every operation is a sequence of writes, allocations and removals, and each of those keeps the keys
  unique whatever it writes: the proofs follow the text of the operations. -/

theorem NodupK.update {h : Heap} (hn : NodupK h) (p : Nat) : NodupK (update h p) := by
  unfold Own.update; split
  · exact hn.setRec _ _
  · exact hn
theorem NodupK.moveParams {h : Heap} (hn : NodupK h) (d s : Nat) : NodupK (moveParams h d s) :=
  (hn.setContent _ _ _).setContent _ _ _
theorem NodupK.moveRecord {h : Heap} (hn : NodupK h) (d s : Nat) : NodupK (moveRecord h d s) := by
  unfold Own.moveRecord; dsimp only; split
  · exact hn.setRec _ _
  · exact (hn.setRec _ _).setRec _ _
theorem NodupK.clearSearchParams {h : Heap} (hn : NodupK h) (u : Nat) : NodupK (clearSearchParams h u) := by
  unfold Own.clearSearchParams; split
  · exact hn.setContent _ _ _
  · exact hn
theorem NodupK.parseSearchParams {h : Heap} (hn : NodupK h) (u : Nat) : NodupK (parseSearchParams h u) := by
  unfold Own.parseSearchParams; split
  · exact hn.setContent _ _ _
  · exact hn

theorem NodupK.urlMoveConstruct {h : Heap} (hn : NodupK h) (s : Nat) : NodupK (urlMoveConstruct h s).1 := by
  have h1 := (hn.allocU { url := h.recOf s, spPtr := h.spOf s }).setSpPtr s none
  unfold Own.urlMoveConstruct; dsimp only; split
  · exact (h1.setUrlPtr _ _).setRec _ _
  · exact h1.setRec _ _
theorem NodupK.urlMoveAssign {h : Heap} (hn : NodupK h) (d s : Nat) : NodupK (urlMoveAssign h d s) := by
  have h2 : NodupK (match h.spOf d with
      | some pd => (Own.moveRecord h d s).delP pd
      | none => Own.moveRecord h d s) := by
    split
    · exact (hn.moveRecord _ _).delP _
    · exact hn.moveRecord _ _
  have h3 := (h2.setSpPtr d (h.spOf s)).setSpPtr s none
  unfold Own.urlMoveAssign; dsimp only; split
  · exact hn
  · split
    · exact h3.setUrlPtr _ _
    · exact h3
theorem NodupK.urlSafeAssign {h : Heap} (hn : NodupK h) (d s : Nat) : NodupK (urlSafeAssign h d s) := by
  unfold Own.urlSafeAssign; dsimp only; split
  · exact hn
  · split
    · split
      · exact (hn.moveRecord _ _).moveParams _ _
      · exact (((hn.allocP _).moveRecord _ _).moveParams _ _).delP _
    · exact hn.moveRecord _ _
theorem NodupK.destroyUrl {h : Heap} (hn : NodupK h) (u : Nat) : NodupK (destroyUrl h u) := by
  unfold Own.destroyUrl; dsimp only; split
  · exact (hn.delP _).delU _
  · exact hn.delU _

theorem stepH_nodupK (idna : Idna) (h : Heap) (op : HOp) (hn : NodupK h) : NodupK (stepH idna h op) := by
  have hclear : ∀ u, NodupK (urlClear h u) := fun u => (hn.setRec u none).clearSearchParams u
  cases op <;> rw [stepH]
  case newUrl => exact hn.allocU _
  case newParams l => exact hn.allocP _
  case urlSearchParams u =>
    rw [urlSearchParams_eq]; split
    · exact (hn.allocP _).setSpPtr _ _
    · exact hn
  case urlCopyConstruct s => exact hn.allocU _
  case urlCopyAssign d s =>
    have h1 := hn.setRec d (h.recOf s)
    unfold urlCopyAssign; dsimp only; split
    · exact hn
    · split
      · exact h1
      · split
        · exact h1
        · split
          · exact h1.setContent _ _ _
          · split
            · exact h1.setContent _ _ _
            · exact h1
  case urlMoveConstruct s => exact hn.urlMoveConstruct s
  case urlMoveAssign d s => exact hn.urlMoveAssign d s
  case urlSafeAssign d s => exact hn.urlSafeAssign d s
  case urlSwap a b =>
    unfold urlSwap; split
    · exact hn
    · exact (((hn.urlMoveConstruct a).urlMoveAssign a b).urlMoveAssign b _).destroyUrl _
  case urlClear u => exact hclear u
  case urlParse u e units base =>
    have h1 : NodupK (if (h.recOf u).isSome then urlClear h u else h) := by
      split
      · exact hclear u
      · exact hn
    unfold urlDoParse; dsimp only; split
    · exact (h1.setRec _ _).parseSearchParams _
    · exact h1.setRec _ _
  case urlSet u s e units =>
    unfold urlSet; split
    · unfold urlSetHref; split
      · exact hn
      · split
        · exact hn
        · exact (((hn.allocU _).setRec _ _).urlSafeAssign _ _).destroyUrl _
    · exact hn
    · unfold urlSetSearch; dsimp only; split
      · exact hn
      · split
        · exact (hn.setRec _ _).clearSearchParams _
        · exact (hn.setRec _ _).parseSearchParams _
    · unfold urlSetOther; split
      · exact hn
      · exact hn.setRec _ _
  case urlSearchParamsRvalue u =>
    unfold urlSearchParamsRvalue; split
    · exact (hn.allocP _).setContent _ _ _
    · exact hn.allocP _
  case destroyUrl u => exact hn.destroyUrl u
  case paramsCopyConstruct p => exact hn.allocP _
  case paramsCopyAssign d s =>
    unfold paramsCopyAssign; split
    · exact hn
    · exact (hn.setContent _ _ _).update _
  case paramsMoveConstruct p => exact (hn.allocP _).setContent _ _ _
  case paramsMoveAssign d s =>
    unfold paramsMoveAssign; split
    · exact hn
    · exact hn.moveParams _ _
  case paramsSafeAssign d s =>
    unfold paramsSafeAssign; split
    · exact hn
    · exact (hn.moveParams _ _).update _
  case paramsSwap a b =>
    unfold paramsSwap; split
    · exact hn
    · exact (hn.setContent _ _ _).setContent _ _ _
  case paramsMutate p m =>
    rcases paramsMutate_cases h p m.fn m.always with e | ⟨l, s, e | e⟩ <;> rw [e]
    · exact hn
    · exact (hn.setContent _ _ _).update _
    · exact hn.setContent _ _ _
  case destroyParams p => exact hn.delP _

end Upa.Proofs.Own
