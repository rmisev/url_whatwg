import Upa.Proofs.BoundsCheckFixUtf8
import Upa.Proofs.Form
/-
  C04h: `doParse` of `Upa/Impl/Bounds.lean` (url_search_params.h:685-748: pointers
  `it`, `start`, `pval`) = `Impl.formParse` (a state record with the flag "the current piece is non-empty").
  `formL_slice` puts one step of the list model into the shape of the `switch (*it)`; `FormInv` is what the loop
  maintains, and its lemmas say how each case of the switch re-establishes it.
-/

namespace Upa.Impl.B

/-- one step of the list model on a slice, in the shape of the `switch (*it)` of do_parse: the look-ahead
    `std::distance(it, e) > 2` and the two hex tests in place of the pattern `h1 :: h2 :: _` -/
theorem formL_slice (a : Array Nat) (it last : Nat) (hlt : it < last) (hl : last ≤ a.size) (st : Impl.FormSt)
    (acc : List Impl.BPair) :
    Impl.formParseAux (slice a it last) st acc =
      if a[it]! = 0x3D then
        (if (!st.inValue) = true then
          Impl.formParseAux (slice a (it + 1) last) { st with inValue := true, nonEmpty := true } acc
         else Impl.formParseAux (slice a (it + 1) last) (st.push a[it]!) acc)
      else if a[it]! = 0x26 then Impl.formParseAux (slice a (it + 1) last) {} (st.flush acc)
      else if a[it]! = 0x2B then Impl.formParseAux (slice a (it + 1) last) (st.push 0x20) acc
      else if a[it]! = 0x25 ∧ last - it > 2 ∧ (isHex a[it + 1]! && isHex a[it + 1 + 1]!) = true then
        Impl.formParseAux (slice a (it + 1 + 1 + 1) last) (st.push (hexVal a[it + 1]! * 16 + hexVal a[it + 1 + 1]!)) acc
      else Impl.formParseAux (slice a (it + 1) last) (st.push a[it]!) acc := by
  rw [slice_cons a it last hlt hl, Upa.Proofs.C15.formParseAux_cons, hex2_slice a (it + 1) last (by omega) hl]
  by_cases hx : last - it > 2 ∧ (isHex a[it + 1]! && isHex a[it + 1 + 1]!) = true
  · have hd : decide (last - (it + 1) ≥ 2 ∧ isHex a[it + 1]! = true ∧ isHex a[it + 1 + 1]! = true) = true := by
      rw [Bool.and_eq_true] at hx
      exact decide_eq_true ⟨by omega, hx.2⟩
    rw [hd, slice_cons a (it + 1) last (by omega) hl, slice_cons a (it + 1 + 1) last (by omega) hl]
    simp only [hx, and_true, List.drop_succ_cons, List.drop_zero, Upa.Proofs.C15.pctVal]
  · have hd : decide (last - (it + 1) ≥ 2 ∧ isHex a[it + 1]! = true ∧ isHex a[it + 1 + 1]! = true) = false := by
      rw [decide_eq_false_iff_not, ← Bool.and_eq_true]
      exact fun hh => hx ⟨by omega, hh.2⟩
    simp only [hd, hx, and_false, Bool.false_eq_true, if_false]

/-- the state record of the list model that corresponds to the pointers -/
def toForm (start it : Nat) (inValue : Bool) (name value : List Nat) : Impl.FormSt :=
  { name := name, value := value, inValue := inValue, nonEmpty := decide (start ≠ it) }

theorem toForm_self (b : Nat) : toForm b b false [] [] = {} := by
  simp [toForm]

theorem toForm_enter (start it : Nat) (inValue : Bool) (name value : List Nat) (h : start ≤ it) :
    { toForm start it inValue name value with inValue := true, nonEmpty := true } =
      toForm start (it + 1) true name value := by
  have : decide (start ≠ it + 1) = true := decide_eq_true (by omega)
  simp [toForm, this]

theorem toForm_push (start it : Nat) (inValue : Bool) (name value : List Nat) (c k : Nat) (h : start ≤ it) :
    (toForm start it inValue name value).push c =
      toForm start (it + 1 + k) inValue (if inValue = true then name else name ++ [c])
        (if inValue = true then value ++ [c] else value) := by
  have : decide (start ≠ it + 1 + k) = true := decide_eq_true (by omega)
  cases inValue <;> simp [Impl.FormSt.push, toForm, this]

/-- the flush at `&` and at the end of do_parse: in bounds; the list model's flush when name and value are bytes -/
theorem flush_spec (start it : Nat) (inValue : Bool) (name value : List Nat) (lst : List (List Nat × List Nat)) :
    (if start ≠ it then do
        let n ← checkFixUtf8 name.toArray 0 name.length
        let v ← checkFixUtf8 value.toArray 0 value.length
        pure (lst ++ [(n, v)])
      else pure lst : R (List (List Nat × List Nat))).sat (fun r => (∀ x ∈ name, x < 256) → (∀ x ∈ value, x < 256) →
        r = (toForm start it inValue name value).flush lst) := by
  refine R.sat_if (fun hs => ?_) (fun hs => R.sat_pure fun _ _ => ?_)
  · refine R.sat_bind (checkFixUtf8_spec name.toArray 0 name.length (Nat.zero_le _) (by simp)) fun n hn => ?_
    refine R.sat_bind (checkFixUtf8_spec value.toArray 0 value.length (Nat.zero_le _) (by simp)) fun v hv => ?_
    refine R.sat_pure fun bn bv => ?_
    rw [hn (lt256_toArray name bn), hv (lt256_toArray value bv), slice_ofList, slice_ofList]
    simp [Impl.FormSt.flush, toForm, hs]
  · simp [Impl.FormSt.flush, toForm, Classical.not_not.1 hs]

/-- what the loop of `doParse` maintains at `(it, start, inValue, name, value, lst)`, for the input `[b, last)`: the
    pointers are in order, and — under the hypothesis `H` on the units — name and value are bytes and the list model
    resumed on `[it, last)` from the corresponding record still yields the answer `fin` -/
structure FormInv (H : Prop) (a : Array Nat) (b last : Nat) (fin : List Impl.BPair) (it start : Nat) (inValue : Bool)
    (name value : List Nat) (lst : List Impl.BPair) : Prop where
  le_start : b ≤ start
  start_le : start ≤ it
  le_last : it ≤ last
  resume : H → (∀ x ∈ name, x < 256) ∧ (∀ x ∈ value, x < 256) ∧
    Impl.formParseAux (slice a it last) (toForm start it inValue name value) lst = fin

section
variable {H : Prop} {a : Array Nat} {b last : Nat} {fin : List Impl.BPair} {it start : Nat} {inValue : Bool}
  {name value : List Nat} {lst : List Impl.BPair}

theorem FormInv.init (h : b ≤ last) (hfin : Impl.formParseAux (slice a b last) {} [] = fin) :
    FormInv H a b last fin b b false [] [] [] :=
  ⟨Nat.le_refl _, Nat.le_refl _, h, fun _ => ⟨nofun, nofun, by rw [toForm_self, hfin]⟩⟩

/-- `pval->push_back(c)` and the pointer moves on by `1 + k` units (`k = 2` after `%XX`) -/
theorem FormInv.push (hI : FormInv H a b last fin it start inValue name value lst) {c : Nat} (k : Nat)
    (hk : it + 1 + k ≤ last)
    (hT : H → c < 256 ∧ Impl.formParseAux (slice a it last) (toForm start it inValue name value) lst =
      Impl.formParseAux (slice a (it + 1 + k) last) ((toForm start it inValue name value).push c) lst) :
    FormInv H a b last fin (it + 1 + k) start inValue (if inValue = true then name else name ++ [c])
      (if inValue = true then value ++ [c] else value) lst := by
  refine ⟨hI.le_start, by have := hI.start_le; omega, hk, fun hH => ?_⟩
  obtain ⟨hn, hv, hr⟩ := hI.resume hH
  obtain ⟨hc, hT⟩ := hT hH
  refine ⟨?_, ?_, ?_⟩
  · cases inValue
    · exact lt256_snoc hn hc
    · exact hn
  · cases inValue
    · exact hv
    · exact lt256_snoc hv hc
  · rw [← hr, hT, toForm_push _ _ _ _ _ _ k hI.start_le]

/-- `pval->push_back(c); break;` followed by the `++it` of the for statement -/
theorem FormInv.push_sat (hI : FormInv H a b last fin it start inValue name value lst) {first : Nat} (hf : first ≤ b)
    (hlt : it < last) {c : Nat}
    (hT : H → c < 256 ∧ Impl.formParseAux (slice a it last) (toForm start it inValue name value) lst =
      Impl.formParseAux (slice a (it + 1) last) ((toForm start it inValue name value).push c) lst)
    {β : Type} {Q : β → Prop} :
    (do let it' ← mkptr first last (it + 1)
        if inValue = true then pure (Sum.inl (it', start, inValue, name, value ++ [c], lst))
        else pure (Sum.inl (it', start, inValue, name ++ [c], value, lst)) : R (ParseSt ⊕ β)).sat
      (StepPost (fun s => FormInv H a b last fin s.1 s.2.1 s.2.2.1 s.2.2.2.1 s.2.2.2.2.1 s.2.2.2.2.2)
        (fun s => last - s.1) Q (it, start, inValue, name, value, lst)) := by
  have hs := hI.start_le
  have hb := hI.le_start
  refine R.sat_ptr ?_
  have := hI.push 0 hlt hT
  cases inValue
  · exact R.sat_pure ⟨this, Nat.sub_succ_lt_self _ _ hlt⟩
  · exact R.sat_pure ⟨this, Nat.sub_succ_lt_self _ _ hlt⟩
end

theorem doParse_spec (remQmark : Bool) (a : Array Nat) (first last : Nat) (h : first ≤ last) (hl : last ≤ a.size) :
    (doParse remQmark a first last).sat (fun r => ByteUnits a first last →
      r = Impl.formParse remQmark (slice a first last)) := by
  unfold doParse
  -- `if (rem_qmark && b != e && *b == '?') ++b;`
  refine R.sat_bind (P := fun b => first ≤ b ∧ b ≤ last ∧
      Impl.formParseAux (slice a b last) {} [] = Impl.formParse remQmark (slice a first last)) ?_ ?_
  · refine R.sat_if (fun hq => ?_) (fun hq => ?_)
    · have hlt : first < last := by omega
      refine R.sat_read hl ?_ (Nat.le_refl _) hlt
      refine R.sat_if (fun hc => ?_) (fun hc => ?_)
      · refine ⟨_, mkptr_ok (by omega) (by omega), by omega, by omega, ?_⟩
        rw [slice_cons a first last hlt hl, hq.1, hc, Proofs.C15.formParse_qmark]
      · refine R.sat_pure ⟨Nat.le_refl _, h, (Proofs.C15.formParse_keep _ _ (fun hh => hc ?_)).symm⟩
        rw [slice_cons a first last hlt hl] at hh
        exact Option.some.inj hh.2
    · refine R.sat_pure ⟨Nat.le_refl _, h, (Proofs.C15.formParse_keep _ _ (fun hh => hq ⟨hh.1, fun he => ?_⟩)).symm⟩
      rw [he, slice_nil a last last (Nat.le_refl _)] at hh
      exact nomatch hh.2
  intro b ⟨hb1, hb2, hT0⟩
  generalize Impl.formParse remQmark (slice a first last) = fin at hT0 ⊢
  refine R.sat_bind (iter_sat _
    (fun s => FormInv (ByteUnits a first last) a b last fin
      s.1 s.2.1 s.2.2.1 s.2.2.2.1 s.2.2.2.2.1 s.2.2.2.2.2)
    (fun s => last - s.1)
    (fun r => ∃ inValue, FormInv (ByteUnits a first last) a b last fin
      last r.1 inValue r.2.1 r.2.2.1 r.2.2.2)
    ?_ _ _ (FormInv.init hb2 hT0) (Nat.lt_succ_of_le (Nat.sub_le_sub_left hb1 last))) ?_
  · intro ⟨it, start, inValue, name, value, lst⟩ hI
    simp only at hI ⊢
    refine R.sat_if (fun hit => ?_) (fun hit => ?_)
    · exact R.sat_pure ⟨inValue, hit ▸ hI⟩
    have hlt : it < last := Nat.lt_of_le_of_ne hI.le_last hit
    have hbs := hI.le_start
    have hs := hI.start_le
    have hfi : first ≤ it := Nat.le_trans hb1 (Nat.le_trans hbs hs)
    have hi1 : first ≤ it + 1 := Nat.le_succ_of_le hfi
    have hμ : last - (it + 1) < last - it := Nat.sub_succ_lt_self _ _ hlt
    have hL := (formL_slice a it last hlt hl (toForm start it inValue name value) lst).symm
    -- a unit is pushed as it is: it is a byte under the hypothesis on the units
    have hraw : ∀ {p : Prop}, p → ByteUnits a first last → a[it]! < 256 ∧ p :=
      fun hp hb => ⟨hb it hfi hlt, hp⟩
    refine R.sat_read hl ?_ hfi hlt
    refine R.sat_if_eq hL (fun hc hL => ?_) (fun hc hL => ?_)
    · refine R.sat_if_eq hL (fun hiv hL => ?_) (fun hiv hL => hI.push_sat hb1 hlt (hraw hL.symm))
      rw [toForm_enter _ _ _ _ _ hs] at hL
      refine R.sat_ptr ?_ hi1 hlt
      refine R.sat_pure ⟨⟨hbs, Nat.le_succ_of_le hs, hlt, fun hb => ?_⟩, hμ⟩
      obtain ⟨hn, hv, hr⟩ := hI.resume hb
      exact ⟨hn, hv, hL.trans hr⟩
    refine R.sat_if_eq hL (fun hamp hL => ?_) (fun hamp hL => ?_)
    · refine R.sat_bind (flush_spec start it inValue name value lst) fun lst' hlst' => ?_
      refine R.sat_ptr ?_ hi1 hlt
      refine R.sat_ptr ?_ hi1 hlt
      refine R.sat_pure ⟨⟨Nat.le_succ_of_le (Nat.le_trans hbs hs), Nat.le_refl _, hlt, fun hb => ⟨nofun, nofun, ?_⟩⟩, hμ⟩
      obtain ⟨hn, hv, hr⟩ := hI.resume hb
      simp only []
      rw [hlst' hn hv, toForm_self, hL, hr]
    refine R.sat_if_eq hL (fun hplus hL => hI.push_sat hb1 hlt (fun _ => ⟨by decide, hL.symm⟩)) (fun hplus hL => ?_)
    -- `%`: with fewer than two units behind it, or without two hex digits there, it is pushed as it is
    have hlit : ¬ (a[it]! = 0x25 ∧ last - it > 2 ∧ (isHex a[it + 1]! && isHex a[it + 1 + 1]!) = true) →
        Impl.formParseAux (slice a it last) (toForm start it inValue name value) lst =
          Impl.formParseAux (slice a (it + 1) last) ((toForm start it inValue name value).push a[it]!) lst :=
      fun hn => by rw [← hL, if_neg hn]
    refine R.sat_if (fun hpct => ?_) (fun hpct => hI.push_sat hb1 hlt (hraw (hlit (fun hh => hpct hh.1))))
    refine R.sat_if (fun hdist => ?_) (fun hdist => hI.push_sat hb1 hlt (hraw (hlit (fun hh => hdist hh.2.1))))
    have h1 : it + 1 < last := by omega
    have h2 : it + 1 + 1 < last := by omega
    have hi2 : first ≤ it + 1 + 1 := Nat.le_succ_of_le hi1
    refine R.sat_ptr ?_ hi1 hlt
    refine R.sat_read hl ?_ hi1 h1
    refine R.sat_ptr ?_ hi2 h1
    refine R.sat_read hl ?_ hi2 h2
    -- the two units behind `%` are read as `unsigned char`; on bytes that changes nothing
    have hmod : ByteUnits a first last →
        a[it + 1]! % 256 = a[it + 1]! ∧ a[it + 1 + 1]! % 256 = a[it + 1 + 1]! :=
      fun hb => ⟨Nat.mod_eq_of_lt (hb (it + 1) hi1 h1), Nat.mod_eq_of_lt (hb (it + 1 + 1) hi2 h2)⟩
    refine R.sat_if (fun hhex => ?_) (fun hhex => hI.push_sat hb1 hlt (fun hb => hraw (hlit (fun hh => hhex ?_)) hb))
    · rw [Bool.and_eq_true] at hhex
      have b1 := isHex_lt _ hhex.1
      have b2 := isHex_lt _ hhex.2
      have hv := hexByte_lt _ _ hhex.1 hhex.2
      refine R.sat_bind_ok (idx_ok (by omega)) ?_
      refine R.sat_bind_ok (idx_ok (by omega)) ?_
      refine R.sat_ptr ?_ (Nat.le_succ_of_le hi2) h2
      rw [Nat.mod_eq_of_lt hv]
      have := hI.push (c := hexVal (a[it + 1]! % 256) * 16 + hexVal (a[it + 1 + 1]! % 256)) 2 h2 (fun hb => ⟨hv, by
        rw [(hmod hb).1, (hmod hb).2] at hhex ⊢
        rw [← hL, if_pos ⟨hpct, hdist, Bool.and_eq_true _ _ ▸ hhex⟩]⟩)
      have hμ2 : last - (it + 1 + 2) < last - it :=
        Nat.sub_lt_sub_left hlt (Nat.lt_of_lt_of_le (Nat.lt_succ_self it) (Nat.le_add_right _ 2))
      cases inValue
      · exact R.sat_pure ⟨this, hμ2⟩
      · exact R.sat_pure ⟨this, hμ2⟩
    · rw [(hmod hb).1, (hmod hb).2]
      exact hh.2.2
  intro ⟨start, name, value, lst⟩ ⟨inValue, hI⟩
  simp only at hI ⊢
  refine R.sat_mono (flush_spec start last inValue name value lst) fun r hr hb => ?_
  obtain ⟨hn, hv, hres⟩ := hI.resume hb
  rw [hr hn hv, ← hres, slice_nil a last last (Nat.le_refl _), Upa.Proofs.C15.formParseAux_nil]

theorem doParse_sat (remQmark : Bool) (a : Array Nat) (first last : Nat) (h : first ≤ last) (hl : last ≤ a.size) :
    (doParse remQmark a first last).sat (fun _ => True) :=
  (doParse_spec remQmark a first last h hl).true

theorem doParse_agrees (remQmark : Bool) (a : Array Nat) (first last : Nat) (h : first ≤ last) (hl : last ≤ a.size)
    (hb : ByteUnits a first last) :
    doParse remQmark a first last = .ok (Impl.formParse remQmark (slice a first last)) :=
  R.eq_ok_of_sat ((doParse_spec remQmark a first last h hl).mp hb)

end Upa.Impl.B
