import Upa.Impl.Scheme
/-
  Lemmas for C13b: `get_scheme_info` (model `Impl.Scheme.getSchemeInfo`) is, for tables that satisfy
  the decidable `TablesOk`, the search by equality over the whole table, for EVERY string; no table
  access is out of range; and with `InfoOk` the lookup is the model's `schemeIndex`,
  `isSpecialScheme`, `isFileScheme`, `defaultPort`.
-/
namespace Upa.Proofs.Scheme
open Upa Upa.Impl Upa.Impl.Scheme

theorem idxOf?_eq_none {names : List (List Nat)} {s : List Nat}
    (h : ∀ i, i < names.length → names.getD i [] ≠ s) : names.idxOf? s = none := by
  rw [List.idxOf?_eq_none_iff]
  intro hmem
  obtain ⟨i, hi, he⟩ := List.mem_iff_getElem.mp hmem
  exact h i hi ((List.getElem_eq_getD (h := hi) []).symm.trans he)

theorem idxOf?_eq_some {names : List (List Nat)} {s : List Nat} {i : Nat} (hi : i < names.length)
    (he : names.getD i [] = s) (hlt : ∀ j, j < i → names.getD j [] ≠ s) : names.idxOf? s = some i := by
  unfold List.idxOf?
  rw [List.findIdx?_eq_some_iff_getElem]
  refine ⟨hi, by rw [List.getElem_eq_getD [], he]; simp, fun j hji => ?_⟩
  rw [List.getElem_eq_getD []]
  simpa using hlt j hji

theorem scan_eq (names : List (List Nat)) (s : List Nat) :
    ∀ (n ind : Nat), ind + n ≤ names.length →
      (∀ i, ind ≤ i → i < ind + n → (names.getD i []).length = s.length) →
      (∀ i, i < names.length → ¬ (ind ≤ i ∧ i < ind + n) → names.getD i [] ≠ s) →
      schemeScan names s s.length n ind = Res.ofOption (names.idxOf? s) := by
  intro n
  induction n with
  | zero =>
    intro ind _ _ hout
    rw [idxOf?_eq_none fun i hi => hout i hi (by omega)]; rfl
  | succ n ih =>
    intro ind hle hlen hout
    have hlt : ind < names.length := by omega
    rw [schemeScan, List.getElem?_eq_getElem hlt, List.getElem_eq_getD []]
    have hl0 := hlen ind (Nat.le_refl _) (by omega)
    simp only [hl0, Nat.lt_irrefl, if_false, List.take_of_length_le (Nat.le_of_eq hl0)]
    by_cases heq : names.getD ind [] = s
    · rw [if_pos heq, idxOf?_eq_some hlt heq fun j hj => hout j (by omega) (by omega)]; rfl
    · rw [if_neg heq]
      refine ih (ind + 1) (by omega) (fun i h1 h2 => hlen i (by omega) (by omega)) fun i hi hni => ?_
      by_cases hii : i = ind
      · rw [hii]; exact heq
      · exact hout i hi (by omega)

theorem getSchemeInfo_eq {names : List (List Nat)} {lenToInd : List Nat} {maxLen : Nat}
    (h : TablesOk names lenToInd maxLen) (s : List Nat) :
    getSchemeInfo names lenToInd maxLen s = Res.ofOption (names.idxOf? s) := by
  obtain ⟨hlen, hrange, hentry, hinrange⟩ := h
  unfold getSchemeInfo
  simp only []
  by_cases hle : s.length ≤ maxLen
  · have g (k : Nat) (hk : k < lenToInd.length) : lenToInd[k]? = some (lenToInd.getD k 0) := by
      rw [List.getElem?_eq_getElem hk, List.getElem_eq_getD 0]
    simp only [hle, if_true, g (s.length + 1) (by omega), g s.length (by omega)]
    have hr := hrange s.length (by omega)
    -- an entry equal to `s` lies in the range of its length, which is the range scanned
    refine scan_eq names s _ _ (by omega)
      (fun i h1 h2 => hinrange s.length (by omega) i (by omega) h1 (by omega)) fun i hi hni heq => ?_
    have := hentry i hi
    rw [heq] at this
    omega
  · simp only [hle, if_false]
    -- every entry is at most `maxLen` long
    have hne : ∀ i, i < names.length → names.getD i [] ≠ s := fun i hi heq => by
      have := (hentry i hi).1
      rw [heq] at this
      omega
    rw [idxOf?_eq_none hne]; rfl

theorem getSchemeInfo_ne_oob {names : List (List Nat)} {lenToInd : List Nat} {maxLen : Nat}
    (h : TablesOk names lenToInd maxLen) (s : List Nat) :
    getSchemeInfo names lenToInd maxLen s ≠ .oob := by
  rw [getSchemeInfo_eq h]
  cases names.idxOf? s <;> simp [Res.ofOption]

theorem toOption_ofOption (o : Option Nat) : (Res.ofOption o).toOption = o := by
  cases o <;> rfl

/-! ## `TablesOk` says what the comment in src/url.cpp says: sorted by length -/

theorem lenToInd_mono {names : List (List Nat)} {lenToInd : List Nat} {maxLen : Nat}
    (h : TablesOk names lenToInd maxLen) :
    ∀ (d a : Nat), a + d ≤ maxLen + 1 → lenToInd.getD a 0 ≤ lenToInd.getD (a + d) 0 := by
  intro d
  induction d with
  | zero => intro a _; exact Nat.le_refl _
  | succ d ih =>
    intro a ha
    have h1 := ih a (by omega)
    have h2 := (h.2.1 (a + d) (by omega)).1
    exact Nat.le_trans h1 h2

theorem tables_sorted {names : List (List Nat)} {lenToInd : List Nat} {maxLen : Nat}
    (h : TablesOk names lenToInd maxLen) (i j : Nat) (hij : i < j) (hj : j < names.length) :
    (names.getD i []).length ≤ (names.getD j []).length := by
  have hi := h.2.2.1 i (by omega)
  have hj' := h.2.2.1 j hj
  apply Nat.le_of_not_lt
  intro hlt
  -- Lj + 1 ≤ Li, so lenToInd[Lj+1] ≤ lenToInd[Li] ≤ i < j < lenToInd[Lj+1]
  have hm := lenToInd_mono h ((names.getD i []).length - ((names.getD j []).length + 1))
    ((names.getD j []).length + 1) (by omega)
  have he : (names.getD j []).length + 1 + ((names.getD i []).length - ((names.getD j []).length + 1)) =
      (names.getD i []).length := by omega
  rw [he] at hm
  omega

theorem isSpecial_iff_mem (s : List Nat) : isSpecialScheme s = true ↔ s ∈ modelSchemes := by
  simp [isSpecialScheme, modelSchemes, or_assoc]

theorem isSome_ite_some {α : Type} (b : Bool) (a : α) (x : Option α) :
    (if b = true then some a else x).isSome = (b || x.isSome) := by
  cases b <;> rfl

/-- `schemeIndex` tests the six names in the order in which `isSpecialScheme` lists them -/
theorem schemeIndex_isSome (s : List Nat) : (schemeIndex s).isSome = isSpecialScheme s := by
  simp only [schemeIndex, isSpecialScheme, isSome_ite_some, Option.isSome_none, Bool.or_false, Bool.or_assoc]

theorem not_special (s : List Nat) (h : isSpecialScheme s = false) :
    schemeIndex s = none ∧ isFileScheme s = false ∧ defaultPort s = none := by
  have hi := schemeIndex_isSome s
  rw [h] at hi
  unfold isSpecialScheme at h
  simp only [Bool.or_eq_false_iff] at h
  obtain ⟨⟨⟨⟨⟨h1, h2⟩, h3⟩, h4⟩, h5⟩, h6⟩ := h
  refine ⟨by simpa using hi, ?_, ?_⟩
  · unfold isFileScheme; exact h5
  · unfold defaultPort; simp [h1, h2, h3, h4, h6]

/-- the lookup over tables that pass both checkers is the model's scheme functions, for every string -/
theorem bridge {names : List (List Nat)} {lenToInd : List Nat} {maxLen : Nat}
    {ports : List Int} {special file : List Bool}
    (ht : TablesOk names lenToInd maxLen) (hi : InfoOk names ports special file) (s : List Nat) :
    getSchemeInfo names lenToInd maxLen s = Res.ofOption (schemeIndex s) ∧
    (getSchemeInfo names lenToInd maxLen s).flag special = isSpecialScheme s ∧
    (getSchemeInfo names lenToInd maxLen s).flag file = isFileScheme s ∧
    (getSchemeInfo names lenToInd maxLen s).port ports = defaultPort s := by
  obtain ⟨_, _, _, hsub, hrow⟩ := hi
  rw [getSchemeInfo_eq ht]
  cases hidx : names.idxOf? s with
  | none =>
    have hnm : s ∉ names := List.idxOf?_eq_none_iff.mp hidx
    have hns : isSpecialScheme s = false := by
      cases hsp : isSpecialScheme s with
      | false => rfl
      | true => exact absurd (hsub s ((isSpecial_iff_mem s).mp hsp)) hnm
    obtain ⟨a, b, c⟩ := not_special s hns
    rw [a, b, c, hns]
    exact ⟨rfl, rfl, rfl, rfl⟩
  | some i =>
    unfold List.idxOf? at hidx
    obtain ⟨hlt, heq, _⟩ := List.findIdx?_eq_some_iff_getElem.mp hidx
    have hs : names.getD i [] = s := by
      rw [← List.getElem_eq_getD (h := hlt)]; simpa using heq
    obtain ⟨r1, r2, r3, r4⟩ := hrow i hlt
    rw [hs] at r1 r2 r3 r4
    rw [r1]
    exact ⟨rfl, r2, r3, r4⟩

end Upa.Proofs.Scheme
