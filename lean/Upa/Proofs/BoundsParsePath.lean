import Upa.Proofs.BoundsEncodeLoops
import Upa.Proofs.ListScan
import Upa.Proofs.ParserRules
import Upa.Proofs.EncHead
/-
  `parsePathM` (url.h:2401-2472, bounds-instrumented; C04e, C04g): it scans the raw code units for the segment
  ends, tests the raw segment for dot segments / a Windows drive letter and decodes lazily inside
  do_path_segment; in bounds for any units, and `Impl.parsePath` on the eagerly decoded input when the units are
  in the range of their character type (`parsePathM_spec`).
-/
namespace Upa.Impl.B
open Upa.Proofs.C10b
open Upa.Proofs.C17 (splitOnP_ne_nil splitOnP_nosep splitOnP_append_sep)
open Upa.Proofs.C02b (singleDot_ascii doubleDot_ascii)

theorem sub_eq_two {p q : Nat} (h : q - p = 2) : p + 1 < q ∧ q ≤ p + 1 + 1 := by
  have hq : p + 2 = q := by
    rw [← h]
    exact Nat.add_sub_of_le (Nat.le_of_lt (Nat.lt_of_sub_eq_succ h))
  subst hq
  exact ⟨Nat.lt_succ_self _, Nat.le_refl _⟩

theorem pathSep_ascii (sp : Bool) : AsciiPred (Proofs.C08.pathSep sp) := by
  intro c h
  simp only [Proofs.C08.pathSep, Bool.or_eq_true, Bool.and_eq_true, beq_iff_eq] at h
  omega

theorem parsePathM_spec (e : Enc) (a : Array Nat) (first last : Nat) (u : Url) (h : first ≤ last) (hl : last ≤ a.size) :
    (parsePathM e a first last u).sat (fun r => UOk e (slice a first last) →
      r = Impl.parsePath u (Impl.decode e (slice a first last))) := by
  rw [Proofs.C08.parsePath_eq]
  -- the test the program spells out is the separator test of the list model
  have hp : (if u.isSpecial = true then Impl.isSlash else (· == 0x2F)) = Proofs.C08.pathSep u.isSpecial := by
    cases u.isSpecial
    · exact Proofs.C08.pathSep_false.symm
    · exact Proofs.C08.pathSep_true.symm
  have hpa := pathSep_ascii u.isSpecial
  generalize Proofs.C08.pathSep u.isSpecial = p at hp hpa ⊢
  refine scan_sat _ (·.1) first last (fun s => UOk e (slice a first last) →
      s.2.scheme = u.scheme ∧ Impl.pathSegments s.2 (splitOnP p (Impl.decode e (slice a s.1 last))) =
        Impl.pathSegments u (splitOnP p (Impl.decode e (slice a first last)))) _ ?_ _ _
    (Nat.le_refl _) h (fun _ => ⟨rfl, rfl⟩) (Nat.lt_succ_self _)
  rintro ⟨pointer, u'⟩ h1 h2 h3
  refine R.sat_range ?_ h1 h2 (Nat.le_refl _)
  refine R.sat_bind (findIf_toLast a first last _ hl pointer h1 h2) ?_
  rintro eos ⟨e1, e2, e3, e4⟩
  have hle : eos ≤ a.size := Nat.le_trans e2 hl
  have huseg : UOk e (slice a first last) → UOk e (slice a pointer eos) :=
    fun hu => hu.subset (slice_sub_subset a first pointer eos last h1 e2 hl)
  have hnosep : UOk e (slice a first last) → ∀ x ∈ Impl.decode e (slice a pointer eos), p x = false := fun hu => by
    refine (decode_asciiHom e).forall_false hpa _ fun x hx => ?_
    obtain ⟨i, hi1, hi2, rfl⟩ := mem_slice a pointer eos x hle hx
    have := e3 i hi1 hi2
    rwa [Url.isSpecial, (h3 hu).1, ← Url.isSpecial, hp] at this
  refine R.sat_range (R.sat_bind_ok (doubleDot_agrees a pointer eos e1 hle) ?_) h1 e1 e2
  -- the segment, tested on the raw units; only the encoded segment depends on the units being in range
  refine R.sat_bind (P := fun u'' => UOk e (slice a pointer eos) →
    u'' = Impl.pathSegment u' (Impl.decode e (slice a pointer eos)) (decide (eos = last))) ?_ ?_
  · have key : ∀ u'', u'' = _ →
        u'' = Impl.pathSegment u' (Impl.decode e (slice a pointer eos)) (decide (eos = last)) := fun u'' hu'' => by
      rw [Proofs.C08.pathSegment_eq, (decode_asciiHom e).pred_eq Impl.doubleDot doubleDot_ascii,
        (decode_asciiHom e).pred_eq Impl.singleDot singleDot_ascii,
        (decode_asciiHom e).pred_eq Proofs.C08.isDrive2 Proofs.C08.isDrive2_ascii]
      exact hu''
    refine R.sat_if (fun hdd => ?_) (fun hdd => ?_)
    · exact R.sat_pure fun _ => key _ (if_pos hdd).symm
    refine R.sat_bind_ok (singleDot_agrees a pointer eos e1 hle) (R.sat_if (fun hsd => ?_) (fun hsd => ?_))
    · exact R.sat_pure fun _ => key _ ((if_neg hdd).trans (if_pos hsd)).symm
    refine R.sat_bind (P := fun d => d = (u'.isFile && u'.path.isEmpty && Proofs.C08.isDrive2 (slice a pointer eos))) ?_ ?_
    · refine R.sat_if (fun hc => ?_) (fun hc => ?_)
      · have hlt2 : pointer + 1 < eos := (sub_eq_two hc.1).1
        refine R.sat_read hl ?_ h1 (Nat.lt_of_lt_of_le (Nat.lt_of_succ_lt hlt2) e2)
        refine R.sat_read hl (R.sat_pure ?_) (Nat.le_succ_of_le h1) (Nat.lt_of_lt_of_le hlt2 e2)
        rw [slice_eq_map_range a eos hle 2 pointer hc.1, hc.2.1, hc.2.2, Bool.true_and, Bool.true_and]
        rfl
      · refine R.sat_pure ?_
        cases hD : (u'.isFile && u'.path.isEmpty && Proofs.C08.isDrive2 (slice a pointer eos)) with
        | false => rfl
        | true =>
          simp only [Bool.and_eq_true] at hD
          have hlen := Proofs.C08.isDrive2_len _ hD.2
          rw [slice_length a pointer eos hle] at hlen
          exact absurd ⟨hlen, hD.1.1, hD.1.2⟩ hc
    · intro d hd
      subst hd
      refine R.sat_if (fun hD => ?_) (fun hD => ?_)
      · have hdr := (Bool.and_eq_true_iff.1 hD).2
        have hlen := Proofs.C08.isDrive2_len _ hdr
        rw [slice_length a pointer eos hle] at hlen
        have hlt : pointer < eos := Nat.lt_of_succ_lt (sub_eq_two hlen).1
        refine R.sat_read hl (R.sat_pure fun _ => key _ ?_) h1 (Nat.lt_of_lt_of_le hlt e2)
        rw [if_neg hdd, if_neg hsd, if_pos hD, decode_of_ascii e _ (Proofs.C08.isDrive2_ascii _ hdr), slice_cons a pointer eos hlt hle]
        rfl
      · refine R.sat_range (R.sat_bind (pathSegmentEncM_spec e a pointer eos e1 hle) ?_) h1 e1 e2
        intro ⟨ok, seg⟩ hs
        refine R.sat_pure fun huseg => key _ ?_
        rw [if_neg hdd, if_neg hsd, if_neg hD, ← hs huseg]
  · intro u'' hu''
    refine R.sat_if (fun hlast => R.sat_pure fun hu => ?_) (fun hlast => ?_)
    · obtain ⟨hsch, h3⟩ := h3 hu
      rw [hu'' (huseg hu), hlast]
      have hlast' : eos = last := of_decide_eq_true hlast
      subst hlast'
      rwa [splitOnP_nosep p _ (hnosep hu), Proofs.C08.pathSegments_one] at h3
    · rw [Bool.not_eq_true] at hlast
      have hlt : eos < last := Nat.lt_of_le_of_ne e2 (of_decide_eq_false hlast)
      have hf : first ≤ eos + 1 := Nat.le_succ_of_le (Nat.le_trans h1 e1)
      refine R.sat_ptr ?_ hf hlt
      refine R.sat_pure ⟨Nat.lt_succ_of_le e1, hlt, fun hu => ?_⟩
      obtain ⟨hsch, h3⟩ := h3 hu
      have hsep : p a[eos]! = true := by
        have := e4 hlt
        rwa [Url.isSpecial, hsch, ← Url.isSpecial, hp] at this
      rw [← slice_append a pointer eos last e1 e2, slice_cons a eos last hlt hl,
        Impl.decode_ascii_split e _ _ (hpa _ hsep), splitOnP_append_sep p _ _ _ hsep, splitOnP_nosep p _ (hnosep hu),
        List.singleton_append, Proofs.C08.pathSegments_more _ _ _ (splitOnP_ne_nil _ _), ← hlast, ← hu'' (huseg hu)] at h3
      exact ⟨(hu'' (huseg hu) ▸ congrArg Prod.fst (Proofs.C03.key_pathSegment _ _ _)).trans hsch, h3⟩

theorem parsePathM_sat (e : Enc) (a : Array Nat) (first last : Nat) (u : Url) (h : first ≤ last) (hl : last ≤ a.size) :
    (parsePathM e a first last u).sat (fun _ => True) :=
  (parsePathM_spec e a first last u h hl).true

end Upa.Impl.B
