import Upa.Proofs.Bounds
import Upa.Proofs.Ipv4
/-
  C04b / C04h: hostname_ends_in_a_number and ipv4_parse_number of `Upa/Impl/Bounds.lean` against their list models,
  as `Upa/Proofs/Ipv4.lean` describes them; `ipv4Parse` (url_ip.h:135-208, array + index, local arrays `part[6]`,
  `number[4]`) computes `Impl.ipv4Parse` on `slice a first last`.
-/
namespace Upa.Impl.B
open Upa.Impl.Ipv4 (numTail ipv4Num_A ipv4Num_C skipZeros_cons_ne skipZeros_cons_eq accumulate_step ipv4Scan_nil ipv4Scan_cons
  v4Add_nil v4Add_cons)

section
variable (a : Array Nat) (first last : Nat)

/-- The list model on a non-empty text, given what the backward scan of the C++ finds: without a final dot
    the text is `pre ++ label`, the label has no dot, and `pre` is empty or ends in a dot. -/
theorem endsInNumber_concat (l : List Nat) (c : Nat) (pre label : List Nat)
    (h : (if c = 0x2E then l else l ++ [c]) = pre ++ label) (hlab : ∀ x ∈ label, x ≠ 0x2E)
    (hpre : pre = [] ∨ ∃ p, pre = p ++ [0x2E]) :
    Impl.endsInNumber (l ++ [c]) = Ipv4.implLabelCheck label := by
  rw [Ipv4.impl_endsInNumber_eq, if_neg (List.append_ne_nil_of_right_ne_nil l (List.cons_ne_nil c [])),
    List.getLast?_concat, List.dropLast_concat, ite_cond_congr (propext Option.some_inj), h,
    Ipv4.lastLabel_append pre label hlab hpre]

theorem endsInNumber_agrees (a : Array Nat) (first last : Nat) (h : first ≤ last) (hl : last ≤ a.size) :
    endsInNumber a first last = .ok (Impl.endsInNumber (slice a first last)) := by
  refine R.eq_ok_of_sat (R.sat_if (fun hne => ?_) (fun hne => ?_))
  · have hlt : first < last := Nat.lt_of_le_of_ne h hne
    have hsn := slice_snoc a first last hlt hl
    refine R.sat_readPrev hl ?_ hlt (Nat.le_refl _)
    refine R.sat_bind (P := fun last' => first ≤ last' ∧ last' ≤ last ∧
        (if a[last - 1]! = 0x2E then slice a first (last - 1) else slice a first last) = slice a first last') ?_ ?_
    · refine R.sat_if (fun hc => ?_) (fun hc => ?_)
      · rw [mkptrSub_ok hlt (Nat.sub_le last 1)]
        exact R.sat_pure ⟨Nat.le_sub_one_of_lt hlt, Nat.sub_le last 1, if_pos hc⟩
      · exact R.sat_pure ⟨h, Nat.le_refl _, if_neg hc⟩
    intro last' ⟨l1, l2, l3⟩
    have hl' : last' ≤ a.size := Nat.le_trans l2 hl
    refine R.sat_bind (iter_sat _
      (fun sol => first ≤ sol ∧ sol ≤ last' ∧ ∀ i, sol ≤ i → i < last' → a[i]! ≠ 0x2E)
      (fun sol => sol - first)
      (fun sol => first ≤ sol ∧ sol ≤ last' ∧ (∀ i, sol ≤ i → i < last' → a[i]! ≠ 0x2E) ∧
        (sol = first ∨ first < sol ∧ a[sol - 1]! = 0x2E)) ?_ _ _
      ⟨l1, Nat.le_refl _, fun i h1 h2 => absurd h2 (Nat.not_lt.2 h1)⟩
      (Nat.lt_succ_of_le (Nat.sub_le_sub_right l2 first))) ?_
    · intro sol ⟨s1, s2, s3⟩
      refine R.sat_if (fun hsf => ?_) (fun hsf => ?_)
      · have hfs : first < sol := Nat.lt_of_le_of_ne s1 (Ne.symm hsf)
        have hsl : sol - 1 ≤ last' := Nat.le_trans (Nat.sub_le sol 1) s2
        refine R.sat_readPrev hl (R.sat_if (fun hc => ?_) (fun hc => ?_)) hfs (Nat.le_trans s2 l2)
        · refine R.sat_ptrSub ?_ hfs (Nat.le_trans hsl l2)
          refine R.sat_pure ⟨⟨Nat.le_sub_one_of_lt hfs, hsl, ?_⟩,
            Nat.sub_lt_sub_right (Nat.le_sub_one_of_lt hfs) (Nat.sub_one_lt_of_lt hfs)⟩
          intro i hi1 hi2
          rcases Nat.eq_or_lt_of_le hi1 with hi | hi
          · rw [← hi]
            exact hc
          · exact s3 i (Nat.le_of_pred_lt hi) hi2
        · exact R.sat_pure ⟨s1, s2, s3, Or.inr ⟨hfs, Decidable.not_not.mp hc⟩⟩
      · exact R.sat_pure ⟨s1, s2, s3, Or.inl (Decidable.not_not.mp hsf)⟩
    intro sol ⟨s1, s2, s3, s4⟩
    have hnum : Impl.endsInNumber (slice a first last) = Ipv4.implLabelCheck (slice a sol last') := by
      rw [hsn]
      refine endsInNumber_concat _ _ (slice a first sol) (slice a sol last') ?_ ?_ ?_
      · rw [slice_append a first sol last' s1 s2, ← hsn]
        exact l3
      · intro x hx
        obtain ⟨i, hi1, hi2, rfl⟩ := mem_slice a sol last' x hl' hx
        exact s3 i hi1 hi2
      · rcases s4 with rfl | ⟨hfs, hd⟩
        · exact Or.inl (slice_nil a _ _ (Nat.le_refl _))
        · exact Or.inr ⟨_, by rw [slice_snoc a first sol hfs (Nat.le_trans s2 hl'), hd]⟩
    rw [hnum]
    refine R.sat_if (fun hlen => ?_) (fun hlen => ?_)
    · have hsl : sol < last' := Nat.lt_of_sub_ne_zero hlen
      refine R.sat_bind (P := fun is0x => (is0x = true → sol + 2 ≤ last') ∧ Ipv4.implLabelCheck (slice a sol last') =
          bif is0x then (slice a (sol + 2) last').all isHex else (slice a sol last').all isDigit) ?_ ?_
      · refine R.sat_if (fun h2 => ?_) (fun h2 => ?_)
        · have h2 : sol + 2 ≤ last' := Nat.add_le_of_le_sub' s2 h2
          rw [slice_cons a sol last' hsl hl', slice_cons a (sol + 1) last' h2 hl']
          refine R.sat_read hl (R.sat_if (fun hc0 => ?_) (fun hc0 => ?_)) s1 (Nat.lt_of_lt_of_le hsl l2)
          · refine R.sat_read hl (R.sat_pure ⟨fun _ => h2, ?_⟩) (Nat.le_succ_of_le s1) (Nat.lt_of_lt_of_le h2 l2)
            rw [hc0]
            exact Ipv4.implLabelCheck_0x _ _
          · exact R.sat_pure ⟨nofun, Ipv4.implLabelCheck_of_ne _ _ hc0⟩
        · have h1 : last' ≤ sol + 1 := Nat.sub_le_iff_le_add'.1 (Nat.le_of_lt_succ (Nat.not_le.1 h2))
          rw [slice_cons a sol last' hsl hl', slice_nil a (sol + 1) last' h1]
          exact R.sat_pure ⟨nofun, Ipv4.implLabelCheck_single _⟩
      · intro is0x ⟨hx, hP⟩
        rw [hP]
        cases is0x
        · rw [if_neg Bool.false_ne_true]
          refine R.sat_range (⟨_, ?_, rfl⟩) s1 s2 l2
          exact allOf_agrees a first last _ hl last' l2 _ _ s1 (Nat.add_sub_cancel' s2)
        · have hx : sol + 2 ≤ last' := hx rfl
          have hs2 : first ≤ sol + 2 := Nat.le_trans s1 (Nat.le_add_right sol 2)
          rw [if_pos rfl]
          refine R.sat_ptr (R.sat_range (⟨_, ?_, rfl⟩) hs2 hx l2) hs2 (Nat.le_trans hx l2)
          exact allOf_agrees a first last _ hl last' l2 _ _ hs2 (Nat.add_sub_cancel' hx)
    · rw [slice_nil a sol last' (Nat.le_of_sub_eq_zero (Decidable.not_not.mp hlen))]
      exact R.sat_pure rfl
  · rw [Decidable.not_not.mp hne, slice_nil a last last (Nat.le_refl _)]
    exact R.sat_pure rfl

theorem endsInNumber_sat (h : first ≤ last) (hl : last ≤ a.size) :
    (endsInNumber a first last).sat (fun _ => True) :=
  R.sat_of_eq_ok (endsInNumber_agrees a first last h hl)

theorem ipv4ParseNumber_spec (h : first ≤ last) (hl : last ≤ a.size) :
    (ipv4ParseNumber a first last).sat (fun r =>
      ByteUnits a first last → r = Impl.ipv4ParseNumber (slice a first last)) := by
  unfold ipv4ParseNumber
  refine R.sat_if (fun he => R.sat_pure fun _ => by rw [slice_nil a first last (by omega)]; rfl) (fun hne => ?_)
  have hlt : first < last := by omega
  refine R.sat_read hl ?_
  refine R.sat_bind (P := fun pre => match pre with
      | .inl r => r = Impl.ipv4ParseNumber (slice a first last)
      | .inr (radix, p) => first ≤ p ∧ p ≤ last ∧
          numTail radix (slice a p last) = Impl.ipv4ParseNumber (slice a first last)) ?_ ?_
  · refine R.sat_if (fun hc0 => ?_) (fun hc0 => ?_)
    · refine R.sat_if (fun h1 => ?_) (fun h1 => ?_)
      · exact R.sat_pure (by rw [slice_cons a first last hlt hl, slice_nil a (first + 1) last (by omega), hc0]; rfl)
      · have hlt1 : first + 1 < last := by omega
        refine R.sat_read hl ?_
        extract_lets rp
        have hr2 : first ≤ rp.2 ∧ rp.2 ≤ last := by simp only [rp]; split <;> exact ⟨by omega, by omega⟩
        have hV : Impl.ipv4ParseNumber (slice a first last) =
            numTail rp.1 (Impl.skipZeros (slice a rp.2 last)) := by
          rw [slice_cons a first last hlt hl, slice_cons a (first + 1) last hlt1 hl, hc0, ipv4Num_C]
          by_cases hx : a[first + 1]! = 0x58 ∨ a[first + 1]! = 0x78
          · simp only [rp, if_pos hx]
          · simp only [rp, if_neg hx]; rw [slice_cons a (first + 1) last hlt1 hl]
        clear_value rp
        refine R.sat_ptr ?_
        refine R.sat_bind (scan_sat _ (fun p => p) first last
          (fun p => Impl.skipZeros (slice a p last) = Impl.skipZeros (slice a rp.2 last))
          (fun p => first ≤ p ∧ p ≤ last ∧ slice a p last = Impl.skipZeros (slice a rp.2 last))
          (fun p hp1 hp2 hp3 => ?_) _ _ hr2.1 hr2.2 rfl (by omega))
          fun p hp => R.sat_pure ⟨hp.1, hp.2.1, by rw [hp.2.2, hV]⟩
        refine R.sat_if (fun hpl => ?_)
          (fun hpl => R.sat_pure ⟨hp1, hp2, by rw [← hp3, slice_nil a p last (by omega)]; rfl⟩)
        refine R.sat_read hl ?_
        refine R.sat_if (fun hz => ?_) (fun hz =>
          R.sat_pure ⟨hp1, hp2, by rw [← hp3, slice_cons a p last hpl hl, skipZeros_cons_ne _ _ hz]⟩)
        refine R.sat_ptr ?_
        exact R.sat_pure ⟨by omega, by omega, by rw [← hp3, slice_cons a p last hpl hl, hz, skipZeros_cons_eq]⟩
    · exact R.sat_pure ⟨Nat.le_refl _, h, by rw [slice_cons a first last hlt hl, ipv4Num_A _ _ hc0]⟩
  intro pre hpre
  cases pre with
  | inl r => exact R.sat_pure fun _ => hpre
  | inr rp =>
    obtain ⟨radix, p⟩ := rp
    obtain ⟨hp1, hp2, hV⟩ := hpre
    simp only []
    refine R.sat_if (fun hpl => R.sat_pure fun _ => ?_) (fun hpl => ?_)
    · rw [← hV, slice_nil a p last (by omega)]; rfl
    have hpl' : p < last := by omega
    unfold numTail at hV
    rw [if_neg (by rw [slice_cons a p last hpl' hl]; exact List.cons_ne_nil _ _), slice_length a p last hl] at hV
    refine R.sat_if_eq hV (fun h11 hV => R.sat_pure fun _ => hV) (fun h11 hV => ?_)
    refine R.sat_bind (scan_sat _ (·.1) p last
      (fun s => ByteUnits a first last →
        Impl.accumulate radix (slice a s.1 last) s.2 = Impl.accumulate radix (slice a p last) 0)
      (fun r => ByteUnits a first last → r = Impl.accumulate radix (slice a p last) 0)
      (fun s hi1 hi2 hi3 => ?_) _ _ (Nat.le_refl _) hp2 (fun _ => rfl) (by omega)) fun r hr => ?_
    · obtain ⟨it, num⟩ := s
      simp only [] at hi1 hi2 hi3 ⊢
      refine R.sat_if (fun hil => R.sat_pure fun hb => ?_) (fun hil => ?_)
      · rw [← hi3 hb, slice_nil a it last (by omega)]; rfl
      have hitl : it < last := by omega
      refine R.sat_read hl ?_
      rw [slice_cons a it last hitl hl, accumulate_step] at hi3
      refine R.sat_if (fun hr10 => ?_) (fun hr10 => ?_)
      · rw [if_pos hr10] at hi3
        refine R.sat_if (fun hbad => R.sat_pure fun hb => ?_) (fun hbad => ?_)
        · rw [← hi3 hb, if_pos hbad]
        · rw [if_neg hbad] at hi3
          refine R.sat_ptr ?_
          exact R.sat_pure ⟨by omega, by omega, hi3⟩
      · rw [if_neg hr10] at hi3
        -- only here the units must fit `unsigned char`: the code casts, the list model does not
        refine R.sat_if (fun hbad => R.sat_pure fun hb => ?_) (fun hbad => ?_)
        · rw [Nat.mod_eq_of_lt (hb it (by omega) hitl)] at hbad
          rw [← hi3 hb, if_pos hbad]
        · refine R.sat_bind_ok (idx_ok (by omega)) ?_
          refine R.sat_ptr ?_
          refine R.sat_pure ⟨by omega, by omega, fun hb => ?_⟩
          rw [Nat.mod_eq_of_lt (hb it (by omega) hitl)] at hbad ⊢
          rw [← hi3 hb, if_neg hbad]
    · cases r with
      | none => exact R.sat_pure fun hb => by rw [← hV, ← hr hb]; rfl
      | some num =>
        refine R.sat_if (fun hbig => R.sat_pure fun hb => ?_) (fun hbig => R.sat_pure fun hb => ?_)
        · rw [← hV, ← hr hb]; exact (if_pos hbig).symm
        · rw [← hV, ← hr hb]; exact (if_neg hbig).symm

theorem ipv4ParseNumber_agrees (h : first ≤ last) (hl : last ≤ a.size)
    (hb : ByteUnits a first last) :
    ipv4ParseNumber a first last = .ok (Impl.ipv4ParseNumber (slice a first last)) :=
  R.eq_ok_of_sat ((ipv4ParseNumber_spec a first last h hl).mp hb)

end


/-- the finished parts, as the pointer array `part[0..dc]` delimits them -/
def partsOf (a : Array Nat) (part : Loc) (dc : Nat) : List (List Nat) :=
  (List.range dc).map (fun k => slice a (part.get k) (part.get (k + 1) - 1))

theorem partsOf_succ (a : Array Nat) (part : Loc) (dc v : Nat) :
    partsOf a (part.put (dc + 1) v) (dc + 1) =
      partsOf a part dc ++ [slice a (part.get dc) (v - 1)] := by
  unfold partsOf
  rw [List.range_succ, List.map_append]
  congr 1
  · apply List.map_congr_left
    intro k hk
    have hk' : k < dc := List.mem_range.1 hk
    simp only [if_neg (by omega : ¬ k = dc + 1), if_neg (by omega : ¬ k + 1 = dc + 1)]
  · simp

theorem ipv4Char_lt (c : Nat) (h : Spec.ipv4Char c = true) : c < 256 := by
  simp [Spec.ipv4Char, isHex, isDigit] at h
  omega

/-- invariant of the `part[]` array in ipv4_parse: entries `0..dc` are pointers into `[first, it]`,
    consecutive ones are at least two apart (a non-empty part and the dot), and every entry after the
    first points just behind a dot -/
def PartInv (a : Array Nat) (first it dc : Nat) (part : Loc) : Prop :=
  dc ≤ 4 ∧ part.size = 6 ∧ (∀ k, k ≤ dc → first ≤ part.get k ∧ part.get k ≤ it) ∧
  (∀ k, k < dc → part.get k + 2 ≤ part.get (k + 1)) ∧
  (∀ k, k < dc → a[part.get (k + 1) - 1]! = 0x2E)

theorem PartInv.init (a : Array Nat) (first : Nat) :
    PartInv a first first 0 ((Loc.new 6).put 0 first) := by
  refine ⟨Nat.zero_le _, rfl, fun k hk => ?_, fun k hk => by omega, fun k hk => by omega⟩
  obtain rfl : k = 0 := by omega
  rw [Loc.get_wr_eq]
  exact ⟨Nat.le_refl _, Nat.le_refl _⟩

/-- `++it` on a character that is not a dot -/
theorem PartInv.next {a : Array Nat} {first it dc : Nat} {part : Loc} (hI : PartInv a first it dc part) :
    PartInv a first (it + 1) dc part :=
  ⟨hI.1, hI.2.1, fun k hk => ⟨(hI.2.2.1 k hk).1, Nat.le_succ_of_le (hI.2.2.1 k hk).2⟩, hI.2.2.2⟩

/-- `part[++dot_count] = it + 1; ++it` on a dot at `it` that does not directly follow the start of the part -/
theorem PartInv.dot {a : Array Nat} {first it dc : Nat} {part : Loc} (hI : PartInv a first it dc part)
    (hd4 : dc ≠ 4) (hdot : a[it]! = 0x2E) (hpd : part.get dc ≠ it) :
    PartInv a first (it + 1) (dc + 1) (part.put (dc + 1) (it + 1)) := by
  obtain ⟨h3, h4, h5, h6, h7⟩ := hI
  refine ⟨by omega, h4, fun k hk => ?_, fun k hk => ?_, fun k hk => ?_⟩
  · by_cases hkd : k = dc + 1
    · subst hkd
      rw [Loc.get_wr_eq]
      have := h5 dc (Nat.le_refl _)
      exact ⟨Nat.le_succ_of_le (Nat.le_trans this.1 this.2), Nat.le_refl _⟩
    · rw [Loc.get_wr_ne _ _ hkd]
      have := h5 k (Nat.le_of_lt_succ (Nat.lt_of_le_of_ne hk hkd))
      exact ⟨this.1, Nat.le_succ_of_le this.2⟩
  · rw [Loc.get_wr_ne _ _ (Nat.ne_of_lt hk)]
    by_cases hkd : k = dc
    · subst hkd
      rw [Loc.get_wr_eq]
      have := (h5 k (Nat.le_refl _)).2
      omega
    · rw [Loc.get_wr_ne _ _ (mt Nat.succ.inj hkd)]
      exact h6 k (Nat.lt_of_le_of_ne (Nat.le_of_lt_succ hk) hkd)
  · by_cases hkd : k = dc
    · subst hkd
      rw [Loc.get_wr_eq, Nat.add_sub_cancel]
      exact hdot
    · rw [Loc.get_wr_ne _ _ (mt Nat.succ.inj hkd)]
      exact h7 k (Nat.lt_of_le_of_ne (Nat.le_of_lt_succ hk) hkd)

/-- the splitting loop of `ipv4_parser`.  The third conjunct: a scan that succeeds saw `ipv4Char`s only (`ipv4Char_lt`), so
    the units are bytes; that is why `ipv4Parse_agrees` has no hypothesis on the units, while `ipv4ParseNumber_agrees`,
    which can be called on anything, has one -/
theorem ipv4Scan_spec (a : Array Nat) (first last : Nat) (h : first ≤ last) (hl : last ≤ a.size) :
    (ipv4Scan a first last).sat (fun r => match r with
      | none => Impl.ipv4Scan (slice a first last) [] [] = none
      | some (dc, part) => PartInv a first last dc part ∧
        Impl.ipv4Scan (slice a first last) [] [] = some (partsOf a part dc ++ [slice a (part.get dc) last]) ∧
        ByteUnits a first last) := by
  unfold ipv4Scan
  refine R.sat_bind_ok (Loc.wr_ok (show 0 < (Loc.new 6).size by decide)) ?_
  refine scan_sat _ (·.1) first last
    (fun s => PartInv a first s.1 s.2.1 s.2.2 ∧ ByteUnits a first s.1 ∧
      Impl.ipv4Scan (slice a s.1 last) (slice a (s.2.2.get s.2.1) s.1).reverse (partsOf a s.2.2 s.2.1).reverse =
        Impl.ipv4Scan (slice a first last) [] [])
    _ ?_ _ _ (Nat.le_refl _) h ?_ (Nat.lt_succ_self _)
  · intro ⟨it, dc, part⟩ h1 h2 hI
    simp only at h1 h2 hI ⊢
    obtain ⟨hP, h6, h7⟩ := hI
    obtain ⟨h3, h4, h5⟩ : dc ≤ 4 ∧ part.size = 6 ∧ part.get dc ≤ it := ⟨hP.1, hP.2.1, (hP.2.2.1 dc (Nat.le_refl _)).2⟩
    refine R.sat_if (fun hit => ?_) (fun hit => ?_)
    · subst hit
      refine R.sat_pure ?_
      simp only []
      rw [slice_nil a it it (Nat.le_refl _), ipv4Scan_nil] at h7
      refine ⟨hP, ?_, h6⟩
      rw [← h7]
      simp
    have hlt : it < last := Nat.lt_of_le_of_ne h2 hit
    have hi1 : first ≤ it + 1 := Nat.le_succ_of_le h1
    refine R.sat_read hl ?_ h1 hlt
    rw [slice_cons a it last hlt hl, ipv4Scan_cons] at h7
    refine R.sat_if_eq h7 (fun hdot h7 => ?_) (fun hdot h7 => ?_)
    · have hlen : (partsOf a part dc).reverse.length = dc := by simp [partsOf]
      rw [hlen] at h7
      refine R.sat_if_eq h7 (fun hd4 h7 => R.sat_pure h7.symm) (fun hd4 h7 => ?_)
      refine R.sat_bind_ok (Loc.rd_ok (by omega)) ?_
      have hcur : ((slice a (part.get dc) it).reverse = []) ↔ part.get dc = it := by
        rw [List.reverse_eq_nil_iff, slice_eq_nil_iff a _ _ (by omega)]
        omega
      refine R.sat_if (fun hpd => ?_) (fun hpd => ?_)
      · rw [if_pos (hcur.2 hpd)] at h7
        exact R.sat_pure h7.symm
      rw [if_neg (fun hh => hpd (hcur.1 hh))] at h7
      refine R.sat_ptr ?_ hi1 hlt
      refine R.sat_bind_ok (Loc.wr_ok (by omega)) ?_
      refine R.sat_ptr ?_ hi1 hlt
      refine R.sat_pure ?_
      simp only []
      refine ⟨Nat.lt_succ_self _, hlt, PartInv.dot hP hd4 hdot hpd, ?_, ?_⟩
      · intro i hi1 hi2
        by_cases hii : i = it
        · subst hii; rw [hdot]; decide
        · exact h6 i hi1 (by omega)
      · rw [partsOf_succ, ← h7]
        simp only [if_pos, Nat.add_sub_cancel, List.reverse_reverse, List.reverse_append,
          List.reverse_cons, List.reverse_nil, List.nil_append, List.singleton_append]
        rw [slice_nil a (it + 1) (it + 1) (Nat.le_refl _)]
        rfl
    · refine R.sat_if_eq h7 (fun hbad h7 => R.sat_pure h7.symm) (fun hbad h7 => ?_)
      refine R.sat_ptr ?_ hi1 hlt
      refine R.sat_pure ?_
      simp only []
      refine ⟨Nat.lt_succ_self _, hlt, PartInv.next hP, ?_, ?_⟩
      · intro i hi1 hi2
        by_cases hii : i = it
        · subst hii
          exact ipv4Char_lt _ (by simpa using hbad)
        · exact h6 i hi1 (by omega)
      · rw [← h7, slice_snoc a (part.get dc) (it + 1) (by omega) (by omega)]
        simp only [Nat.add_sub_cancel, List.reverse_append, List.reverse_cons, List.reverse_nil,
          List.nil_append, List.singleton_append]
  · simp only [Loc.new]
    refine ⟨PartInv.init a first, by intro i h1 h2; omega, ?_⟩
    simp [partsOf, slice_nil]

theorem ipv4Combine_agrees (number : Loc) (pc : Nat) (h1 : 1 ≤ pc) (hn : pc ≤ number.size) :
    ipv4Combine number pc = .ok (Ipv4.implPost (span number.get 0 pc)) := by
  apply R.eq_ok_of_sat
  unfold ipv4Combine Ipv4.implPost
  have hlen : (span number.get 0 pc).length = pc := span_length _ _ _
  have htake : (span number.get 0 pc).take (pc - 1) = span number.get 0 (pc - 1) := by
    rw [span_zero, span_zero, ← List.map_take, List.take_range, Nat.min_eq_left (Nat.sub_le _ _)]
  have hlast : (span number.get 0 pc).getD (pc - 1) 0 = number.get (pc - 1) := by
    simp [span_zero, List.getD_eq_getElem?_getD, (by omega : pc - 1 < pc)]
  simp only [hlen, htake, hlast]
  refine R.sat_bind (iter_sat _
    (fun ind => ind ≤ pc - 1 ∧ (span number.get ind (pc - 1)).any (fun n => decide (n > 255)) =
      (span number.get 0 (pc - 1)).any (fun n => decide (n > 255)))
    (fun ind => pc - ind)
    (fun big => big = (span number.get 0 (pc - 1)).any (fun n => decide (n > 255)))
    ?_ _ _ ⟨Nat.zero_le _, rfl⟩ (by omega)) ?_
  · intro ind ⟨i1, i2⟩
    refine R.sat_if (fun hlt => ?_) (fun hge => ?_)
    · have hip : ind < pc - 1 := Nat.lt_sub_of_add_lt hlt
      have hi : ind < pc := Nat.lt_of_succ_lt hlt
      rw [span_cons _ _ _ hip, List.any_cons] at i2
      refine R.sat_bind_ok (Loc.rd_ok (Nat.lt_of_lt_of_le hi hn)) ?_
      refine R.sat_if (fun hbig => ?_) (fun hbig => ?_)
      · refine R.sat_pure ?_
        rw [← i2, decide_eq_true hbig, Bool.true_or]
      · refine R.sat_pure ⟨⟨hip, ?_⟩, Nat.sub_succ_lt_self _ _ hi⟩
        rw [← i2, decide_eq_false hbig, Bool.false_or]
    · refine R.sat_pure ?_
      rw [← i2, span_nil _ _ _ (by omega)]
      rfl
  intro big hbig
  rw [← hbig]
  refine R.sat_if (fun hb => ?_) (fun hb => ?_)
  · rw [if_pos hb]
    exact R.sat_pure rfl
  rw [if_neg hb]
  refine R.sat_bind_ok (Loc.rd_ok (by omega)) ?_
  refine R.sat_if (fun hov => ?_) (fun hov => ?_)
  · rw [if_pos hov]
    exact R.sat_pure rfl
  rw [if_neg hov]
  refine R.sat_bind (iter_sat _
    (fun s => s.1 ≤ pc - 1 ∧ Impl.ipv4Parse.add (span number.get s.1 (pc - 1)) s.1 s.2 =
      Impl.ipv4Parse.add (span number.get 0 (pc - 1)) 0 (number.get (pc - 1)))
    (fun s => pc - s.1)
    (fun r => r = Impl.ipv4Parse.add (span number.get 0 (pc - 1)) 0 (number.get (pc - 1)))
    ?_ _ _ ⟨Nat.zero_le _, rfl⟩ (Nat.lt_succ_self _)) ?_
  · intro ⟨counter, acc⟩ ⟨j1, j2⟩
    simp only at j1 j2 ⊢
    refine R.sat_if (fun hlt => ?_) (fun hge => ?_)
    · have hcp : counter < pc - 1 := Nat.lt_sub_of_add_lt hlt
      have hc : counter < pc := Nat.lt_of_succ_lt hlt
      rw [span_cons _ _ _ hcp, v4Add_cons] at j2
      refine R.sat_bind_ok (Loc.rd_ok (Nat.lt_of_lt_of_le hc hn)) ?_
      exact R.sat_pure ⟨⟨hcp, j2⟩, Nat.sub_succ_lt_self _ _ hc⟩
    · refine R.sat_pure ?_
      rw [← j2, span_nil _ _ _ (by omega), v4Add_nil]
  intro r hr
  exact R.sat_pure (by rw [hr])
theorem ipv4Parse_agrees (a : Array Nat) (first last : Nat) (h : first ≤ last) (hl : last ≤ a.size) :
    ipv4Parse a first last = .ok (Impl.ipv4Parse (slice a first last)) := by
  apply R.eq_ok_of_sat
  rw [Ipv4.impl_ipv4Parse_eq]
  unfold ipv4Parse
  refine R.sat_if (fun hfl => ?_) (fun hne => ?_)
  · rw [slice_nil a first last (by omega)]
    exact R.sat_pure rfl
  have hsne : slice a first last ≠ [] := fun hh => by
    have := (slice_eq_nil_iff a first last hl).1 hh
    omega
  rw [if_neg hsne]
  refine R.sat_bind (ipv4Scan_spec a first last h hl) ?_
  intro scan hag
  cases scan with
  | none =>
    simp only [] at hag
    rw [hag]
    exact R.sat_pure rfl
  | some dp =>
    obtain ⟨dc, part⟩ := dp
    obtain ⟨⟨h3, h4, h5, h6, h7⟩, hag, hb⟩ := hag
    rw [hag]
    simp only
    -- the parts as the numbers loop addresses them: part `ind` is `[part[ind], part[ind + 1] - 1)`, the last one runs to `last`.
    -- The list model's parts are `span seg 0 (dc + 1)`, so dropping an empty last part is a smaller upper index.
    let seg : Nat → List Nat := fun ind => slice a (part.get ind) (if ind < dc then part.get (ind + 1) - 1 else last)
    have hP0 : partsOf a part dc = span seg 0 dc := by
      rw [span_zero]
      unfold partsOf
      apply List.map_congr_left
      intro k hk
      have hk' : k < dc := List.mem_range.1 hk
      simp only [seg, if_pos hk']
    have hP1 : partsOf a part dc ++ [slice a (part.get dc) last] = span seg 0 (dc + 1) := by
      rw [span_snoc, hP0]
      simp only [seg, if_neg (Nat.lt_irrefl dc)]
    refine R.sat_bind (P := fun b => b = decide (dc > 0 ∧ part.get dc = last)) ?_ ?_
    · refine R.sat_if (fun hd0 => ?_) (fun hd0 => ?_)
      · refine R.sat_bind_ok (Loc.rd_ok (by omega)) ?_
        exact R.sat_pure (by simp [hd0])
      · exact R.sat_pure (by simp [hd0])
    intro dropLast hdrop
    generalize hpc : (if dropLast = true then dc + 1 - 1 else dc + 1) = partCount
    have hpc1 : 1 ≤ partCount ∧ partCount ≤ dc + 1 := by
      rw [← hpc, hdrop]; split
      · rename_i hb'; simp at hb'; omega
      · omega
    have hparts : (if (partsOf a part dc ++ [slice a (part.get dc) last]).length > 1 ∧
          (partsOf a part dc ++ [slice a (part.get dc) last]).getLast? = some [] then
          (partsOf a part dc ++ [slice a (part.get dc) last]).dropLast
        else partsOf a part dc ++ [slice a (part.get dc) last]) = span seg 0 partCount := by
      have hlen : (partsOf a part dc).length = dc := by simp [partsOf]
      have hd := h5 dc (Nat.le_refl _)
      rw [← hpc, hdrop]
      by_cases hc : dc > 0 ∧ part.get dc = last
      · rw [if_pos (by simp [hlen, hc.1, slice_eq_nil_iff a _ _ hl]; omega)]
        simp [hc, hP0]
      · rw [if_neg (by simp [hlen, slice_eq_nil_iff a _ _ hl]; omega)]
        simp [hc, hP1]
    simp only [Ipv4.implOnParts]
    rw [hparts]
    have hslen : (span seg 0 partCount).length = partCount := span_length _ _ _
    simp only [hslen]
    refine R.sat_if (fun hpc4 => ?_) (fun hpc4 => ?_)
    · rw [if_pos hpc4]
      exact R.sat_pure rfl
    rw [if_neg hpc4]
    -- invariant of the numbers loop at `(ind, number)`: parsing all parts is parsing the parts from `ind` on and putting
    -- `number[0..ind)` in front of the result (`none` = a part that is not a number, for both)
    refine R.sat_bind (iter_sat _
      (fun s => s.1 ≤ partCount ∧ s.2.size = 4 ∧
        (span seg 0 partCount).mapM Impl.ipv4ParseNumber =
          ((span seg s.1 partCount).mapM Impl.ipv4ParseNumber).map (fun r => span s.2.get 0 s.1 ++ r))
      (fun s => partCount - s.1)
      (fun r => match r with
        | none => (span seg 0 partCount).mapM Impl.ipv4ParseNumber = none
        | some number => number.size = 4 ∧
            (span seg 0 partCount).mapM Impl.ipv4ParseNumber = some (span number.get 0 partCount))
      ?_ _ _ ?_ ?_) ?_
    · intro ⟨ind, number⟩ ⟨hI1, hI2, hI3⟩
      simp only at hI1 hI2 hI3 ⊢
      refine R.sat_if (fun hind => ?_) (fun hind => ?_)
      · have a1 := h5 ind (by omega)
        refine R.sat_bind (P := fun pe => pe = (if ind < dc then part.get (ind + 1) - 1 else last) ∧
          part.get ind ≤ pe ∧ pe ≤ last) ?_ ?_
        · refine R.sat_if (fun hid => ?_) (fun hid => ?_)
          · have a2 := h5 (ind + 1) (by omega)
            have a3 := h6 ind hid
            refine R.sat_bind_ok (Loc.rd_ok (by omega)) ?_
            exact ⟨_, mkptrSub_ok (by omega) (by omega), (if_pos hid).symm, by omega, by omega⟩
          · exact R.sat_pure ⟨(if_neg hid).symm, a1.2, Nat.le_refl _⟩
        intro pe ⟨hpe0, hpe1, hpe2⟩
        refine R.sat_bind_ok (Loc.rd_ok (by omega)) ?_
        refine R.sat_range ?_ a1.1 hpe1 hpe2
        refine R.sat_bind_ok
          (ipv4ParseNumber_agrees a _ _ hpe1 (by omega) (fun i hi1 hi2 => hb i (by omega) (by omega))) ?_
        rw [span_cons seg ind partCount hind, List.mapM_cons] at hI3
        have hseg : seg ind = slice a (part.get ind) pe := by rw [hpe0]
        rw [hseg] at hI3
        cases hnum : Impl.ipv4ParseNumber (slice a (part.get ind) pe) with
        | none =>
          rw [hnum] at hI3
          exact R.sat_pure hI3
        | some n =>
          rw [hnum] at hI3
          simp only []
          refine R.sat_bind_ok (Loc.wr_ok (by omega)) ?_
          refine R.sat_pure ⟨⟨hind, hI2, ?_⟩, Nat.sub_succ_lt_self _ _ hind⟩
          simp only []
          rw [hI3, span_snoc]
          have hcg : span (number.put ind n).get 0 ind = span number.get 0 ind := by
            apply span_congr
            intro t _ ht
            simp only [if_neg (by omega : ¬ t = ind)]
          rw [hcg]
          cases (span seg (ind + 1) partCount).mapM Impl.ipv4ParseNumber <;> simp
      · refine R.sat_pure ?_
        simp only []
        refine ⟨hI2, ?_⟩
        rw [hI3, span_nil seg ind partCount (by omega)]
        have : ind = partCount := by omega
        subst this
        simp
    · refine ⟨Nat.zero_le _, rfl, ?_⟩
      simp only []
      rw [span_nil (Loc.new 4).get 0 0 (Nat.le_refl _)]
      cases (span seg 0 partCount).mapM Impl.ipv4ParseNumber <;> simp
    · exact Nat.lt_succ_self _
    intro numbers hnum
    cases numbers with
    | none =>
      simp only [] at hnum
      rw [hnum]
      exact R.sat_pure rfl
    | some number =>
      obtain ⟨hn4, hnum⟩ := hnum
      rw [hnum]
      simp only []
      rw [ipv4Combine_agrees number partCount hpc1.1 (by omega)]
      exact R.sat_pure rfl

section
variable (a : Array Nat) (first last : Nat)

theorem ipv4Parse_sat (h : first ≤ last) (hl : last ≤ a.size) : (ipv4Parse a first last).sat (fun _ => True) :=
  R.sat_of_eq_ok (ipv4Parse_agrees a first last h hl)

/-! ### the finding: ipv4_parse before commit b0c7a48 formed `last + 1` -/

theorem mkptr_bad {first last p : Nat} (h : last < p) : mkptr first last p = .badptr := by
  unfold mkptr; rw [if_neg]; omega

theorem ipv4Scan_inv {a : Array Nat} {first last dc : Nat} {part : Loc} (h : first ≤ last) (hl : last ≤ a.size)
    (hscan : ipv4Scan a first last = .ok (some (dc, part))) : PartInv a first last dc part := by
  obtain ⟨r, hr, hinv⟩ := ipv4Scan_spec a first last h hl
  rw [hscan] at hr
  cases hr
  exact hinv.1

/-- whenever the old code gets past the scan and does not drop a trailing empty part, it forms the
    sentinel pointer `last + 1` -/
theorem ipv4ParseOldSentinel_badptr (hne : first ≠ last) (h : first ≤ last)
    (hl : last ≤ a.size) (dc : Nat) (part : Loc) (hscan : ipv4Scan a first last = .ok (some (dc, part)))
    (hnd : ¬ (dc > 0 ∧ part.get dc = last)) : ipv4ParseOldSentinel a first last = .badptr := by
  obtain ⟨h3, h4, _⟩ := ipv4Scan_inv h hl hscan
  unfold ipv4ParseOldSentinel
  rw [if_neg hne, hscan]
  simp only [R.ok_bind]
  by_cases hd : dc > 0
  · have hpd : ¬ part.get dc = last := fun he => hnd ⟨hd, he⟩
    simp only [if_pos hd, Loc.rd_ok (by omega : dc < part.size), R.ok_bind, R.pure_bind', decide_eq_true_eq,
      if_neg hpd, mkptr_bad (Nat.lt_succ_self last)]
    rfl
  · simp only [if_neg hd, R.pure_bind', Bool.false_eq_true, if_false, mkptr_bad (Nat.lt_succ_self last)]
    rfl

/-- … in particular for every input that does not end in a dot -/
theorem ipv4ParseOldSentinel_badptr_of_no_trailing_dot (hlt : first < last)
    (hl : last ≤ a.size) (hdot : a[last - 1]! ≠ 0x2E) (dc : Nat) (part : Loc)
    (hscan : ipv4Scan a first last = .ok (some (dc, part))) : ipv4ParseOldSentinel a first last = .badptr := by
  refine ipv4ParseOldSentinel_badptr a first last (by omega) (by omega) hl dc part hscan ?_
  intro ⟨hd, he⟩
  have := (ipv4Scan_inv (by omega) hl hscan).2.2.2.2 (dc - 1) (by omega)
  have e : dc - 1 + 1 = dc := by omega
  rw [e, he] at this
  exact hdot this

end

end Upa.Impl.B
