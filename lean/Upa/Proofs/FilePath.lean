import Upa.Proofs.Reparse
import Upa.Proofs.FilePathScan
import Upa.Proofs.Percent
import Upa.Proofs.EncHead
/-
  C17 — url_from_file_path / path_from_file_url (include/upa/url.h:3251-3401, their scanners 1058-1074 and
  3100-3182; model: Upa/Impl/FilePath.lean).
  The scanners are characterised at list level in Proofs/FilePathScan.lean.  Here: the text handed to the parser
  consists, whatever the input, of kept ASCII characters and `%XX` triplets (`enc_all`), on which the parser runs
  scheme block → file host block → path block without surprises (`parse_file_url`, `unc_forward`, from the blocks
  of Proofs/Reparse.lean); what parse_path makes of encoded segments is stated once for any no-encode set
  (`pathSegments_enc`) and instantiated for the POSIX set here and the raw set in Proofs/FilePathWin.lean.
  Only the way back (UTF-8 decoded again) needs scalar input.
  A client starts from `urlFromFilePath_posix_eq` (POSIX: acceptance condition and the URL record in one equation),
  `from_path_windows` (Windows: what an accepted path looks like and which URL it gives) and `reject_windows`
  (what is refused); the forward lemmas for the Windows format are `accept_drive` (Proofs/FilePathWin.lean) and
  `accept_unc` (Proofs/FilePathWinUnc.lean).  The fields of a `parsePath` result other than `path` come from
  `C08.parsePath_frame` (Proofs/ParserRules.lean); `hostText_parsePath` is the instance used here.
-/
namespace Upa.Proofs.C17
open Upa.Proofs.C14

/-- what a byte of the text handed to the parser can never be -/
def SafePosix (c : Nat) : Prop :=
  c ≠ 0x3F ∧ c ≠ 0x23 ∧ c ≠ 0x5C ∧ c ≠ 0x3A ∧ c ≠ 0x7C ∧ c ≠ 0x09 ∧ c ≠ 0x0A ∧ c ≠ 0x0D ∧ 0x20 < c ∧ c < 0x7F

def SafeRaw (c : Nat) : Prop :=
  c ≠ 0x3F ∧ c ≠ 0x23 ∧ c ≠ 0x09 ∧ c ≠ 0x0A ∧ c ≠ 0x0D ∧ 0x20 < c ∧ c < 0x7F

instance (c : Nat) : Decidable (SafePosix c) := by unfold SafePosix; exact inferInstance
instance (c : Nat) : Decidable (SafeRaw c) := by unfold SafeRaw; exact inferInstance

theorem posix_ok_tbl : ∀ c, c < 128 → Impl.posixPathNoEnc c = true → SafePosix c ∧ c ≠ 0x25 := by
  decide +kernel

theorem raw_ok_tbl : ∀ c, c < 128 → Impl.rawPathNoEnc c = true → SafeRaw c ∧ c ≠ 0x25 := by
  decide +kernel

/-- every output element of the encoder is `%`, an upper-case hex digit, or an ASCII element that the set keeps:
    whatever the input -/
theorem enc_all (f : Nat → Bool) {P : Nat → Prop} (tbl : ∀ c, c < 128 → f c = true → P c) (h25 : P 0x25)
    (hhex : ∀ c, isUpperHex c = true → P c) (s : List Nat) : ∀ c ∈ Impl.percentEncode f s, P c :=
  (percentEncode_pctWord f s).forall (fun c hc => tbl c (C02.keeps_iff.1 hc).1 (C02.keeps_iff.1 hc).2) h25 hhex

theorem posix_safe (s : List Nat) : ∀ c ∈ Impl.percentEncode Impl.posixPathNoEnc s, SafePosix c :=
  enc_all _ (fun c h1 h2 => (posix_ok_tbl c h1 h2).1) (by decide)
    (fun c hc => by rw [isUpperHex_iff] at hc; unfold SafePosix; omega) s

theorem raw_safe (s : List Nat) : ∀ c ∈ Impl.percentEncode Impl.rawPathNoEnc s, SafeRaw c :=
  enc_all _ (fun c h1 h2 => (raw_ok_tbl c h1 h2).1) (by decide)
    (fun c hc => by rw [isUpperHex_iff] at hc; unfold SafeRaw; omega) s

/-- what `parse_file_url` / `parse_file_unc` ask of the text behind `file://` -/
theorem posix_plain (s : List Nat) :
    ∀ c ∈ Impl.percentEncode Impl.posixPathNoEnc s, c ≠ 0x3F ∧ c ≠ 0x23 ∧ 0x20 < c ∧ c < 0x80 := fun c hc => by
  have := posix_safe s c hc; unfold SafePosix at this; omega

theorem raw_plain (s : List Nat) :
    ∀ c ∈ Impl.percentEncode Impl.rawPathNoEnc s, c ≠ 0x3F ∧ c ≠ 0x23 ∧ 0x20 < c ∧ c < 0x80 := fun c hc => by
  have := raw_safe s c hc; unfold SafeRaw at this; omega

/-- `%` occurs in the output only as the start of an encoder-made triplet -/
theorem enc_word (f : Nat → Bool) (tbl : ∀ c, c < 128 → f c = true → c ≠ 0x25) (s : List Nat) :
    PctWord (fun c => decide (c < 0x80) && f c && (c != 0x25)) (Impl.percentEncode f s) := by
  refine PctWord.mono ?_ (percentEncode_pctWord f s)
  intro c hc
  simp only [C02.keeps, Bool.and_eq_true, decide_eq_true_eq] at hc
  simp [hc.1, hc.2, tbl c (by omega) hc.2]

theorem posix_word (s : List Nat) :
    PctWord (fun c => decide (c < 0x80) && Impl.posixPathNoEnc c && (c != 0x25))
      (Impl.percentEncode Impl.posixPathNoEnc s) :=
  enc_word _ (fun c h1 h2 => (posix_ok_tbl c h1 h2).2) s

theorem raw_word (s : List Nat) :
    PctWord (fun c => decide (c < 0x80) && Impl.rawPathNoEnc c && (c != 0x25))
      (Impl.percentEncode Impl.rawPathNoEnc s) :=
  enc_word _ (fun c h1 h2 => (raw_ok_tbl c h1 h2).2) s

theorem prep_id (l : List Nat) (h : ∀ c ∈ l, 0x20 < c ∧ c < 0x80) :
    Impl.prep .u8 (Impl.doTrim l) = l := by
  cases l with
  | nil => rfl
  | cons c r =>
    exact C02.prep_text .u8 c r (h c List.mem_cons_self).1 (fun x hx => ⟨Nat.le_of_lt (h x hx).1, (h x hx).2⟩)
      (C02.EndsOk.of_all (by simp) (fun x hx => (h x hx).1))

theorem sFilePrefix_eq : Impl.sFilePrefix = [0x66, 0x69, 0x6C, 0x65, 0x3A, 0x2F, 0x2F] := by decide

/-- the parser on `file://` + printable ASCII without spaces: the preprocessing changes nothing and the scheme
    block hands over to the file host block -/
theorem parse_file_text (idna : Idna) (t : List Nat) (ht : ∀ c ∈ t, 0x20 < c ∧ c < 0x80) :
    Impl.parse idna .u8 (Impl.sFilePrefix ++ t) none =
      match Impl.fileHostState idna none C08.fileBase t with
      | ⟨.ok, u⟩ => some u
      | _ => none := by
  unfold Impl.parse
  rw [prep_id, sFilePrefix_eq]
  · exact congrArg (fun r : Res => match r with | ⟨.ok, u⟩ => some u | _ => none) (C02.urlParse_file idna none t)
  · intro c hc
    rw [sFilePrefix_eq] at hc
    simp only [List.cons_append, List.nil_append, List.mem_cons] at hc
    rcases hc with rfl | rfl | rfl | rfl | rfl | rfl | rfl | hc
    all_goals first | omega | exact ht c hc

theorem pathStart_slash (U : Url) (hsp : U.isSpecial = true) (sl : Nat) (hsl : Impl.isSlash sl = true)
    (r : List Nat) : Impl.pathStartState none U (sl :: r) = Impl.pathState none U r := by
  simp only [Impl.pathStartState, hsp, if_true, hsl]

theorem pathState_plain (u : Url) (r : List Nat) (hr : ∀ c ∈ r, c ≠ 0x3F ∧ c ≠ 0x23) :
    Impl.pathState none u r = ⟨.ok, Impl.parsePath u r⟩ := by
  have := C02.pathState_scan u r [] (fun c hc => by simp [Impl.isQorH, (hr c hc).1, (hr c hc).2]) trivial
  rwa [List.append_nil] at this

/-- `file:///` + a `?`/`#`-free rest: empty buffer in the file host block, path start block, path block, EOF -/
theorem parse_file_url (idna : Idna) (r : List Nat)
    (hr : ∀ c ∈ r, c ≠ 0x3F ∧ c ≠ 0x23 ∧ 0x20 < c ∧ c < 0x80) :
    Impl.parse idna .u8 (Impl.sFilePrefix ++ 0x2F :: r) none = some (Impl.parsePath C08.fileBase r) := by
  rw [parse_file_text idna _ (fun c hc => by
      rcases List.mem_cons.1 hc with rfl | hc
      · omega
      · exact (hr c hc).2.2),
    show 0x2F :: r = [] ++ 0x2F :: r from rfl,
    C02.fileHostState_scan idna _ rfl [] _ (fun _ h => nomatch h) (by simp [C02.StopsAt]; decide)
      rfl,
    if_pos rfl, pathStart_slash _ rfl _ (by decide),
    pathState_plain _ _ (fun c hc => ⟨(hr c hc).1, (hr c hc).2.1⟩)]
  rfl

/-- the parser on the text url_from_file_path (POSIX) hands it for the path `/` ++ `r` -/
theorem parse_file_posix (idna : Idna) (r : List Nat) :
    Impl.parse idna .u8 (Impl.sFilePrefix ++ Impl.percentEncode Impl.posixPathNoEnc (0x2F :: r)) none =
      some (Impl.parsePath C08.fileBase (Impl.percentEncode Impl.posixPathNoEnc r)) := by
  rw [percentEncode_ascii_noenc _ _ _ (by omega) (by decide), parse_file_url idna _ (posix_plain r)]

theorem hostText_parsePath (x : List Nat) : (Impl.parsePath C08.fileBase x).hostText = [] := by
  obtain ⟨p, hp⟩ := C08.parsePath_frame C08.fileBase x
  rw [hp]; rfl

/-- url_from_file_path, POSIX format, down to the call of the parser: acceptance condition and the text handed to
    `parse`.  `urlFromFilePath_posix_eq` below goes on to the URL record. -/
theorem urlFromFilePath_posix (idna : Idna) (s : List Nat) :
    Impl.urlFromFilePath idna s .posix =
      if s.head? = some 0x2F ∧ dd ∉ splitOnP (· == 0x2F) s ∧ 0 ∉ s then
        Impl.parse idna .u8 (Impl.sFilePrefix ++ Impl.percentEncode Impl.posixPathNoEnc s) none
      else none := by
  cases s with
  | nil => simp [Impl.urlFromFilePath]
  | cons c0 r =>
    simp only [Impl.urlFromFilePath, hasDotDot_eq (· == 0x2F) (by decide), decide_eq_true_eq,
      List.head?_cons, Option.some.injEq]
    by_cases hc : c0 = 0x2F
    · subst hc
      by_cases h1 : dd ∈ splitOnP (· == 0x2F) (47 :: r)
      · simp [h1]
      · by_cases h0 : 0 ∈ 47 :: r
        · simp [h1, h0, (any_zero_iff _).2 h0]
        · rw [if_neg (by simp), if_neg h1, any_zero_false h0, if_neg (by simp), if_pos ⟨rfl, h1, h0⟩,
            parse_file_posix, rejectDotHost_of_ne (by rw [hostText_parsePath]; simp)]
    · simp [hc]

/-- an output of at most two elements consists of kept elements only (any other piece has three) -/
theorem percentEncode_short (f : Nat → Bool) : ∀ s : List Nat,
    (Impl.percentEncode f s).length ≤ 2 → Impl.percentEncode f s = s := by
  intro s
  induction s with
  | nil => intro _; rfl
  | cons c cs ih =>
    intro h
    rcases C02b.enc_cons_length f c cs with ⟨-, -, he⟩ | hl
    · rw [he] at h ⊢
      rw [ih (by simp only [List.length_cons] at h; omega)]
    · omega

/-- so encoding makes no drive letter: the parser's `len == 2 && is_windows_drive` stays false on the encoded text -/
theorem isDrive2_enc {f : Nat → Bool} {s : List Nat} (h : C08.isDrive2 s = false) :
    C08.isDrive2 (Impl.percentEncode f s) = false := by
  rw [C08.isDrive2_false_iff] at h ⊢
  exact fun a b e => h a b (by rw [← percentEncode_short f s (by rw [e]; exact Nat.le_refl 2), e])

/-- the server-name test of is_unc_path has the parser's drive-letter test in it -/
theorem uncBad_drive {comp : List Nat} (h : uncBad 1 comp = false) : C08.isDrive2 comp = false :=
  (C08.isDrive2_false_iff comp).2 (uncBad_one h).2.2

def uncUrl (h : Host) : Url :=
  { scheme := Impl.sFile, host := some (if h.text == Impl.sLocalhost then Impl.emptyHost else h) }

theorem parse_file_unc (idna : Idna) (buf : List Nat) (sl : Nat) (r : List Nat) (hne : buf ≠ [])
    (hb : ∀ c ∈ buf, Impl.isSpecialAuthorityEnd c = false ∧ 0x20 < c ∧ c < 0x80)
    (hdrive : C08.isDrive2 buf = false)
    (hsl : Impl.isWindowsSlash sl = true)
    (hr : ∀ c ∈ r, c ≠ 0x3F ∧ c ≠ 0x23 ∧ 0x20 < c ∧ c < 0x80) :
    Impl.parse idna .u8 (Impl.sFilePrefix ++ (buf ++ sl :: r)) none =
      (Impl.parseHost idna buf false).map (fun h => Impl.parsePath (uncUrl h) r) := by
  have hsl' : sl = 0x5C ∨ sl = 0x2F := by
    simpa [Impl.isWindowsSlash] using hsl
  rw [parse_file_text idna _ (fun c hc => by
      rcases List.mem_append.1 hc with hc | hc
      · exact (hb c hc).2
      · rcases List.mem_cons.1 hc with rfl | hc
        · omega
        · exact (hr c hc).2.2),
    C02.fileHostState_scan idna _ rfl buf _ (fun c hc => by simp [(hb c hc).1])
      (by rcases hsl' with rfl | rfl <;> simp [C02.StopsAt] <;> decide)
      hdrive, if_neg hne]
  cases Impl.parseHost idna buf false with
  | none => rfl
  | some h =>
    simp only [Option.map_some]
    rw [pathStart_slash _ rfl sl (by rcases hsl' with rfl | rfl <;> decide),
      pathState_plain _ _ (fun c hc => ⟨(hr c hc).1, (hr c hc).2.1⟩)]
    rfl

abbrev encR (t : List Nat) : List Nat := Impl.percentEncode Impl.rawPathNoEnc t

theorem pct_not_authEnd : ∀ c, c < 128 → C08.isPctChar c = true → Impl.isSpecialAuthorityEnd c = false := by
  decide +kernel

theorem unc_forward (idna : Idna) (host : List Nat) (sl : Nat) (rest : List Nat)
    (hne : host ≠ []) (hc : ∀ c ∈ host, Impl.isWindowsSlash c = false)
    (hdrv : C08.isDrive2 host = false)
    (hsl : Impl.isWindowsSlash sl = true) :
    Impl.parse idna .u8 (Impl.sFilePrefix ++ encR (host ++ sl :: rest)) none =
      (Impl.parseHost idna (encR host) false).map (fun h => Impl.parsePath (uncUrl h) (encR rest)) := by
  have hsl' : sl = 0x5C ∨ sl = 0x2F := by simpa [Impl.isWindowsSlash] using hsl
  have henc : encR (host ++ sl :: rest) = encR host ++ sl :: encR rest := by
    unfold encR
    rw [percentEncode_append]
    congr 1
    rcases hsl' with e | e <;> subst e <;>
      exact percentEncode_ascii_noenc _ _ _ (by omega) (by decide)
  rw [henc, parse_file_unc idna _ sl _ (fun e => hne (C02b.enc_eq_nil e))
    (fun c hcm => ⟨?_, (raw_plain host c hcm).2.2⟩) (isDrive2_enc hdrv) hsl
    (raw_plain rest)]
  -- an element of the encoded server name is `%`, a hex digit, or an element of the name: no slash, `?`, `#`
  rcases C08.percentEncode_chars _ host c hcm with h | ⟨hm, -, -⟩
  · exact pct_not_authEnd c (C02b.isPctChar_lt h) h
  · have := hc c hm
    have := raw_plain host c hcm
    simp only [Impl.isWindowsSlash, Bool.or_eq_false_iff, beq_eq_false_iff_ne] at *
    simp only [Impl.isSpecialAuthorityEnd, Bool.or_eq_false_iff, beq_eq_false_iff_ne]
    omega

theorem uncUrl_plain (hst : Host) (hloc : hst.text ≠ Impl.sLocalhost) :
    uncUrl hst = { scheme := Impl.sFile, host := some hst } := by
  unfold uncUrl
  have : (hst.text == Impl.sLocalhost) = false := by simpa using hloc
  rw [this]; rfl

theorem uncUrl_hostText (hst : Host) (hloc : hst.text ≠ Impl.sLocalhost) (x : List Nat) :
    (Impl.parsePath (uncUrl hst) x).hostText = hst.text := by
  obtain ⟨p, hp⟩ := C08.parsePath_frame (uncUrl hst) x
  rw [hp, uncUrl_plain hst hloc]
  rfl

theorem from_path_unc (idna : Idna) (s : List Nat) (u : Url)
    (h : Impl.urlFromFilePath idna s .windows = some u) (hcl : (winClassify s).2 = true) :
    ∃ host sl share r hst, UncPtr (winClassify s).1 host sl share r ∧
      Impl.isUncPath (winClassify s).1 = some r ∧
      dd ∉ splitOnP Impl.isWindowsSlash r ∧
      Impl.parseHost idna (encR host) false = some hst ∧
      u = Impl.parsePath (uncUrl hst) (encR (share ++ r)) ∧ hst.text ≠ [0x2E] := by
  obtain ⟨chk, hd, hdd, -, h, hnd⟩ := windows_accepted idna s u h
  rw [hcl] at hd h
  simp only [if_true, List.append_nil] at hd h
  obtain ⟨host, sl, share, hP⟩ := isUncPath_peel _ _ hd
  rw [hP.eq, unc_forward idna host sl (share ++ chk) hP.hostNe (fun c hcm => (hP.hostClean c hcm).1) (uncBad_drive hP.hostOk)
    hP.slash] at h
  cases hph : Impl.parseHost idna (encR host) false with
  | none => rw [hph] at h; cases h
  | some hst =>
    rw [hph] at h
    simp only [Option.map_some, Option.some.injEq] at h
    exact ⟨host, sl, share, chk, hst, hP, hd, hdd, hph, h.symm, fun e => hnd (by
      rw [← h, uncUrl_hostText hst (by rw [e]; decide)]; exact e)⟩

theorem from_path_windows (idna : Idna) (s : List Nat) (u : Url)
    (h : Impl.urlFromFilePath idna s .windows = some u) :
    0 ∉ s ∧
    (((winClassify s).2 = false ∧
        (∃ a b c chk, (winClassify s).1 = a :: b :: c :: chk ∧ Impl.isWindowsDrive a b = true ∧
          Impl.isWindowsSlash c = true ∧ dd ∉ splitOnP Impl.isWindowsSlash chk) ∧
        u = Impl.parsePath C08.fileBase (Impl.percentEncode Impl.rawPathNoEnc (winClassify s).1)) ∨
     ((winClassify s).2 = true ∧
        ∃ host sl share r hst, (winClassify s).1 = host ++ sl :: (share ++ r) ∧
          Impl.isUncPath (winClassify s).1 = some r ∧ dd ∉ splitOnP Impl.isWindowsSlash r ∧
          Impl.parseHost idna (Impl.percentEncode Impl.rawPathNoEnc host) false = some hst ∧
          u = Impl.parsePath (uncUrl hst) (Impl.percentEncode Impl.rawPathNoEnc (share ++ r)))) := by
  obtain ⟨pre, hpre, hpre0⟩ := winClassify_suffix s
  cases hcl : (winClassify s).2 with
  | false =>
    obtain ⟨chk, hd, hdd, h0, h, -⟩ := windows_accepted idna s u h
    rw [hcl] at hd h
    simp only [Bool.false_eq_true, if_false] at hd h
    obtain ⟨a, b, c, hp, hdrv, hsl⟩ := driveAbs_shape _ _ hd
    rw [List.append_assoc, List.singleton_append, parse_file_url idna _ (raw_plain _)] at h
    simp only [Option.some.injEq] at h
    refine ⟨?_, Or.inl ⟨rfl, ⟨a, b, c, chk, hp, hdrv, hsl, hdd⟩, h.symm⟩⟩
    rw [hpre, hp]
    simp only [List.mem_append, List.mem_cons, not_or]
    obtain ⟨ha, hb⟩ := (isWindowsDrive_iff a b).1 hdrv
    have ha := (alpha_facts a ha).2.2.2.1
    have hc := winSlash_nz c hsl
    exact ⟨hpre0, by omega, by omega, by omega, h0⟩
  | true =>
    obtain ⟨host, sl, share, r, hst, hP, hunc, hdd, hph, hu, -⟩ := from_path_unc idna s u h hcl
    refine ⟨?_, Or.inr ⟨rfl, host, sl, share, r, hst, hP.eq, hunc, hdd, hph, hu⟩⟩
    rw [hpre, hP.eq]
    simp only [List.mem_append, List.mem_cons, not_or]
    exact ⟨hpre0, fun hm => (hP.hostClean 0 hm).2 rfl, fun e => winSlash_nz sl hP.slash e.symm,
      fun hm => (hP.shareClean 0 hm).2 rfl, hP.noNul⟩

/-- the rejections of url_from_file_path (Windows format), the converse half of `from_path_windows` -/
theorem reject_windows :
    ∀ (idna : Idna) (s : List Nat),
      ((¬ (∃ a b r, s = a :: b :: r ∧ Impl.isWindowsSlash a = true ∧ Impl.isWindowsSlash b = true) ∧
          Impl.isWindowsDriveAbsolutePath s = none) ∨
       (∃ a b c chk, s = a :: b :: c :: chk ∧ Impl.isWindowsDrive a b = true ∧
          [0x2E, 0x2E] ∈ splitOnP Impl.isWindowsSlash chk) ∨
       ((∀ c ∈ s, Spec.isScalar c = true) ∧ 0 ∈ s)) →
      Impl.urlFromFilePath idna s .windows = none := by
  intro idna s h
  rcases h with ⟨h1, h2⟩ | ⟨a, b, c, chk, hs, hd, hdd⟩ | ⟨-, h0⟩
  · have hcl : winClassify s = (s, false) := winClassify_plain s fun a b r e => by
      cases ha : Impl.isWindowsSlash a with
      | false => rfl
      | true =>
        cases hb : Impl.isWindowsSlash b with
        | false => rfl
        | true => exact absurd ⟨a, b, r, e, ha, hb⟩ h1
    rw [urlFromFilePath_windows, hcl]
    simp only [Bool.false_eq_true, if_false, h2]
    split <;> rfl
  · -- the second element of a drive letter is `:` or `|`, no slash
    have hcl : winClassify s = (s, false) := winClassify_plain s fun a' b' r' e => by
      obtain ⟨-, rfl, -⟩ : a = a' ∧ b = b' ∧ c :: chk = r' := by simpa using hs.symm.trans e
      rw [(driveSep_facts b ((isWindowsDrive_iff a b).1 hd).2).2.2, Bool.and_false]
    have hdr : Impl.isWindowsDriveAbsolutePath (a :: b :: c :: chk) =
        if Impl.isWindowsSlash c = true then some chk else none := by
      simp [Impl.isWindowsDriveAbsolutePath, hd]
    rw [urlFromFilePath_windows, hcl, hs, if_neg (by simp)]
    simp only [Bool.false_eq_true, if_false, hdr]
    cases Impl.isWindowsSlash c with
    | false => rfl
    | true => simp only [if_true]; rw [if_pos (Or.inl (show dd ∈ _ from hdd))]
  · cases hr : Impl.urlFromFilePath idna s .windows with
    | none => rfl
    | some u => exact absurd h0 (from_path_windows idna s u hr).1

theorem piece_no_sep (f sl : Nat → Bool) (hpct : ∀ x, C08.isPctChar x = true → sl x = false) (c : Nat)
    (hne : sl c = false) : ∀ x ∈ pctPiece f c, sl x = false := by
  intro x hx
  rw [pctPiece_eq] at hx
  rcases C08.percentEncode_chars f [c] x hx with h | ⟨hm, -, -⟩
  · exact hpct x h
  · simp only [List.mem_singleton] at hm; subst hm; exact hne

theorem splitOnP_enc (f sl : Nat → Bool) (hkeep : ∀ c, sl c = true → c < 0x80 ∧ f c = true)
    (hpct : ∀ x, C08.isPctChar x = true → sl x = false) (s : List Nat) :
    splitOnP sl (Impl.percentEncode f s) = (splitOnP sl s).map (Impl.percentEncode f) := by
  induction s with
  | nil => rfl
  | cons c cs ih =>
    cases hc : sl c with
    | true =>
      obtain ⟨h1, h2⟩ := hkeep c hc
      rw [percentEncode_ascii_noenc f _ _ h1 h2, splitOnP_cons_sep _ _ _ hc,
        splitOnP_cons_sep _ _ _ hc, ih]
      rfl
    | false =>
      rw [percentEncode_cons_piece, splitOnP_append_nosep _ _ _ (piece_no_sep f sl hpct c hc), ih,
        splitOnP_cons_other _ c cs hc]
      cases hsp : splitOnP sl cs with
      | nil => exact absurd hsp (splitOnP_ne_nil _ cs)
      | cons h t =>
        simp only [List.map_cons, List.headD_cons, List.tail_cons, List.cons.injEq, and_true]
        rw [percentEncode_cons_piece]

theorem pct_not_slash : ∀ x, x < 128 → C08.isPctChar x = true → Impl.isSlash x = false := by decide +kernel

theorem flatMap_enc (f : Nat → Bool) (sep : Nat) (hsep : sep < 0x80) (hk : f sep = true)
    (segs : List (List Nat)) :
    (segs.map (Impl.percentEncode f)).flatMap (fun seg => sep :: seg) =
      Impl.percentEncode f (segs.flatMap (fun seg => sep :: seg)) := by
  induction segs with
  | nil => rfl
  | cons t rest ih =>
    simp only [List.map_cons, List.flatMap_cons, ih]
    show _ = Impl.percentEncode f ((sep :: t) ++ _)
    rw [percentEncode_append, percentEncode_ascii_noenc _ _ _ hsep hk]

theorem pct_keeps_path : ∀ c, c < 128 → C08.isPctChar c = true → Impl.pathNoEnc c = true := by decide +kernel

/-- the path state's own encoder leaves the output of an encoder with a smaller no-encode set alone -/
theorem reencode_sub (f : Nat → Bool) (hsub : ∀ c, c < 128 → f c = true → Impl.pathNoEnc c = true)
    (t : List Nat) :
    Impl.percentEncode Impl.pathNoEnc (Impl.percentEncode f t) = Impl.percentEncode f t := by
  apply percentEncode_keeps
  intro c hc
  rcases C08.percentEncode_chars f t c hc with h | ⟨-, h1, h2⟩
  · have := C02b.isPctChar_lt h
    simp [C02.keeps, this, pct_keeps_path c this h]
  · simp [C02.keeps, h1, hsub c h1 h2]

/-- one iteration of the parse_path loop on an encoded segment that is not taken for a drive letter
    (the path is not empty, or the text is no drive letter): "." is dropped (an empty segment is appended
    when it is the last one), anything else is appended as it is -/
theorem pathSegment_enc (f : Nat → Bool) (hdot : f 0x2E = true) (hpct : f 0x25 = false)
    (hsub : ∀ c, c < 128 → f c = true → Impl.pathNoEnc c = true)
    (u : Url) (t : List Nat) (isLast : Bool) (hdd : t ≠ dd)
    (hnd : u.path ≠ [] ∨ C08.isDrive2 (Impl.percentEncode f t) = false) :
    Impl.pathSegment u (Impl.percentEncode f t) isLast =
      { u with path := u.path ++
          (if t = [0x2E] then (if isLast then [[]] else []) else [Impl.percentEncode f t]) } := by
  rw [C08.pathSegment_eq, if_neg fun h => hdd ((C02b.enc_doubleDot _ hdot hpct t).1 h)]
  by_cases h1 : t = [0x2E]
  · rw [if_pos ((C02b.enc_singleDot _ hdot hpct t).2 h1), if_pos h1]
    cases isLast <;> simp
  · rw [if_neg fun h => h1 ((C02b.enc_singleDot _ hdot hpct t).1 h), if_neg h1, if_neg, reencode_sub f hsub t]
    -- the drive-letter quirk does not fire: the path is not empty, or the text is no drive letter
    rcases hnd with hp | hd
    · cases hq : u.path with
      | nil => exact absurd hq hp
      | cons _ _ => simp
    · simp [hd]

/-- what the path state keeps of a list of segments: "." is dropped, a final "." leaves an empty segment -/
def winSegs : List (List Nat) → List (List Nat)
  | [] => []
  | [t] => if t = [0x2E] then [[]] else [t]
  | t :: rest => (if t = [0x2E] then [] else [t]) ++ winSegs rest

theorem winSegs_cons2 (t t2 : List Nat) (r2 : List (List Nat)) :
    winSegs (t :: t2 :: r2) = (if t = [0x2E] then [] else [t]) ++ winSegs (t2 :: r2) := by
  rw [winSegs]; simp

theorem winSegs_ne_nil (segs : List (List Nat)) (h : segs ≠ []) : winSegs segs ≠ [] := by
  induction segs with
  | nil => exact absurd rfl h
  | cons t rest ih =>
    cases rest with
    | nil => simp only [winSegs]; split <;> simp
    | cons t2 r2 =>
      rw [winSegs_cons2]
      have := ih (by simp)
      simp [this]

theorem winSegs_mem (segs : List (List Nat)) : ∀ t ∈ winSegs segs, t = [] ∨ (t ∈ segs ∧ t ≠ [0x2E]) := by
  induction segs with
  | nil => intro t ht; simp [winSegs] at ht
  | cons a rest ih =>
    intro t ht
    cases rest with
    | nil =>
      simp only [winSegs] at ht
      split at ht
      · left; simpa using ht
      · rename_i hne
        have : t = a := by simpa using ht
        subst this
        right; exact ⟨List.mem_cons_self, hne⟩
    | cons t2 r2 =>
      rw [winSegs_cons2] at ht
      rcases List.mem_append.1 ht with ht | ht
      · split at ht
        · simp at ht
        · rename_i hne
          have : t = a := by simpa using ht
          subst this
          right; exact ⟨List.mem_cons_self, hne⟩
      · rcases ih t ht with h | ⟨h1, h2⟩
        · left; exact h
        · right; exact ⟨List.mem_cons_of_mem _ h1, h2⟩

theorem winSegs_nodot (segs : List (List Nat)) (h : [0x2E] ∉ segs) : winSegs segs = segs := by
  induction segs with
  | nil => rfl
  | cons t rest ih =>
    have ht : t ≠ [0x2E] := fun e => h (e ▸ List.mem_cons_self)
    cases rest with
    | nil => simp [winSegs, ht]
    | cons t2 r2 =>
      rw [winSegs_cons2, ih (fun hm => h (List.mem_cons_of_mem _ hm))]
      simp [ht]

theorem winSegs_idem (segs : List (List Nat)) : winSegs (winSegs segs) = winSegs segs := by
  apply winSegs_nodot
  intro hm
  rcases winSegs_mem segs _ hm with h | ⟨-, h⟩
  · simp at h
  · exact h rfl

theorem dd_not_winSegs (L : List (List Nat)) (h : dd ∉ L) : dd ∉ winSegs L := by
  intro hm
  rcases winSegs_mem L _ hm with e | ⟨h', -⟩
  · simp [dd] at e
  · exact h h'

theorem pathSegments_enc (f : Nat → Bool) (hdot : f 0x2E = true) (hpct : f 0x25 = false)
    (hsub : ∀ c, c < 128 → f c = true → Impl.pathNoEnc c = true) (segs : List (List Nat)) : ∀ (u : Url),
    dd ∉ segs →
    (u.path ≠ [] ∨ ∀ t ∈ segs, C08.isDrive2 (Impl.percentEncode f t) = false) →
    Impl.pathSegments u (segs.map (Impl.percentEncode f)) =
      { u with path := u.path ++ (winSegs segs).map (Impl.percentEncode f) } := by
  induction segs with
  | nil => intro u _ _; simp [Impl.pathSegments, winSegs]
  | cons t rest ih =>
    intro u h hnd
    have hdd : t ≠ dd := fun e => h (e ▸ List.mem_cons_self)
    have hnd1 : u.path ≠ [] ∨ C08.isDrive2 (Impl.percentEncode f t) = false :=
      hnd.imp id (fun hr => hr t List.mem_cons_self)
    cases rest with
    | nil =>
      simp only [List.map_cons, List.map_nil, Impl.pathSegments, winSegs]
      rw [pathSegment_enc f hdot hpct hsub u t true hdd hnd1]
      by_cases h1 : t = [0x2E] <;> simp [h1, Impl.percentEncode]
    | cons t2 r2 =>
      have hstep := pathSegment_enc f hdot hpct hsub u t false hdd hnd1
      rw [List.map_cons, List.map_cons, C08.pathSegments_more _ _ _ (List.cons_ne_nil _ _), ← List.map_cons,
        ih _ (fun hx => h (List.mem_cons_of_mem _ hx))
          (hnd.imp (fun hp => by rw [hstep]; simp [hp]) (fun hr x hx => hr x (List.mem_cons_of_mem _ hx))),
        hstep, winSegs_cons2]
      by_cases h1 : t = [0x2E] <;> simp [h1]

abbrev encP (t : List Nat) : List Nat := Impl.percentEncode Impl.posixPathNoEnc t

theorem posix_sub_path : ∀ c, c < 128 → Impl.posixPathNoEnc c = true → Impl.pathNoEnc c = true := by
  decide +kernel

def posixPathOf : List (List Nat) → List (List Nat)
  | [] => []
  | [t] => if t = [0x2E] then [[]] else [encP t]
  | t :: rest => (if t = [0x2E] then [] else [encP t]) ++ posixPathOf rest

theorem posixPathOf_eq (segs : List (List Nat)) : posixPathOf segs = (winSegs segs).map encP := by
  induction segs with
  | nil => rfl
  | cons t rest ih =>
    cases rest with
    | nil => simp only [posixPathOf, winSegs]; split <;> rfl
    | cons t2 r2 =>
      rw [posixPathOf, winSegs_cons2, List.map_append, ← ih]
      · split <;> rfl
      · simp

theorem parsePath_posix (s' : List Nat) (hdd : dd ∉ splitOnP (· == 0x2F) s') :
    Impl.parsePath C08.fileBase (encP s') =
      { C08.fileBase with path := posixPathOf (splitOnP (· == 0x2F) s') } := by
  rw [C08.parsePath_eq, show C08.fileBase.isSpecial = true from rfl, C08.pathSep_true]
  -- `\` is encoded by the POSIX set, so the parser's separators in the text are the `/` of the path
  rw [splitOnP_congr Impl.isSlash (· == 0x2F) (encP s') (fun c hc => by
      have := posix_safe s' c hc
      unfold SafePosix at this
      have : (c == 0x5C) = false := by simp only [beq_eq_false_iff_ne]; omega
      simp only [Impl.isSlash, this, Bool.or_false]),
    splitOnP_enc Impl.posixPathNoEnc (· == 0x2F)
      (fun c hc => by obtain rfl : c = 0x2F := by simpa using hc
                      exact ⟨by omega, by decide⟩)
      (fun x hx => by have := pct_not_slash x (C02b.isPctChar_lt hx) hx
                      simp only [Impl.isSlash, Bool.or_eq_false_iff] at this; exact this.1) s',
    pathSegments_enc _ (by decide) (by decide) posix_sub_path _ C08.fileBase hdd
      (Or.inr fun t _ => (C08.isDrive2_false_iff _).2 fun a b he => by
        have hb := posix_safe t b (by rw [he]; simp)
        unfold SafePosix at hb
        simp only [Impl.isWindowsDrive, Bool.and_eq_false_iff, Bool.or_eq_false_iff, beq_eq_false_iff_ne]
        right; omega),
    posixPathOf_eq]
  rfl

/-- UTF-8 encoding keeps ASCII elements where they are and invents none (`C10b.AsciiHom`) -/
theorem mem_utf8Encode (s : List Nat) : ∀ x ∈ Spec.utf8Encode s, (x ∈ s ∧ x < 0x80) ∨ 0x80 ≤ x := fun x hx => by
  by_cases h : x < 0x80
  · exact .inl ⟨(C10b.encode_asciiHom .u8).mem s x hx h, h⟩
  · exact .inr (by omega)

theorem utf8Encode_no_nul (s : List Nat) (h0 : 0 ∉ s) : 0 ∉ Spec.utf8Encode s := fun hm => by
  rcases mem_utf8Encode s 0 hm with h | h
  · exact h0 h.1
  · omega

/-- url_from_file_path, POSIX format, in closed form: acceptance condition and the URL record (every field by `rfl`);
    `urlFromFilePath_posix` above stops at the call of the parser -/
theorem urlFromFilePath_posix_eq (idna : Idna) (s : List Nat) :
    Impl.urlFromFilePath idna s .posix =
      if s.head? = some 0x2F ∧ dd ∉ splitOnP (· == 0x2F) s ∧ 0 ∉ s then
        some { C08.fileBase with path := posixPathOf (splitOnP (· == 0x2F) (s.drop 1)) }
      else none := by
  rw [urlFromFilePath_posix]
  by_cases hc : s.head? = some 0x2F ∧ dd ∉ splitOnP (· == 0x2F) s ∧ 0 ∉ s
  · rw [if_pos hc, if_pos hc]
    obtain ⟨hh, hdd, -⟩ := hc
    cases s with
    | nil => cases hh
    | cons c0 r =>
      obtain rfl : c0 = 0x2F := by simpa using hh
      rw [splitOnP_cons_sep _ _ _ (by decide)] at hdd
      rw [parse_file_posix, parsePath_posix r (fun hm => hdd (List.mem_cons_of_mem _ hm))]
      rfl
  · rw [if_neg hc, if_neg hc]

theorem roundtrip_posix (idna : Idna) (s : List Nat) (u : Url)
    (hs : ∀ c ∈ s, Spec.isScalar c = true)
    (h : Impl.urlFromFilePath idna s .posix = some u)
    (hnd : [0x2E] ∉ splitOnP (· == 0x2F) s) :
    u.path = (splitOnP (· == 0x2F) (s.drop 1)).map encP ∧
    Impl.pathText u = encP s ∧
    Impl.pathFromFileUrl u .posix = some (Spec.utf8Encode s) := by
  rw [urlFromFilePath_posix_eq] at h
  split at h
  case isFalse => cases h
  case isTrue hc =>
  obtain ⟨hh, -, h0⟩ := hc
  cases s with
  | nil => cases hh
  | cons c0 r =>
  obtain rfl : c0 = 0x2F := by simpa using hh
  have hu : u = { C08.fileBase with path := (splitOnP (· == 0x2F) r).map encP } := by
    rw [splitOnP_cons_sep _ _ _ (by decide)] at hnd
    rw [← Option.some.inj h, List.drop_one, List.tail_cons, posixPathOf_eq,
      winSegs_nodot _ (fun hm => hnd (List.mem_cons_of_mem _ hm))]
  have htext : Impl.pathText u = encP (0x2F :: r) := by
    rw [hu]
    show ((splitOnP (· == 0x2F) r).map encP).flatMap (fun seg => 0x2F :: seg) = _
    rw [flatMap_enc _ 0x2F (by omega) (by decide), join_split]
  refine ⟨by rw [hu]; rfl, htext, ?_⟩
  have hfile : u.isFile = true := by rw [hu]; exact (by decide : C08.fileBase.isFile = true)
  have hhost : u.hostText = [] := by rw [hu]; rfl
  have hdec : Impl.percentDecode (Impl.pathText u) = Spec.utf8Encode (0x2F :: r) := by
    rw [htext]; exact percentDecode_percentEncode _ _ hs (by decide)
  have hnul := utf8Encode_no_nul _ h0
  unfold Impl.pathFromFileUrl
  simp only [hfile, hhost, hdec, Bool.not_true, Bool.false_eq_true, if_false, ne_eq, not_true]
  simp only [any_zero_false hnul, Bool.false_eq_true, if_false]

end Upa.Proofs.C17
