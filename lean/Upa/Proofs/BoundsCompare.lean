import Upa.Proofs.Bounds
import Upa.Proofs.ParamsCmp
/-
  C04b, C04h: `compareByCodeUnits` of `Upa/Impl/Bounds.lean` (src/url_utf.cpp:70-104, with its `assert`) =
  `Impl.compareByCodeUnits` on the units read as `unsigned char`.  The `assert`: `read_utf_char` on `char` decodes
  what `Impl.readU8` decodes (`readU8_spec`), and that yields scalar values only (`Upa/Proofs/Utf.lean`); two
  different scalar values with the same first UTF-16 unit are supplementary, which is what the assertion says.
-/
namespace Upa.Impl.B
open Upa.Proofs.C16 (cmpL_nil_nil cmpL_cons_nil cmpL_nil_cons cmpL_cons_ascii cmpL_cons_hi cuHead_shift cuHead_eq)

theorem subByte80_def (b : Nat) : (b + 256 - 0x80) % 256 = Impl.subByte80 b := rfl

/-- `read_utf_char` on `char`, whatever the units are: the decoder looks at them as `unsigned char`, so it does what
    the list decoder does on `bytes`, and that yields scalar values only -/
theorem readUtfChar_u8_spec (a : Array Nat) (first last it : Nat) (h1 : first ≤ it) (h : it < last)
    (hl : last ≤ a.size) :
    (readUtfChar .u8 a first last it).sat (fun r => (it < r.2 ∧ r.2 ≤ last) ∧ Spec.isScalar r.1 = true ∧
      Impl.readUtfChar .u8 (bytes a it last) = (r.1, bytes a r.2 last)) := by
  refine R.sat_mono (readUtfChar_of .u8 a first last it h1 (Nat.le_of_lt h) (readU8_spec a it last h hl)) ?_
  rintro _ ⟨⟨ok, cp, it'⟩, ⟨hp, hag⟩, rfl⟩
  have hne : bytes a it last ≠ [] := by rw [bytes_cons a it last h hl]; exact List.cons_ne_nil _ _
  have hs := (Impl.readU8_cp (bytes a it last) hne).1
  rw [hag] at hs
  refine ⟨hp, hs, ?_⟩
  rw [Impl.readUtfChar_eq, show Impl.readChar .u8 (bytes a it last) = _ from hag]
  rfl

theorem sat_chk {c : Prop} [Decidable c] (hc : c) : (chk c).sat (fun _ => True) := by
  unfold chk; rw [if_pos hc]; exact ⟨(), rfl, trivial⟩

/-- for ANY units: the function compares them as `unsigned char` -/
theorem compareByCodeUnits_bytes (a1 : Array Nat) (first1 last1 : Nat) (a2 : Array Nat) (first2 last2 : Nat)
    (h1 : first1 ≤ last1) (hl1 : last1 ≤ a1.size) (h2 : first2 ≤ last2) (hl2 : last2 ≤ a2.size) :
    compareByCodeUnits a1 first1 last1 a2 first2 last2 =
      .ok (Impl.compareByCodeUnits (bytes a1 first1 last1) (bytes a2 first2 last2)) := by
  apply R.eq_ok_of_sat
  unfold compareByCodeUnits Impl.compareByCodeUnits
  -- the fuel of `Impl.compareByCodeUnitsAux` is existential in the invariant: see the note at `scan_sat`
  refine scan_sat _ (·.1) first1 last1 (fun s => first2 ≤ s.2 ∧ s.2 ≤ last2 ∧ ∃ f, last1 - s.1 < f ∧
      Impl.compareByCodeUnitsAux f (bytes a1 s.1 last1) (bytes a2 s.2 last2) =
        Impl.compareByCodeUnitsAux ((bytes a1 first1 last1).length + (bytes a2 first2 last2).length + 1)
          (bytes a1 first1 last1) (bytes a2 first2 last2))
    _ ?_ _ _ (Nat.le_refl _) h1
    ⟨Nat.le_refl _, h2, _, by rw [bytes_length a1 _ _ hl1]; simp only []; omega, rfl⟩ (Nat.lt_succ_self _)
  intro ⟨it1, it2⟩ i1 i2 ⟨i3, i4, f, hf, hT⟩
  simp only at i1 i2 i3 i4 hf hT ⊢
  obtain ⟨f0, rfl⟩ : ∃ f0, f = f0 + 1 := ⟨f - 1, by omega⟩
  refine R.sat_if (fun hc => ?_) (fun hc => ?_)
  · rw [Nat.add_zero] at hc
    have hlt1 : it1 < last1 := Nat.lt_of_le_of_ne i2 hc.1
    have hlt2 : it2 < last2 := Nat.lt_of_le_of_ne i4 hc.2
    refine R.sat_read hl1 ?_ i1 hlt1
    refine R.sat_read hl2 ?_ i3 hlt2
    have hs1 := bytes_cons a1 it1 last1 hlt1 hl1
    have hs2 := bytes_cons a2 it2 last2 hlt2 hl2
    rw [hs1, hs2] at hT
    refine R.sat_if (fun hasc => ?_) (fun hasc => ?_)
    · rw [cmpL_cons_ascii _ _ _ _ _ hasc] at hT
      refine R.sat_if_eq hT (fun heq hT => ?_) (fun heq hT => R.sat_pure hT)
      · refine R.sat_ptr ?_ (Nat.le_succ_of_le i1) hlt1
        refine R.sat_ptr ?_ (Nat.le_succ_of_le i3) hlt2
        exact R.sat_pure ⟨Nat.lt_succ_self it1, hlt1, Nat.le_succ_of_le i3, hlt2, f0,
          Nat.lt_of_lt_of_le (Nat.sub_succ_lt_self _ _ hlt1) (Nat.le_of_lt_succ hf), hT⟩
    · refine R.sat_bind (readUtfChar_u8_spec a1 first1 last1 it1 i1 hlt1 hl1) ?_
      intro ⟨cp1, it1'⟩ ⟨⟨q1, q2⟩, hsc1, e1⟩
      refine R.sat_bind (readUtfChar_u8_spec a2 first2 last2 it2 i3 hlt2 hl2) ?_
      intro ⟨cp2, it2'⟩ ⟨⟨q3, q4⟩, hsc2, e2⟩
      simp only at hsc1 q1 q2 hsc2 q3 q4 e1 e2 ⊢
      rw [hs1] at e1
      rw [hs2] at e2
      rw [cmpL_cons_hi _ _ _ _ _ hasc e1 e2] at hT
      simp only [] at hT
      refine R.sat_if_eq hT (fun heq hT => ?_) (fun hne hT => ?_)
      · exact R.sat_pure ⟨q1, q2, Nat.le_trans i3 (Nat.le_of_lt q3), q4,
          f0, Nat.lt_of_lt_of_le (Nat.sub_lt_sub_left hlt1 q1) (Nat.le_of_lt_succ hf), hT⟩
      · rw [cuHead_shift ((Impl.isScalar_iff _).1 hsc1).1, cuHead_shift ((Impl.isScalar_iff _).1 hsc2).1] at hT ⊢
        refine R.sat_if_eq hT (fun hcu hT => ?_) (fun hcu hT => R.sat_pure hT)
        exact R.sat_bind (sat_chk (cuHead_eq hsc1 hsc2 hne hcu).2) fun _ _ => R.sat_pure hT
  · rw [Nat.add_zero] at hc
    refine R.sat_pure ?_
    simp only []
    rw [← hT]
    by_cases e1 : it1 = last1
    · rw [if_neg (by omega), e1, bytes_nil a1 last1 last1 (Nat.le_refl _)]
      by_cases e2 : it2 = last2
      · rw [if_neg (by omega), e2, bytes_nil a2 last2 last2 (Nat.le_refl _), cmpL_nil_nil]
      · rw [if_pos e2, bytes_cons a2 it2 last2 (by omega) hl2, cmpL_nil_cons]
    · have e2 : it2 = last2 := Classical.not_not.1 (fun hh => hc ⟨e1, hh⟩)
      rw [if_pos e1, e2, bytes_nil a2 last2 last2 (Nat.le_refl _), bytes_cons a1 it1 last1 (by omega) hl1, cmpL_cons_nil]

theorem compareByCodeUnits_safe (a1 : Array Nat) (first1 last1 : Nat) (a2 : Array Nat) (first2 last2 : Nat)
    (h1 : first1 ≤ last1) (hl1 : last1 ≤ a1.size) (h2 : first2 ≤ last2) (hl2 : last2 ≤ a2.size) :
    (compareByCodeUnits a1 first1 last1 a2 first2 last2).sat (fun _ => True) :=
  R.sat_of_eq_ok (compareByCodeUnits_bytes a1 first1 last1 a2 first2 last2 h1 hl1 h2 hl2)

theorem compareByCodeUnits_agrees (a1 : Array Nat) (first1 last1 : Nat) (a2 : Array Nat) (first2 last2 : Nat)
    (h1 : first1 ≤ last1) (hl1 : last1 ≤ a1.size) (h2 : first2 ≤ last2) (hl2 : last2 ≤ a2.size)
    (hb1 : ByteUnits a1 first1 last1) (hb2 : ByteUnits a2 first2 last2) :
    compareByCodeUnits a1 first1 last1 a2 first2 last2 =
      .ok (Impl.compareByCodeUnits (slice a1 first1 last1) (slice a2 first2 last2)) := by
  rw [compareByCodeUnits_bytes a1 first1 last1 a2 first2 last2 h1 hl1 h2 hl2,
    bytes_eq_slice a1 first1 last1 hl1 hb1, bytes_eq_slice a2 first2 last2 hl2 hb2]

end Upa.Impl.B
