import Upa.Impl.BoundsUrl
import Upa.Proofs.Bounds
/-
  The bounds-instrumented model of url_parser::url_parse (`Upa/Impl/BoundsUrl.lean`): what its small guarded tests
  return (`peekIsB`, `peekOr0B`, `twoSlashesB`; the first and the last also as step rules, `peekIsB_if`,
  `twoSlashesB_if`), and its callees: find_last returns the last hit (`LastAt`), `std::find` with its end for "none"
  (`findChOr_sat`), the percent-encode loops end at their stop (`encLoopB_sat`), parse_path runs to `.ok`.
-/
namespace Upa.Impl.B
open UP

theorem peekIsB_spec (a : Array Nat) (first last p ch : Nat) (h1 : first ≤ p) (hl : last ≤ a.size) :
    (peekIsB a first last p ch).sat (fun t => t = decide (p < last ∧ a[p]! = ch)) := by
  refine R.sat_if (fun hp => ?_) (fun hp => ?_)
  · have hp : p < last := hp
    refine R.sat_read hl (R.sat_pure ?_)
    by_cases hk : a[p]! = ch <;> simp [hk, hp]
  · have hp : ¬ p < last := hp
    exact R.sat_pure (by simp [hp])

theorem peekIsB_sat (a : Array Nat) (first last p ch : Nat) (h1 : first ≤ p) (hl : last ≤ a.size) :
    (peekIsB a first last p ch).sat (fun r => r = true → p < last) :=
  R.sat_mono (peekIsB_spec a first last p ch h1 hl) fun _ ht hr => (of_decide_eq_true (ht ▸ hr)).1

/-- `if (pointer < last && *pointer == ch) x else y`: the test in front of its two branches, as a step rule -/
theorem peekIsB_if {β : Type} {Q : β → Prop} {a : Array Nat} {first last p ch : Nat} {x y : R β}
    (h1 : first ≤ p) (hl : last ≤ a.size) (hy : p < last → a[p]! = ch → x.sat Q)
    (hn : ¬ (p < last ∧ a[p]! = ch) → y.sat Q) :
    (peekIsB a first last p ch >>= fun t => if t = true then x else y).sat Q :=
  R.sat_bind (peekIsB_spec a first last p ch h1 hl) fun t ht => by
    subst ht
    by_cases h : p < last ∧ a[p]! = ch
    · rw [decide_eq_true h, if_pos rfl]; exact hy h.1 h.2
    · rw [decide_eq_false h, if_neg Bool.false_ne_true]; exact hn h

theorem peekOr0B_spec (a : Array Nat) (first last p : Nat) (h1 : first ≤ p) (h2 : p ≤ last) (hl : last ≤ a.size) :
    (peekOr0B a first last p).sat (fun ch => (p < last ∧ ch = a[p]!) ∨ (p = last ∧ ch = 0)) := by
  refine R.sat_if (fun hne => ?_) (fun he => R.sat_pure (Or.inr ⟨by omega, rfl⟩))
  exact R.sat_mono (sat_rd h1 (by omega) hl) fun _ e => Or.inl ⟨by omega, e⟩

/-- a non-zero answer of `pointer != last ? *pointer : 0` is the unit at `pointer` -/
theorem peekOr0_ne0 {a : Array Nat} {p last ch : Nat} (hch : (p < last ∧ ch = a[p]!) ∨ (p = last ∧ ch = 0))
    (h0 : ch ≠ 0) : p < last ∧ ch = a[p]! :=
  hch.resolve_right fun h => h0 h.2

theorem peekOr0B_sat (a : Array Nat) (first last p : Nat) (h1 : first ≤ p) (h2 : p ≤ last) (hl : last ≤ a.size) :
    (peekOr0B a first last p).sat (fun r => r ≠ 0 → p < last) :=
  R.sat_mono (peekOr0B_spec a first last p h1 h2 hl) fun _ hc hne => hc.elim (·.1) fun h => absurd h.2 hne

theorem twoSlashesB_spec (a : Array Nat) (first last p : Nat) (h1 : first ≤ p) (hl : last ≤ a.size) :
    (twoSlashesB a first last p).sat (fun t => t = decide (p + 2 ≤ last ∧ a[p]! = 0x2F ∧ a[p + 1]! = 0x2F)) := by
  refine R.sat_if (fun hgt => ?_) (fun hgt => ?_)
  · refine R.sat_read hl (R.sat_if (fun h0 => ?_) (fun h0 => ?_))
    · refine R.sat_read hl (R.sat_pure ?_)
      by_cases h1 : a[p + 1]! = 0x2F
      · simp [h0, h1]; omega
      · simp [h1]
    · exact R.sat_pure (by simp [h0])
  · exact R.sat_pure (by simp; omega)

theorem twoSlashesB_sat (a : Array Nat) (first last p : Nat) (h1 : first ≤ p) (hl : last ≤ a.size) :
    (twoSlashesB a first last p).sat (fun r => r = true → p + 2 ≤ last) :=
  R.sat_mono (twoSlashesB_spec a first last p h1 hl) fun _ ht hr => (of_decide_eq_true (ht ▸ hr)).1

theorem twoSlashesB_if {β : Type} {Q : β → Prop} {a : Array Nat} {first last p : Nat} {x y : R β}
    (h1 : first ≤ p) (hl : last ≤ a.size) (hy : p + 2 ≤ last → a[p]! = 0x2F → a[p + 1]! = 0x2F → x.sat Q)
    (hn : ¬ (p + 2 ≤ last ∧ a[p]! = 0x2F ∧ a[p + 1]! = 0x2F) → y.sat Q) :
    (twoSlashesB a first last p >>= fun t => if t = true then x else y).sat Q :=
  R.sat_bind (twoSlashesB_spec a first last p h1 hl) fun t ht => by
    subst ht
    by_cases h : p + 2 ≤ last ∧ a[p]! = 0x2F ∧ a[p + 1]! = 0x2F
    · rw [decide_eq_true h, if_pos rfl]; exact hy h.1 h.2.1 h.2.2
    · rw [decide_eq_false h, if_neg Bool.false_ne_true]; exact hn h

/-- `r` is what `find_last(p, e, v)` returns: the last unit of `[p, e)` equal to `v`, else `e` -/
def LastAt (a : Array Nat) (v p e r : Nat) : Prop :=
  (r = e ∧ ∀ i, p ≤ i → i < e → a[i]! ≠ v) ∨ (p ≤ r ∧ r < e ∧ a[r]! = v ∧ ∀ i, r < i → i < e → a[i]! ≠ v)

theorem findLastB_spec (a : Array Nat) (first last value : Nat) (h : first ≤ last) (hl : last ≤ a.size) :
    (findLastB a first last value).sat (LastAt a value first last) := by
  refine iter_sat _ (fun it => first ≤ it ∧ it ≤ last ∧ ∀ i, it ≤ i → i < last → a[i]! ≠ value)
    (fun it => it - first) _ ?_ _ _ ⟨h, Nat.le_refl _, fun i h1 h2 => by omega⟩ (by omega)
  intro it ⟨i1, i2, i3⟩
  refine R.sat_if (fun hgt => ?_) (fun _ => R.sat_pure (Or.inl ⟨rfl, fun i h1 h2 => i3 i (by omega) h2⟩))
  refine R.sat_ptrSub (R.sat_read hl ?_)
  refine R.sat_if (fun hc => ?_) (fun hc => ?_)
  · exact R.sat_pure (Or.inr ⟨by omega, by omega, hc, fun i h1 h2 => i3 i (by omega) h2⟩)
  · refine R.sat_pure ⟨⟨by omega, by omega, fun i h1 h2 => ?_⟩, by omega⟩
    by_cases hi : i = it - 1
    · subst hi; exact hc
    · exact i3 i (by omega) h2

theorem findLastB_sat (a : Array Nat) (first last value : Nat) (h : first ≤ last) (hl : last ≤ a.size) :
    (findLastB a first last value).sat (fun r => r = last ∨ (first ≤ r ∧ r < last)) :=
  R.sat_mono (findLastB_spec a first last value h hl) fun _ hr =>
    hr.elim (fun h => Or.inl h.1) (fun h => Or.inr ⟨h.1, h.2.1⟩)

/-- `findCh` with its "no hit" answer replaced by the end of the scanned range, as in
    `it = std::find(p, e, ch)` -/
theorem findChOr_sat (a : Array Nat) (first last ch p e : Nat) (h1 : first ≤ p) (h2 : p ≤ e) (h3 : e ≤ last)
    (hl : last ≤ a.size) :
    (do match ← findCh a first last ch (e - p) p with
        | some q => pure q
        | none => pure e : R Nat).sat (fun q => p ≤ q ∧ q ≤ e) := by
  refine R.sat_bind (findCh_sat a first last ch hl _ p h1 (by omega)) ?_
  intro r hr
  cases r with
  | none => exact R.sat_pure ⟨h2, Nat.le_refl _⟩
  | some q => exact R.sat_pure (by have := hr q rfl; omega)

theorem encLoopB_sat (e : Enc) (a : Array Nat) (first last thr : Nat) (ne : Bool) (stop fuel p0 : Nat)
    (h1 : first ≤ p0) (h2 : p0 ≤ stop) (h3 : stop ≤ last) (hl : last ≤ a.size) (hf : stop - p0 < fuel) :
    (encLoopB e a first last thr ne stop fuel p0).sat (fun r => r = stop) := by
  refine scan_sat _ (fun p => p) p0 stop (fun _ => True) _ ?_ _ _ (Nat.le_refl _) h2 trivial hf
  intro p i1 i2 _
  have hstop : (if ne = true then p == stop else !decide (p < stop)) = true ↔ p = stop := by
    cases ne <;> simp <;> omega
  refine R.sat_if (fun hc => R.sat_pure (hstop.mp hc)) (fun hc => ?_)
  have hps : p ≠ stop := fun h => hc (hstop.mpr h)
  refine R.sat_read hl (R.sat_if' ?_ ?_)
  · refine R.sat_range ?_
    refine R.sat_bind (readUtfChar_sat e a p stop p (Nat.le_refl _) (by omega) (by omega)) ?_
    intro r hr
    exact R.sat_pure ⟨hr.1, hr.2, trivial⟩
  · exact R.sat_ptr (R.sat_pure ⟨by omega, by omega, trivial⟩)

theorem appendUtf8PctB_sat (e : Enc) (a : Array Nat) (first last : Nat) (h : first ≤ last) (hl : last ≤ a.size) :
    (appendUtf8PctB e a first last).sat (fun _ => True) :=
  R.sat_bind (encLoopB_sat e a first last _ _ last _ first (Nat.le_refl _) h (Nat.le_refl _) hl (by omega))
    (fun _ _ => R.sat_pure trivial)

theorem doSimplePathB_sat (e : Enc) (a : Array Nat) (first last : Nat) (h : first ≤ last) (hl : last ≤ a.size) :
    (doSimplePathB e a first last).sat (fun _ => True) :=
  R.sat_bind (encLoopB_sat e a first last _ _ last _ first (Nat.le_refl _) h (Nat.le_refl _) hl (by omega))
    (fun _ _ => R.sat_pure trivial)

theorem pathSegmentB_sat (e : Enc) (a : Array Nat) (first last pointer eos : Nat) (file : Bool)
    (emptyPath : Nat → Bool) (h1 : first ≤ pointer) (h2 : pointer ≤ eos) (h3 : eos ≤ last) (hl : last ≤ a.size) :
    (pathSegmentB e a first last pointer eos file emptyPath).sat (fun _ => True) := by
  have hle : eos ≤ a.size := Nat.le_trans h3 hl
  refine R.sat_range (R.sat_bind (doubleDot_sat a pointer eos h2 hle) fun dd _ => ?_)
  refine R.sat_if' (R.sat_pure trivial) ?_
  refine R.sat_range (R.sat_bind (singleDot_sat a pointer eos h2 hle) fun sd _ => ?_)
  refine R.sat_if' (R.sat_pure trivial) ?_
  refine R.sat_bind (P := fun _ => True) (R.sat_if (fun hlen => ?_) (fun _ => R.sat_pure trivial)) fun wd _ => ?_
  · exact R.sat_read hl (R.sat_read hl (R.sat_pure trivial))
  · refine R.sat_if' (R.sat_pure trivial) ?_
    exact R.sat_range (appendUtf8PctB_sat e a pointer eos h2 hle)

theorem parsePathB_sat (e : Enc) (a : Array Nat) (first last : Nat) (special file : Bool) (emptyPath : Nat → Bool)
    (h : first ≤ last) (hl : last ≤ a.size) :
    (parsePathB e a first last special file emptyPath).sat (fun _ => True) := by
  refine scan_sat _ (fun p => p) first last (fun _ => True) _ ?_ _ _ (Nat.le_refl _) h trivial (by omega)
  intro p i1 i2 _
  refine R.sat_range ?_
  refine R.sat_bind (P := fun eos => p ≤ eos ∧ eos ≤ last) (R.sat_if' ?_ ?_) fun eos heos => ?_
  · exact R.sat_mono (findIf_sat a first last _ hl _ p i1 (by omega)) (fun v hv => by omega)
  · exact findChOr_sat a first last 0x2F p last i1 i2 (Nat.le_refl _) hl
  · refine R.sat_bind (pathSegmentB_sat e a first last p eos file emptyPath i1 heos.1 heos.2 hl) fun _ _ => ?_
    refine R.sat_if (fun _ => R.sat_pure trivial) (fun hne => ?_)
    exact R.sat_ptr (R.sat_pure ⟨by omega, by omega, trivial⟩)

end Upa.Impl.B
