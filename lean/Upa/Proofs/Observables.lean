import Upa.Proofs.Reparse
import Upa.Proofs.Canon
/-
  Alphabets of the serialised components, for Props/Observables.lean (the properties restated over the Standard's
  serializer and getter steps, `Spec/Serializer.lean`): the href of a normal-form URL is in 0x20..0x7E
  (`normP_serialize_ascii`: the side condition `UnitsOk .u8 href` of the bridge `C01_parse_conforms`), and what a
  canonical record (`Impl.Canon`, C08) guarantees about its serialisation and getter values (`canon_*`; the side
  conditions of `C01_origin`: `canon_origin_hyps`, `pathText_ascii`).
-/
namespace Upa.Proofs.Obs
open Upa Upa.Proofs.C02

private theorem pr_range {c : Nat} {P : Prop} (h : Impl.isPrintable c = true ∨ (c = 0x20 ∧ P)) :
    0x20 ≤ c ∧ c < 0x7F := by
  rw [printable_iff] at h; omega

theorem normP_serialize_ascii {idna : Idna} {u : Url} (hN : NormP idna u) :
    ∀ c ∈ Impl.serialize u, 0x20 ≤ c ∧ c < 0x7F :=
  fun c hc => pr_range (serialize_pr hN c hc)

/-- the path text of a record whose path satisfies the path clauses of `Norm` / `NormX` -/
theorem pathText_ascii {u : Url} (hsegs : ∀ seg ∈ u.path, segOk u.isSpecial seg = true)
    (hopq : u.hasOpaquePath = true → opaqueOk u.opaquePath (u.query.isNone && u.fragment.isNone) = true) :
    ∀ c ∈ Impl.pathText u, 0x20 ≤ c ∧ c < 0x7F :=
  fun c hc => pr_range (pr_pathText hsegs hopq c hc)

/-! ### canonical records (C08) -/

open Upa.Impl (isPrintable Canon hostOk)
open Upa.Proofs.C08 (canon_iff AuthOk PathOk QueryOk FragOk segChar queryChar opaqueChar)

theorem userinfoOk_printable {s : List Nat} (h : Impl.userinfoOk s = true) : ∀ c ∈ s, isPrintable c = true := by
  intro c hc
  simp only [Impl.userinfoOk, List.all_eq_true, Bool.and_eq_true] at h
  exact (h c hc).1.1.1.1.1

theorem hostOk_printable {h : Host} (hh : hostOk h = true) : ∀ c ∈ h.text, isPrintable c = true :=
  pr_host (sp := true) fun c hc => ((C02b.hostChars_of_hostOk h hh).1 c hc).1

theorem canon_pathText {u : Url} (hp : PathOk u) :
    ∀ c ∈ Impl.pathText u,
      (isPrintable c = true ∨ (c = 0x20 ∧ u.hasOpaquePath = true)) ∧ c ≠ 0x3F ∧ c ≠ 0x23 := by
  intro c hc
  unfold Impl.pathText at hc
  split at hc
  · rename_i ho
    have := List.all_eq_true.1 (hp.opq ho).1 c hc
    simp only [opaqueChar, Bool.and_eq_true, Bool.or_eq_true, beq_iff_eq, bne_iff_ne, ne_eq] at this
    exact ⟨this.1.1.imp id (fun h => ⟨h, ho⟩), this.1.2, this.2⟩
  · rename_i ho
    simp only [List.mem_flatMap, List.mem_cons] at hc
    obtain ⟨seg, hseg, hc | hc⟩ := hc
    · subst hc; exact ⟨.inl (by decide), by decide, by decide⟩
    · have := List.all_eq_true.1 ((hp.lst (by simpa using ho)).2 seg hseg) c hc
      simp only [segChar, Bool.and_eq_true, bne_iff_ne, ne_eq] at this
      exact ⟨.inl this.1.1.1, this.1.1.2, this.1.2⟩

theorem canon_query {u : Url} (hq : QueryOk u) (q : List Nat) (h : u.query = some q) :
    ∀ c ∈ q, isPrintable c = true ∧ c ≠ 0x23 ∧ (u.isSpecial = true → c ≠ 0x27) := by
  intro c hc
  have := List.all_eq_true.1 (hq q h) c hc
  simp only [queryChar, Bool.and_eq_true, Bool.or_eq_true, bne_iff_ne, ne_eq, Bool.not_eq_true'] at this
  refine ⟨this.1.1, this.1.2, fun hs => ?_⟩
  rcases this.2 with h2 | h2
  · exact h2
  · rw [hs] at h2; cases h2

theorem canon_serialize {u : Url} (h : Canon u = true) (ex : Bool) :
    ∀ c ∈ Impl.serialize u ex,
      isPrintable c = true ∨ (c = 0x20 ∧ u.hasOpaquePath = true ∧ c ∈ Impl.pathText u) := by
  obtain ⟨ha, hp, hq, hf⟩ := (canon_iff u).1 h
  have hsch := pr_scheme ((schemeOk_eq _).trans ha.scheme)
  have hun := userinfoOk_printable ha.user
  have hpw := userinfoOk_printable ha.pass
  intro c hc
  unfold Impl.serialize at hc
  simp only [List.mem_append, List.mem_cons, List.not_mem_nil, or_false] at hc
  rcases hc with (((((hc | hc) | hc) | hc) | hc) | hc) | hc
  · exact .inl (hsch c hc)
  · subst hc; exact .inl (by decide)
  · left
    split at hc
    · rename_i x hx
      have hho := hostOk_printable (ha.host x hx)
      simp only [List.mem_append, List.mem_cons, List.not_mem_nil, or_false] at hc
      rcases hc with (((hc | hc) | hc) | hc) | hc
      · subst hc; decide
      · subst hc; decide
      · split at hc
        · simp only [List.mem_append, List.mem_cons, List.not_mem_nil, or_false] at hc
          rcases hc with (hc | hc) | hc
          · exact hun c hc
          · split at hc
            · rcases List.mem_cons.1 hc with rfl | hc
              · decide
              · exact hpw c hc
            · simp at hc
          · subst hc; decide
        · simp at hc
      · exact hho c hc
      · split at hc
        · rcases List.mem_cons.1 hc with rfl | hc
          · decide
          · exact pr_port (some _) c (List.mem_cons_of_mem _ hc)
        · simp at hc
    · simp at hc
  · left
    split at hc
    · simp only [List.mem_cons, List.not_mem_nil, or_false] at hc
      rcases hc with rfl | rfl <;> decide
    · simp at hc
  · have := (canon_pathText hp c hc).1
    rcases this with h1 | ⟨h1, h2⟩
    · exact .inl h1
    · exact .inr ⟨h1, h2, hc⟩
  · left
    split at hc
    · rename_i q hq'
      rcases List.mem_cons.1 hc with rfl | hc
      · decide
      · exact (canon_query hq q hq' c hc).1
    · simp at hc
  · left
    split at hc
    · simp at hc
    · split at hc
      · rename_i f hf'
        rcases List.mem_cons.1 hc with rfl | hc
        · decide
        · exact List.all_eq_true.1 (hf f hf') c hc
      · simp at hc

/-- `search` and `hash`: a non-empty optional component behind its delimiter -/
theorem mem_delimited {P : Nat → Prop} (d : Nat) (hd : P d) {o : Option (List Nat)}
    (h : ∀ q, o = some q → ∀ c ∈ q, P c) :
    ∀ c ∈ (match o with | none => [] | some q => if q = [] then [] else d :: q), P c := by
  intro c hc
  cases ho : o with
  | none => simp [ho] at hc
  | some q =>
    simp only [ho] at hc
    split at hc
    · simp at hc
    · rcases List.mem_cons.1 hc with rfl | hc
      · exact hd
      · exact h q ho c hc

/-- the path text of a special canonical record starts with `/` -/
theorem canon_pathText_slash {u : Url} (hp : PathOk u) (hs : u.isSpecial = true) :
    ∃ t, Impl.pathText u = 0x2F :: t := by
  obtain ⟨ho, hne⟩ := hp.sp hs
  obtain ⟨seg, rest, hpa⟩ := List.exists_cons_of_ne_nil hne
  exact ⟨seg ++ rest.flatMap (fun seg => 0x2F :: seg), by simp [Impl.pathText, ho, hpa]⟩

/-- a list path whose text starts with `//` starts with an empty segment and has a second one: a segment of a
    canonical record holds no `/` -/
theorem canon_guard {u : Url} (hp : PathOk u) (ho : u.hasOpaquePath = false) {t : List Nat}
    (ht : Impl.pathText u = 0x2F :: 0x2F :: t) : u.path.length > 1 ∧ u.path.head? = some [] := by
  have hseg := (hp.lst ho).2
  unfold Impl.pathText at ht
  rw [ho] at ht
  cases hpa : u.path with
  | nil => rw [hpa] at ht; simp at ht
  | cons seg rest =>
    rw [hpa] at ht hseg
    cases seg with
    | cons a s =>
      simp at ht
      have := List.all_eq_true.1 (hseg (a :: s) List.mem_cons_self) a List.mem_cons_self
      simp [segChar, ht.1] at this
    | nil =>
      cases rest with
      | nil => simp at ht
      | cons r rs => simp

/-- the side conditions of `C01_origin` -/
theorem canon_origin_hyps {u : Url} (h : Canon u = true) :
    (u.host = none → u.port = none) ∧ (∀ x ∈ Impl.pathText u, x < 256) := by
  obtain ⟨ha, hp, _, _⟩ := (canon_iff u).1 h
  refine ⟨fun hn => (ha.noCred (Or.inl (Proofs.C08.hostText_nil hn))).2.2, fun x hx => ?_⟩
  have := (canon_pathText hp x hx).1
  rcases this with h1 | ⟨h1, _⟩
  · rw [printable_iff] at h1; omega
  · omega

end Upa.Proofs.Obs
