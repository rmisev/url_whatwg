import Upa.Proofs.BoundsUrlVerdict
import Upa.Proofs.ParserRules
import Upa.Proofs.CharClass
/-
  C04f: the blocks of port_state, host_state, authority_state, special_authority_ignore_slashes_state against
  `Impl.portState`, `hostState`, `authorityState`, `ignoreSlashesState` on the decoded rest (statement: `Fwd`,
  BoundsUrlVerdict).
-/
namespace Upa.Impl.B
open UP Upa.Proofs.C10b
open Upa.Proofs.C09 (isOk isOk_pathStart)
open Upa.Proofs.C08 (portState_eq portResult portIsEnd hostState_eq hostScan_cons_go)

theorem portBad_eq (u : Url) (dg : List Nat) : portBad dg = !(portResult u dg).isSome := by
  unfold portBad portResult
  by_cases h1 : dg ≠ []
  · by_cases h2 : (stripLeadingZeros dg).length > 5
    · simp [h1, h2]
    · by_cases h3 : decimalValue (stripLeadingZeros dg) > 0xFFFF
      · simp [h1, h2, h3]
      · by_cases h4 : defaultPort u.scheme = some (decimalValue (stripLeadingZeros dg)) <;> simp [h1, h2, h3, h4]
  · simp [h1]

theorem isOk_portState (ov : Option Override) (u : Url) (p : List Nat) :
    isOk (portState ov u p) =
      ((portIsEnd u (p.dropWhile isDigit) || ov.isSome) && !portBad (p.takeWhile isDigit)) := by
  rw [portState_eq, portBad_eq u]
  cases (portIsEnd u (p.dropWhile isDigit) || ov.isSome)
  · rfl
  · cases portResult u (p.takeWhile isDigit) with
    | none => rfl
    | some u' =>
      simp only [if_true]
      split
      · rfl
      · exact isOk_pathStart _ _ _

theorem fwd_port (c : Ctx) (W : c.Wf) (p : Nat) (sp fl : Bool) (u : Url) (hG : Sim c ⟨.port, p, sp, fl⟩ u) :
    (bPort c.a c.first c.last c.ov c.ui c.orc c.fuel ⟨.port, p, sp, fl⟩ 0).sat
      (Fwd c (rank .port) (isOk (portState c.ov u (c.D p)))) := by
  obtain ⟨h1, h2, hsp, -⟩ := hG.inv
  have hl := W.hl
  refine R.sat_mono (bPort_spec hl c.ov c.ui c.orc c.fuel W.hf _ h1 h2) ?_
  rintro r ⟨eod, heod, rfl⟩
  dsimp only at heod
  obtain ⟨e1, e2, -, -⟩ := id heod
  obtain ⟨hT, hD⟩ := Dl_scan_pos c.e c.a isDigit isDigit_lt c.last hl p eod heod
  rw [isOk_portState, Ctx.D, hT, hD]
  -- the `isEnd` test on the unit at `eod` is the test of the list model on the decoded rest
  have hE : (decide (eod = c.last) || isAuthorityEnd c.a[eod]! || (c.a[eod]! == 0x5C && sp)) =
      portIsEnd u (Dl c.e c.a eod c.last) := by
    by_cases he : eod = c.last
    · rw [he, Dl_nil c.e c.a c.last c.last (Nat.le_refl _)]; simp [portIsEnd]
    · obtain ⟨ch, t, hd, -, hq, -⟩ := Ctx.D_peek c W eod (by omega)
      rw [show Dl c.e c.a eod c.last = ch :: t from hd]
      simp only [portIsEnd, hq isAuthorityEnd (authEnd_ascii false), hq (· == 0x5C) (by intro x hx; simp at hx; omega), he, hsp,
        decide_false, Bool.false_or]
  dsimp only
  rw [hE, portNext]
  generalize portIsEnd u (Dl c.e c.a eod c.last) = pe
  generalize portBad (slice c.a p eod) = bad
  by_cases hcond : pe = true ∨ c.ov.isSome = true
  · rw [if_pos hcond]
    have hpe : (pe || c.ov.isSome) = true := by rcases hcond with h | h <;> simp [h]
    rw [hpe]
    cases bad
    · rw [if_neg (by simp)]
      by_cases ho : c.ov.isSome = true
      · rw [if_pos ho]; rfl
      · rw [if_neg ho]
        exact Fwd.tail Bnd.of
    · rfl
  · rw [if_neg hcond]
    have hpe : (pe || c.ov.isSome) = false := by
      cases pe <;> cases h : c.ov.isSome <;> simp_all
    rw [hpe]; rfl

theorem hostScan_append_nonascii (s r : List Nat) (inBr : Bool) (hs : ∀ x ∈ s, ¬ x < 0x80) :
    hostScan (s ++ r) inBr = (s ++ (hostScan r inBr).1, (hostScan r inBr).2) :=
  Upa.Proofs.C08.hostScan_append_plain s r inBr fun x hx => by have := hs x hx; omega

theorem hostScan_nonascii (s : List Nat) (inBr : Bool) (hs : ∀ x ∈ s, ¬ x < 0x80) :
    hostScan s inBr = (s, none) := by
  have := hostScan_append_nonascii s [] inBr hs
  simpa [hostScan] using this

/-- `hostScan` only looks at `:` `[` `]`: it cuts the decoded list where it cuts the units.  (A run of non-ASCII
    units decodes to non-ASCII values, an ASCII unit to itself.) -/
theorem hostScan_decode (e : Enc) : ∀ n (l : List Nat), l.length ≤ n → ∀ b,
    hostScan (decode e l) b = (decode e (hostScan l b).1, (hostScan l b).2.map (decode e)) := by
  intro n
  induction n with
  | zero =>
    intro l hn b
    have : l = [] := List.eq_nil_of_length_eq_zero (by omega)
    subst this; rfl
  | succ n ih =>
    intro l hn b
    have hdec : ∀ s : List Nat, (∀ x ∈ s, ¬ x < 0x80) → ∀ x ∈ decode e s, ¬ x < 0x80 :=
      fun s hs x hx hlt => hs x (decode_ascii_mem e s x hx hlt) hlt
    rcases exists_first_ascii l with h | ⟨s, c, r, rfl, hs, hc⟩
    · rw [hostScan_nonascii l b h, hostScan_nonascii _ b (hdec l h)]; rfl
    · have hds := hdec s hs
      have hlen : r.length ≤ n := by simp at hn; omega
      rw [decode_ascii_split e r c hc s, hostScan_append_nonascii _ _ _ hds, hostScan_append_nonascii _ _ _ hs]
      by_cases hcol : c = 0x3A ∧ b = false
      · rw [hcol.1, hcol.2, Upa.Proofs.C08.hostScan_colon, Upa.Proofs.C08.hostScan_colon]
        simp
      · rw [hostScan_cons_go _ _ _ hcol, hostScan_cons_go _ _ _ hcol, ih r hlen]
        simp only [Option.map]
        rw [decode_ascii_split e _ c hc s]

/-- host_state and hostname_state -/
theorem fwd_host (c : Ctx) (W : c.Wf) (st : St) (hst : rank st = 10) (p : Nat) (sp fl : Bool) (u : Url)
    (hG : Sim c ⟨st, p, sp, fl⟩ u) :
    (bHost c.a c.first c.last c.ov c.ui c.orc c.fuel ⟨st, p, sp, fl⟩).sat (Fwd c (rank .host) (verdictAt c ⟨st, p, sp, fl⟩ u)) := by
  have hov : c.ov.isSome = true → u = c.u0 := fun h => hG.u0 h (Nat.le_of_eq hst)
  obtain ⟨h1, h2, h3, h4⟩ := hG.inv (by omega)
  have hlv : verdictAt c ⟨st, p, sp, fl⟩ u = isOk (hostState c.idna c.ov u (c.D p)) := by
    revert hst
    cases st <;> first | exact fun h => absurd h (by decide) | exact fun _ => rfl
  rw [hlv]
  have hl := W.hl
  -- the file-scheme setter goes to file_host_state; else `hc1 hc2 hc3` match the three early returns of the block with
  -- the three guards of `hostState_eq`, then the host parser's verdict, then port / override / path_start_state
  unfold bHost
  by_cases hfile : c.ov.isSome = true ∧ fl = true
  · rw [if_pos hfile]
    have hh : hostState c.idna c.ov u (c.D p) = fileHostState c.idna c.ov u (c.D p) := by
      unfold hostState
      rw [if_pos (by rw [← h4]; simp [hfile.1, hfile.2])]
    rw [hh]
    exact R.sat_pure (Fwd.goto (Sim.late h3 h4) rfl)
  · rw [if_neg hfile]
    have hf' : (c.ov.isSome && u.isFile) = false := by
      rw [← h4]
      cases h : c.ov.isSome
      · rfl
      · cases h' : fl
        · rfl
        · exact absurd ⟨h, h'⟩ hfile
    refine R.sat_bind (endOfAuthorityB_spec hl p sp h1 h2) ?_
    intro eoa heoa
    obtain ⟨a3, a4, a5⟩ := Dl_firstAt c.e c.a _ (authEnd_ascii sp) p eoa c.last hl heoa
    obtain ⟨a1, a2, -, -⟩ := heoa
    refine R.sat_bind (hostLoopU c.a c.first c.last eoa hl a2 c.fuel p false h1 a1 (by have := W.hf; omega)) ?_
    intro ⟨q, isPort⟩ ⟨r1, r2, r3, r5⟩
    simp only [] at r1 r2 r3 r5 ⊢
    replace r5 : hostScan (Dl c.e c.a p eoa) false =
        (Dl c.e c.a p q, if isPort then some (Dl c.e c.a (q + 1) eoa) else none) := by
      rw [Dl, hostScan_decode c.e _ _ (Nat.le_refl _), r5]
      cases isPort <;> rfl
    subst h3
    rw [hostState_eq c.idna c.ov u (c.D p) _ _ _ _ hf' a4 a5 r5]
    have hnil : Dl c.e c.a p q = [] ↔ p = q := Dl_eq_nil_iff c.e c.a p q r1 (by omega)
    have hps : (if isPort = true then some (Dl c.e c.a (q + 1) eoa) else none).isSome = isPort := by
      cases isPort <;> rfl
    have hc1 : (p = q ∧ (isPort = true ∨ u.isSpecial = true)) ↔
        (decide (Dl c.e c.a p q = []) &&
          ((if isPort = true then some (Dl c.e c.a (q + 1) eoa) else none).isSome || u.isSpecial)) = true := by
      simp only [hps, Bool.and_eq_true, Bool.or_eq_true, decide_eq_true_eq, hnil]
    have hc2 : (p = q ∧ c.ov.isSome = true ∧ (c.ui.hasCredentials = true ∨ c.ui.portNull = false)) ↔
        (decide (Dl c.e c.a p q = []) && c.ov.isSome && (u.hasCredentials || u.port.isSome)) = true := by
      simp only [Bool.and_eq_true, Bool.or_eq_true, decide_eq_true_eq, hnil]
      have hcred : c.ov.isSome = true → ((c.ui.hasCredentials = true ∨ c.ui.portNull = false) ↔
          (u.hasCredentials = true ∨ u.port.isSome = true)) := fun ho => by
        rw [hov ho]; exact or_congr Iff.rfl (Option.isNone_eq_false_iff)
      exact ⟨fun ⟨x1, x2, x3⟩ => ⟨⟨x1, x2⟩, (hcred x2).mp x3⟩, fun ⟨⟨x1, x2⟩, x3⟩ => ⟨x1, x2, (hcred x2).mpr x3⟩⟩
    have hc3 : (isPort = true ∧ c.ov = some Override.hostname) ↔
        ((if isPort = true then some (Dl c.e c.a (q + 1) eoa) else none).isSome &&
          decide (c.ov = some Override.hostname)) = true := by
      simp only [hps, Bool.and_eq_true, decide_eq_true_eq]
    by_cases c1 : p = q ∧ (isPort = true ∨ u.isSpecial = true)
    · rw [if_pos c1, if_pos (hc1.1 c1)]; exact R.sat_pure rfl
    · rw [if_neg c1, if_neg (fun h => c1 (hc1.2 h))]
      by_cases c2 : p = q ∧ c.ov.isSome = true ∧ (c.ui.hasCredentials = true ∨ c.ui.portNull = false)
      · rw [if_pos c2, if_pos (hc2.1 c2)]; exact R.sat_pure rfl
      · rw [if_neg c2, if_neg (fun h => c2 (hc2.2 h))]
        by_cases c3 : isPort = true ∧ c.ov = some Override.hostname
        · rw [if_pos c3, if_pos (hc3.1 c3)]; exact R.sat_pure rfl
        · rw [if_neg c3, if_neg (fun h => c3 (hc3.2 h))]
          refine R.sat_range ?_
          rw [Ctx.orc_hostOk]
          cases hph : parseHost c.idna (Dl c.e c.a p q) (!u.isSpecial) with
          | none =>
            simp only [Option.isSome_none, Bool.not_false, if_true]
            exact R.sat_pure rfl
          | some h =>
            simp only [Option.isSome_some, Bool.not_true, Bool.false_eq_true, if_false]
            cases isPort with
            | true =>
              have r3a := r3 rfl
              simp only [if_true]
              refine R.sat_ptr (R.sat_pure ?_)
              rw [← Dl_split c.e c.a (q + 1) eoa c.last (by omega) a2 hl a3]
              exact Fwd.goto (u' := { u with host := some h }) (Sim.late rfl h4) rfl
            | false =>
              simp only [Bool.false_eq_true, if_false]
              by_cases hovs : c.ov.isSome = true
              · rw [if_pos hovs, if_pos hovs]; exact R.sat_pure rfl
              · rw [if_neg hovs, if_neg hovs]
                rw [isOk_pathStart]
                exact R.sat_pure (Fwd.tail Bnd.of)

theorem fwd_authority (c : Ctx) (W : c.Wf) (p : Nat) (sp fl : Bool) (u : Url) (hG : Sim c ⟨.authority, p, sp, fl⟩ u) :
    (bAuthority c.e c.a c.first c.last c.ui ⟨.authority, p, sp, fl⟩).sat
      (Fwd c (rank .authority) (isOk (authorityState c.idna c.ov u (c.D p)))) := by
  have hov := hG.noOv
  obtain ⟨h1, h2, hsp, hfl⟩ := hG.inv
  have hl := W.hl
  refine R.sat_mono (bAuthority_spec hl c.e c.ui _ h1 h2) ?_
  rintro r ⟨eoa, itEta, heoa, hEta, rfl⟩
  dsimp only at heoa hEta
  obtain ⟨e3, e4, e5⟩ := Dl_firstAt c.e c.a _ (authEnd_ascii sp) p eoa c.last hl heoa
  obtain ⟨e1, e2, -, -⟩ := heoa
  rw [hsp] at e4 e5
  replace e5 : (c.D p).dropWhile
      (fun x => !Proofs.C08.authEnd u.isSpecial x) = c.D eoa := e5
  unfold authorityNext
  rcases hEta with ⟨rfl, r4⟩ | ⟨r1, r2, r3, r4⟩
  · -- no `@`: the whole authority is host and port
    rw [if_neg (fun h => h rfl)]
    have hsl := Proofs.C08.splitLastAt_none _ (Dl_ne_of_units c.e c.a 0x40 (by omega) p itEta (by omega) r4)
    rw [← e4] at hsl
    rw [Proofs.C08.authorityState_none c.idna c.ov u (c.D p) hsl]
    exact Fwd.goto (Sim.of hov hsp hfl) rfl
  · -- the authority is `cred @ hostport`, the `@` at `itEta` being the last one
    have hsplit : Dl c.e c.a p eoa = Dl c.e c.a p itEta ++ 0x40 :: Dl c.e c.a (itEta + 1) eoa := by
      rw [Dl_split c.e c.a p itEta eoa r1 (by omega) (by omega) (Or.inr (by omega)),
        Dl_cons_ascii c.e c.a itEta eoa r2 (by omega) (by omega), r3]
    have hsl := Proofs.C08.splitLastAt_some (Dl c.e c.a p itEta) _
      (Dl_ne_of_units c.e c.a 0x40 (by omega) (itEta + 1) eoa (by omega) (fun i i1 i2 => r4 i (by omega) i2))
    rw [← hsplit, ← e4] at hsl
    have hnil := Dl_eq_nil_iff c.e c.a (itEta + 1) eoa (by omega) (by omega)
    rw [if_pos (by omega), Proofs.C08.authorityState_some c.idna c.ov u (c.D p) _ _ hsl]
    by_cases hd : eoa - itEta = 1
    · rw [if_pos hd, if_pos (hnil.mpr (by omega))]; rfl
    · rw [if_neg hd, if_neg (fun hn => hd (by have := hnil.mp hn; omega))]
      have hcat : Dl c.e c.a (itEta + 1) eoa ++ c.D eoa = c.D (itEta + 1) :=
        (Dl_split c.e c.a (itEta + 1) eoa c.last (by omega) e2 hl e3).symm
      rw [e5, hcat]
      have hu' : (Proofs.C08.withCred u (Dl c.e c.a p itEta)).scheme = u.scheme := by
        unfold Proofs.C08.withCred; split <;> rfl
      refine Fwd.goto (Sim.of hov ?_ ?_) rfl
      · simp only [Url.isSpecial, hu']; exact hsp
      · simp only [Url.isFile, hu']; exact hfl

theorem isSlash_ascii : AsciiPred isSlash := by
  intro x h; simp [isSlash] at h; omega

theorem fwd_sais (c : Ctx) (W : c.Wf) (p : Nat) (sp fl : Bool) (u : Url)
    (hG : Sim c ⟨.specialAuthorityIgnoreSlashes, p, sp, fl⟩ u) :
    (bSpecialAuthorityIgnoreSlashes c.a c.first c.last c.fuel ⟨.specialAuthorityIgnoreSlashes, p, sp, fl⟩).sat
      (Fwd c (rank .specialAuthorityIgnoreSlashes) (isOk (ignoreSlashesState c.idna c.ov u (c.D p)))) := by
  have hov := hG.noOv
  obtain ⟨h1, h2, hsp, hfl⟩ := hG.inv
  have hl := W.hl
  unfold bSpecialAuthorityIgnoreSlashes
  refine R.sat_bind (scan_sat _ (fun it => it) p c.last (fun it => ∀ i, p ≤ i → i < it → (!isSlash c.a[i]!) = false)
    (FirstAt c.a (fun x => !isSlash x) p c.last) ?_ _ _ (Nat.le_refl _) h2 (fun i a (b : i < p) => by omega)
    (by have := W.hf; show c.last - p < c.fuel; omega)) ?_
  · intro it i1 i2 i3
    refine R.sat_if (fun hlt => ?_) (fun hlt => ?_)
    · refine R.sat_read hl (R.sat_if (fun hc => ?_) (fun hc => ?_))
      · refine R.sat_ptr (R.sat_pure ⟨by omega, by omega, fun i a b => ?_⟩)
        by_cases hi : i = it
        · subst hi; rw [hc]; rfl
        · exact i3 i a (by omega)
      · exact R.sat_pure ⟨i1, i2, i3, fun _ => by simpa using hc⟩
    · exact R.sat_pure ⟨i1, i2, i3, fun h => absurd h hlt⟩
  · intro it hit
    obtain ⟨i1, i2, -, -⟩ := id hit
    refine R.sat_pure ?_
    have hd : (c.D p).dropWhile isSlash = c.D it :=
      (Dl_scan_pos c.e c.a isSlash isSlash_ascii c.last hl p it hit).2
    unfold ignoreSlashesState
    rw [hd]
    exact Fwd.goto (Sim.of hov hsp hfl) rfl

end Upa.Impl.B
