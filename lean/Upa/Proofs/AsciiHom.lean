import Upa.Proofs.Utf
import Upa.Proofs.ListScan
/-
  Every test the library makes on raw code units before or instead of decoding them (trimming, one leading `?` / `#`,
  "is it empty", the two-hex-digit lookahead of the percent decoders) looks at ASCII units only.  `Spec.encode e` and
  `Impl.decode e` (on any list of numbers) both keep ASCII units where they are and invent none: they are
  instances of `AsciiHom`, whose laws are symmetric under reversal, so that what holds at the head of a string holds at
  its end.  Such tests commute with both maps by one argument.
  The second half of the file holds what is said of `Impl.decode e` alone: `UOk` (units in the range of their character
  type, the premise of every `Bounds*` specification and of C10b) and what it is closed under, `Scalars` and
  `decode_scalars` (under `UOk` the decoder yields scalar values), `decode_head` / `decode_last`, `decode_of_ascii`.
-/
namespace Upa.Proofs.C10b
open Upa Upa.Impl

/-- An instance is stated where its test is used (`isTrimChar_ascii`, `isRemovable_ascii` EncIndep.lean; `isSlash_ascii`,
    `pathSep_ascii`, `authEnd_ascii`, `forbiddenHost_ascii` in the Bounds* files) and is proved by
    `intro c h; simp [X] at h; omega`. -/
def AsciiPred (p : Nat → Bool) : Prop := ∀ c, p c = true → c < 0x80

/-- `T` keeps ASCII units where they are (`split`) and invents none (`mem`); every law is symmetric under
    reversal -/
structure AsciiHom (T : List Nat → List Nat) : Prop where
  nil : T [] = []
  split : ∀ a c b, c < 0x80 → T (a ++ c :: b) = T a ++ c :: T b
  ne_nil : ∀ l, l ≠ [] → T l ≠ []
  mem : ∀ l, ∀ c ∈ T l, c < 0x80 → c ∈ l

theorem exists_first_ascii (r : List Nat) : (∀ c ∈ r, ¬ c < 0x80) ∨
    ∃ n c r', r = n ++ c :: r' ∧ (∀ x ∈ n, ¬ x < 0x80) ∧ c < 0x80 := by
  induction r with
  | nil => exact Or.inl (by simp)
  | cons x r ih =>
    by_cases hx : x < 0x80
    · exact Or.inr ⟨[], x, r, rfl, by simp, hx⟩
    · rcases ih with h | ⟨n, c, r', rfl, hn, hc⟩
      · exact Or.inl (fun c hc => (List.mem_cons.1 hc).elim (fun e => e ▸ hx) (h c))
      · exact Or.inr ⟨x :: n, c, r', rfl, fun y hy => (List.mem_cons.1 hy).elim (fun e => e ▸ hx) (hn y), hc⟩

namespace AsciiHom
variable {T : List Nat → List Nat}

theorem cons (h : AsciiHom T) {c : Nat} (hc : c < 0x80) (r : List Nat) : T (c :: r) = c :: T r := by
  have := h.split [] c r hc
  rwa [h.nil] at this

theorem reverse (h : AsciiHom T) : AsciiHom (fun l => (T l.reverse).reverse) where
  nil := by simp [h.nil]
  split a c b hc := by simp [h.split _ c _ hc]
  ne_nil l hl := by simpa using h.ne_nil l.reverse (by simpa using hl)
  mem l c hc hlt := by simpa using h.mem l.reverse c (by simpa using hc) hlt

/-- The lemma the consequences below go through.  Cut `x :: r` at its first ASCII unit (`exists_first_ascii`): the
    image of the non-ASCII block before it is not empty (`ne_nil`) and begins with no ASCII unit, for that would be
    a unit of the block (`mem`); `split` puts it at the head of the whole image. -/
theorem head (h : AsciiHom T) (x : Nat) (r : List Nat) (hx : ¬ x < 0x80) :
    ∃ y t, T (x :: r) = y :: t ∧ ¬ y < 0x80 := by
  have block : ∀ n, (∀ c ∈ n, ¬ c < 0x80) → ∃ y t, T (x :: n) = y :: t ∧ ¬ y < 0x80 := by
    intro n hn
    match hT : T (x :: n), h.ne_nil _ (List.cons_ne_nil _ _) with
    | y :: t, _ =>
      refine ⟨y, t, rfl, fun hy => ?_⟩
      rcases List.mem_cons.1 (h.mem _ y (by rw [hT]; exact List.mem_cons_self) hy) with rfl | hm
      · exact hx hy
      · exact hn y hm hy
  rcases exists_first_ascii r with hr | ⟨n, c, r', rfl, hn, hc⟩
  · exact block r hr
  · obtain ⟨y, t, e, hy⟩ := block n hn
    refine ⟨y, t ++ c :: T r', ?_, hy⟩
    rw [← List.cons_append, h.split _ c _ hc, e]; rfl

theorem dropWhile (h : AsciiHom T) {p : Nat → Bool} (hp : AsciiPred p) :
    ∀ l, (T l).dropWhile p = T (l.dropWhile p) := by
  intro l
  induction l with
  | nil => rw [List.dropWhile_nil, h.nil, List.dropWhile_nil]
  | cons x r ih =>
    by_cases hx : x < 0x80
    · rw [h.cons hx]
      cases hpx : p x with
      | true => rw [List.dropWhile_cons_of_pos hpx, List.dropWhile_cons_of_pos hpx, ih]
      | false =>
        rw [List.dropWhile_cons_of_neg (by simp [hpx]), List.dropWhile_cons_of_neg (by simp [hpx]), h.cons hx]
    · obtain ⟨y, t, e, hy⟩ := h.head x r hx
      have nx : ¬ p x = true := fun hpx => hx (hp x hpx)
      have ny : ¬ p y = true := fun hpy => hy (hp y hpy)
      rw [List.dropWhile_cons_of_neg nx, e, List.dropWhile_cons_of_neg ny]

theorem takeWhile (h : AsciiHom T) {p : Nat → Bool} (hp : AsciiPred p) :
    ∀ l, (T l).takeWhile p = l.takeWhile p := by
  intro l
  induction l with
  | nil => rw [h.nil]
  | cons x r ih =>
    by_cases hx : x < 0x80
    · rw [h.cons hx]
      cases hpx : p x with
      | true => rw [List.takeWhile_cons_of_pos hpx, List.takeWhile_cons_of_pos hpx, ih]
      | false => rw [List.takeWhile_cons_of_neg (by simp [hpx]), List.takeWhile_cons_of_neg (by simp [hpx])]
    · obtain ⟨y, t, e, hy⟩ := h.head x r hx
      rw [List.takeWhile_cons_of_neg fun hpx => hx (hp x hpx), e, List.takeWhile_cons_of_neg fun hpy => hy (hp y hpy)]

/-- a scan for a delimiter `p` (ASCII units only) cuts the image where it cuts the argument: no image of a unit
    before the cut is a delimiter (`mem`), and the image of the rest begins with the delimiter it begins with -/
theorem span_delim (h : AsciiHom T) {p : Nat → Bool} (hp : AsciiPred p) (l : List Nat) :
    (T l).takeWhile (fun x => !p x) = T (l.takeWhile fun x => !p x) ∧
      (T l).dropWhile (fun x => !p x) = T (l.dropWhile fun x => !p x) := by
  have hl := List.takeWhile_append_dropWhile (p := fun x => !p x) (l := l)
  have hpre : ∀ y ∈ T (l.takeWhile fun x => !p x), (!p y) = true := fun y hy => by
    cases hpy : p y with
    | false => rfl
    | true => simpa [hpy] using (mem_takeWhile (h.mem _ y hy (hp y hpy))).1
  have hT : T l = T (l.takeWhile fun x => !p x) ++ T (l.dropWhile fun x => !p x) ∧
      ∀ c, (T (l.dropWhile fun x => !p x)).head? = some c → (!p c) = false := by
    match hb : l.dropWhile (fun x => !p x) with
    | [] => rw [hb, List.append_nil] at hl; rw [h.nil, List.append_nil, hl]; exact ⟨rfl, nofun⟩
    | c :: b =>
      have hpc : p c = true := by simpa using head?_dropWhile (p := fun x => !p x) (l := l) (c := c) (by rw [hb]; rfl)
      rw [hb] at hl
      rw [h.cons (hp c hpc), ← h.split _ c _ (hp c hpc), hl]
      exact ⟨rfl, fun c' hc' => by cases hc'; simp [hpc]⟩
  rw [hT.1]
  exact scan_append hpre hT.2

/-- trimming on both ends commutes with an ASCII homomorphism -/
theorem trim (h : AsciiHom T) {p : Nat → Bool} (hp : AsciiPred p) (l : List Nat) :
    (((T l).dropWhile p).reverse.dropWhile p).reverse = T ((((l.dropWhile p).reverse).dropWhile p).reverse) := by
  rw [h.dropWhile hp l]
  have := h.reverse.dropWhile hp (l.dropWhile p).reverse
  simp only [List.reverse_reverse] at this
  rw [this, List.reverse_reverse]

theorem eq_nil_iff (h : AsciiHom T) {l : List Nat} : T l = [] ↔ l = [] :=
  ⟨fun e => Classical.byContradiction fun hne => h.ne_nil l hne e, fun e => e ▸ h.nil⟩

theorem head_ascii (h : AsciiHom T) {l : List Nat} {c : Nat} (hc : (T l).head? = some c)
    (hlt : c < 0x80) : l.head? = some c := by
  cases l with
  | nil => rw [h.nil] at hc; cases hc
  | cons x r =>
    by_cases hx : x < 0x80
    · rw [h.cons hx] at hc; exact hc
    · obtain ⟨y, t, e, hy⟩ := h.head x r hx
      rw [e] at hc
      cases hc; exact absurd hlt hy

/-- `T` is the identity on ASCII text, and on every `l` whose image is ASCII text -/
theorem of_ascii (h : AsciiHom T) : ∀ l : List Nat, (∀ c ∈ l, c < 0x80) → T l = l
  | [], _ => h.nil
  | x :: r, hl => by
    rw [h.cons (hl x List.mem_cons_self), h.of_ascii r fun c hc => hl c (List.mem_cons_of_mem _ hc)]

theorem of_ascii_image (h : AsciiHom T) : ∀ l : List Nat, (∀ c ∈ T l, c < 0x80) → T l = l
  | [], _ => h.nil
  | x :: r, hl => by
    by_cases hx : x < 0x80
    · rw [h.cons hx] at hl ⊢
      rw [h.of_ascii_image r fun c hc => hl c (List.mem_cons_of_mem _ hc)]
    · obtain ⟨y, t, e, hy⟩ := h.head x r hx
      exact absurd (hl y (e ▸ List.mem_cons_self)) hy

/-- a test for ASCII units finds one in the image iff it finds one in the argument -/
theorem any_eq (h : AsciiHom T) {g : Nat → Bool} (hg : AsciiPred g) (l : List Nat) : (T l).any g = l.any g := by
  rw [Bool.eq_iff_iff, List.any_eq_true, List.any_eq_true]
  constructor
  · rintro ⟨c, hc, hgc⟩
    exact ⟨c, h.mem l c hc (hg c hgc), hgc⟩
  · rintro ⟨c, hc, hgc⟩
    obtain ⟨s, t, rfl⟩ := List.append_of_mem hc
    rw [h.split s c t (hg c hgc)]
    exact ⟨c, List.mem_append_right _ List.mem_cons_self, hgc⟩

/-- a test for ASCII units that fails on every unit of the argument fails on every unit of the image -/
theorem forall_false (h : AsciiHom T) {p : Nat → Bool} (hp : AsciiPred p) (l : List Nat)
    (hl : ∀ x ∈ l, p x = false) : ∀ x ∈ T l, p x = false := fun x hx =>
  (Bool.eq_false_or_eq_true (p x)).elim (fun ht => hl x (h.mem l x hx (hp x ht))) id

/-- a function that takes the value `bad` on every text that is not ASCII sees the same in the image -/
theorem fun_eq (h : AsciiHom T) {α : Type} (F : List Nat → α) (bad : α)
    (hF : ∀ s, F s ≠ bad → ∀ c ∈ s, c < 0x80) (l : List Nat) : F (T l) = F l := by
  by_cases h1 : F l = bad
  · by_cases h2 : F (T l) = bad
    · rw [h1, h2]
    · rw [h.of_ascii_image l (hF _ h2)]
  · rw [h.of_ascii l (hF l h1)]

theorem pred_eq (h : AsciiHom T) (P : List Nat → Bool) (hP : ∀ s, P s = true → ∀ c ∈ s, c < 0x80)
    (l : List Nat) : P (T l) = P l :=
  h.fun_eq P false (fun s hs => hP s ((Bool.not_eq_false _).mp hs)) l

theorem concat(h : AsciiHom T) {c : Nat} (hc : c < 0x80) (r : List Nat) : T (r ++ [c]) = T r ++ [c] := by
  have := h.split r c [] hc
  rwa [h.nil] at this

theorem last_ascii (h : AsciiHom T) {l : List Nat} {c : Nat} (hc : (T l).getLast? = some c)
    (hlt : c < 0x80) : l.getLast? = some c := by
  have := h.reverse.head_ascii (l := l.reverse) (c := c) (by simpa using hc) hlt
  simpa using this

/-- one leading ASCII `a` is stripped from the image iff it is stripped from the argument -/
theorem strip_lead (h : AsciiHom T) {α : Type} (a : Nat) (ha : a < 0x80) (F : List Nat → α) (nil : α)
    (l : List Nat) :
    (match T l with
     | [] => nil
     | c :: r => F (if c = a then r else T l)) =
    (match (generalizing := false) l with
     | [] => nil
     | c :: r => F (if c = a then T r else T l)) := by
  cases l with
  | nil => rw [h.nil]
  | cons c r =>
    by_cases hca : c = a
    · subst hca; rw [h.cons ha]
    · match hT : T (c :: r), h.ne_nil _ (List.cons_ne_nil _ _) with
      | x :: xs, _ =>
        have hxa : x ≠ a := fun hxa => by
          have := h.head_ascii (c := x) (by rw [hT]; rfl) (hxa ▸ ha)
          exact hca ((Option.some.inj this).trans hxa)
        simp only [if_neg hca, if_neg hxa]

end AsciiHom

/-! ### `Spec.encode e` -/

theorem encChar_ascii (e : Enc) (c : Nat) (h : c < 0x80) : encChar e c = [c] := by
  cases e
  · simp [encChar, Spec.utf8EncodeChar]; omega
  · simp [encChar, Spec.utf16EncodeChar]; omega
  · rfl

theorem encChar_nonascii (e : Enc) (c : Nat) (h : ¬ c < 0x80) :
    encChar e c ≠ [] ∧ ∀ x ∈ encChar e c, 0x80 ≤ x := by
  cases e
  · obtain ⟨b, t, e, hb, _, ht⟩ := utf8EncodeChar_bytes c (by omega)
    refine ⟨utf8EncodeChar_ne_nil c, fun x hx => ?_⟩
    rw [show encChar .u8 c = b :: t from e, List.mem_cons] at hx
    rcases hx with rfl | hx
    · omega
    · exact (ht x hx).1
  · simp only [encChar, Spec.utf16EncodeChar]
    split <;> (simp; omega)
  · simp [encChar]; omega

theorem encode_nil (e : Enc) : Spec.encode e [] = [] := by cases e <;> rfl

theorem encode_asciiHom (e : Enc) : AsciiHom (Spec.encode e) where
  nil := encode_nil e
  split a c b hc := by
    simp only [encode_flatMap, List.flatMap_append, List.flatMap_cons, encChar_ascii e c hc]; rfl
  ne_nil l hl := by
    match l, hl with
    | c :: r, _ => rw [encode_cons]; exact fun h0 => encChar_ne_nil e c (List.append_eq_nil_iff.1 h0).1
  mem l c hc hlt := by
    rw [encode_flatMap, List.mem_flatMap] at hc
    obtain ⟨s, hs, hc⟩ := hc
    by_cases hs80 : s < 0x80
    · rw [encChar_ascii e s hs80, List.mem_singleton] at hc; exact hc ▸ hs
    · have := (encChar_nonascii e s hs80).2 c hc; omega

/-! ### `Impl.decode e`: `UOk`; what one decoder step can produce; what `decode e` yields -/

/-- code units are in the range of their character type (= `Upa.Props.UnitsOk`) -/
def UOk : Enc → List Nat → Prop
  | .u8, l => ∀ x ∈ l, x < 256
  | .u16, l => ∀ x ∈ l, x < 65536
  | .u32, _ => True

theorem UOk.subset {e : Enc} {l l' : List Nat} (h : UOk e l) (hs : ∀ x ∈ l', x ∈ l) : UOk e l' := by
  cases e
  · exact fun x hx => h x (hs x hx)
  · exact fun x hx => h x (hs x hx)
  · trivial

theorem UOk.of_ascii (e : Enc) {l : List Nat} (h : ∀ c ∈ l, c < 0x80) : UOk e l := by
  cases e
  · exact fun x hx => Nat.lt_trans (h x hx) (by decide)
  · exact fun x hx => Nat.lt_trans (h x hx) (by decide)
  · trivial

export Upa.Impl (cpOf)

theorem le_of_and_eq {c m k : Nat} (h : c &&& m = k) : k ≤ c := h ▸ Nat.and_le_left

/-- the scalar half needs 16-bit units (the masks are 32 bits wide: a wider unit can pass the tests); the ASCII
    half needs nothing -/
theorem readU16_cp (l : List Nat) (hne : l ≠ []) :
    ((∀ x ∈ l, x < 65536) → Spec.isScalar (cpOf (readU16 l)) = true) ∧
      (cpOf (readU16 l) < 0x80 → l = cpOf (readU16 l) :: (readU16 l).2.2) := by
  fun_cases readU16 l
  all_goals first
    | exact absurd rfl hne
    | (simp only [cpOf, isScalar_iff]; simp; done)
    | (have h1 := le_of_and_eq ‹_ &&& 0xFFFFF800 = 0xD800›
       have h2 := le_of_and_eq ‹_ &&& 0xFFFFFC00 = 0xDC00›
       refine ⟨fun hl => ?_, ?_⟩
       · have hc := hl _ List.mem_cons_self
         have ht := hl _ (List.mem_cons_of_mem _ List.mem_cons_self)
         simp only [surr_iff _ hc, trail_iff _ ht, and400, shl10] at *
         simp only [cpOf, isScalar_iff]; simp; omega
       · simp only [cpOf, shl10]; simp; omega)
    | (refine ⟨fun hl => ?_, fun _ => rfl⟩
       have hc := hl _ List.mem_cons_self
       simp only [surr_iff _ hc] at *
       simp only [cpOf, isScalar_iff]; simp; omega)

theorem readU32_cp (l : List Nat) (hne : l ≠ []) :
    Spec.isScalar (cpOf (readU32 l)) = true ∧
      (cpOf (readU32 l) < 0x80 → l = cpOf (readU32 l) :: (readU32 l).2.2) := by
  match l, hne with
  | c :: r, _ =>
    rw [readU32_cons]
    cases h : Spec.isScalar c
    · exact ⟨rfl, fun h => absurd (show (0xFFFD : Nat) < 0x80 from h) (by decide)⟩
    · exact ⟨h, fun _ => rfl⟩

/-- an ASCII code point was the unit itself, whatever the units are -/
theorem readChar_cp_ascii (e : Enc) (l : List Nat) (hne : l ≠ []) :
    cpOf (readChar e l) < 0x80 → l = cpOf (readChar e l) :: (readChar e l).2.2 := by
  cases e
  · exact (readU8_cp l hne).2
  · exact (readU16_cp l hne).2
  · exact (readU32_cp l hne).2

theorem readChar_cp (e : Enc) (l : List Nat) (hne : l ≠ []) (hl : UOk e l) :
    Spec.isScalar (cpOf (readChar e l)) = true ∧
      (cpOf (readChar e l) < 0x80 → l = cpOf (readChar e l) :: (readChar e l).2.2) := by
  refine ⟨?_, readChar_cp_ascii e l hne⟩
  cases e
  · exact (readU8_cp l hne).1
  · exact (readU16_cp l hne).1 hl
  · exact (readU32_cp l hne).1

theorem UOk.rest {e : Enc} {l : List Nat} (h : UOk e l) (hne : l ≠ []) : UOk e (readChar e l).2.2 :=
  h.subset (readChar_rest_mem e l hne)

theorem UOk.tail {e : Enc} {x : Nat} {r : List Nat} (h : UOk e (x :: r)) : UOk e r :=
  h.subset (fun _ hx => List.mem_cons_of_mem _ hx)

theorem UOk.dropWhile {e : Enc} {l : List Nat} (p : Nat → Bool) (h : UOk e l) : UOk e (l.dropWhile p) :=
  h.subset (fun _ hx => (List.dropWhile_sublist p).subset hx)

def Scalars (s : List Nat) : Prop := ∀ c ∈ s, Spec.isScalar c = true

/-- uniform in `e`; for `.u8` the premise is not needed (`Impl.decode_u8_isScalar`) -/
theorem decode_scalars (e : Enc) (l : List Nat) : UOk e l → Scalars (decode e l) := by
  refine decode_induction e (fun l => UOk e l → Scalars (decode e l)) ?_ ?_ l
  · intro _ c hc; simp [decode_nil] at hc
  · intro l hne ih hl c hc
    rw [decode_step e l hne, List.mem_cons] at hc
    rcases hc with hc | hc
    · rw [hc]; exact (readChar_cp e l hne hl).1
    · exact ih (hl.rest hne) c hc

theorem decode_ne_nil (e : Enc) {l : List Nat} (h : l ≠ []) : decode e l ≠ [] := by
  rw [decode_step e l h]; exact List.cons_ne_nil _ _

theorem decode_ascii_mem (e : Enc) (l : List Nat) : ∀ c ∈ decode e l, c < 0x80 → c ∈ l := by
  refine decode_induction e (fun l => ∀ c ∈ decode e l, c < 0x80 → c ∈ l) ?_ ?_ l
  · intro c hc; simp [decode_nil] at hc
  · intro l hne ih c hc hlt
    rw [decode_step e l hne, List.mem_cons] at hc
    rcases hc with hc | hc
    · have := readChar_cp_ascii e l hne (hc ▸ hlt)
      rw [this, ← hc]; exact List.mem_cons_self
    · exact readChar_rest_mem e l hne c (ih c hc hlt)

theorem decode_asciiHom (e : Enc) : AsciiHom (decode e) where
  nil := decode_nil e
  split a c b hc := decode_ascii_split e b c hc a
  ne_nil _ hl := decode_ne_nil e hl
  mem := decode_ascii_mem e

theorem decode_head (e : Enc) (l : List Nat) (c : Nat)
    (hc : (decode e l).head? = some c) (hlt : c < 0x80) : l.head? = some c :=
  (decode_asciiHom e).head_ascii hc hlt

theorem decode_last (e : Enc) (l : List Nat) (c : Nat)
    (hc : (decode e l).getLast? = some c) (hlt : c < 0x80) : l.getLast? = some c :=
  (decode_asciiHom e).last_ascii hc hlt

theorem decode_concat_ascii (e : Enc) (x : Nat) (r : List Nat) (hx : x < 0x80) :
    decode e (r ++ [x]) = decode e r ++ [x] := (decode_asciiHom e).concat hx r

theorem dropWhile_decode (e : Enc) {p : Nat → Bool} (hp : AsciiPred p) :
    ∀ m, (decode e m).dropWhile p = decode e (m.dropWhile p) :=
  (decode_asciiHom e).dropWhile hp

theorem _root_.Upa.Impl.decode_of_ascii (e : Enc) : ∀ l : List Nat, (∀ c ∈ l, c < 0x80) → decode e l = l :=
  (decode_asciiHom e).of_ascii

end Upa.Proofs.C10b
