import Upa.Props.C01b
import Upa.Props.C03
import Upa.Proofs.C01Head
import Upa.Proofs.EncIndep
/-
  C03 — the setters conform to the URL Standard's API setters.

  Every state-override entry point of `Impl.urlParse` equals `Spec.basicParse` with that state override, as
  the FULL pair (result, URL as left behind).  Host, hostname, port, path start, query and fragment are
  instances of the simulations of C01 (`SimR.basicParse` at `R := Eq`: `entry_*`).  The protocol setter is
  proved here: the Standard parses `value ++ ":"` from the scheme start state, the code takes the end of the
  input for the colon; both have the shape `schemeOv` on any record (`basicParse_scheme_spec`;
  `urlParse_scheme_ov` in Upa/Proofs/ParserRules.lean) and agree under `RecOk` (`sim_scheme_ov`).

  `RecOk u`: a `file` URL has a host, and a host whose serialization is empty is the empty host — where
  the code's "host text empty" meets the Standard's "host null or the empty host".

  Then the ten setters: `setter_conforms`.
  Histories: Upa/Proofs/SettersInv.lean (invariant), Upa/Proofs/SettersHist.lean (necessity of `RecOk`,
  call sequences).
-/
namespace Upa.Proofs.C03
open Upa.Spec (State Cfg StepResult step run)
open Upa.Proofs.C01

section entry
variable {idna : Idna}
variable (hHost : HostOk idna)

include hHost in
theorem entry_host (u : Url) (inp : List Nat) (hsc : ∀ x ∈ inp, Spec.isScalar x = true) :
    Spec.basicParse idna inp none u (some (ovState .host)) =
      resOf (some .host) (Impl.urlParse idna none (some .host) u inp) :=
  SimR.basicParse (R := Eq) (sim_host (some .host) hHost) rfl (by decide) (by decide) inp u rfl hsc

include hHost in
theorem entry_hostname (u : Url) (inp : List Nat) (hsc : ∀ x ∈ inp, Spec.isScalar x = true) :
    Spec.basicParse idna inp none u (some (ovState .hostname)) =
      resOf (some .hostname) (Impl.urlParse idna none (some .hostname) u inp) :=
  SimR.basicParse (R := Eq) (sim_hostname (some .hostname) hHost) rfl (by decide) (by decide) inp u rfl hsc

theorem entry_port (u : Url) (inp : List Nat) (hsc : ∀ x ∈ inp, Spec.isScalar x = true) :
    Spec.basicParse idna inp none u (some (ovState .port)) =
      resOf (some .port) (Impl.urlParse idna none (some .port) u inp) :=
  SimR.basicParse (R := Eq) (sim_port (some .port)) rfl (by decide) (by decide) inp u trivial hsc

theorem entry_pathStart (u : Url) (inp : List Nat) (hsc : ∀ x ∈ inp, Spec.isScalar x = true) :
    Spec.basicParse idna inp none u (some (ovState .pathStart)) =
      resOf (some .pathStart) (Impl.urlParse idna none (some .pathStart) u inp) :=
  SimR.basicParse (R := Eq) (sim_pathStart idna none (some .pathStart)) rfl (by decide) (by decide) inp u
    trivial hsc

/-- query state: the Standard appends to the URL's query, the code overwrites it; they agree when the
    query is null or empty at the start -/
theorem entry_query (u : Url) (inp : List Nat) (hsc : ∀ x ∈ inp, Spec.isScalar x = true)
    (hq : u.query.getD [] = []) :
    Spec.basicParse idna inp none u (some (ovState .query)) =
      resOf (some .query) (Impl.urlParse idna none (some .query) u inp) :=
  SimR.basicParse (R := Eq) (sim_query idna none (some .query)) rfl (by decide) (by decide) inp u hq hsc

/-- the form the search setter uses: the API sets the query to the empty string first -/
theorem entry_query_reset (u : Url) (inp : List Nat) (hsc : ∀ x ∈ inp, Spec.isScalar x = true) :
    Spec.basicParse idna inp none { u with query := some [] } (some (ovState .query)) =
      resOf (some .query) (Impl.urlParse idna none (some .query) u inp) :=
  (entry_query _ inp hsc rfl).trans (congrArg (resOf _) (queryState_setQuery (some .query) u (some []) inp))

theorem entry_fragment (u : Url) (inp : List Nat) (hsc : ∀ x ∈ inp, Spec.isScalar x = true)
    (hf : u.fragment = some []) :
    Spec.basicParse idna inp none u (some (ovState .fragment)) =
      resOf (some .fragment) (Impl.urlParse idna none (some .fragment) u inp) :=
  SimR.basicParse (R := Eq) (sim_fragment idna none (some .fragment)) rfl (by decide) (by decide) inp u hf hsc

theorem entry_fragment_reset (u : Url) (inp : List Nat) (hsc : ∀ x ∈ inp, Spec.isScalar x = true) :
    Spec.basicParse idna inp none { u with fragment := some [] } (some (ovState .fragment)) =
      resOf (some .fragment) (Impl.urlParse idna none (some .fragment) u inp) :=
  entry_fragment _ inp hsc rfl

end entry

/-- What the setter proofs need of the record they start from: a `file` URL has a host, and a host
    whose serialization is empty is the empty host.  (The code tests "host text empty"; the Standard
    tests "host is null or the empty host".)  Every URL parsed without a base satisfies it when
    ToASCII never returns the empty string (`parse_recInv`, Upa/Proofs/SettersInv.lean). -/
def RecOk (u : Url) : Bool :=
  match u.host with
  | none => !u.isFile
  | some h => h.text != [] || h.kind == .empty

theorem RecOk.file_iff {u : Url} (h : RecOk u = true) :
    (u.isFile && decide (u.hostText = [])) = decide (u.scheme = Impl.sFile ∧ u.host = some Spec.emptyHost) := by
  unfold RecOk at h
  unfold Url.hostText Url.isFile Impl.isFileScheme at *
  rcases hh : u.host with _ | ⟨k, t⟩
  · rw [hh] at h; simp at h; simp [h]
  · rw [hh] at h
    cases t with
    | nil =>
      simp at h; subst h; simp [Spec.emptyHost]
      by_cases hs : u.scheme = Impl.sFile <;> simp [hs]
    | cons a t => simp [Spec.emptyHost]

theorem RecOk.guard {u : Url} (h : RecOk u = true) :
    Impl.canHaveUsernamePasswordPort u = !Spec.cannotHaveUsernamePasswordPort u := by
  apply Props.C03_guard_agrees
  unfold RecOk at h
  unfold Url.hostText
  rcases hh : u.host with _ | ⟨k, t⟩
  · simp
  · rw [hh] at h
    cases t with
    | nil => simp at h; subst h; simp [Spec.emptyHost]
    | cons a t => simp

/-- what the Standard's scheme state does at ':' under a state override -/
def specSchemeFin (u : Url) (buf : List Nat) : Url :=
  if (Spec.isSpecial u != Impl.isSpecialScheme buf) = true then u
  else if (Spec.includesCredentials u || u.port.isSome) = true ∧ buf = Impl.sFile then u
  else if u.scheme = Impl.sFile ∧ u.host = some Spec.emptyHost then u
  else if u.port.isSome = true ∧ u.port = Impl.defaultPort buf then { u with scheme := buf, port := none }
  else { u with scheme := buf }

section scheme
variable (idna : Idna) (inp : Array Nat)

theorem step_schemeStart_ov (u : Url) (buf : List Nat) (f1 f2 f3 : Bool) (i : Nat) :
    step idna inp none (some .schemeStart) ⟨u, .schemeStart, buf, f1, f2, f3, (i : Int)⟩ =
      match inp[i]? with
      | some c =>
        if isAlpha c then .continue ⟨u, .scheme, buf ++ [toLower c], f1, f2, f3, (i : Int)⟩ else .failure u
      | none => .failure u := by
  unfold step
  simp only [Int.toNat_natCast, ptr_neg, if_false]
  cases inp[i]? <;> rfl

theorem step_scheme_ov (u : Url) (buf : List Nat) (f1 f2 f3 : Bool) (i : Nat) :
    step idna inp none (some .schemeStart) ⟨u, .scheme, buf, f1, f2, f3, (i : Int)⟩ =
      match inp[i]? with
      | some c =>
        if isSchemeChar c then .continue ⟨u, .scheme, buf ++ [toLower c], f1, f2, f3, (i : Int)⟩
        else if c = 0x3A then .done (specSchemeFin u buf)
        else .failure u
      | none => .failure u := by
  unfold step specSchemeFin
  -- the machine returns in each of the override branches; `specSchemeFin` has the conditionals inside `.done`
  simp only [Int.toNat_natCast, ptr_neg, if_false, Option.isSome_some, true_and, apply_ite StepResult.done]
  cases inp[i]? <;> rfl

end scheme

theorem schemeOv_map {α β : Type} (f : α → β) (fail : α) (fin : List Nat → α) :
    ∀ inp, f (schemeOv fail fin inp) = schemeOv (f fail) (fun s => f (fin s)) inp
  | [] => rfl
  | _ :: _ => by rw [schemeOv, schemeOv, apply_ite f, apply_ite f]

theorem colon_not_schemeChar : isSchemeChar 0x3A = false := by decide

theorem schemeEnd_spec (r0 : List Nat) :
    ∃ t, r0.dropWhile isSchemeChar ++ [0x3A] = schemeEnd r0 :: t ∧ isSchemeChar (schemeEnd r0) = false := by
  unfold schemeEnd
  cases h : r0.dropWhile isSchemeChar with
  | nil => exact ⟨[], rfl, colon_not_schemeChar⟩
  | cons c t => exact ⟨t ++ [0x3A], rfl, head?_dropWhile (by rw [h]; rfl)⟩

theorem run_scheme_spec (idna : Idna) (A : Array Nat) (u : Url) (f1 f2 f3 : Bool) (inp : List Nat)
    (hA : A.toList = inp ++ [0x3A]) (fuel : Nat) (hf : fuel ≥ inp.length + 2) :
    run idna A none (some .schemeStart) fuel ⟨u, .schemeStart, [], f1, f2, f3, ((0 : Nat) : Int)⟩ =
      schemeOv (none, u) (fun s => (some (specSchemeFin u s), specSchemeFin u s)) inp := by
  obtain ⟨f, rfl, hf'⟩ := fuel_succ (n := inp.length + 1) hf
  cases inp with
  | nil =>
    obtain ⟨hc, _, _⟩ := getElem?_of_drop_cons (show A.toList.drop 0 = [0x3A] from hA)
    exact run_failure f (by rw [step_schemeStart_ov, hc]; rfl)
  | cons c0 r0 =>
    obtain ⟨hc, hsz, hd1⟩ := getElem?_of_drop_cons (show A.toList.drop 0 = c0 :: (r0 ++ [0x3A]) from hA)
    rw [schemeOv]
    by_cases ha : isAlpha c0 = true
    · rw [if_pos ha, run_continue' (j := 0 + 1) f
        (by rw [step_schemeStart_ov, hc]; exact if_pos ha) (by simp) hsz]
      -- the scan of the scheme characters
      have hbody : ∀ c ∈ r0.takeWhile isSchemeChar, isSchemeChar c = true :=
        fun c hc => (mem_takeWhile hc).1
      have hbuf : [] ++ [toLower c0] ++ (r0.takeWhile isSchemeChar).map toLower = Head.schemeOf c0 r0 :=
        Head.map_toLower_eq (c0 :: r0.takeWhile isSchemeChar) (List.forall_mem_cons.2
          ⟨Head.alpha_schemeChar _ ha, hbody⟩)
      have hsplit : r0 ++ [0x3A] = r0.takeWhile isSchemeChar ++ (r0.dropWhile isSchemeChar ++ [0x3A]) := by
        rw [← List.append_assoc, List.takeWhile_append_dropWhile]
      rw [hsplit] at hd1
      have hlen := (List.takeWhile_sublist (l := r0) isSchemeChar).length_le
      obtain ⟨f', rfl⟩ : ∃ f', f = f' + 1 + (r0.takeWhile isSchemeChar).length :=
        ⟨f - 1 - (r0.takeWhile isSchemeChar).length, by simp only [List.length_cons] at hf'; omega⟩
      rw [run_scan (p := isSchemeChar) (f := toLower)
          (fun buf i c hc h => by rw [step_scheme_ov, hc]; exact if_pos h) _ _ (0 + 1) _ (f' + 1) hd1 hbody,
        hbuf]
      -- the character that ends the scheme
      obtain ⟨t, ht, hns⟩ := schemeEnd_spec r0
      have hd2 : A.toList.drop (0 + 1 + (r0.takeWhile isSchemeChar).length) = schemeEnd r0 :: t := by
        rw [← List.drop_drop, hd1, List.drop_left, ht]
      obtain ⟨hc2, _, _⟩ := getElem?_of_drop_cons hd2
      have hns' := Bool.eq_false_iff.1 hns
      by_cases hcol : schemeEnd r0 = 0x3A
      · rw [if_pos hcol]
        exact run_done f' (by rw [step_scheme_ov, hc2]; exact (if_neg hns').trans (if_pos hcol))
      · rw [if_neg hcol]
        exact run_failure f' (by rw [step_scheme_ov, hc2]; exact (if_neg hns').trans (if_neg hcol))
    · rw [if_neg ha]
      exact run_failure f (by rw [step_schemeStart_ov, hc]; exact if_neg ha)

theorem basicParse_scheme_spec (idna : Idna) (u : Url) (inp : List Nat) :
    Spec.basicParse idna (inp ++ [0x3A]) none u (some .schemeStart) =
      schemeOv (none, u) (fun s => (some (specSchemeFin u s), specSchemeFin u s)) inp := by
  have h := run_scheme_spec idna (inp ++ [0x3A]).toArray u false false false inp rfl
    (4 * (inp ++ [0x3A]).length + 16) (by simp only [List.length_append, List.length_singleton]; omega)
  exact h

/-- under `RecOk` the code's block and the Standard's scheme state do the same at the end of the scheme:
    the four conditions correspond one by one, the third through `RecOk.file_iff` -/
theorem implSchemeFin_res (u : Url) (s : List Nat) (hok : RecOk u = true) :
    resOf (some .schemeStart) (implSchemeFin u s) = (some (specSchemeFin u s), specSchemeFin u s) := by
  have h2 : (Impl.isFileScheme s && (u.hasCredentials || u.port.isSome)) = true ↔
      (Spec.includesCredentials u || u.port.isSome) = true ∧ s = Impl.sFile := by
    rw [Bool.and_eq_true, and_comm]
    exact and_congr Iff.rfl beq_iff_eq
  have h3 : (u.isFile && decide (u.hostText = [])) = true ↔
      u.scheme = Impl.sFile ∧ u.host = some Spec.emptyHost := by
    rw [RecOk.file_iff hok, decide_eq_true_iff]
  have h4 : (u.port.isSome && decide (Impl.defaultPort s = u.port)) = true ↔
      u.port.isSome = true ∧ u.port = Impl.defaultPort s := by
    rw [Bool.and_eq_true, decide_eq_true_iff]
    exact and_congr Iff.rfl eq_comm
  have pair : ∀ (c : Prop) [Decidable c] (a b : Url),
      (if c then (some a, a) else (some b, b)) = (some (if c then a else b), if c then a else b) :=
    fun c _ a b => (apply_ite (fun v : Url => (some v, v)) c a b).symm
  unfold implSchemeFin specSchemeFin
  simp only [h2, h3, h4, Spec.isSpecial, Url.isSpecial, apply_ite (resOf (some Override.schemeStart)),
    resOf_ignored, resOf_ok, pair]
  rfl

/-- protocol setter: the Standard's basic URL parser on `value ++ ":"` with the scheme start state as
    state override, against the code, which accepts the end of the input in place of the colon -/
theorem sim_scheme_ov (idna : Idna) (u : Url) (hok : RecOk u = true) (inp : List Nat) :
    Spec.basicParse idna (inp ++ [0x3A]) none u (some .schemeStart) =
      resOf (some .schemeStart) (Impl.urlParse idna none (some .schemeStart) u inp) := by
  rw [basicParse_scheme_spec, urlParse_scheme_ov, schemeOv_map (resOf (some .schemeStart)),
    funext fun s => implSchemeFin_res u s hok]
  rfl


section setters
open Upa.Impl (Setter)

theorem userinfo_enc (e : Enc) (units : List Nat) (h : Props.UnitsOk e units) :
    Impl.percentEncode Impl.userinfoNoEnc (Impl.decode e units) =
      Spec.utf8PercentEncode Spec.userinfoSet (Spec.decode e units) := by
  -- the plain conversion: username and password never reach the parser
  rw [← Props.decode_eq e units h]
  exact (Props.C01_component_encoders _ (C10b.decode_scalars e units (Props.unitsOk_uOk h))).2.2.2.2.1

theorem stripTrailingSpaces_eq (u : Url) : Impl.stripTrailingSpaces u = Spec.stripTrailingSpaces u := by
  unfold Impl.stripTrailingSpaces Spec.stripTrailingSpaces
  simp only [Bool.and_eq_true, and_assoc]

variable {idna : Idna}

/-- the record the code's run under the override `ov` leaves is the second component of the Standard's run,
    given the entry lemma of that state (`h`; the Standard may start from another record `u'`: the search
    and hash setters empty the component first) -/
theorem run_snd (ov : Override) (u u' : Url) (e : Enc) (units : List Nat) (hu : Props.UnitsOk e units)
    (h : ∀ inp, (∀ x ∈ inp, Spec.isScalar x = true) →
      Spec.basicParse idna inp none u' (some (ovState ov)) =
        resOf (some ov) (Impl.urlParse idna none (some ov) u inp)) :
    (Impl.urlParse idna none (some ov) u (Impl.prep e units)).url =
      (Spec.basicParse idna (Spec.parserInput e units) none u' (some (ovState ov))).2 := by
  rw [← Props.C01_input_conversion e units hu, h _ (Head.prep_scalar e units hu)]
  rfl

variable (hI : Props.IdnaOk idna)
include hI

theorem hHost_of : HostOk idna := C07.parseHost_eq idna hI.ascii hI.persist

theorem setter_conforms (s : Setter) (e : Enc) (units : List Nat) (u : Url) (hu : Props.UnitsOk e units)
    (hok : RecOk u = true) :
    (Impl.setValid idna s e units u).1 = Spec.apiSet idna s e units u := by
  have hu' : ∀ (c d : Nat) (r : List Nat), Props.UnitsOk e (c :: r) →
      Props.UnitsOk e (if c = d then r else c :: r) :=
    fun _ _ _ h => C08.ite_prop (P := Props.UnitsOk e) (C10b.UOk.tail h) h
  unfold Impl.setValid Spec.apiSet
  cases s with
  | href =>
    simp only
    rw [Props.C01_parse_conforms idna hI e units none hu]
    cases Spec.apiParse idna e units none <;> rfl
  | protocol =>
    simp only
    rw [← Props.C01_input_conversion e units hu, sim_scheme_ov idna u hok]
    rfl
  | username | password =>
    simp only
    rw [RecOk.guard hok, userinfo_enc e units hu]
    cases Spec.cannotHaveUsernamePasswordPort u <;> simp
  | host =>
    simp only
    cases u.hasOpaquePath
    · simp only [Bool.not_false, if_true, Bool.false_eq_true, if_false]
      exact run_snd .host u u e units hu (fun inp hsc => entry_host (hHost_of hI) u inp hsc)
    · simp
  | hostname =>
    simp only
    cases u.hasOpaquePath
    · simp only [Bool.not_false, if_true, Bool.false_eq_true, if_false]
      exact run_snd .hostname u u e units hu (fun inp hsc => entry_hostname (hHost_of hI) u inp hsc)
    · simp
  | port =>
    simp only
    rw [RecOk.guard hok]
    cases Spec.cannotHaveUsernamePasswordPort u
    · simp only [Bool.not_false, if_true, Bool.false_eq_true, if_false]
      by_cases hn : units = []
      · simp [hn]
      · simp only [hn, if_false]
        exact run_snd .port u u e units hu (fun inp hsc => entry_port u inp hsc)
    · simp
  | pathname =>
    simp only
    cases u.hasOpaquePath
    · simp only [Bool.not_false, if_true, Bool.false_eq_true, if_false]
      exact run_snd .pathStart _ _ e units hu (fun inp hsc => entry_pathStart _ inp hsc)
    · simp
  | search =>
    cases units with
    | nil => simp only; exact stripTrailingSpaces_eq _
    | cons c r =>
      exact run_snd .query u _ e _ (hu' c 0x3F r hu) (fun inp hsc => entry_query_reset u inp hsc)
  | hash =>
    cases units with
    | nil => simp only; exact stripTrailingSpaces_eq _
    | cons c r =>
      exact run_snd .fragment u _ e _ (hu' c 0x23 r hu) (fun inp hsc => entry_fragment_reset u inp hsc)

end setters

#print axioms sim_scheme_ov
#print axioms setter_conforms
end Upa.Proofs.C03
