import Upa.Impl.Fault
/-
  All-or-nothing for every operation of the shape "may-throw steps first, target-modifying steps
  last" (`Upa.Impl.Fault.Shape`), by induction over the steps through `runOp_cons`.  Used by
  Upa/Props/C20.lean and Upa/Props/C20b.lean.
-/
namespace Upa.Impl.Fault
variable {α β : Type}

/-- one step of `runOp`: the step throws - its size check fails, or it is the step chosen to fail - or
    the rest runs on the state after the step, the failure index lowered if the step may throw -/
theorem runOp_cons (st : Step α β) (r : List (Step α β)) (failAt : Option Nat) (s : St α β) :
    (st.mayThrow = true ∧ st.tooLong s = true ∧ runOp (st :: r) failAt s = .threw .lengthError s) ∨
    (st.mayThrow = true ∧ failAt = some 0 ∧ runOp (st :: r) failAt s = .threw .badAlloc s) ∨
    ∃ fa, fa.isSome = failAt.isSome ∧ runOp (st :: r) failAt s = runOp r fa (st.eff.apply s) := by
  simp only [runOp]
  cases hm : st.mayThrow with
  | false => exact .inr (.inr ⟨failAt, rfl, rfl⟩)
  | true =>
    cases hl : st.tooLong s with
    | true => exact .inl ⟨rfl, rfl, rfl⟩
    | false =>
      match failAt with
      | some 0 => exact .inr (.inl ⟨rfl, rfl, rfl⟩)
      | some (k + 1) => exact .inr (.inr ⟨some k, rfl, rfl⟩)
      | none => exact .inr (.inr ⟨none, rfl, rfl⟩)

theorem runOp_noThrow (steps : List (Step α β)) (h : ∀ st ∈ steps, st.mayThrow = false)
    (failAt : Option Nat) (s : St α β) :
    runOp steps failAt s = .done (steps.foldl (fun s st => st.eff.apply s) s) := by
  induction steps generalizing failAt s with
  | nil => rfl
  | cons st r ih =>
    have h0 : st.mayThrow = false := h st List.mem_cons_self
    rcases runOp_cons st r failAt s with ⟨hm, _⟩ | ⟨hm, _⟩ | ⟨fa, _, he⟩
    · rw [h0] at hm; cases hm
    · rw [h0] at hm; cases hm
    · rw [he]; exact ih (fun b hb => h b (List.mem_cons_of_mem _ hb)) _ _

theorem shape_cons {st : Step α β} {r : List (Step α β)} (h : Shape (st :: r)) :
    (st.eff.isMutTarget = true → st.mayThrow = false ∧ ∀ b ∈ r, b.mayThrow = false) ∧ Shape r := by
  obtain ⟨h1, h2⟩ := h
  rw [List.pairwise_cons] at h2
  exact ⟨fun hm => ⟨h1 st List.mem_cons_self hm, fun b hb => h2.1 b hb hm⟩,
    fun b hb => h1 b (List.mem_cons_of_mem _ hb), h2.2⟩

theorem apply_target_of_temp {e : Effect α β} (h : e.isMutTarget = false) (s : St α β) :
    (e.apply s).target = s.target := by
  cases e with
  | mutTemp f => rfl
  | mutTarget g => cases h

/-- Uses the `Pairwise` half of `Shape` only.  The first half (no step both may throw and writes the target) is
    not needed, because in `runOp` a step's failure precedes its effect; it records what the tags of the C++ are. -/
theorem atomic_general (steps : List (Step α β)) (hs : Shape steps) (failAt : Option Nat)
    (s s' : St α β) (e : Exn) (h : runOp steps failAt s = .threw e s') : s'.target = s.target := by
  induction steps generalizing failAt s with
  | nil => cases h
  | cons st r ih =>
    obtain ⟨hst, hr⟩ := shape_cons hs
    rcases runOp_cons st r failAt s with ⟨_, _, he⟩ | ⟨_, _, he⟩ | ⟨fa, _, he⟩
    · rw [he] at h; cases h; rfl
    · rw [he] at h; cases h; rfl
    · rw [he] at h
      cases hm : st.eff.isMutTarget with
      | true =>
        -- the first target-modifying step is reached: nothing after it can throw
        rw [runOp_noThrow r (hst hm).2] at h
        cases h
      | false => rw [ih hr _ _ h, apply_target_of_temp hm s]

theorem shape_append_temp (pre post : List (Step α β)) (hpre : ∀ st ∈ pre, st.eff.isMutTarget = false)
    (hpost : Shape post) : Shape (pre ++ post) := by
  obtain ⟨h1, h2⟩ := hpost
  refine ⟨?_, ?_⟩
  · intro st hst hm
    rcases List.mem_append.mp hst with h | h
    · rw [hpre st h] at hm; cases hm
    · exact h1 st h hm
  · rw [List.pairwise_append]
    refine ⟨?_, h2, ?_⟩
    · exact List.Pairwise.imp_of_mem (R := fun _ _ => True) (fun ha _ _ hm => by rw [hpre _ ha] at hm; cases hm)
        (List.pairwise_of_forall (by simp))
    · intro a ha b _ hm
      rw [hpre a ha] at hm; cases hm

/-- where an exception can come from -/
theorem threw_cause (steps : List (Step α β)) (failAt : Option Nat) (s s' : St α β) (e : Exn)
    (h : runOp steps failAt s = .threw e s') :
    (e = .badAlloc ∧ failAt.isSome = true) ∨
    (e = .lengthError ∧ ∃ st ∈ steps, st.mayThrow = true ∧ st.tooLong s' = true) := by
  induction steps generalizing failAt s with
  | nil => cases h
  | cons st r ih =>
    rcases runOp_cons st r failAt s with ⟨hm, hl, he⟩ | ⟨_, h0, he⟩ | ⟨fa, hfa, he⟩
    · rw [he] at h; cases h
      exact .inr ⟨rfl, st, List.mem_cons_self, hm, hl⟩
    · rw [he] at h; cases h
      exact .inl ⟨rfl, by rw [h0]; rfl⟩
    · rw [he] at h
      rcases ih _ _ h with ⟨h1, h2⟩ | ⟨h1, b, hb, hb'⟩
      · exact .inl ⟨h1, hfa ▸ h2⟩
      · exact .inr ⟨h1, b, List.mem_cons_of_mem _ hb, hb'⟩

/-- without an injected failure a step that passes its size check is carried out -/
theorem runOp_cons_none (st : Step α β) (r : List (Step α β)) (s : St α β) (h : st.tooLong s = false) :
    runOp (st :: r) none s = runOp r none (st.eff.apply s) := by
  rw [runOp, h]
  cases st.mayThrow <;> rfl

/-- without an injected failure and without an oversize string the operation completes -/
theorem runOp_completes (steps : List (Step α β)) (h : ∀ st ∈ steps, ∀ s, st.tooLong s = false)
    (s : St α β) : runOp steps none s = .done (steps.foldl (fun s st => st.eff.apply s) s) := by
  induction steps generalizing s with
  | nil => rfl
  | cons st r ih =>
    rw [runOp_cons_none st r s (h st List.mem_cons_self s)]
    exact ih (fun b hb => h b (List.mem_cons_of_mem _ hb)) _

end Upa.Impl.Fault
