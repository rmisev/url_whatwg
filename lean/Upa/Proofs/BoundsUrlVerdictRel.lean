import Upa.Proofs.BoundsUrlVerdict
/-
  C04f: the blocks of the states between scheme_state and authority_state (special_authority_slashes, relative_slash,
  relative, path_or_authority, special_relative_or_authority, no_scheme) against their list-model functions on the
  decoded rest (statement: `Fwd`, BoundsUrlVerdict).
-/
namespace Upa.Impl.B
open UP Upa.Proofs.C10b
open Upa.Proofs.C09 (isOk isOk_fragment isOk_query isOk_path)

section
variable (c : Ctx) (W : c.Wf)
include W

theorem fwd_sas (p : Nat) (sp fl : Bool) (u : Url) (hG : Sim c ⟨.specialAuthoritySlashes, p, sp, fl⟩ u) :
    (bSpecialAuthoritySlashes c.a c.first c.last ⟨.specialAuthoritySlashes, p, sp, fl⟩ 1).sat
      (Fwd c (rank .specialAuthoritySlashes) (isOk (specialAuthoritySlashesState c.idna c.ov u (c.D p)))) := by
  have hov := hG.noOv
  obtain ⟨h1, h2, h3, h4⟩ := hG.inv
  dsimp only [bSpecialAuthoritySlashes]
  refine twoSlashesB_if h1 W.hl (fun hp ha0 ha1 => ?_) (fun h2s => ?_)
  · refine R.sat_ptr (R.sat_pure ?_)
    rw [D_two_eq c W p hp ha0 ha1]
    simp only [specialAuthoritySlashesState]
    exact Fwd.goto (Sim.of hov h3 h4) rfl
  · refine R.sat_pure ?_
    have hne := D_two_ne c W p h2s
    have : specialAuthoritySlashesState c.idna c.ov u (c.D p) = ignoreSlashesState c.idna c.ov u (c.D p) := by
      unfold specialAuthoritySlashesState
      split
      · rename_i r heq; exact absurd heq (hne r)
      · rfl
    rw [this]
    exact Fwd.goto (Sim.of hov h3 h4) rfl

theorem fwd_relativeSlash (p : Nat) (sp fl : Bool) (u : Url) (hG : Sim c ⟨.relativeSlash, p, sp, fl⟩ u) :
    (bRelativeSlash c.a c.first c.last c.base ⟨.relativeSlash, p, sp, fl⟩).sat
      (Fwd c (rank .relativeSlash) (verdictAt c ⟨.relativeSlash, p, sp, fl⟩ u)) := by
  obtain ⟨b, hb⟩ := Option.isSome_iff_exists.mp (hG.base rfl)
  have hov := hG.noOv
  obtain ⟨h1, h2, h3, h4⟩ := hG.inv
  rw [verdictAt_relativeSlash hb]
  have hl := W.hl
  unfold bRelativeSlash
  refine R.sat_bind (peekOr0B_spec c.a c.first c.last p h1 h2 W.hl) ?_
  intro ch hch
  simp only []
  have hbase := Ctx.base_some hb
  by_cases hc1 : ch = 0x2F
  · have hp := peekOr0_ne0 hch (by omega)
    rw [if_pos hc1]
    refine R.sat_ptr (R.sat_pure ?_)
    rw [D_head_eq c W p 0x2F (by omega) hp.1 (by omega)]
    simp only [relativeSlashState, if_true]
    cases hsp : sp with
    | true =>
      rw [← h3, hsp]
      simp only [if_true]
      exact Fwd.goto (Sim.of hov (by rw [← h3, hsp]) h4) rfl
    | false =>
      rw [← h3, hsp]
      simp only [Bool.false_eq_true, if_false]
      exact Fwd.goto (Sim.of hov (by rw [← h3, hsp]) h4) rfl
  · rw [if_neg hc1]
    by_cases hc2 : ch = 0x5C ∧ sp = true
    · have hp := peekOr0_ne0 hch (by omega)
      rw [if_pos hc2]
      refine R.sat_ptr (R.sat_pure ?_)
      rw [D_head_eq c W p 0x5C (by omega) hp.1 (by omega)]
      have hus : u.isSpecial = true := by rw [← h3]; exact hc2.2
      simp only [relativeSlashState, hus, Bool.and_true]
      simp only [show ((0x5C : Nat) = 0x2F) = False from by simp, if_false, eq_self, decide_true, if_true]
      exact Fwd.goto (Sim.of hov h3 h4) rfl
    · rw [if_neg hc2, hbase]
      have hlist : isOk (relativeSlashState c.idna b c.ov u (c.D p)) = true := by
        rcases hch with ⟨hp, hc⟩ | ⟨hp, hc⟩
        · obtain ⟨ch', t, hD, hk, -, -⟩ := c.D_peek W p hp
          have e1 := hk 0x2F (by omega)
          have e2 := hk 0x5C (by omega)
          rw [hD]
          simp only [relativeSlashState]
          rw [if_neg (by rw [e1, ← hc]; exact hc1)]
          have : (decide (ch' = 0x5C) && u.isSpecial) = false := by
            cases hsp : u.isSpecial with
            | false => simp
            | true =>
              simp only [Bool.and_true, decide_eq_false_iff_not, e2]
              intro hh
              exact hc2 ⟨by omega, by rw [h3, hsp]⟩
          rw [this]
          simp only [Bool.false_eq_true, if_false]
          exact isOk_path _ _ _
        · rw [hp, c.D_end]
          simp only [relativeSlashState]
          exact isOk_path _ _ _
      rw [hlist]
      exact R.sat_pure (Fwd.tail ⟨h1, h2⟩)

theorem fwd_relative (p : Nat) (sp fl : Bool) (u : Url) (hG : Sim c ⟨.relative, p, sp, fl⟩ u) :
    (bRelative c.a c.first c.last c.base ⟨.relative, p, sp, fl⟩).sat (Fwd c (rank .relative) (verdictAt c ⟨.relative, p, sp, fl⟩ u)) := by
  obtain ⟨b, hb⟩ := Option.isSome_iff_exists.mp (hG.base rfl)
  have hov := hG.noOv
  obtain ⟨h1, h2, -, -⟩ := hG.inv
  rw [verdictAt_relative hb]
  have hl := W.hl
  have hbase := Ctx.base_some hb
  unfold bRelative
  rw [hbase]
  simp only []
  have next : p < c.last →
      Fwd c (rank .relative) (isOk (relativeSlashState c.idna b c.ov { u with scheme := b.scheme } (c.D (p + 1))))
        (.inl ⟨.relativeSlash, p + 1, (BaseInfo.ofUrl b).special, (BaseInfo.ofUrl b).file⟩) :=
    fun hp => Fwd.goto (u' := { u with scheme := b.scheme }) (Sim.of hov rfl rfl (fun _ => by rw [hb]; rfl))
      (verdictAt_relativeSlash hb _ _ _ _)
  by_cases hpl : p = c.last
  · rw [if_pos hpl, hpl, c.D_end]
    exact R.sat_pure rfl
  · rw [if_neg hpl]
    have hp : p < c.last := by omega
    refine R.sat_read hl (R.sat_ptr ?_)
    obtain ⟨ch', t, hD, hk, -, hA⟩ := c.D_peek W p hp
    have e1 := hk 0x2F (by omega)
    have e2 := hk 0x3F (by omega)
    have e3 := hk 0x23 (by omega)
    have e4 := hk 0x5C (by omega)
    rw [hD]
    simp only [relativeState]
    by_cases hc1 : c.a[p]! = 0x2F
    · obtain ⟨hA1, hA2⟩ := hA (by omega)
      rw [if_pos hc1, if_pos (e1.2 hc1), hA2]
      refine R.sat_pure ?_
      exact next hp
    · rw [if_neg hc1, if_neg (fun hh => hc1 (e1.1 hh))]
      by_cases hc2 : c.a[p]! = 0x3F
      · rw [if_pos hc2, if_pos (e2.2 hc2), isOk_query]
        exact R.sat_pure (Fwd.tail Bnd.of)
      · rw [if_neg hc2, if_neg (fun hh => hc2 (e2.1 hh))]
        by_cases hc3 : c.a[p]! = 0x23
        · rw [if_pos hc3, if_pos (e3.2 hc3), isOk_fragment]
          exact R.sat_pure (Fwd.tail Bnd.of)
        · rw [if_neg hc3, if_neg (fun hh => hc3 (e3.1 hh))]
          have hspec : ({ u with scheme := b.scheme } : Url).isSpecial = (BaseInfo.ofUrl b).special := rfl
          by_cases hc4 : c.a[p]! = 0x5C ∧ (BaseInfo.ofUrl b).special = true
          · obtain ⟨hA1, hA2⟩ := hA (by omega)
            rw [if_pos hc4]
            have : (decide (ch' = 0x5C) && ({ u with scheme := b.scheme } : Url).isSpecial) = true := by
              rw [hspec, hc4.2, hA1, hc4.1]; rfl
            rw [this]
            simp only [if_true]
            rw [hA2]
            refine R.sat_pure ?_
            exact next hp
          · rw [if_neg hc4]
            have : (decide (ch' = 0x5C) && ({ u with scheme := b.scheme } : Url).isSpecial) = false := by
              rw [hspec]
              cases hsp : (BaseInfo.ofUrl b).special with
              | false => simp
              | true =>
                simp only [Bool.and_true, decide_eq_false_iff_not, e4]
                intro hh
                exact hc4 ⟨hh, hsp⟩
            rw [this]
            simp only [Bool.false_eq_true, if_false, isOk_path]
            refine R.sat_ptrSub ?_
            exact R.sat_pure (Fwd.tail Bnd.of)

theorem fwd_pathOrAuthority (p : Nat) (sp fl : Bool) (u : Url) (hG : Sim c ⟨.pathOrAuthority, p, sp, fl⟩ u) :
    (bPathOrAuthority c.a c.first c.last ⟨.pathOrAuthority, p, sp, fl⟩ 0).sat
      (Fwd c (rank .pathOrAuthority) (isOk (pathOrAuthorityState c.idna c.ov u (c.D p)))) := by
  have hov := hG.noOv
  obtain ⟨h1, h2, h3, h4⟩ := hG.inv
  dsimp only [bPathOrAuthority]
  refine peekIsB_if h1 W.hl (fun hp hc => ?_) (fun hsl => ?_)
  · refine R.sat_ptr (R.sat_pure ?_)
    rw [D_head_eq c W p 0x2F (by omega) hp hc]
    simp only [pathOrAuthorityState]
    exact Fwd.goto (Sim.of hov h3 h4) rfl
  · have hne := D_head_ne c W p 0x2F (by omega) hsl
    have : pathOrAuthorityState c.idna c.ov u (c.D p) = pathState c.ov u (c.D p) := by
      unfold pathOrAuthorityState
      split
      · rename_i r heq; exact absurd heq (hne r)
      · rfl
    rw [this, isOk_path]
    exact R.sat_pure (Fwd.tail ⟨h1, h2⟩)

theorem fwd_sroa (p : Nat) (sp fl : Bool) (u : Url) (hG : Sim c ⟨.specialRelativeOrAuthority, p, sp, fl⟩ u) :
    (bSpecialRelativeOrAuthority c.a c.first c.last ⟨.specialRelativeOrAuthority, p, sp, fl⟩ 1).sat
      (Fwd c (rank .specialRelativeOrAuthority) (verdictAt c ⟨.specialRelativeOrAuthority, p, sp, fl⟩ u)) := by
  obtain ⟨b, hb⟩ := Option.isSome_iff_exists.mp (hG.base rfl)
  have hov := hG.noOv
  obtain ⟨h1, h2, h3, h4⟩ := hG.inv
  rw [verdictAt_sroa hb]
  dsimp only [bSpecialRelativeOrAuthority]
  refine twoSlashesB_if h1 W.hl (fun hp ha0 ha1 => ?_) (fun h2s => ?_)
  · refine R.sat_ptr (R.sat_pure ?_)
    rw [D_two_eq c W p hp ha0 ha1]
    simp only [specialRelativeOrAuthorityState]
    exact Fwd.goto (Sim.of hov h3 h4) rfl
  · refine R.sat_pure ?_
    have hne := D_two_ne c W p h2s
    have : specialRelativeOrAuthorityState c.idna b c.ov u (c.D p) = relativeState c.idna b c.ov u (c.D p) := by
      unfold specialRelativeOrAuthorityState
      split
      · rename_i r heq; exact absurd heq (hne r)
      · rfl
    rw [this]
    exact Fwd.goto (Sim.of hov h3 h4 fun _ => hG.base rfl) (verdictAt_relative hb _ _ _ _)

theorem fwd_noScheme (p : Nat) (sp fl : Bool) (u : Url) (hG : Sim c ⟨.noScheme, p, sp, fl⟩ u) :
    (bNoScheme c.a c.first c.last c.base ⟨.noScheme, p, sp, fl⟩).sat
      (Fwd c (rank .noScheme) (isOk (noSchemeState c.idna c.baseU c.ov u (c.D p)))) := by
  have hov := hG.noOv
  obtain ⟨h1, h2, h3, h4⟩ := hG.inv
  unfold bNoScheme
  cases hb : c.baseU with
  | none =>
    have hbase := Ctx.base_none hb
    rw [hbase]
    exact R.sat_pure rfl
  | some b =>
    have hbase := Ctx.base_some hb
    rw [hbase]
    simp only [noSchemeState]
    have hop : (BaseInfo.ofUrl b).opaquePath = b.hasOpaquePath := rfl
    have hfile : (BaseInfo.ofUrl b).file = b.isFile := rfl
    cases hopq : b.hasOpaquePath with
    | true =>
      simp only [hop, hopq, if_true]
      refine peekIsB_if h1 W.hl (fun hp hc => ?_) (fun hh => ?_)
      · have hl := W.hl
        refine R.sat_ptr (R.sat_pure ?_)
        rw [D_head_eq c W p 0x23 (by omega) hp hc]
        simp only [isOk_fragment]
        exact Fwd.tail Bnd.of
      · refine R.sat_pure ?_
        have hne := D_head_ne c W p 0x23 (by omega) hh
        split
        · rename_i r heq; exact absurd heq (hne r)
        · rfl
    | false =>
      simp only [hop, hopq, Bool.false_eq_true, if_false, hfile]
      refine R.sat_pure ?_
      cases hbf : b.isFile with
      | true =>
        simp only [if_true]
        exact Fwd.goto (Sim.late h3 h4) (by simp only [verdictAt, stateFn, hb])
      | false =>
        simp only [Bool.false_eq_true, if_false]
        exact Fwd.goto (Sim.of hov h3 h4 fun _ => by rw [hb]; rfl) (verdictAt_relative hb _ _ _ _)

end

end Upa.Impl.B
