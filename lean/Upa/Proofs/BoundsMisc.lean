import Upa.Proofs.BoundsEncodeLoops
import Upa.Proofs.BoundsUrl
import Upa.Proofs.ParserRules
/-
  Models of `Upa/Impl/BoundsMisc.lean` (C04e): the library loop with a table-indexing predicate,
  urlencode, the pre-check and the fast-path decision of parse_host as list functions, port_from_str, find_last,
  get_path_first_string.  Each function is walked once with the one-step rules of `Bounds.lean`.  Where a list model
  exists the walk proves `X_agrees` / `X_eq` (the result is what the list model of `Upa/Impl/*.lean` computes) and
  `X_sat` (in bounds, pointers inside `[first, last]`, termination) follows from it; `charInSetM_sat` states the value
  of the lookup itself; get_path_first_string has no list model, its `_sat` is the walk; find_last is the loop of
  `findLastB` (`BoundsUrl.lean`), walked there.
-/
namespace Upa.Impl.B

/-! ### library loops, tables -/

theorem findIfM_eq_findIf (a : Array Nat) (first last : Nat) (pred : Nat → R Bool) (f : Nat → Bool)
    (hp : ∀ c, pred c = .ok (f c)) : ∀ n p, findIfM a first last pred n p = findIf a first last f n p := by
  intro n
  induction n with
  | zero => intro p; rfl
  | succ n ih =>
    intro p
    rw [findIfM, findIf]
    refine congrArg (rd a first last p >>= ·) (funext fun c => ?_)
    rw [hp, ih]
    rfl

theorem findIfM_spec (a : Array Nat) (first last : Nat) (pred : Nat → R Bool) (f : Nat → Bool)
    (hp : ∀ c, pred c = .ok (f c)) (hl : last ≤ a.size) :
    ∀ n p, first ≤ p → p + n ≤ last →
      (findIfM a first last pred n p).sat (FirstAt a f p (p + n)) := by
  intro n p h1 h2
  rw [findIfM_eq_findIf a first last pred f hp]
  exact findIf_spec a first last f hl n p h1 h2

theorem charInSetM_sat (set : Nat → Bool) (c : Nat) : (charInSetM set c).sat (fun b => b = (decide (c ≤ 0xFF) && set c)) := by
  refine R.sat_if (fun h => R.sat_bind_ok (idx_ok (Nat.lt_succ_of_le h)) (R.sat_pure ?_)) (fun h => R.sat_pure ?_)
  · rw [decide_eq_true h, Bool.true_and]
  · rw [decide_eq_false h, Bool.false_and]

/-! ### urlencode -/

/-- `url_search_params::urlencode` casts every `char` to `unsigned char` first: whatever the units are,
    the result is `Impl.urlencode` of the units read as bytes -/
theorem urlencodeM_eq (a : Array Nat) (first last : Nat) (h : first ≤ last) (hl : last ≤ a.size) :
    urlencodeM a first last = .ok (Impl.urlencode (bytes a first last)) := by
  refine R.eq_ok_of_sat (scan_sat _ (·.1) first last (fun s =>
      s.2 ++ Impl.urlencode (bytes a s.1 last) = Impl.urlencode (bytes a first last))
    _ ?_ _ _ (Nat.le_refl _) h rfl (Nat.lt_succ_self _))
  intro ⟨it, out⟩ h1 h2 h3
  refine R.sat_if (fun he => ?_) (fun he => ?_)
  · rw [he, bytes_nil a last last (Nat.le_refl _)] at h3
    exact R.sat_pure ((List.append_nil out).symm.trans h3)
  have hlt : it < last := Nat.lt_of_le_of_ne h2 he
  have hm : a[it]! % 256 < 256 := Nat.mod_lt _ (by decide)
  rw [bytes_cons a it last hlt hl, Impl.urlencode, List.flatMap_cons, ← Impl.urlencode] at h3
  refine R.sat_read hl (R.sat_bind_ok (idx_ok hm) ?_) h1 hlt
  refine R.sat_bind (P := fun s => s =
    if Spec.urlencodedByte (a[it]! % 256) = 0x25 then pctByte (a[it]! % 256) else [Spec.urlencodedByte (a[it]! % 256)])
    ?_ ?_
  · refine R.sat_if (fun hc => ?_) (fun hc => R.sat_pure (if_neg hc).symm)
    refine R.sat_bind_ok (idx_ok (shr_lt 4 hm)) (R.sat_bind_ok (idx_ok (and_f_lt _)) (R.sat_pure ?_))
    rw [if_pos hc, hc, Impl.shr4, Impl.andF]
    rfl
  · intro s hs
    rw [hs, ← List.append_assoc] at *
    refine R.sat_ptr ?_ (Nat.le_succ_of_le h1) hlt
    exact R.sat_pure ⟨Nat.lt_succ_self it, hlt, h3⟩

theorem urlencodeM_agrees (a : Array Nat) (first last : Nat) (h : first ≤ last) (hl : last ≤ a.size)
    (hb : ByteUnits a first last) :
    urlencodeM a first last = .ok (Impl.urlencode (slice a first last)) := by
  rw [urlencodeM_eq a first last h hl, bytes_eq_slice a first last hl hb]

theorem urlencodeM_sat (a : Array Nat) (first last : Nat) (h : first ≤ last) (hl : last ≤ a.size) :
    (urlencodeM a first last).sat (fun _ => True) :=
  R.sat_of_eq_ok (urlencodeM_eq a first last h hl)

/-! ### url_host.h -/

/-- the `let fast` of `Impl.parseHost`, verbatim: `Proofs.C07.implFast` (ParserRules) with `exemptNext` written out -/
def hostFastL (s : List Nat) : Option (Option Host) :=
  match s.dropWhile Spec.asciiDomainChar with
  | [] =>
    if !Impl.hasXnLabel s then
      some (if Impl.endsInNumber s then Impl.hostParseIpv4 s
            else some { kind := .domain, text := s.map toLower })
    else none
  | p :: rest =>
    if p < 0x80 ∧ p ≠ 0x25 then
      if ¬ (p ≥ 0x3C ∧ p ≤ 0x3E ∧ (match rest with | n :: _ => decide (n ≥ 0x80) || n == 0x25 | [] => false) = true)
      then some none else none
    else none

theorem hostFastL_eq_implFast (s : List Nat) : hostFastL s = Proofs.C07.implFast s := rfl

/-- the value of the pre-check on the list `c :: rest` (the second `match` of `hostFastL`, with `C07.exemptNext rest`
    written out) -/
def hostBadL (c : Nat) (rest : List Nat) : Bool :=
  decide (c < 0x80 ∧ c ≠ 0x25) &&
    !(decide (c ≥ 0x3C ∧ c ≤ 0x3E) && (match rest with | n :: _ => decide (n ≥ 0x80) || n == 0x25 | [] => false))

theorem hostForbiddenCheckM_agrees (a : Array Nat) (first last ptr : Nat) (h1 : first ≤ ptr) (h2 : ptr < last)
    (hl : last ≤ a.size) :
    hostForbiddenCheckM a first last ptr = .ok (hostBadL a[ptr]! (slice a (ptr + 1) last)) := by
  refine R.eq_ok_of_sat (R.sat_read hl (R.sat_if (fun c1 => R.sat_if (fun c2 =>
    R.sat_ptr (R.sat_if (fun c3 => ?_) (fun c3 => R.sat_pure ?_)) (Nat.le_succ_of_le h1) h2)
    (fun c2 => R.sat_pure ?_)) (fun c1 => R.sat_pure ?_)) h1 h2)
  · refine R.sat_read hl (R.sat_pure ?_) (Nat.le_succ_of_le h1) c3
    rw [hostBadL.eq_def, slice_cons a (ptr + 1) last c3 hl, decide_eq_true c1, decide_eq_true c2]
    rfl
  · rw [hostBadL.eq_def, slice_nil a (ptr + 1) last (Nat.le_of_not_lt c3), decide_eq_true c1, decide_eq_true c2]
    rfl
  · rw [hostBadL.eq_def, decide_eq_true c1, decide_eq_false c2]
    rfl
  · rw [hostBadL.eq_def, decide_eq_false c1]
    rfl

theorem hostForbiddenCheckM_sat (a : Array Nat) (first last ptr : Nat) (h1 : first ≤ ptr) (h2 : ptr < last)
    (hl : last ≤ a.size) : (hostForbiddenCheckM a first last ptr).sat (fun _ => True) :=
  R.sat_of_eq_ok (hostForbiddenCheckM_agrees a first last ptr h1 h2 hl)

theorem hostFastL_nil (s : List Nat) (hd : s.dropWhile Spec.asciiDomainChar = []) (hxn : Impl.hasXnLabel s = false) :
    hostFastL s = some (if Impl.endsInNumber s then Impl.hostParseIpv4 s
      else some { kind := .domain, text := s.map toLower }) := by
  rw [hostFastL, hd, hxn]
  rfl

theorem hostFastL_xn (s : List Nat) (hd : s.dropWhile Spec.asciiDomainChar = []) (hxn : Impl.hasXnLabel s = true) :
    hostFastL s = none := by
  rw [hostFastL, hd, hxn]
  rfl

theorem hostFastL_cons (s : List Nat) (p : Nat) (rest : List Nat) (hd : s.dropWhile Spec.asciiDomainChar = p :: rest) :
    hostFastL s = if hostBadL p rest = true then some none else none := by
  rw [hostFastL, hd, hostBadL.eq_def]
  dsimp only
  generalize (match rest with | n :: _ => decide (n ≥ 0x80) || n == 0x25 | [] => false) = m
  by_cases c1 : p < 0x80 ∧ p ≠ 0x25
  · rw [if_pos c1, decide_eq_true c1, Bool.true_and]
    by_cases c2 : p ≥ 0x3C ∧ p ≤ 0x3E
    · rw [decide_eq_true c2, Bool.true_and]
      cases m with
      | false => rw [if_pos (fun hh => nomatch hh.2.2)]; rfl
      | true => rw [if_neg (fun hh => hh ⟨c2.1, c2.2, rfl⟩)]; rfl
    · rw [decide_eq_false c2, Bool.false_and, if_pos (fun hh => c2 ⟨hh.1, hh.2.1⟩)]
      rfl
  · rw [if_neg c1, decide_eq_false c1, Bool.false_and]
    rfl

/-! ### url.h -/

theorem portFromStrM_agrees (a : Array Nat) (first last : Nat) (h : first ≤ last) (hl : last ≤ a.size) :
    portFromStrM a first last = .ok (decimalValue (slice a first last)) := by
  refine R.eq_ok_of_sat (scan_sat _ (·.1) first last (fun s =>
      (slice a s.1 last).foldl (fun acc c => acc * 10 + (c - 0x30)) s.2 = decimalValue (slice a first last))
    _ ?_ _ _ (Nat.le_refl _) h rfl (Nat.lt_succ_self _))
  intro ⟨it, port⟩ h1 h2 h3
  refine R.sat_if (fun he => ?_) (fun he => ?_)
  · have he' : it = last := he
    rw [he', slice_nil a last last (Nat.le_refl _)] at h3
    exact R.sat_pure h3
  · have hlt : it < last := Nat.lt_of_le_of_ne h2 he
    rw [slice_cons a it last hlt hl, List.foldl_cons] at h3
    refine R.sat_read hl ?_ h1 hlt
    refine R.sat_ptr ?_ (Nat.le_succ_of_le h1) hlt
    exact R.sat_pure ⟨Nat.lt_succ_self it, hlt, h3⟩

theorem portFromStrM_sat (a : Array Nat) (first last : Nat) (h : first ≤ last) (hl : last ≤ a.size) :
    (portFromStrM a first last).sat (fun _ => True) :=
  R.sat_of_eq_ok (portFromStrM_agrees a first last h hl)

/-- `findLastM` is the loop `findLastB` (`Upa/Impl/BoundsUrl.lean`) models: one walk, `findLastB_spec` -/
theorem findLastM_sat (a : Array Nat) (first last value : Nat) (h : first ≤ last) (hl : last ≤ a.size) :
    (findLastM a first last value).sat (fun r => first ≤ r ∧ r ≤ last) :=
  R.sat_mono (findLastB_spec a first last value h hl) fun _ hr =>
    hr.elim (fun h' => ⟨h'.1 ▸ h, Nat.le_of_eq h'.1⟩) (fun h' => ⟨h'.1, Nat.le_of_lt h'.2.1⟩)

theorem getPathFirstStringM_sat (a : Array Nat) (first last len : Nat) (opaquePath : Bool) (h : first ≤ last)
    (hl : last ≤ a.size) :
    (getPathFirstStringM a first last len opaquePath).sat (fun r => first ≤ r.1 ∧ r.1 ≤ r.2 ∧ r.2 ≤ last) := by
  refine R.sat_if (fun _ => R.sat_pure ⟨Nat.le_refl _, h, Nat.le_refl _⟩) (fun hc => ?_)
  have hlt : first < last := Nat.lt_of_sub_ne_zero (fun h0 => hc (Or.inl h0))
  refine R.sat_ptr ?_ (Nat.le_succ _) hlt
  -- `pathv[len]` is read behind `pathv.length() > len`
  refine R.sat_bind (P := fun b => b = true → first + 1 + len ≤ last) ?_ (fun ok hok => ?_)
  · refine R.sat_if (fun hn => R.sat_pure (fun _ => ?_))
      (fun _ => R.sat_if (fun hgt => ?_) (fun _ => R.sat_pure (fun hh => nomatch hh)))
    · exact Nat.le_of_eq (by rw [← hn, Nat.add_sub_cancel' hlt])
    · have hgt : len < last - (first + 1) := hgt
      have hlt2 : first + 1 + len < last := Nat.add_lt_of_lt_sub' hgt
      exact R.sat_read hl (R.sat_pure (fun _ => Nat.le_of_lt hlt2)) (Nat.le_add_right _ _) hlt2
  · refine R.sat_if (fun ht => ?_) (fun _ => R.sat_pure ⟨Nat.le_succ _, Nat.le_refl _, hlt⟩)
    refine R.sat_ptr ?_ (Nat.le_trans (Nat.le_succ _) (Nat.le_add_right _ _)) (hok ht)
    exact R.sat_pure ⟨Nat.le_succ _, Nat.le_add_right _ _, hok ht⟩
end Upa.Impl.B
