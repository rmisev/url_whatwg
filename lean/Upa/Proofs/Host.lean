import Upa.Proofs.Percent
import Upa.Props.C12
import Upa.Spec.Host
import Upa.Impl.Url
import Upa.Proofs.ParserRules
import Upa.Proofs.Ipv4
/-
  C07 (host parser): `Impl.parseHost` (include/upa/url_host.h:159-361) against the Standard's host
  parser `Spec.hostParse`.  Namespace `Upa.Proofs.C07`.

  The fast path parses the raw input where the Standard parses the lower-cased output of ToASCII, so
  the IPv4 machinery is shown not to see ASCII case (`endsInANumber_lower`, `ipv4Parse_lower`), nor do the code's
  own tests (`endsInNumber_map`, `hasXnLabel_map`).  The
  buffer handed to ToASCII is the Standard's (`implBuf_eq`, C14 + C10) and plain ASCII reaches it in
  place (`specBuf_append`); with the leaf branches (C11, C12, C14) and the two hypotheses on ToASCII
  this gives `fast_sound`, `precheck_sound` and `parseHost_eq`.  The code's parser with its stages named
  (`impl_cons`, `implFast`, `implFinish`) is in Upa/Proofs/ParserRules.lean.  The last section says what the
  (file) host state leaves in the host, the states after it keeping scheme and host (`C03.kept_*`, `key_portState`, ParserRules).
-/
namespace Upa.Proofs.C07
open Upa.Spec

theorem isDot_lower (c : Nat) : isDot (toLower c) = isDot c := toLower_beq c 0x2E (.inl (by decide))

/-- the hex digits `A`–`F` have the values of `a`–`f`, the other letters none -/
theorem digitVal16_capital : ∀ c, c < 0x5B → 0x41 ≤ c → digitVal 16 (c + 0x20) = digitVal 16 c := by
  decide +kernel

theorem digitVal_lower (R : Nat) (hR : R ≤ 16) : ∀ c, digitVal R (toLower c) = digitVal R c :=
  toLower_lift (digitVal R) fun c h1 h2 => by
    by_cases h16 : R = 16
    · subst h16; exact digitVal16_capital c (Nat.lt_succ_of_le h2) h1
    · -- decimal and octal digits lie below the letters
      have hc : 0x30 + R ≤ c := Nat.le_trans (Nat.add_le_add_left hR _) (Nat.le_trans (by decide) h1)
      unfold digitVal
      rw [if_neg h16, if_neg h16, if_neg fun h => absurd h.2 (Nat.not_lt.2 (Nat.le_add_right_of_le hc)),
        if_neg fun h => absurd h.2 (Nat.not_lt.2 hc)]

theorem lower_eq_30 (c : Nat) : (toLower c = 0x30) = (c = 0x30) :=
  propext (toLower_eq_iff c 0x30 (.inl (by decide)))

theorem lower_eq_x : ∀ c, (toLower c = 0x58 ∨ toLower c = 0x78) = (c = 0x58 ∨ c = 0x78) :=
  toLower_lift (fun a => a = 0x58 ∨ a = 0x78) fun c h1 h2 =>
    -- among the capitals and their lower-case forms only `X` and `x` occur, and `X` goes to `x`
    have hlo : c + 0x20 ≠ 0x58 := Nat.ne_of_gt (Nat.lt_of_lt_of_le (by decide) (Nat.add_le_add_right h1 _))
    have hhi : c ≠ 0x78 := Nat.ne_of_lt (Nat.lt_of_le_of_lt h2 (by decide))
    propext ⟨fun h => Or.inl (Nat.add_right_cancel (m := 0x20) (h.resolve_left hlo)),
      fun h => Or.inr (congrArg (· + 0x20) (h.resolve_right hhi))⟩

theorem radixValue_lower (R : Nat) (hR : R ≤ 16) :
    ∀ (l : List Nat) (acc : Nat), radixValue R (l.map toLower) acc = radixValue R l acc := by
  intro l
  induction l with
  | nil => intro acc; rfl
  | cons c cs ih =>
    intro acc
    simp only [List.map_cons, radixValue, digitVal_lower R hR c]
    cases digitVal R c with
    | none => rfl
    | some d => exact ih _

theorem ipv4Number_lower (l : List Nat) : ipv4Number (l.map toLower) = ipv4Number l := by
  cases l with
  | nil => rfl
  | cons c cs =>
    by_cases hc : c = 0x30
    · subst hc
      cases cs with
      | nil => rfl
      | cons c1 rest =>
        have h30 : toLower 0x30 = 0x30 := by decide
        simp only [List.map_cons, h30, ipv4Number, lower_eq_x, List.map_eq_nil_iff,
          radixValue_lower 16 (by decide)]
        rw [← List.map_cons, radixValue_lower 8 (by decide)]
    · have hc' : toLower c ≠ 48 := fun h => hc ((lower_eq_30 c).mp h)
      rw [List.map_cons, Impl.Ipv4.ipv4Number_of_head_ne _ _ hc', Impl.Ipv4.ipv4Number_of_head_ne _ _ hc]
      exact radixValue_lower 10 (by decide) (c :: cs) 0

theorem getLast_map_nil (P : List (List Nat)) :
    ((P.map (List.map toLower)).getLast? = some [] ↔ P.getLast? = some []) := by
  rw [List.getLast?_map]
  cases P.getLast? with
  | none => simp
  | some l => simp

theorem mapM_ipv4Number_lower (P : List (List Nat)) :
    (P.map (List.map toLower)).mapM ipv4Number = P.mapM ipv4Number := by
  induction P with
  | nil => rfl
  | cons a P ih => simp only [List.map_cons, List.mapM_cons, ipv4Number_lower, ih]

theorem endsInANumber_lower (s : List Nat) : endsInANumber (s.map toLower) = endsInANumber s := by
  unfold endsInANumber
  rw [C17.splitOnP_map isDot toLower isDot_lower]
  generalize splitOnP isDot s = P
  -- dropping a trailing empty part commutes with lower-casing the parts
  have hadj : (if (P.map (List.map toLower)).getLast? = some [] then
        (if (P.map (List.map toLower)).length = 1 then [] else (P.map (List.map toLower)).dropLast)
        else P.map (List.map toLower)) =
      (if P.getLast? = some [] then (if P.length = 1 then [] else P.dropLast) else P).map
        (List.map toLower) := by
    rw [apply_ite (List.map (List.map toLower)), apply_ite (List.map (List.map toLower)),
      List.map_dropLast, List.length_map, List.map_nil]
    exact ite_congr (propext (getLast_map_nil P)) (fun _ => rfl) (fun _ => rfl)
  dsimp only
  rw [hadj, List.getLast?_map]
  cases (if P.getLast? = some [] then (if P.length = 1 then [] else P.dropLast) else P).getLast? with
  | none => rfl
  | some last =>
    have hd : (isDigit ∘ toLower) = isDigit := funext isDigit_toLower
    simp only [Option.map_some, ipv4Number_lower, List.all_map, ne_eq, List.map_eq_nil_iff, hd]

theorem ipv4Parse_lower (s : List Nat) : Spec.ipv4Parse (s.map toLower) = Spec.ipv4Parse s := by
  unfold Spec.ipv4Parse
  simp only [C17.splitOnP_map isDot toLower isDot_lower, getLast_map_nil, List.length_map]
  by_cases h : (splitOnP isDot s).getLast? = some [] ∧ (splitOnP isDot s).length > 1
  · simp only [h, and_self, if_true, ← List.map_dropLast, List.length_map, mapM_ipv4Number_lower]
  · simp only [h, if_false, List.length_map, mapM_ipv4Number_lower]

/-- steps 4–5 of the host parser: UTF-8 decode without BOM of the string percent-decoding, handed to
    "domain to ASCII" as UTF-16 -/
def specBuf (s : List Nat) : List Nat := utf16Encode (utf8Decode (stringPercentDecode s))

theorem decoded_scalar (s : List Nat) (hs : ∀ c ∈ s, isScalar c = true) :
    ∀ c ∈ utf8Decode (stringPercentDecode s), isScalar c = true := by
  have hb := C14.spd_lt s hs
  rw [← Impl.decode_u8_eq_spec _ hb]
  exact Impl.decode_u8_scalar _ hb

/-- the library's buffer `buff_uc` is the Standard's -/
theorem implBuf_eq (s : List Nat) (hs : ∀ c ∈ s, isScalar c = true) :
    Impl.encodeUtf16 (Impl.decode .u8 (Impl.percentDecode s)) = specBuf s := by
  have hsc := decoded_scalar s hs
  have h1 : Impl.decode .u8 (utf8Encode (utf8Decode (stringPercentDecode s))) =
      utf8Decode (stringPercentDecode s) := Impl.decode_encode .u8 _ hsc
  rw [C14.percentDecode_eq_spec s hs, h1, Impl.encodeUtf16_eq _ hsc]
  rfl

theorem specBuf_nil : specBuf [] = [] := by
  unfold specBuf; rw [C14.spd_nil]; rfl

theorem buf_ascii_cons (c : Nat) (hc : c < 0x80) (x : List Nat) :
    utf16Encode (utf8Decode (c :: x)) = c :: utf16Encode (utf8Decode x) := by
  unfold utf8Decode
  rw [Impl.aux_start, Impl.step0_ascii c hc]
  show utf16EncodeChar c ++ _ = _
  unfold utf16EncodeChar
  rw [if_pos (Nat.le_trans (Nat.le_of_lt hc) (by decide))]
  rfl

theorem specBuf_cons (c : Nat) (hc : c < 0x80) (h25 : c ≠ 0x25) (r : List Nat) :
    specBuf (c :: r) = c :: specBuf r := by
  unfold specBuf
  rw [C14.spd_other c r h25, C14.utf8EncodeChar_ascii c hc]
  exact buf_ascii_cons c hc _

theorem specBuf_append (pre : List Nat) (hpre : ∀ c ∈ pre, c < 0x80 ∧ c ≠ 0x25) (r : List Nat) :
    specBuf (pre ++ r) = pre ++ specBuf r := by
  induction pre with
  | nil => rfl
  | cons c cs ih =>
    have := hpre c List.mem_cons_self
    rw [List.cons_append, specBuf_cons c this.1 this.2, ih (fun x hx => hpre x (List.mem_cons_of_mem _ hx))]
    rfl

theorem specBuf_plain (s : List Nat) (hs : ∀ c ∈ s, c < 0x80 ∧ c ≠ 0x25) : specBuf s = s := by
  have := specBuf_append s hs []
  rwa [List.append_nil, specBuf_nil, List.append_nil] at this

theorem utf16Encode_lt (x : List Nat) (hx : ∀ c ∈ x, isScalar c = true) : ∀ u ∈ utf16Encode x, u < 0x10000 := by
  intro u hu
  obtain ⟨c, hc, hu⟩ := List.mem_flatMap.1 hu
  have hle := C14.scalar_le c (hx c hc)
  unfold utf16EncodeChar at hu
  by_cases h : c ≤ 0xFFFF
  · rw [if_pos h, List.mem_singleton] at hu
    exact hu ▸ Nat.lt_succ_of_le h
  · -- a surrogate pair carries ten bits in each unit
    rw [if_neg h] at hu
    have hq : (c - 0x10000) / 0x400 < 0x400 := Nat.div_lt_of_lt_mul (by omega)
    have hr : (c - 0x10000) % 0x400 < 0x400 := Nat.mod_lt _ (by decide)
    rcases List.mem_cons.1 hu with e | hu
    · exact e ▸ Nat.lt_of_lt_of_le (Nat.add_lt_add_left hq _) (by decide)
    · exact List.mem_singleton.1 hu ▸ Nat.lt_of_lt_of_le (Nat.add_lt_add_left hr _) (by decide)

theorem forbiddenDomain_capital :
    ∀ c, c < 0x5B → 0x41 ≤ c → forbiddenDomain (c + 0x20) = false ∧ forbiddenDomain c = false := by
  decide +kernel

theorem forbiddenDomain_lower : ∀ c, forbiddenDomain (toLower c) = forbiddenDomain c :=
  toLower_lift forbiddenDomain fun c h1 h2 => by
    obtain ⟨hl, hu⟩ := forbiddenDomain_capital c (Nat.lt_succ_of_le h2) h1
    rw [hl, hu]

/-! Nor do the code's own tests see ASCII case: the ends-in-a-number test, the search for an `xn--` label. -/

section
open Upa.Impl (endsInNumber hasXnAt hasXnAfterDot hasXnLabel)

/-- the code's test is the Standard's (`Ipv4.endsInNumber_eq`), which does not see ASCII case -/
theorem endsInNumber_map (s : List Nat) : endsInNumber (s.map toLower) = endsInNumber s := by
  rw [Impl.Ipv4.endsInNumber_eq, Impl.Ipv4.endsInNumber_eq, endsInANumber_lower]

theorem toLower_or20 (a : Nat) : toLower a ||| 0x20 = a ||| 0x20 := by
  unfold toLower
  split
  · rename_i h
    have tbl : ∀ a, a < 128 → 0x41 ≤ a ∧ a ≤ 0x5A → (a + 0x20) ||| 0x20 = a ||| 0x20 := by decide +kernel
    exact tbl a (by omega) h
  · rfl

theorem hasXnAt_map (s : List Nat) : hasXnAt (s.map toLower) = hasXnAt s := by
  rcases s with _ | ⟨a, _ | ⟨b, _ | ⟨c, _ | ⟨d, r⟩⟩⟩⟩ <;> try rfl
  simp only [List.map_cons, hasXnAt, toLower_or20, toLower_beq c 0x2D (by omega),
    toLower_beq d 0x2D (by omega)]

theorem hasXnAfterDot_map (s : List Nat) : hasXnAfterDot (s.map toLower) = hasXnAfterDot s := by
  induction s with
  | nil => rfl
  | cons c r ih =>
    simp only [List.map_cons, hasXnAfterDot, hasXnAt_map, ih, toLower_beq c 0x2E (by omega)]

theorem hasXnLabel_map (s : List Nat) : hasXnLabel (s.map toLower) = hasXnLabel s := by
  unfold hasXnLabel; rw [hasXnAt_map, hasXnAfterDot_map]

end

/-- below 0x80 the complement of the ASCII domain characters consists of forbidden domain code points:
    the C0 controls are forbidden -/
theorem not_adc (c : Nat) (hlt : c < 0x80) (h : asciiDomainChar c = false) : forbiddenDomain c = true := by
  simp only [asciiDomainChar, Bool.and_eq_false_iff, decide_eq_false_iff_not, Bool.not_eq_false'] at h
  rcases h with (h | h) | h
  · unfold forbiddenDomain
    rw [decide_eq_true (Nat.le_of_lt_succ (Nat.lt_of_not_le h)), Bool.or_true, Bool.true_or, Bool.true_or]
  · exact absurd (Nat.le_of_lt_succ hlt) h
  · exact h

theorem hostParseIpv4_eq (a : List Nat) :
    Impl.hostParseIpv4 a =
      (Spec.ipv4Parse a).map fun n => ({ kind := .ipv4, text := Spec.ipv4Serialize n } : Host) := by
  simp only [Impl.hostParseIpv4, Impl.Ipv4.ipv4Parse_eq, Impl.Ipv4.ipv4Serialize_eq]

theorem hostParseIpv6_eq (x : List Nat) :
    Impl.hostParseIpv6 x =
      (Spec.ipv6Parse x).map fun a =>
        ({ kind := .ipv6, text := [0x5B] ++ Spec.ipv6Serialize a ++ [0x5D] } : Host) := by
  unfold Impl.hostParseIpv6
  cases h : Impl.ipv6Parse x with
  | none => rw [← Props.C12_parse, h]; rfl
  | some a =>
    obtain ⟨h8, hr⟩ := Props.C12_parse_range x a h
    rw [← Props.C12_parse, h, Option.map_some, Option.map_some, Props.C12_serialize a h8 hr]

theorem parseOpaqueHost_eq (s : List Nat) (hs : ∀ c ∈ s, isScalar c = true) :
    Impl.parseOpaqueHost s = Spec.opaqueHostParse s := by
  unfold Impl.parseOpaqueHost Spec.opaqueHostParse
  rw [C14.percentEncodeC0_eq_spec s hs]

/-- steps 5–9 of the host parser, after "domain to ASCII" -/
def finish (r : Option (List Nat)) : Option Host :=
  match r with
  | none => none
  | some ascii =>
    if ascii.any forbiddenDomain then none
    else if endsInANumber ascii then
      (Spec.ipv4Parse ascii).map fun n => { kind := .ipv4, text := Spec.ipv4Serialize n }
    else some { kind := .domain, text := ascii }

theorem implFinish_eq (r : Option (List Nat)) : implFinish r = finish r := by
  cases r with
  | none => rfl
  | some a => simp only [implFinish, finish, Impl.Ipv4.endsInNumber_eq, hostParseIpv4_eq]

/-- the Standard's host parser on a non-empty input, with steps 4–9 folded into `finish` -/
theorem spec_cons (idna : Idna) (c0 : Nat) (t : List Nat) (isOpaque : Bool) :
    Spec.hostParse idna (c0 :: t) isOpaque =
      if c0 = 0x5B then
        if (c0 :: t).getLast? ≠ some 0x5D then none
        else (ipv6Parse ((c0 :: t).drop 1).dropLast).map fun a =>
          { kind := .ipv6, text := [0x5B] ++ ipv6Serialize a ++ [0x5D] }
      else if isOpaque then opaqueHostParse (c0 :: t)
      else finish (idna (specBuf (c0 :: t))) := rfl

/-- the `ascii` hypothesis on "domain to ASCII" (see `Upa.Props.IdnaOk`) -/
def AsciiHyp (idna : Idna) : Prop :=
  ∀ s : List Nat, s ≠ [] → (∀ c ∈ s, asciiDomainChar c = true) → Impl.hasXnLabel s = false →
    idna s = some (s.map toLower)

/-- the `persist` hypothesis on "domain to ASCII" (see `Upa.Props.IdnaOk`) -/
def PersistHyp (idna : Idna) : Prop :=
  ∀ (pre : List Nat) (p : Nat) (post : List Nat),
    (∀ c ∈ pre, asciiDomainChar c = true) →
    p < 0x80 → p ≠ 0x25 → forbiddenDomain p = true →
    (∀ u ∈ post, u < 0x10000) →
    ¬ ((p = 0x3C ∨ p = 0x3E) ∧ ∃ n r, post = n :: r ∧ 0x80 ≤ n) →
    ∀ a, idna (pre ++ p :: post) = some a → a.any forbiddenDomain = true

theorem any_forbidden_lower (s : List Nat) (hall : ∀ c ∈ s, asciiDomainChar c = true) :
    (s.map toLower).any forbiddenDomain = false := by
  rw [List.any_eq_false]
  intro x hx
  obtain ⟨c, hc, rfl⟩ := List.mem_map.1 hx
  rw [forbiddenDomain_lower, ((adc_iff c).1 (hall c hc)).2.2]
  exact Bool.false_ne_true

/-- fast path = full path -/
theorem fast_sound (idna : Idna) (hascii : AsciiHyp idna) (s : List Nat) (hne : s ≠ [])
    (hall : ∀ c ∈ s, asciiDomainChar c = true) (hxn : Impl.hasXnLabel s = false) :
    finish (idna (specBuf s)) =
      (if Impl.endsInNumber s then Impl.hostParseIpv4 s
       else some { kind := .domain, text := s.map toLower }) := by
  rw [specBuf_plain s (fun c hc => adc_plain c (hall c hc)), hascii s hne hall hxn]
  unfold finish
  simp only [any_forbidden_lower s hall, endsInANumber_lower, ipv4Parse_lower,
    Impl.Ipv4.endsInNumber_eq, hostParseIpv4_eq]
  rfl

/-- a unit after `p` that makes the buffer continue with a non-ASCII unit exempts `<`, `>` from the
    early rejection: it is non-ASCII itself or starts an escape -/
theorem exemptNext_of_buf (rest : List Nat) (n : Nat) (r : List Nat) (e : specBuf rest = n :: r)
    (hn : 0x80 ≤ n) : exemptNext rest = true := by
  cases rest with
  | nil => rw [specBuf_nil] at e; cases e
  | cons m r' =>
    refine Decidable.byContradiction fun h => ?_
    have hm : m < 0x80 ∧ m ≠ 0x25 := by simpa [exemptNext] using h
    rw [specBuf_cons m hm.1 hm.2] at e
    cases e
    exact absurd hm.1 (Nat.not_lt.2 hn)

theorem precheck_sound (idna : Idna) (hpersist : PersistHyp idna) (pre : List Nat) (p : Nat)
    (rest : List Nat) (hs : ∀ c ∈ pre ++ p :: rest, isScalar c = true)
    (hpre : ∀ c ∈ pre, asciiDomainChar c = true) (hp : asciiDomainChar p = false)
    (hlt : p < 0x80) (h25 : p ≠ 0x25)
    (hex : ¬ (p ≥ 0x3C ∧ p ≤ 0x3E ∧ exemptNext rest = true)) :
    finish (idna (specBuf (pre ++ p :: rest))) = none := by
  rw [specBuf_append pre (fun c hc => adc_plain c (hpre c hc)), specBuf_cons p hlt h25]
  cases hi : idna (pre ++ p :: specBuf rest) with
  | none => rfl
  | some a =>
    have hrs : ∀ c ∈ rest, isScalar c = true :=
      fun c hc => hs c (List.mem_append_right pre (List.mem_cons_of_mem p hc))
    have hne : ¬ ((p = 0x3C ∨ p = 0x3E) ∧ ∃ n r, specBuf rest = n :: r ∧ 0x80 ≤ n) := by
      rintro ⟨rfl | rfl, n, r, e, hn⟩
      · exact hex ⟨by decide, by decide, exemptNext_of_buf rest n r e hn⟩
      · exact hex ⟨by decide, by decide, exemptNext_of_buf rest n r e hn⟩
    have hany := hpersist pre p (specBuf rest) hpre hlt h25 (not_adc p hlt hp)
      (utf16Encode_lt _ (decoded_scalar rest hrs)) hne a hi
    exact if_pos hany

theorem implFast_sound (idna : Idna) (hascii : AsciiHyp idna) (hpersist : PersistHyp idna)
    (s : List Nat) (hne : s ≠ []) (hs : ∀ c ∈ s, isScalar c = true) (r : Option Host)
    (hr : implFast s = some r) : r = finish (idna (specBuf s)) := by
  unfold implFast at hr
  -- `s` is ASCII domain characters followed by what `find_if_not` stops at
  have hpre : ∀ c ∈ s.takeWhile asciiDomainChar, asciiDomainChar c = true := fun _ hc => (mem_takeWhile hc).1
  have happ : s.takeWhile asciiDomainChar ++ s.dropWhile asciiDomainChar = s :=
    List.takeWhile_append_dropWhile
  have hp := List.head?_dropWhile_not asciiDomainChar s
  cases hd : s.dropWhile asciiDomainChar with
  | nil =>
    rw [hd, List.append_nil] at happ
    rw [hd] at hr
    by_cases hxn : Impl.hasXnLabel s = true
    · rw [hxn] at hr; cases hr
    · have hxn' : Impl.hasXnLabel s = false := Bool.eq_false_iff.2 hxn
      rw [hxn'] at hr
      cases hr
      exact (fast_sound idna hascii s hne (happ ▸ hpre) hxn').symm
  | cons p rest =>
    rw [hd] at hr happ hp
    change (if p < 0x80 ∧ p ≠ 0x25 then _ else none) = _ at hr
    by_cases hc : p < 0x80 ∧ p ≠ 0x25
    · by_cases hex : ¬ (p ≥ 0x3C ∧ p ≤ 0x3E ∧ exemptNext rest = true)
      · rw [if_pos hc, if_pos hex] at hr
        cases hr
        rw [← happ] at hs ⊢
        exact (precheck_sound idna hpersist _ p rest hs hpre hp hc.1 hc.2 hex).symm
      · rw [if_pos hc, if_neg hex] at hr; cases hr
    · rw [if_neg hc] at hr; cases hr

/-- C07: the host parser of the library is the Standard's -/
theorem parseHost_eq (idna : Idna) (hascii : AsciiHyp idna) (hpersist : PersistHyp idna)
    (s : List Nat) (isOpaque : Bool) (hs : ∀ c ∈ s, isScalar c = true) :
    Impl.parseHost idna s isOpaque = Spec.hostParse idna s isOpaque := by
  cases s with
  | nil => rfl
  | cons c0 t =>
    rw [impl_cons, spec_cons]
    by_cases hb : c0 = 0x5B
    · rw [if_pos hb, if_pos hb, hostParseIpv6_eq]
      by_cases hl : (c0 :: t).getLast? = some 0x5D
      · rw [if_pos hl, if_neg (not_not_intro hl)]
      · rw [if_neg hl, if_pos hl]
    · rw [if_neg hb, if_neg hb]
      cases isOpaque with
      | true => rw [if_pos rfl, if_pos rfl, parseOpaqueHost_eq _ hs]
      | false =>
        rw [if_neg Bool.false_ne_true, if_neg Bool.false_ne_true]
        cases hf : implFast (c0 :: t) with
        | none => rw [implBuf_eq _ hs, implFinish_eq]
        | some r => exact implFast_sound idna hascii hpersist _ (List.cons_ne_nil c0 t) hs r hf

/-! What `specBuf` does element by element.  (Closed instances need none of this: `Spec.percentDecodeBytes` and
`Impl.percentDecodeAux` have kernel-evaluable twins, Upa/Proofs/EvalFuel.lean.) -/

theorem specBuf_hex_ascii (h1 h2 : Nat) (r : List Nat) (a1 : isHex h1 = true) (a2 : isHex h2 = true)
    (hlt : hexVal h1 * 16 + hexVal h2 < 0x80) :
    specBuf (0x25 :: h1 :: h2 :: r) = (hexVal h1 * 16 + hexVal h2) :: specBuf r := by
  unfold specBuf
  rw [C14.spd_hex h1 h2 r a1 a2]
  exact buf_ascii_cons _ hlt _

theorem specBuf_scalar (c : Nat) (hc : isScalar c = true) (h25 : c ≠ 0x25) (r : List Nat)
    (hr : ∀ x ∈ r, isScalar x = true) :
    specBuf (c :: r) = utf16EncodeChar c ++ specBuf r := by
  unfold specBuf
  have hle := C14.scalar_le c hc
  rw [C14.spd_other c r h25]
  have hb : ∀ x ∈ utf8EncodeChar c ++ stringPercentDecode r, x < 256 := by
    intro x hx
    rcases List.mem_append.1 hx with h | h
    · exact Impl.utf8EncodeChar_lt c hle x h
    · exact C14.spd_lt r hr x h
  rw [← Impl.decode_u8_eq_spec _ hb, C14.decode_scalar_cons c hc, Impl.decode_u8_eq_spec _ (C14.spd_lt r hr)]
  simp [utf16Encode]

def domainInput (s : List Nat) : Bool :=
  match s with
  | [] => false
  | c :: _ => c != 0x5B

theorem spec_eval (idna : Idna) (s buf : List Nat) (hd : domainInput s = true) (hbuf : specBuf s = buf) :
    Spec.hostParse idna s false = finish (idna buf) := by
  cases s with
  | nil => cases hd
  | cons c0 t =>
    rw [spec_cons, if_neg (bne_iff_ne.1 hd), if_neg Bool.false_ne_true, hbuf]

/-- on plain ASCII without `%` the buffer handed to ToASCII is the input -/
theorem spec_eval_plain (idna : Idna) (s : List Nat) (hd : domainInput s = true)
    (hs : ∀ c ∈ s, c < 0x80 ∧ c ≠ 0x25) : Spec.hostParse idna s false = finish (idna s) :=
  spec_eval idna s s hd (specBuf_plain s hs)

theorem impl_eval_slow (idna : Idna) (s bytes : List Nat) (hd : domainInput s = true)
    (hfast : implFast s = none) (hpd : Impl.percentDecode s = bytes) :
    Impl.parseHost idna s false = implFinish (idna (Impl.encodeUtf16 (Impl.decode .u8 bytes))) := by
  cases s with
  | nil => cases hd
  | cons c0 t => rw [C08.parseHost_domain idna c0 t (bne_iff_ne.1 hd), hfast, ← hpd]

/-! ## what the host blocks leave in the host

The tail keeps the host (`C03.kept_*`).  The file host state keeps the old value, or stores the empty host or a
parsed host whose text is not "localhost"; any other host state stores what the host parser returned. -/

section HostField
open Upa.Impl

theorem fragmentState_host (u : Url) (p : List Nat) : (fragmentState u p).url.host = u.host :=
  congrArg Prod.snd (C03.key_of_kept (C03.kept_fragmentState u p))

theorem store_host (ov : Option Override) (u : Url) (h : Host) (rest : List Nat) :
    (if ov.isSome then (⟨.ok, { u with host := some h }⟩ : Res)
     else pathStartState ov { u with host := some h } rest).url.host = some h :=
  C08.ite_prop (P := fun r : Res => r.url.host = some h) rfl (congrArg Prod.snd (C03.key_of_kept (C03.kept_pathStartState ov _ rest)))

/-- what the file host state can leave in the host: the old value (failure, or a Windows drive letter
    was found), the empty host, or the parsed host provided its text is not "localhost" -/
theorem fileHostState_host (idna : Idna) (ov : Option Override) (u : Url) (p : List Nat)
    (P : Option Host → Prop) (hold : P u.host) (hempty : P (some emptyHost))
    (hparsed : ∀ h, h.text ≠ sLocalhost → P (some h)) : P (fileHostState idna ov u p).url.host :=
  C08.fileHostState_rule (G := fun r => P r.url.host) idna ov u p hold
    (fun _ => (congrArg P (congrArg Prod.snd (C03.key_of_kept (C03.kept_pathState ov u p)))).mpr hold)
    (fun h hh q => (congrArg P (store_host ov u h q)).mpr
      (hh.elim (fun e => e ▸ hempty) fun ⟨_, _, hl⟩ => hparsed h (beq_eq_false_iff_ne.1 hl)))

/-- outside the file host state the host state stores exactly what the host parser returned -/
theorem hostState_host (idna : Idna) (ov : Option Override) (u : Url) (p : List Nat)
    (hnf : (ov.isSome && u.isFile) = false) (P : Option Host → Prop) (hold : P u.host)
    (hparsed : ∀ hostPart h, parseHost idna hostPart (!u.isSpecial) = some h → P (some h)) :
    P (hostState idna ov u p).url.host :=
  C08.hostState_cases (G := fun r => P r.url.host) idna ov u p
    (fun ho hf => absurd hnf (by rw [ho, hf]; decide)) (fun _ _ => hold)
    (fun _ s h hph q => ⟨(congrArg P (store_host ov u h q)).mpr (hparsed s h hph),
      (congrArg P (congrArg Prod.snd (C03.key_portState ov _ q))).mpr (hparsed s h hph)⟩)

end HostField

end Upa.Proofs.C07
