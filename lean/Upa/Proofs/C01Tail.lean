import Upa.Proofs.C01Run
import Upa.Proofs.C01Seg
import Upa.Proofs.Literal
/-
  C01 — the tail states of the basic URL parser: fragment, query, opaque path, path, path start, each as
  a `SimAt` (C01Run.lean) for an arbitrary state override and arbitrary flags.

  Per state: lemmas `step_*` give `Spec.step` on an explicit configuration in terms of `inp[i]?`.  The query state
  only buffers up to its delimiter: `run_scan_then` (C01Run.lean), then one run on the delimiter.  The states that
  write to the URL at every code point (fragment, opaque path, path) have a lemma `run_*` (induction on the
  remaining input) that equates `Spec.run` with a list-recursive scan stopping where the code block stops (`ores`,
  `pres`), and a lemma `*_eq` that identifies the scan with the block's `takeWhile`/`dropWhile` (for the path:
  `parsePath_eq_pathLoop`, and `segUrl_eq` for one segment, both from C01Seg.lean).
-/
namespace Upa.Proofs.C01
open Upa.Spec (State Cfg StepResult step run)

section fragment
variable {idna : Idna} {inp : Array Nat} {base : Option Url} {ov : Option State}
variable {u : Url} {buf : List Nat} {f1 f2 f3 : Bool} {i : Nat}

theorem step_fragment (idna : Idna) (inp : Array Nat) (base : Option Url) (ov : Option State) (u : Url) (buf : List Nat)
    (f1 f2 f3 : Bool) (i : Nat) :
    step idna inp base ov ⟨u, .fragment, buf, f1, f2, f3, (i : Int)⟩ =
      match inp[i]? with
      | some ch =>
        .continue ⟨{ u with fragment := some (u.fragment.getD [] ++ Spec.utf8PercentEncodeChar Spec.fragmentSet ch) },
          .fragment, buf, f1, f2, f3, (i : Int)⟩
      | none => .continue ⟨u, .fragment, buf, f1, f2, f3, (i : Int)⟩ := by
  unfold step
  simp only [Int.toNat_natCast]
  split <;> simp_all

theorem run_fragment : ∀ (r : List Nat) (i : Nat) (u : Url) (buf : List Nat) (f1 f2 f3 : Bool)
    (acc : List Nat) (fuel : Nat),
    inp.toList.drop i = r → u.fragment = some acc → fuel ≥ r.length + 1 →
    run idna inp base ov fuel ⟨u, .fragment, buf, f1, f2, f3, (i : Int)⟩ =
      (some { u with fragment := some (acc ++ Spec.utf8PercentEncode Spec.fragmentSet r) },
       { u with fragment := some (acc ++ Spec.utf8PercentEncode Spec.fragmentSet r) }) := by
  intro r
  induction r with
  | nil =>
    intro i u buf f1 f2 f3 acc fuel hr hacc hf
    obtain ⟨hc, hsz⟩ := getElem?_of_drop_nil hr
    have hst := step_fragment idna inp base ov u buf f1 f2 f3 i
    rw [hc] at hst
    rw [run_eof hst hsz hf]
    have : u = { u with fragment := some (acc ++ Spec.utf8PercentEncode Spec.fragmentSet []) } := by
      cases u; simp_all [Spec.utf8PercentEncode]
    rw [← this]
  | cons c cs ih =>
    intro i u buf f1 f2 f3 acc fuel hr hacc hf
    obtain ⟨f, rfl, hf'⟩ := fuel_succ hf
    obtain ⟨hc, hsz, hr'⟩ := getElem?_of_drop_cons hr
    have hst := step_fragment idna inp base ov u buf f1 f2 f3 i
    rw [hc] at hst
    refine (run_continue' (j := i + 1) f hst (by simp) hsz).trans ?_
    refine (ih (i + 1) _ buf f1 f2 f3 (acc ++ Spec.utf8PercentEncodeChar Spec.fragmentSet c) f hr'
      (by simp [hacc]) (by simpa using hf')).trans ?_
    simp [Spec.utf8PercentEncode, List.append_assoc]

end fragment

theorem sim_fragment (idna : Idna) (base : Option Url) (ov : Option Override) :
    SimAt idna base ov .fragment 1 1 (fun k => k.url.fragment = some []) Impl.fragmentState := by
  refine SimR.of_cfg (R := Eq) fun inp u f1 f2 f3 i fuel hpre hi hsc hf => ?_
  refine (run_fragment _ i u [] f1 f2 f3 [] fuel rfl hpre ?_).trans ?_
  · simp only [List.length_drop, Array.length_toList]; omega
  · simp [Impl.fragmentState, Impl.fragmentNoEnc, C14.percentEncode_eq_spec _ C14.fragment_hi _ (drop_scalar hsc rfl)]

/-- the record after the query state has encoded its buffer `buf` (with the query set of the scheme's class) -/
def setq (u : Url) (buf : List Nat) : Url :=
  { u with query := some (u.query.getD [] ++
      Spec.utf8PercentEncode (if Spec.isSpecial u then Spec.specialQuerySet else Spec.querySet) buf) }

section query
variable {idna : Idna} {inp : Array Nat} {base : Option Url} {ov : Option State}
variable {u : Url} {buf : List Nat} {f1 f2 f3 : Bool} {i : Nat}

theorem step_query_other {c : Nat} (hc : inp[i]? = some c) (h : ov.isSome ∨ c ≠ 0x23) :
    step idna inp base ov ⟨u, .query, buf, f1, f2, f3, (i : Int)⟩ =
      .continue ⟨u, .query, buf ++ [c], f1, f2, f3, (i : Int)⟩ := by
  unfold step
  simp only [Int.toNat_natCast, ptr_neg, if_false, hc]
  rcases h with h | h
  · cases ov <;> simp_all
  · simp [h]

theorem step_query_hash (hc : inp[i]? = some 0x23) (h : ov = none) :
    step idna inp base ov ⟨u, .query, buf, f1, f2, f3, (i : Int)⟩ =
      .continue ⟨{ setq u buf with fragment := some [] }, .fragment, [], f1, f2, f3, (i : Int)⟩ := by
  unfold step
  simp only [Int.toNat_natCast, ptr_neg, if_false, hc, h]
  simp [setq]

theorem step_query_eof (hc : inp[i]? = none) :
    step idna inp base ov ⟨u, .query, buf, f1, f2, f3, (i : Int)⟩ =
      .continue ⟨setq u buf, .query, [], f1, f2, f3, (i : Int)⟩ := by
  unfold step
  simp only [Int.toNat_natCast, ptr_neg, if_false, hc]
  simp [setq]

end query

theorem setq_eq (u : Url) (q : List Nat) (hq : u.query.getD [] = []) (hs : ∀ c ∈ q, Spec.isScalar c = true) :
    setq u q = { u with query := some (Impl.percentEncode
      (if u.isSpecial then Impl.specialQueryNoEnc else Impl.queryNoEnc) q) } := by
  unfold setq
  rw [hq]
  show _ = { u with query := some (Impl.percentEncode
      (if Spec.isSpecial u then Impl.specialQueryNoEnc else Impl.queryNoEnc) q) }
  split
  · rw [← C14.percentEncode_eq_spec _ C14.specialQuery_hi q hs]; rfl
  · rw [← C14.percentEncode_eq_spec _ C14.query_hi q hs]; rfl

/-- the query string: everything under a state override, else up to `#` -/
abbrev qKeep (ov : Option Override) (c : Nat) : Bool := ov.isSome || c != 0x23

theorem qKeep_true {ov : Option Override} {c : Nat} (h : qKeep ov c = true) :
    (ov.map ovState).isSome = true ∨ c ≠ 0x23 := by
  cases ov with
  | some o => exact Or.inl rfl
  | none => exact Or.inr (by simpa [qKeep] using h)

theorem qKeep_false {ov : Option Override} {c : Nat} (h : qKeep ov c = false) : ov.isNone = true ∧ c = 0x23 := by
  cases ov with
  | some o => cases h
  | none => exact ⟨rfl, by simpa [qKeep] using h⟩

theorem takeWhile_qKeep (ov : Option Override) (p : List Nat) :
    p.takeWhile (qKeep ov) = if ov.isSome then p else p.takeWhile (· != 0x23) := by
  cases ov with
  | some o => exact takeWhile_of_dropWhile_nil (dropWhile_eq_nil_iff.2 fun _ _ => rfl)
  | none => exact congrArg (fun q => p.takeWhile q) (funext fun c => Bool.false_or _)

theorem dropWhile_qKeep (ov : Option Override) (p : List Nat) :
    p.dropWhile (qKeep ov) = if ov.isSome then [] else p.dropWhile (· != 0x23) := by
  cases ov with
  | some o => exact dropWhile_eq_nil_iff.2 fun _ _ => rfl
  | none => exact congrArg (fun q => p.dropWhile q) (funext fun c => Bool.false_or _)

theorem sim_query (idna : Idna) (base : Option Url) (ov : Option Override) :
    SimAt idna base ov .query 1 1 (fun k => k.url.query.getD [] = []) (Impl.queryState ov) := by
  refine SimR.of_cfg (R := Eq) fun inp u f1 f2 f3 i fuel hpre hi hsc hf => ?_
  generalize hr : inp.toList.drop i = p
  have hblock : Impl.queryState ov u p =
      match p.dropWhile (qKeep ov) with
      | [] => ⟨.ok, setq u (p.takeWhile (qKeep ov))⟩
      | _ :: t => Impl.fragmentState (setq u (p.takeWhile (qKeep ov))) t := by
    rw [setq_eq u (p.takeWhile (qKeep ov)) hpre fun c hc => drop_scalar hsc hr c (List.takeWhile_subset _ hc),
      takeWhile_qKeep, dropWhile_qKeep]; rfl
  rw [hblock]
  refine run_scan_then (P := (· = _)) (q := qKeep ov) (f := id)
    (fun _ _ _ hc h => step_query_other hc (qKeep_true h)) hr hi [] (Nat.le_refl 1) hf fun j g _ hrest hj hg hend => ?_
  rw [List.map_id, List.nil_append]
  cases hd : p.dropWhile (qKeep ov) with
  | nil =>
    rw [hd] at hrest
    obtain ⟨hc, hsz⟩ := getElem?_of_drop_nil hrest
    rw [run_eof (step_query_eof hc) hsz (by omega)]; rfl
  | cons c t =>
    rw [hd] at hrest
    obtain ⟨hov, rfl⟩ := qKeep_false (hend c (getElem?_of_drop_cons hrest).1)
    rw [SimR.next (R := Eq) (sim_fragment idna base ov) hrest
      (step_query_hash (getElem?_of_drop_cons hrest).1 (map_ovState_none hov)) rfl hsc hg, fragmentState_setFragment]

section opaquePath
variable {idna : Idna} {inp : Array Nat} {base : Option Url} {ov : Option State}
variable {u : Url} {buf : List Nat} {f1 f2 f3 : Bool} {i : Nat}

theorem step_opaque {c : Option Nat} (hc : inp[i]? = c) :
    step idna inp base ov ⟨u, .opaquePath, buf, f1, f2, f3, (i : Int)⟩ =
      match c with
      | none => .continue ⟨u, .opaquePath, buf, f1, f2, f3, (i : Int)⟩
      | some c =>
        if c = 0x3F then .continue ⟨{ u with query := some [] }, .query, buf, f1, f2, f3, (i : Int)⟩
        else if c = 0x23 then .continue ⟨{ u with fragment := some [] }, .fragment, buf, f1, f2, f3, (i : Int)⟩
        else .continue ⟨{ u with opaquePath := u.opaquePath ++ Spec.utf8PercentEncodeChar Spec.c0ControlSet c },
          .opaquePath, buf, f1, f2, f3, (i : Int)⟩ := by
  unfold step
  simp only [Int.toNat_natCast, ptr_neg, if_false, hc]
  cases c with
  | none => simp
  | some c => by_cases h1 : c = 0x3F <;> by_cases h2 : c = 0x23 <;> simp [h1, h2]

end opaquePath

/-- the opaque path state as a scan of the remaining input: one code point is appended, percent-encoded, per step -/
def ores (ov : Option Override) : Url → List Nat → Res
  | u, [] => ⟨.ok, u⟩
  | u, c :: cs =>
    if c = 0x3F then Impl.queryState ov u cs
    else if c = 0x23 then Impl.fragmentState u cs
    else ores ov { u with opaquePath := u.opaquePath ++ Spec.utf8PercentEncodeChar Spec.c0ControlSet c } cs

theorem run_opaque (idna : Idna) (inp : Array Nat) (base : Option Url) (ov : Option Override)
    (hsc : ∀ x ∈ inp.toList, Spec.isScalar x = true) :
    ∀ (r : List Nat) (i : Nat) (u : Url) (f1 f2 f3 : Bool) (fuel : Nat),
    inp.toList.drop i = r → fuel ≥ r.length + 1 →
    run idna inp base (ov.map ovState) fuel ⟨u, .opaquePath, [], f1, f2, f3, (i : Int)⟩ =
      resOf ov (ores ov u r) := by
  intro r
  induction r with
  | nil =>
    intro i u f1 f2 f3 fuel hr hf
    obtain ⟨hc, hsz⟩ := getElem?_of_drop_nil hr
    rw [run_eof (step_opaque hc) hsz hf]
    simp [ores]
  | cons c cs ih =>
    intro i u f1 f2 f3 fuel hr hf
    obtain ⟨hc, hsz, hr'⟩ := getElem?_of_drop_cons hr
    have hlen := drop_length hr'
    simp only [List.length_cons] at hf
    by_cases h1 : c = 0x3F
    · subst h1
      refine (SimR.after_step (R := Eq) (sim_query idna base ov) (j := i + 1) (step_opaque hc) rfl rfl (by simp) rfl hsz hsc
        (by omega)).trans ?_
      simp [ores, queryState_setQuery, hr']
    · by_cases h2 : c = 0x23
      · subst h2
        refine (SimR.after_step (R := Eq) (sim_fragment idna base ov) (j := i + 1) (step_opaque hc) rfl rfl (by simp) rfl hsz hsc
          (by omega)).trans ?_
        simp [ores, fragmentState_setFragment, hr']
      · obtain ⟨f, rfl, hf'⟩ := fuel_succ hf
        have hst := step_opaque (idna := idna) (base := base) (ov := ov.map ovState) (u := u) (buf := [])
          (f1 := f1) (f2 := f2) (f3 := f3) hc
        simp only [if_neg h1, if_neg h2] at hst
        refine (run_continue' (j := i + 1) f hst (by simp) hsz).trans ?_
        refine (ih (i + 1) _ f1 f2 f3 f hr' (by omega)).trans ?_
        rw [ores, if_neg h1, if_neg h2]

theorem url_opaque_nil (u : Url) : { u with opaquePath := u.opaquePath ++ [] } = u := by
  cases u; simp

theorem ores_eq (ov : Option Override) : ∀ (r : List Nat) (u : Url),
    (∀ c ∈ r, Spec.isScalar c = true) → ores ov u r = Impl.opaquePathState ov u r := by
  intro r
  induction r with
  | nil =>
    intro u _
    simp [ores, Impl.opaquePathState, Impl.afterPath, Impl.percentEncodeC0]
  | cons c cs ih =>
    intro u hs
    unfold ores
    by_cases h1 : c = 0x3F
    · subst h1
      simp [Impl.opaquePathState, Impl.afterPath, Impl.percentEncodeC0, Impl.isQorH]
    · by_cases h2 : c = 0x23
      · subst h2
        simp [Impl.opaquePathState, Impl.afterPath, Impl.percentEncodeC0, Impl.isQorH]
      · rw [if_neg h1, if_neg h2, ih _ (fun x hx => hs x (List.mem_cons_of_mem _ hx))]
        have hq : Impl.isQorH c = false := by simp [Impl.isQorH, h1, h2]
        unfold Impl.opaquePathState
        simp only [List.takeWhile_cons, List.dropWhile_cons, hq, Bool.not_false, if_true]
        rw [C14.percentEncodeC0_cons, C14.c0_char_eq c (C14.scalar_le c (hs c List.mem_cons_self))]
        simp only [List.append_assoc]

theorem sim_opaquePath (idna : Idna) (base : Option Url) (ov : Option Override) :
    SimAt idna base ov .opaquePath 1 1 (fun _ => True) (Impl.opaquePathState ov) := by
  refine SimR.of_cfg (R := Eq) fun inp u f1 f2 f3 i fuel _ hi hsc hf => ?_
  refine (run_opaque idna inp base ov hsc _ i u f1 f2 f3 fuel rfl ?_).trans ?_
  · simp only [List.length_drop, Array.length_toList]; omega
  · rw [ores_eq ov _ u (drop_scalar hsc rfl)]

section path
variable {idna : Idna} {inp : Array Nat} {base : Option Url} {ov : Option State}
variable {u : Url} {buf : List Nat} {f1 f2 f3 : Bool} {i : Nat}

theorem step_path_eof (hc : inp[i]? = none) :
    step idna inp base ov ⟨u, .path, buf, f1, f2, f3, (i : Int)⟩ =
      .continue ⟨segUrl u buf false, .path, [], f1, f2, f3, (i : Int)⟩ := by
  unfold step
  simp only [Int.toNat_natCast, ptr_neg, if_false, hc]
  simp [segUrl]

theorem step_path_sep {c : Nat} (hc : inp[i]? = some c)
    (hsep : pathSep (Spec.isSpecial u) c = true) :
    step idna inp base ov ⟨u, .path, buf, f1, f2, f3, (i : Int)⟩ =
      .continue ⟨segUrl u buf true, .path, [], f1, f2, f3, (i : Int)⟩ := by
  have h1 : c ≠ 0x3F := by intro h; subst h; simp [pathSep] at hsep
  have h2 : c ≠ 0x23 := by intro h; subst h; simp [pathSep] at hsep
  unfold step
  simp only [Int.toNat_natCast, ptr_neg, if_false, hc]
  simp only [pathSep] at hsep
  simp [segUrl, hsep, h1, h2]

theorem step_path_q (hc : inp[i]? = some 0x3F)
    (hov : ov = none) :
    step idna inp base ov ⟨u, .path, buf, f1, f2, f3, (i : Int)⟩ =
      .continue ⟨{ segUrl u buf false with query := some [] }, .query, [], f1, f2, f3, (i : Int)⟩ := by
  unfold step
  simp only [Int.toNat_natCast, ptr_neg, if_false, hc, hov]
  simp [segUrl]

theorem step_path_h (hc : inp[i]? = some 0x23)
    (hov : ov = none) :
    step idna inp base ov ⟨u, .path, buf, f1, f2, f3, (i : Int)⟩ =
      .continue ⟨{ segUrl u buf false with fragment := some [] }, .fragment, [], f1, f2, f3, (i : Int)⟩ := by
  unfold step
  simp only [Int.toNat_natCast, ptr_neg, if_false, hc, hov]
  simp [segUrl]

theorem step_path_other {c : Nat} (hc : inp[i]? = some c)
    (hsep : pathSep (Spec.isSpecial u) c = false) (h1 : ov.isSome ∨ c ≠ 0x3F) (h2 : ov.isSome ∨ c ≠ 0x23) :
    step idna inp base ov ⟨u, .path, buf, f1, f2, f3, (i : Int)⟩ =
      .continue ⟨u, .path, buf ++ encPc c, f1, f2, f3, (i : Int)⟩ := by
  have h : ov.isSome = true ∨ (c ≠ 0x3F ∧ c ≠ 0x23) :=
    h1.elim Or.inl fun a => h2.elim Or.inl fun b => Or.inr ⟨a, b⟩
  unfold step
  simp only [Int.toNat_natCast, ptr_neg, if_false, hc]
  simp only [pathSep] at hsep
  rcases h with h | ⟨h1, h2⟩
  · cases ov with
    | none => simp at h
    | some o => simp [hsep]
  · simp [hsep, h1, h2]
end path

/-- the path state as a scan of the remaining input with the raw current segment `s` made explicit -/
def pres (ov : Option Override) (sp : Bool) : Url → List Nat → List Nat → Res
  | u, s, [] => ⟨.ok, Impl.pathSegment u s true⟩
  | u, s, c :: cs =>
    if ov.isNone ∧ c = 0x3F then Impl.queryState ov (Impl.pathSegment u s true) cs
    else if ov.isNone ∧ c = 0x23 then Impl.fragmentState (Impl.pathSegment u s true) cs
    else if pathSep sp c then pres ov sp (Impl.pathSegment u s false) [] cs
    else pres ov sp u (s ++ [c]) cs

theorem run_path (idna : Idna) (inp : Array Nat) (base : Option Url) (ov : Option Override)
    (hsc : ∀ x ∈ inp.toList, Spec.isScalar x = true) :
    ∀ (r : List Nat) (i : Nat) (u : Url) (s : List Nat) (f1 f2 f3 : Bool) (fuel : Nat),
    inp.toList.drop i = r → (∀ x ∈ s, Spec.isScalar x = true) → fuel ≥ r.length + 1 →
    run idna inp base (ov.map ovState) fuel ⟨u, .path, encPath s, f1, f2, f3, (i : Int)⟩ =
      resOf ov (pres ov u.isSpecial u s r) := by
  intro r
  induction r with
  | nil =>
    intro i u s f1 f2 f3 fuel hr hs hf
    obtain ⟨hc, hsz⟩ := getElem?_of_drop_nil hr
    rw [run_eof (step_path_eof hc) hsz hf]
    simp [pres, segUrl_eq u s false hs]
  | cons c cs ih =>
    intro i u s f1 f2 f3 fuel hr hs hf
    obtain ⟨hc, hsz, hr'⟩ := getElem?_of_drop_cons hr
    have hlen := drop_length hr'
    have hcs : Spec.isScalar c = true := drop_scalar hsc hr c (by simp)
    simp only [List.length_cons] at hf
    by_cases h1 : ov.isNone ∧ c = 0x3F
    · obtain ⟨hov, rfl⟩ := h1
      refine (SimR.after_step (R := Eq) (sim_query idna base ov) (j := i + 1) (step_path_q hc (map_ovState_none hov)) rfl rfl (by simp) rfl hsz hsc
        (by omega)).trans ?_
      simp [pres, hov, queryState_setQuery, hr', segUrl_eq u s false hs]
    · by_cases h2 : ov.isNone ∧ c = 0x23
      · obtain ⟨hov, rfl⟩ := h2
        refine (SimR.after_step (R := Eq) (sim_fragment idna base ov) (j := i + 1) (step_path_h hc (map_ovState_none hov)) rfl rfl (by simp) rfl hsz hsc
          (by omega)).trans ?_
        simp [pres, hov, fragmentState_setFragment, hr', segUrl_eq u s false hs]
      · obtain ⟨f, rfl, hf'⟩ := fuel_succ hf
        cases hsep : pathSep u.isSpecial c
        · refine (run_continue' (j := i + 1) f (step_path_other hc hsep (isSome_or_of_not h1) (isSome_or_of_not h2)) (by simp) hsz).trans ?_
          have e : encPath s ++ encPc c = encPath (s ++ [c]) := by rw [encPath_append, encPath_cons, encPath_nil]; simp
          rw [e]
          refine (ih (i + 1) u (s ++ [c]) f1 f2 f3 f hr' ?_ (by omega)).trans ?_
          · intro x hx
            rcases List.mem_append.1 hx with hx | hx
            · exact hs x hx
            · simp at hx; subst hx; exact hcs
          · rw [pres, if_neg h1, if_neg h2, hsep]; simp
        · refine (run_continue' (j := i + 1) f (step_path_sep hc hsep) (by simp) hsz).trans ?_
          rw [segUrl_eq u s true hs]
          refine (ih (i + 1) _ [] f1 f2 f3 f hr' (by simp) (by omega)).trans ?_
          rw [pres, if_neg h1, if_neg h2, hsep, pathSegment_isSpecial]; simp

theorem pres_eq (ov : Option Override) (sp : Bool) : ∀ (r : List Nat) (u : Url) (s : List Nat),
    pres ov sp u s r =
      Impl.afterPath ov
        (pathLoop sp u s (if ov.isSome then r else r.takeWhile (fun c => !Impl.isQorH c)))
        (if ov.isSome then [] else r.dropWhile (fun c => !Impl.isQorH c)) := by
  intro r
  induction r with
  | nil => intro u s; cases ov <;> simp [pres, pathLoop, Impl.afterPath]
  | cons c cs ih =>
    intro u s
    unfold pres
    by_cases h1 : ov.isNone ∧ c = 0x3F
    · obtain ⟨hov, rfl⟩ := h1
      cases ov with
      | some o => simp at hov
      | none => simp [Impl.isQorH, Impl.afterPath, pathLoop]
    · rw [if_neg h1]
      by_cases h2 : ov.isNone ∧ c = 0x23
      · obtain ⟨hov, rfl⟩ := h2
        cases ov with
        | some o => simp at hov
        | none => simp [Impl.isQorH, Impl.afterPath, pathLoop]
      · rw [if_neg h2]
        cases ov with
        | some o =>
          simp only [Option.isSome_some, if_true]
          cases hsep : pathSep sp c
          · simp only [Bool.false_eq_true, if_false]; rw [ih]; simp [pathLoop, hsep]
          · simp only [if_true]; rw [ih]; simp [pathLoop, hsep]
        | none =>
          have hq : Impl.isQorH c = false := by
            simp at h1 h2; simp [Impl.isQorH, h1, h2]
          simp only [Option.isSome_none, Bool.false_eq_true, if_false, List.takeWhile_cons,
            List.dropWhile_cons, hq, Bool.not_false, if_true]
          cases hsep : pathSep sp c
          · simp only [Bool.false_eq_true, if_false]; rw [ih]; simp [pathLoop, hsep]
          · simp only [if_true]; rw [ih]; simp [pathLoop, hsep]

theorem sim_path (idna : Idna) (base : Option Url) (ov : Option Override) :
    SimAt idna base ov .path 1 1 (fun _ => True) (Impl.pathState ov) := by
  refine SimR.of_cfg (R := Eq) fun inp u f1 f2 f3 i fuel _ hi hsc hf => ?_
  refine (run_path idna inp base ov hsc _ i u [] f1 f2 f3 fuel rfl (by simp) ?_).trans ?_
  · simp only [List.length_drop, Array.length_toList]; omega
  · rw [pres_eq]
    unfold Impl.pathState
    simp only [parsePath_eq_pathLoop]

/-- The path start state's branch of `Spec.step`, on the code point `x?` at the pointer: the Standard's text for the
    state. -/
theorem step_pathStart {idna : Idna} {inp : Array Nat} {base : Option Url} {ov : Option State}
    {u : Url} {buf : List Nat} {f1 f2 f3 : Bool} {i : Nat} {x? : Option Nat} (hx : inp[i]? = x?) :
    step idna inp base ov ⟨u, .pathStart, buf, f1, f2, f3, (i : Int)⟩ =
      if u.isSpecial = true then
        .continue ⟨u, .path, buf, f1, f2, f3, if ¬ x? = some 0x2F ∧ ¬ x? = some 0x5C then (i : Int) - 1 else i⟩
      else if ov.isNone = true ∧ x? = some 0x3F then
        .continue ⟨{ u with query := some [] }, .query, buf, f1, f2, f3, (i : Int)⟩
      else if ov.isNone = true ∧ x? = some 0x23 then
        .continue ⟨{ u with fragment := some [] }, .fragment, buf, f1, f2, f3, (i : Int)⟩
      else if x?.isSome = true then
        .continue ⟨u, .path, buf, f1, f2, f3, if ¬ x? = some 0x2F then (i : Int) - 1 else i⟩
      else if ov.isSome = true ∧ u.host.isNone = true then
        .continue ⟨{ u with path := u.path ++ [[]] }, .pathStart, buf, f1, f2, f3, (i : Int)⟩
      else .continue ⟨u, .pathStart, buf, f1, f2, f3, (i : Int)⟩ := by
  unfold step
  simp only [Int.toNat_natCast, ptr_neg, if_false, hx, isSpecial_eq, beq_iff_eq]

/- How a state that only dispatches is simulated, here and in C01Auth / C01Head: the state's branch of `Spec.step` is
   ONE equation in the code point at the pointer (`step_pathStart`); the cases are those of the code block itself
   (`fun_cases Impl.pathStartState …`: every goal has the block reduced to its continuation on the exact rest of the
   input, and the branch conditions as hypotheses); one `simp` with these hypotheses picks the same branch of the
   equation; each case is then one transition (`SimR.next` / `SimR.same` / `run_eof`).
   Traps: `fun_cases` abstracts its arguments, so an argument that is not a variable (`c0 :: r0`, `none`) loses its
   link to the context — name it first (`generalize h : c0 :: r0 = p`) and `cases h` in the goals; a `match x? with`
   in the statement of a step equation whose hypothesis mentions `x?` has to be `match (generalizing := false)`. -/
theorem sim_pathStart (idna : Idna) (base : Option Url) (ov : Option Override) :
    SimAt idna base ov .pathStart 1 2 (fun _ => True) (Impl.pathStartState ov) := by
  refine SimR.of_cfg (R := Eq) fun inp u f1 f2 f3 i fuel _ hi hsc hf => ?_
  generalize hr : inp.toList.drop i = p
  have hst := step_pathStart (idna := idna) (base := base) (ov := ov.map ovState) (u := u) (buf := [])
    (f1 := f1) (f2 := f2) (f3 := f3) (getElem?_of_drop hr)
  have hP := sim_path idna base ov
  have hsl : ∀ c, (¬ c = 0x2F ∧ ¬ c = 0x5C) = ¬ Impl.isSlash c = true := fun c => by
    rw [isSlash_iff, not_or]
  fun_cases Impl.pathStartState ov u p <;>
    simp only [List.head?_cons, List.head?_nil, Option.some.injEq, reduceCtorEq, Option.isSome_some,
      Option.isSome_none, Option.isSome_map, Option.isNone_map, ← Bool.and_eq_true, Bool.false_eq_true, and_false, false_and,
      true_and, and_self, not_false_eq_true, not_true_eq_false, if_true, if_false, *] at hst
  -- special: a slash is consumed (1), anything else and EOF are left to the path state (2, 3)
  case case1 => exact SimR.next (R := Eq) hP hr hst trivial hsc hf
  -- not special, no override: `?` (4), `#` (5); `/` is consumed with (6) and without (8) override
  case case4 => exact queryState_setQuery ov u (some []) _ ▸ SimR.next (R := Eq) (sim_query idna base ov) hr hst rfl hsc hf
  case case5 => exact fragmentState_setFragment u (some []) _ ▸ SimR.next (R := Eq) (sim_fragment idna base ov) hr hst rfl hsc hf
  case case6 | case8 => exact SimR.next (R := Eq) hP hr hst trivial hsc hf
  -- EOF, not special (10, 11)
  case case10 | case11 => exact run_eof hst (getElem?_of_drop_nil hr).2 (by omega)
  all_goals exact SimR.same (R := Eq) hP hr hst trivial hi hsc hf

/-- `/a/%2E./C|/.?q r#f`, parsed from the path start state of a `file:` URL with an empty host -/
def sampleInp : Array Nat := (asciiStr "/a/%2E./C|/.?q r#f").toArray
def sampleUrl : Url := C08.fileBase
def sampleOut : Url :=
  { sampleUrl with path := [asciiStr "C:", []], query := some (asciiStr "q%20r"), fragment := some (asciiStr "f") }

example (idna : Idna) (base : Option Url) :
    (run idna sampleInp base none (4 * sampleInp.size + 16)
      { url := sampleUrl, state := .pathStart, p := ((0 : Nat) : Int) }).1 = some sampleOut := by
  rw [(sim_pathStart idna base none).basic (by omega) (by omega) sampleInp 0 sampleUrl _ trivial
    (Nat.zero_le _) (by unfold sampleInp; decide_ascii) (by simp)]
  unfold sampleInp sampleOut
  decide_ascii

end Upa.Proofs.C01
