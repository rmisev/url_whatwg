import Upa.Impl.SetRep
import Upa.Proofs.Rep
/-
  The in-place edits of `Impl/SetRep.lean` on segments (the lemmas behind C05b; the edits of each part of a record:
  Proofs/SetRepOps.lean).

  A representation is presented as a list `A` of at most eleven SEGMENTS (`mkRep`, Proofs/Rep.lean):
  the string is their concatenation, offset `i` is the total length of the first `i + 1` segments,
  and the offsets of the parts beyond `A` are `0` (never started).  `replacePart_mkRep` is the general
  lemma: splicing the segments `firstPt .. lastPt` of a segment-wise laid out string replaces exactly
  these segments and shifts exactly the later (started) offsets.  A part written by appending goes through
  the open shape `mkRepE r0 X d` (the parts `X` saved, `d` appended, the new offset not saved yet):
  `serStart_later` / `setStart_last` lead into it, `save_open` out of it.  `Rp S A`: `A` presents the started
  parts of the eleven segments `S`; the primitives (`replace_part`, truncation, `start_part` … `save_part` in its
  two cases, `clear_part`) are described on it.  `Represents r u` is `Rp` for the segments of a record.

  "`r` represents `u`" is said in several ways: `Represents r u` (here, by segments); `RepFor r u := r ≈ layout u ∧ r.wf`
  (Props/C05b.lean, by offsets; the same for `RecWF u`, `represents_iff`, Proofs/SetRepEquiv.lean); for the parser's
  serializer state, `SerInv s u` = `RecWF u ∧ Represents s.rep u` with `A.length = s.lastPt + 1`, and
  `Final r u := ∃ l, SerInv ⟨r, l⟩ u` (Proofs/ParseRepSim.lean); `IsRep r := ∃ u, RepOk u ∧ RepFor r u`
  (Proofs/SetRepExcApi.lean); `RecSimS` for optional records of objects: `RepFor r u` and the invariant of the object
  level (Proofs/ObjRep.lean).
-/

namespace Upa.Proofs.SetRepExc
open Upa Upa.Impl Upa.Proofs.SetRep

/-- `mkRep r0 A` with `extra` appended to the string: the parts `A` are saved, a further part was started
    (`start_part`) and `extra` is its text so far, its end offset not written yet (`save_part`).  Also what
    is left behind when a setter throws in between: the failure states of `Proofs/SetRepExc*.lean` are stated
    with it, hence its namespace. -/
def mkRepE (r0 : Rep) (A : List (List Nat)) (extra : List Nat) : Rep :=
  { mkRep r0 A with norm := A.flatten ++ extra }

end Upa.Proofs.SetRepExc

namespace Upa.Proofs.SetRep
open Upa Upa.Impl Upa.Proofs.C05
open Upa.Proofs.SetRepExc (mkRepE)
open Upa.Proofs.ParseRep (ptext NoSlash pathText_ptext)

/-! ### the general lemma about `replace_part` -/

theorem sums_last (b : Nat) (M : List (List Nat)) (hM : M ≠ []) :
    ∃ I, I.length = M.length - 1 ∧ sums b M = I ++ [b + M.flatten.length] := by
  refine ⟨sums b M.dropLast, by simp, ?_⟩
  have h : M = M.dropLast ++ [M.getLast hM] := (List.dropLast_concat_getLast hM).symm
  conv => lhs; rw [h]
  rw [sums_append]
  conv => rhs; rw [h]
  simp [Nat.add_assoc]

theorem shiftTail_zeros (f : Nat → Nat) (m : Nat) :
    shiftTail f (List.replicate m 0) = List.replicate m 0 := by
  cases m with
  | zero => rfl
  | succ k => simp [List.replicate_succ, shiftTail]

theorem shiftTail_sums (n l m : Nat) (C : List (List Nat)) (acc : Nat) (h1 : l ≤ acc) (h2 : 0 < acc) :
    shiftTail (fun x => x + n - l) (sums acc C ++ List.replicate m 0) =
      sums (acc + n - l) C ++ List.replicate m 0 := by
  induction C generalizing acc with
  | nil => simpa using shiftTail_zeros _ m
  | cons s ss ih =>
    simp only [sums_cons, List.cons_append, shiftTail]
    rw [if_neg (by omega), ih (acc + s.length) (by omega) (by omega)]
    have e : acc + s.length + n - l = acc + n - l + s.length := by omega
    rw [e]

theorem fillRange_append (P I T : List Nat) (v : Nat) :
    fillRange (P ++ I ++ T) P.length (P.length + I.length) v = P ++ List.replicate I.length v ++ T := by
  unfold fillRange
  rw [if_pos (Nat.le_add_right _ _), Nat.add_sub_cancel_left,
    List.drop_left' (l₁ := P ++ I) List.length_append, List.append_assoc P I T, List.take_left' rfl]

theorem shiftFrom_append (P T : List Nat) (f : Nat → Nat) :
    shiftFrom (P ++ T) P.length f = P ++ shiftTail f T := by
  unfold shiftFrom
  rw [List.take_left' rfl, List.drop_left' rfl]

/-- `replace_part(last, str, first, len0)` on a segment-wise representation `X ++ (M₀ ++ [m]) ++ C`
    with `first = |X|`, `last = |X| + |M₀|`: the string loses the text of `M₀ ++ [m]` and gets `str`;
    the offsets written for `first .. last` are those of any `M'` whose running ends they are; the
    later started offsets move with the text, the zeros stay.  `M'` is a parameter because the callers split
    `str` differently over the parts: `repl_one` as `[str]`, `repl_span` as `m0 :: replicate n [] ++ [ml]`. -/
theorem replacePart_mkRep (r0 : Rep) (X M₀ M' C : List (List Nat)) (m str : List Nat) (len0 : Nat)
    (hM'len : M'.length = M₀.length + 1) (hM'flat : M'.flatten = str)
    (hM'sums : sums X.flatten.length M' =
      List.replicate M₀.length (X.flatten.length + len0) ++ [X.flatten.length + str.length])
    (hpos : 0 < (X ++ (M₀ ++ [m])).flatten.length) :
    replacePart (mkRep r0 (X ++ (M₀ ++ [m]) ++ C)) (X.length + M₀.length) X.length str len0
      = mkRep r0 (X ++ M' ++ C) := by
  have hb : (mkRep r0 (X ++ (M₀ ++ [m]) ++ C)).partPos X.length = X.flatten.length := by
    unfold Rep.partPos
    cases X with
    | nil => rfl
    | cons x xs =>
      rw [if_pos (by simp [SCHEME]), pe_mkRep_lt _ _ _ (by simp; omega)]
      show ((x :: xs ++ (M₀ ++ [m]) ++ C).take (x :: xs).length).flatten.length = _
      rw [List.append_assoc, List.take_left' rfl]
  have hl : (mkRep r0 (X ++ (M₀ ++ [m]) ++ C)).pe (X.length + M₀.length) =
      X.flatten.length + (M₀ ++ [m]).flatten.length := by
    rw [pe_mkRep_lt _ _ _ (by simp)]
    unfold off
    rw [List.take_left' (by simp; omega), List.flatten_append, List.length_append]
  have hP : (mkRep r0 (X ++ (M₀ ++ [m]) ++ C)).partEnd =
      sums 0 X ++ sums X.flatten.length M₀ ++
        ((X.flatten.length + (M₀ ++ [m]).flatten.length) ::
          (sums (X.flatten.length + (M₀ ++ [m]).flatten.length) C ++
            List.replicate (11 - (X ++ (M₀ ++ [m]) ++ C).length) 0)) := by
    simp only [mkRep, sums_append, sums_cons, List.append_assoc, List.flatten_append,
      List.length_append, Nat.zero_add, List.flatten_cons, List.flatten_nil, List.append_nil,
      List.cons_append, List.nil_append, Nat.add_assoc]
  have hZ : 11 - (X ++ M' ++ C).length = 11 - (X ++ (M₀ ++ [m]) ++ C).length := by
    simp only [List.length_append, hM'len, List.length_cons, List.length_nil]
  unfold replacePart
  simp only [hb, hl, Nat.add_sub_cancel_left]
  apply rep_eq_mkRep <;> try rfl
  · show List.take X.flatten.length (X ++ (M₀ ++ [m]) ++ C).flatten ++ str ++
        List.drop (X.flatten.length + (M₀ ++ [m]).flatten.length) (X ++ (M₀ ++ [m]) ++ C).flatten =
      (X ++ M' ++ C).flatten
    simp only [List.flatten_append]
    rw [List.drop_left' List.length_append, List.append_assoc X.flatten, List.take_left' rfl, hM'flat]
  · have hf := fillRange_append (sums 0 X) (sums X.flatten.length M₀)
      ((X.flatten.length + (M₀ ++ [m]).flatten.length) ::
          (sums (X.flatten.length + (M₀ ++ [m]).flatten.length) C ++
            List.replicate (11 - (X ++ (M₀ ++ [m]) ++ C).length) 0)) (X.flatten.length + len0)
    rw [sums_length, sums_length] at hf
    have htarget : sums 0 (X ++ M' ++ C) ++ List.replicate (11 - (X ++ M' ++ C).length) 0 =
        sums 0 X ++ List.replicate M₀.length (X.flatten.length + len0) ++
          ((X.flatten.length + str.length) :: (sums (X.flatten.length + str.length) C ++
            List.replicate (11 - (X ++ (M₀ ++ [m]) ++ C).length) 0)) := by
      rw [hZ]
      simp only [sums_append, hM'sums, hM'flat, List.append_assoc, 
        List.length_append, Nat.zero_add, List.cons_append, List.nil_append]
    show (if str.length = (M₀ ++ [m]).flatten.length then _ else _) = _
    rw [hP, hf, htarget]
    split
    · next h => rw [h]
    · have e : X.length + M₀.length =
          (sums 0 X ++ List.replicate M₀.length (X.flatten.length + len0)).length := by simp
      have hp : 0 < X.flatten.length + (M₀ ++ [m]).flatten.length := by simpa using hpos
      rw [e, shiftFrom_append, shiftTail, if_neg (Nat.ne_of_gt hp),
        shiftTail_sums _ _ _ _ _ (Nat.le_add_left _ _) hp, Nat.add_right_comm, Nat.add_sub_cancel]

/-! ### `A` presents the started parts of the eleven segments `S` -/

/-- `S`: the eleven segments of a laid-out record; `A`: the segments of the parts that were started
    (at least up to HOST), all the others being empty; the first segment (scheme) is non-empty.
    `lo` is `Rep.wf`'s `pe HOST ≠ 0` (the 5 and 6 in later `omega`s); `hi` follows from `lenS` and `pad`. -/
structure Rp (S A : List (List Nat)) : Prop where
  lenS : S.length = 11
  lo : 6 ≤ A.length
  hi : A.length ≤ 11
  pad : S = A ++ List.replicate (11 - A.length) []
  pos : 0 < off S 1

theorem Rp.take {S A : List (List Nat)} (h : Rp S A) {n : Nat} (hn : n ≤ A.length) :
    A.take n = S.take n := by
  conv => rhs; rw [h.pad]
  rw [List.take_append_of_le_length hn]

theorem Rp.drop {S A : List (List Nat)} (h : Rp S A) {n : Nat} (hn : n ≤ A.length) :
    S.drop n = A.drop n ++ List.replicate (11 - A.length) [] := by
  conv => lhs; rw [h.pad]
  rw [List.drop_append_of_le_length hn]

theorem Rp.flatten {S A : List (List Nat)} (h : Rp S A) : A.flatten = S.flatten := by
  conv => rhs; rw [h.pad]
  simp

theorem Rp.off {S A : List (List Nat)} (h : Rp S A) (n : Nat) : off A n = off S n := by
  unfold SetRep.off
  by_cases hn : n ≤ A.length
  · rw [h.take hn]
  · conv => rhs; rw [h.pad]
    rw [List.take_append, List.take_of_length_le (by omega)]
    simp

theorem Rp.pe {S A : List (List Nat)} (h : Rp S A) (r0 : Rep) (i : Nat) :
    (mkRep r0 A).pe i = if i < A.length then SetRep.off S (i + 1) else 0 := by
  rw [pe_mkRep, h.off]

theorem Rp.pe_lt {S A : List (List Nat)} (h : Rp S A) (r0 : Rep) (i : Nat) (hi : i < 6) :
    (mkRep r0 A).pe i = SetRep.off S (i + 1) := by
  rw [h.pe, if_pos (by have := h.lo; omega)]

theorem Rp.normLen {S A : List (List Nat)} (h : Rp S A) (r0 : Rep) :
    (mkRep r0 A).norm.length = SetRep.off S 11 := by
  rw [norm_mkRep, h.flatten]
  unfold SetRep.off
  rw [List.take_of_length_le (by rw [h.lenS]; omega)]

theorem Rp.pos' {S A : List (List Nat)} (h : Rp S A) {n : Nat} (hn : 1 ≤ n) : 0 < SetRep.off S n :=
  off_succ_pos S h.pos hn

theorem Rp.getD {S A : List (List Nat)} (h : Rp S A) (t : Nat) : A.getD t [] = S.getD t [] := by
  rw [h.pad, List.getD_eq_getElem?_getD, List.getD_eq_getElem?_getD]
  by_cases ht : t < A.length
  · rw [List.getElem?_append_left ht]
  · rw [List.getElem?_append_right (by omega), List.getElem?_eq_none (Nat.le_of_not_lt ht),
      List.getElem?_replicate]
    split <;> rfl

theorem Rp.partView {S A : List (List Nat)} (h : Rp S A) (r0 : Rep) (t : Nat) (ht1 : 1 ≤ t) :
    (mkRep r0 A).partView t = (S.getD t []).drop (kPartStart.getD t 0) := by
  rw [← h.getD]; exact partView_mkRep r0 A t ht1

theorem Rp.isEmpty {S A : List (List Nat)} (h : Rp S A) (r0 : Rep) (t : Nat) (ht1 : 1 ≤ t) :
    (mkRep r0 A).isEmpty t = decide ((S.getD t []).length ≤ kPartStart.getD t 0) := by
  rw [← h.getD]; exact isEmpty_mkRep r0 A t ht1

theorem split_at (A : List (List Nat)) {t : Nat} (h : t < A.length) :
    A = A.take t ++ [A.getD t []] ++ A.drop (t + 1) := by
  rw [List.append_assoc, List.getD_eq_getElem?_getD, List.getElem?_eq_getElem h]
  show A = A.take t ++ A[t] :: A.drop (t + 1)
  rw [← List.drop_eq_getElem_cons h, List.take_append_drop]

theorem replacePart_Rp (r0 : Rep) {S A : List (List Nat)} (h : Rp S A) (firstPt k : Nat)
    (M' : List (List Nat)) (str : List Nat) (len0 : Nat) (hl : firstPt + k < A.length)
    (hM'len : M'.length = k + 1) (hflat : M'.flatten = str)
    (hsums : sums (off S firstPt) M' =
      List.replicate k (off S firstPt + len0) ++ [off S firstPt + str.length])
    (hpos' : 0 < off (S.take firstPt ++ M' ++ S.drop (firstPt + k + 1)) 1) :
    replacePart (mkRep r0 A) (firstPt + k) firstPt str len0 =
        mkRep r0 (A.take firstPt ++ M' ++ A.drop (firstPt + k + 1)) ∧
      Rp (S.take firstPt ++ M' ++ S.drop (firstPt + k + 1))
        (A.take firstPt ++ M' ++ A.drop (firstPt + k + 1)) := by
  have hhi := h.hi
  have hXlen : (A.take firstPt).length = firstPt := List.length_take_of_le (by omega)
  have hMlen : ((A.drop firstPt).take k).length = k := List.length_take_of_le (by simp; omega)
  have hAdec : A = A.take firstPt ++ ((A.drop firstPt).take k ++ [A.getD (firstPt + k) []]) ++
      A.drop (firstPt + k + 1) := by
    conv => lhs; rw [split_at A hl, List.take_add]
    simp only [List.append_assoc]
  constructor
  · have key := replacePart_mkRep r0 (A.take firstPt) ((A.drop firstPt).take k) M'
      (A.drop (firstPt + k + 1)) (A.getD (firstPt + k) []) str len0 (by rw [hM'len, hMlen]) hflat
      (by rw [hMlen, show (A.take firstPt).flatten.length = off S firstPt from h.off firstPt]
          exact hsums)
      (by
        have e : A.take firstPt ++ ((A.drop firstPt).take k ++ [A.getD (firstPt + k) []]) =
            A.take (firstPt + k + 1) := by
          have := congrArg (List.take (firstPt + k + 1)) hAdec
          rw [List.take_left' (by simp [hXlen, hMlen]; omega)] at this
          exact this.symm
        rw [e, show (A.take (firstPt + k + 1)).flatten.length = off S (firstPt + k + 1) from h.off _]
        exact h.pos' (by omega))
    rw [← hAdec, hXlen, hMlen] at key
    exact key
  · have hlenS := h.lenS
    have hlen' : (A.take firstPt ++ M' ++ A.drop (firstPt + k + 1)).length = A.length := by
      simp only [List.length_append, List.length_take, List.length_drop, hM'len]; omega
    refine ⟨?_, by rw [hlen']; exact h.lo, by rw [hlen']; exact h.hi, ?_, hpos'⟩
    · simp only [List.length_append, List.length_take, List.length_drop, hM'len, hlenS]; omega
    · rw [hlen', h.take (by omega), h.drop (by omega)]
      simp only [List.append_assoc]

theorem off_one_splice (S M R : List (List Nat)) (pt : Nat) (h1 : 1 ≤ pt) (h2 : pt ≤ S.length) :
    off (S.take pt ++ M ++ R) 1 = off S 1 := by
  unfold off
  rw [List.append_assoc, List.take_append_of_le_length (by simp; omega), List.take_take]
  congr 3
  omega

/-- `replace_part(pt, str)`: one started part gets the text `str` -/
theorem repl_one (r0 : Rep) {S A : List (List Nat)} (h : Rp S A) (pt : Nat) (str : List Nat)
    (hl : pt < A.length) (hpos : pt = 0 → str ≠ []) :
    ∃ A', A'.length = A.length ∧ replacePart (mkRep r0 A) pt pt str 0 = mkRep r0 A' ∧
      Rp (S.take pt ++ [str] ++ S.drop (pt + 1)) A' := by
  have hhi := h.hi
  have key := replacePart_Rp r0 h pt 0 [str] str 0 hl rfl (List.append_nil _) rfl (by
      cases pt with
      | zero =>
        have : 0 < str.length := List.length_pos_iff.mpr (hpos rfl)
        simpa [off] using this
      | succ k => rw [off_one_splice _ _ _ _ (by omega) (by rw [h.lenS]; omega)]; exact h.pos)
  refine ⟨_, ?_, key⟩
  simp only [List.length_append, List.length_take, List.length_drop, List.length_cons,
    List.length_nil]
  omega

/-- `replace_part(firstPt + n + 1, m0 ++ ml, firstPt, |m0|)`: the started parts
    `firstPt .. firstPt + n + 1` become `m0`, `n` empty parts, `ml` -/
theorem repl_span (r0 : Rep) {S A : List (List Nat)} (h : Rp S A) (firstPt n : Nat) (m0 ml : List Nat)
    (hf : 1 ≤ firstPt) (hl : firstPt + n + 1 < A.length) :
    ∃ A', replacePart (mkRep r0 A) (firstPt + n + 1) firstPt (m0 ++ ml) m0.length = mkRep r0 A' ∧
      Rp (S.take firstPt ++ (m0 :: List.replicate n [] ++ [ml]) ++ S.drop (firstPt + n + 1 + 1)) A' := by
  have hhi := h.hi
  have key := replacePart_Rp r0 h firstPt (n + 1) (m0 :: List.replicate n [] ++ [ml])
    (m0 ++ ml) m0.length hl (by simp)
    (by simp)
    (by rw [List.cons_append, sums_cons, sums_append, sums_replicate_nil, List.replicate_succ]
        simp [Nat.add_assoc])
    (by rw [off_one_splice _ _ _ _ hf (by rw [h.lenS]; omega)]; exact h.pos)
  exact ⟨_, key⟩

/-! ### truncation, and appending through `url_serializer::start_part` -/

theorem setWhileNonzero_zeros (w m : Nat) :
    setWhileNonzero w (List.replicate m 0) = List.replicate m 0 := by
  cases m with
  | zero => rfl
  | succ k => simp [List.replicate_succ, setWhileNonzero]

theorem setWhileNonzero_sums (w m : Nat) (C : List (List Nat)) (acc : Nat) (h : 0 < acc) :
    setWhileNonzero w (sums acc C ++ List.replicate m 0) =
      List.replicate C.length w ++ List.replicate m 0 := by
  induction C generalizing acc with
  | nil => simpa using setWhileNonzero_zeros w m
  | cons s ss ih =>
    simp only [sums_cons, List.cons_append, setWhileNonzero]
    rw [if_neg (by omega), ih (acc + s.length) (by omega)]
    simp [List.replicate_succ]

/-- the loops of url.h:2931-2932 (`v = 0`) and 3066-3067 (`v` = the new length): the offsets from `pt` on are
    overwritten with `v` as far as the parts were started -/
theorem setFrom_mkRep (r0 : Rep) (A : List (List Nat)) (pt v : Nat) (hpos : 0 < off A pt) :
    (mkRep r0 A).partEnd.take pt ++ setWhileNonzero v ((mkRep r0 A).partEnd.drop pt) =
      sums 0 (A.take pt) ++ List.replicate (A.length - pt) v ++ List.replicate (11 - A.length) 0 := by
  show (sums 0 A ++ List.replicate (11 - A.length) 0).take pt ++
    setWhileNonzero v ((sums 0 A ++ List.replicate (11 - A.length) 0).drop pt) = _
  by_cases h : pt ≤ A.length
  · have hl : (sums 0 (A.take pt)).length = pt := by simp [h]
    conv => lhs; rw [← List.take_append_drop pt A, sums_append, List.append_assoc]
    rw [List.take_left' hl, List.drop_left' hl, setWhileNonzero_sums _ _ _ _ (by simpa [off] using hpos),
      List.length_drop, List.append_assoc, List.take_append_drop]
  · have hd : (sums 0 A ++ List.replicate (11 - A.length) 0).drop pt =
        List.replicate (11 - A.length - (pt - A.length)) 0 := by
      rw [List.drop_append, List.drop_of_length_le (by simp; omega)]; simp
    have hz := congrArg (setWhileNonzero v) hd
    rw [setWhileNonzero_zeros, ← hd] at hz
    rw [hz, List.take_append_drop, List.take_of_length_le (by omega), show A.length - pt = 0 by omega]
    simp

/-- url.h:2929-2932 writes `part_end_[pt] = 0` first and then runs the loop from `pt + 1`: the loop from `pt` does
    the same when part `pt` was started -/
theorem set_zero_setWhile (L : List Nat) (pt : Nat) (h : pt < L.length) (hx : L.getD pt 0 ≠ 0) :
    (L.set pt 0).take (pt + 1) ++ setWhileNonzero 0 ((L.set pt 0).drop (pt + 1)) =
      L.take pt ++ setWhileNonzero 0 (L.drop pt) := by
  have h' : pt < (L.set pt 0).length := by rw [List.length_set]; exact h
  rw [List.getD_eq_getElem?_getD, List.getElem?_eq_getElem h, Option.getD_some] at hx
  rw [← List.take_append_getElem h', List.take_set_of_le (Nat.le_refl _), List.getElem_set_self,
    List.drop_set_of_lt (by omega), List.drop_eq_getElem_cons h, setWhileNonzero, if_neg hx,
    List.append_assoc, List.singleton_append]

/-- url.h:2927-2932: the string is cut at the end of part `pt - 1`, offsets from `pt` on become 0 -/
theorem truncate_mkRep (r0 : Rep) (A : List (List Nat)) (pt : Nat) (hpt : pt < A.length)
    (hpt1 : 1 ≤ pt) (hA : A.length ≤ 11) (hpos : 0 < off A 1) :
    ({ mkRep r0 A with
        norm := (mkRep r0 A).norm.take ((mkRep r0 A).pe (pt - 1)),
        partEnd := ((mkRep r0 A).partEnd.set pt 0).take (pt + 1) ++
          setWhileNonzero 0 (((mkRep r0 A).partEnd.set pt 0).drop (pt + 1)) } : Rep) =
      mkRep r0 (A.take pt) := by
  have hpe : (mkRep r0 A).pe (pt - 1) = (A.take pt).flatten.length := by
    rw [pe_mkRep_lt _ _ _ (by omega), show pt - 1 + 1 = pt by omega]; rfl
  apply rep_eq_mkRep <;> try rfl
  · show List.take ((mkRep r0 A).pe (pt - 1)) A.flatten = _
    rw [hpe]
    conv => lhs; arg 2; rw [← List.take_append_drop pt A, List.flatten_append]
    exact List.take_left' rfl
  · show ((mkRep r0 A).partEnd.set pt 0).take (pt + 1) ++
          setWhileNonzero 0 (((mkRep r0 A).partEnd.set pt 0).drop (pt + 1)) = _
    rw [set_zero_setWhile _ pt (by simp [mkRep]; omega)
        ((pe_mkRep_ne_zero_iff r0 A hpos pt).2 hpt),
      setFrom_mkRep r0 A pt 0 (off_succ_pos A hpos hpt1), List.append_assoc, List.replicate_append_replicate,
      List.length_take_of_le (by omega)]
    congr 2; omega

/-- the delimiter `url_serializer::start_part` appends for the new part (second switch) -/
def delim (pt : Nat) : List Nat :=
  if pt = PORT then [0x3A] else if pt = QUERY then [0x3F] else if pt = FRAGMENT then [0x23] else []

theorem mkRepE_nil (r0 : Rep) (X : List (List Nat)) : mkRepE r0 X [] = mkRep r0 X := by
  simp [mkRepE, mkRep]

/-- `save_part` on an open part: the text appended since `start_part` becomes the segment of part `|X|` -/
theorem save_open (r0 : Rep) (X : List (List Nat)) (d t : List Nat) (hX : X.length ≤ 10) :
    serSavePart { mkRepE r0 X d with norm := (mkRepE r0 X d).norm ++ t } X.length =
      mkRep r0 (X ++ [d ++ t]) := by
  apply rep_eq_mkRep <;> try rfl
  · show X.flatten ++ d ++ t = _
    simp
  · show (sums 0 X ++ List.replicate (11 - X.length) 0).set X.length (X.flatten ++ d ++ t).length = _
    rw [List.set_append_right _ _ (by simp)]
    have e : 11 - X.length = (10 - X.length) + 1 := by omega
    rw [e, List.replicate_succ]
    simp only [sums_length, Nat.sub_self, List.set_cons_zero, sums_append, sums_cons, sums_nil,
      Nat.zero_add, List.length_append, List.length_cons, List.length_nil]
    have e2 : 11 - (X.length + (0 + 1)) = 10 - X.length := by omega
    rw [e2]
    simp [Nat.add_assoc]

/-- `url_serializer::start_part(pt)` with `last_pt_ = lastPt ≥ HOST_START` on a representation that ends
    with part `lastPt`: the parts skipped count as started and empty, the delimiter is appended, part `pt`
    is open -/
theorem serStart_later (r0 : Rep) (X : List (List Nat)) (lastPt pt : Nat)
    (hX : X.length = lastPt + 1) (h4 : 4 ≤ lastPt) (hlt : lastPt < pt) (hpt : pt ≤ 10) :
    serStartPart (mkRep r0 X) lastPt pt = mkRepE r0 (X ++ List.replicate (pt - X.length) []) (delim pt) := by
  have c1 : ¬ (lastPt = PATH ∧ pt = PATH) := by simp only [PATH]; omega
  have c2 : ¬ lastPt = SCHEME := by simp only [SCHEME]; omega
  have c3 : ¬ lastPt = USERNAME := by simp only [USERNAME]; omega
  have c4 : ¬ lastPt = PASSWORD := by simp only [PASSWORD]; omega
  unfold serStartPart
  rw [if_neg c1]
  simp only [if_neg c2, if_neg c3, if_neg c4]
  unfold mkRepE mkRep
  congr 1
  · simp [delim]
  · -- `fill_parts_offset(last_pt + 1, pt, length)` writes the running sums of that many empty segments
    unfold fillRange
    rw [if_pos (by omega)]
    show List.take (lastPt + 1) (sums 0 X ++ List.replicate (11 - X.length) 0) ++
      List.replicate (pt - (lastPt + 1)) X.flatten.length ++
      List.drop pt (sums 0 X ++ List.replicate (11 - X.length) 0) = _
    rw [List.take_left' (by simp [hX]), List.drop_append, List.drop_of_length_le (by simp; omega)]
    simp only [sums_length, List.drop_replicate, List.nil_append, hX, sums_append, sums_replicate_nil,
      Nat.zero_add, List.length_append, List.length_replicate, List.append_assoc]
    rw [Nat.sub_sub]

theorem findLastPart_mkRep (r0 : Rep) (A : List (List Nat)) (hA : 2 ≤ A.length)
    (hpos : 0 < off A 1) (pt : Nat) (hpt : A.length ≤ pt + 1) :
    findLastPart (mkRep r0 A) pt = A.length - 1 := by
  induction pt with
  | zero => omega
  | succ k ih =>
    unfold findLastPart
    by_cases h : k + 1 < A.length
    · rw [if_pos ((pe_mkRep_ne_zero_iff r0 A hpos _).2 h)]; omega
    · rw [if_neg fun hc => h ((pe_mkRep_ne_zero_iff r0 A hpos _).1 hc), ih (by omega)]

/-! ### `url_setter::start_part` … `save_part`: the case "last part or never started" -/

theorem off_split (S : List (List Nat)) (hS : S.length = 11) (n : Nat) :
    off S 11 = off S n + (S.drop n).flatten.length := by
  unfold off
  rw [List.take_of_length_le (by omega)]
  conv => lhs; rw [← List.take_append_drop n S]
  simp only [List.flatten_append, List.length_append]

theorem eq_replicate_of_flatten_nil (L : List (List Nat)) (h : L.flatten = []) :
    L = List.replicate L.length [] :=
  List.eq_replicate_iff.2 ⟨rfl, List.flatten_eq_nil_iff.1 h⟩

theorem Rp.drop_absent {S A : List (List Nat)} (h : Rp S A) {n : Nat} (hn : A.length ≤ n) :
    (S.drop n).flatten = [] := by
  rw [h.pad, List.drop_append, List.drop_of_length_le hn]
  simp

/-- a part with text at or behind it was started -/
theorem Rp.started {S A : List (List Nat)} (h : Rp S A) {n : Nat} (hne : (S.drop n).flatten ≠ []) :
    n < A.length :=
  Nat.lt_of_not_le fun hc => hne (h.drop_absent hc)

theorem Rp.present {S A : List (List Nat)} (h : Rp S A) {pt : Nat}
    (hne : (S.drop (pt + 1)).flatten ≠ []) : pt + 1 < A.length :=
  h.started hne

theorem Rp.posA {S A : List (List Nat)} (h : Rp S A) : 0 < SetRep.off A 1 := by
  rw [h.off]; exact h.pos

theorem Rp.pe_ne_zero {S A : List (List Nat)} (h : Rp S A) (r0 : Rep) {i : Nat} (hi : i < A.length) :
    (mkRep r0 A).pe i ≠ 0 :=
  (pe_mkRep_ne_zero_iff r0 A h.posA i).2 hi

/-- the first `n` of the eleven segments: the started ones among them, then empty ones -/
theorem Rp.take_pad {S A : List (List Nat)} (h : Rp S A) (n : Nat) (hn : n ≤ 11) :
    S.take n = A.take n ++ List.replicate (n - (A.take n).length) [] := by
  have hhi := h.hi
  conv => lhs; rw [h.pad]
  rw [List.take_append, List.take_replicate]
  congr 2
  simp only [List.length_take]; omega

/-- the constructor of `Rp`: `A` is a prefix of the eleven segments `S` that reaches at least HOST, the rest is empty -/
theorem rp_of_tail {S A Z : List (List Nat)} (hS : S = A ++ Z) (hZ : Z.flatten = []) (hlen : S.length = 11)
    (h6 : 6 ≤ A.length) (hpos : 0 < SetRep.off A 1) : Rp S A := by
  have hl : A.length + Z.length = 11 := by rw [← List.length_append, ← hS, hlen]
  refine ⟨hlen, h6, by omega, ?_, ?_⟩
  · rw [hS, eq_replicate_of_flatten_nil Z hZ]
    congr 2
    omega
  · rw [hS]
    unfold SetRep.off
    rw [List.take_append_of_le_length (by omega)]
    exact hpos

/-- other parts follow `pt`: the test of `url_setter::start_part` for going through `strp_` -/
theorem Rp.follows {S A : List (List Nat)} (h : Rp S A) (r0 : Rep) {pt : Nat}
    (hne : (S.drop (pt + 1)).flatten ≠ []) :
    pt < FRAGMENT ∧ (mkRep r0 A).pe pt < (mkRep r0 A).norm.length := by
  have hA : pt + 1 < A.length := h.present hne
  have hhi := h.hi
  refine ⟨by simp only [FRAGMENT]; omega, ?_⟩
  rw [h.pe, if_pos (by omega), h.normLen, off_split S h.lenS (pt + 1)]
  have : (S.drop (pt + 1)).flatten.length ≠ 0 := fun hc => hne (List.eq_nil_of_length_eq_zero hc)
  omega

/-- `url_setter::start_part(pt)` when `pt` is the last part with text, or was never started: whatever
    was there from `pt` on is cut off (url.h:2927-2932), resp. the last started part is looked up
    (`find_last_part`), and `url_serializer::start_part` opens `pt` after the parts before it -/
theorem setStart_last (r0 : Rep) {S A : List (List Nat)} (h : Rp S A) (pt : Nat)
    (hpt5 : 5 ≤ pt) (hpt : pt ≤ 10) (hlast : (S.drop (pt + 1)).flatten = []) :
    setStartPart (mkRep r0 A) pt = ⟨mkRepE r0 (S.take pt) (delim pt), false, [], pt⟩ := by
  have hlo := h.lo
  have hhi := h.hi
  rw [h.take_pad pt (by omega)]
  unfold setStartPart
  by_cases hA : pt < A.length
  · rw [if_pos (h.pe_ne_zero r0 hA)]
    have hnot : ¬ (pt < FRAGMENT ∧ (mkRep r0 A).pe pt < (mkRep r0 A).norm.length) := by
      rw [h.pe, if_pos hA, h.normLen, off_split S h.lenS (pt + 1), hlast]
      simp
    rw [if_neg hnot]
    simp only
    rw [truncate_mkRep r0 A pt hA (by omega) hhi h.posA,
      serStart_later r0 (A.take pt) (pt - 1) pt (by simp; omega) (by omega) (by omega) hpt]
  · rw [if_neg (by simp [pe_mkRep_ge r0 A pt (by omega)])]
    rw [findLastPart_mkRep r0 A (by omega) h.posA pt (by omega), List.take_of_length_le (by omega),
      serStart_later r0 A (A.length - 1) pt (by omega) (by omega) (by omega) hpt]

/-- the part `pt` is the last one with text, or was never started: it is (re)written by appending -/
theorem writePart_last (r0 : Rep) {S A : List (List Nat)} (h : Rp S A) (pt : Nat) (text : List Nat)
    (hpt5 : 5 ≤ pt) (hpt : pt ≤ 10) (hlast : (S.drop (pt + 1)).flatten = []) :
    ∃ A', writePart (mkRep r0 A) pt text = mkRep r0 A' ∧
      Rp (S.take pt ++ [delim pt ++ text] ++ S.drop (pt + 1)) A' := by
  have hlenS := h.lenS
  have hl : (S.take pt).length = pt := List.length_take_of_le (by omega)
  refine ⟨S.take pt ++ [delim pt ++ text], ?_, ?_⟩
  · unfold writePart
    rw [setStart_last r0 h pt hpt5 hpt hlast]
    have := save_open r0 (S.take pt) (delim pt) text (by omega)
    rwa [hl] at this
  · -- the started parts of the result are exactly those up to `pt`
    refine rp_of_tail rfl hlast (by simp [hlenS]; omega) (by rw [List.length_append, hl]; simp; omega) ?_
    have := off_one_splice S [delim pt ++ text] [] pt (by omega) (by omega)
    rw [List.append_nil] at this
    rw [this]; exact h.pos

/-! ### `url_setter::start_part` … `save_part`: the case "other parts follow" (`use_strp_`) -/

/-- the buffer `strp_` as `url_setter::start_part` initialises it (url.h:2906-2923): the `let strp` of
    `Impl.setStartPart` under a name, so `setStartPart_strp` ends in `rfl` -/
def strpInit (r : Rep) (pt : Nat) : List Nat :=
  if pt = HOST then (if r.partLen SCHEME_SEP < 3 then [0x3A, 0x2F, 0x2F] else [])
  else if pt = PASSWORD ∨ pt = PORT then [0x3A]
  else if pt = QUERY then [0x3F]
  else []

theorem setStartPart_strp (r0 : Rep) {S A : List (List Nat)} (h : Rp S A) (pt : Nat) (text : List Nat)
    (hne : (S.drop (pt + 1)).flatten ≠ []) :
    (setStartPart (mkRep r0 A) pt).append text =
      { rep := mkRep r0 A, useStrp := true, strp := strpInit (mkRep r0 A) pt ++ text, currPt := pt } := by
  have hA : pt + 1 < A.length := h.present hne
  unfold setStartPart
  rw [if_pos (h.pe_ne_zero r0 (by omega)), if_pos (h.follows r0 hne)]
  rfl

/-- PORT / QUERY followed by other parts: `replace_part(pt, delimiter ++ text)` -/
theorem writePart_mid (r0 : Rep) {S A : List (List Nat)} (h : Rp S A) (pt : Nat) (text : List Nat)
    (hpt : pt = PORT ∨ pt = QUERY) (htext : pt = PORT → text ≠ [])
    (hne : (S.drop (pt + 1)).flatten ≠ []) :
    ∃ A', writePart (mkRep r0 A) pt text = mkRep r0 A' ∧
      Rp (S.take pt ++ [delim pt ++ text] ++ S.drop (pt + 1)) A' := by
  have hA : pt + 1 < A.length := h.present hne
  obtain ⟨A', _, k1, k2⟩ := repl_one r0 h pt (delim pt ++ text) (by omega)
    (by rcases hpt with h | h <;> simp [h, PORT, QUERY])
  refine ⟨A', ?_, k2⟩
  rw [← k1]
  unfold writePart
  rw [setStartPart_strp r0 h pt text hne]
  rcases hpt with hp | hp
  · subst hp
    have : text ≠ [] := htext rfl
    simp [setSavePart, strpInit, delim, PORT, HOST, PASSWORD, USERNAME, kPartStart,
      replacePart1, this]
  · subst hp
    simp [setSavePart, strpInit, delim, PORT, HOST, PASSWORD, USERNAME, QUERY, kPartStart,
      replacePart1]

theorem writePart_tail (r0 : Rep) {S A : List (List Nat)} (h : Rp S A) (pt : Nat) (text : List Nat)
    (hpt : pt = PORT ∨ pt = QUERY ∨ pt = FRAGMENT) (htext : pt = PORT → text ≠ []) :
    ∃ A', writePart (mkRep r0 A) pt text = mkRep r0 A' ∧
      Rp (S.take pt ++ [delim pt ++ text] ++ S.drop (pt + 1)) A' := by
  by_cases hne : (S.drop (pt + 1)).flatten = []
  · exact writePart_last r0 h pt text (by rcases hpt with h | h | h <;> simp [h, PORT, QUERY, FRAGMENT])
      (by rcases hpt with h | h | h <;> simp [h, PORT, QUERY, FRAGMENT]) hne
  · rcases hpt with hp | hp | hp
    · exact writePart_mid r0 h pt text (Or.inl hp) htext hne
    · exact writePart_mid r0 h pt text (Or.inr hp) htext hne
    · exfalso
      subst hp
      apply hne
      rw [List.drop_of_length_le (by rw [h.lenS]; simp [FRAGMENT])]
      rfl

/-! ### clear_part -/

theorem setNull_mkRep (r0 : Rep) (A : List (List Nat)) (pt : Nat) :
    (mkRep r0 A).setNull pt = mkRep (r0.setNull pt) A := by
  simp only [Rep.setNull, apply_ite (fun r => mkRep r A)]
  rfl

theorem setNotNull_mkRep (r0 : Rep) (A : List (List Nat)) (pt : Nat) :
    (mkRep r0 A).setNotNull pt = mkRep (r0.setNotNull pt) A := by
  simp only [Rep.setNotNull, apply_ite (fun r => mkRep r A)]
  rfl

theorem setHostType_mkRep (r0 : Rep) (A : List (List Nat)) (ht : Nat) :
    (mkRep r0 A).setHostType ht = mkRep (r0.setHostType ht) A := rfl

/-- `clear_part(pt)` / `empty_part(pt)`: the segment becomes empty; when the part was never started
    nothing happens (and the segment was empty already) -/
theorem emptyPart_Rp (r0 : Rep) {S A : List (List Nat)} (h : Rp S A) (pt : Nat)
    (hpt1 : 1 ≤ pt) (hpt : pt ≤ 10) :
    (pt < A.length ∧ ∃ A', replacePart1 (mkRep r0 A) pt [] = mkRep r0 A' ∧
      Rp (S.take pt ++ [[]] ++ S.drop (pt + 1)) A') ∨
    (A.length ≤ pt ∧ (mkRep r0 A).pe pt = 0 ∧ S.take pt ++ [[]] ++ S.drop (pt + 1) = S) := by
  by_cases hA : pt < A.length
  · obtain ⟨A', _, k1, k2⟩ := repl_one r0 h pt [] hA (by omega)
    exact Or.inl ⟨hA, A', k1, k2⟩
  · have e : S.getD pt [] = [] := by rw [← h.getD]; exact getD_of_length_le (by omega)
    refine Or.inr ⟨by omega, pe_mkRep_ge _ _ _ (by omega), ?_⟩
    conv => rhs; rw [split_at S (t := pt) (by rw [h.lenS]; omega), e]

/-! ### representing a record -/

/-- `r` is the layout of `u`, except that the offsets of some trailing parts without text may be `0` -/
def Represents (r : Rep) (u : Url) : Prop := ∃ A, Rp (segsOf u) A ∧ r = mkRep (layout u) A

theorem represents_layout (u : Url) (hs : u.scheme ≠ []) : Represents (layout u) u :=
  ⟨segsOf u, rp_of_tail (List.append_nil _).symm rfl rfl (by simp [segsOf])
    (by simp [off, segsOf]; exact List.length_pos_iff.mpr hs), (mkRep_segsOf u).symm⟩

theorem represents_of {r0 : Rep} {u' : Url} {S' A' : List (List Nat)} (h : Rp S' A')
    (hS : segsOf u' = S') (hflags : mkRep r0 A' = mkRep (layout u') A') : Represents (mkRep r0 A') u' :=
  ⟨A', hS ▸ h, hflags⟩

end Upa.Proofs.SetRep
