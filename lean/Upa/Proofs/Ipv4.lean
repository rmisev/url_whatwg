import Upa.Impl.Ip
import Upa.Spec.Ip
import Upa.Proofs.ListScan
import Upa.Proofs.CharClass
import Upa.Proofs.Radix
/-
  C11 — IPv4 parser / serializer and hostname_ends_in_a_number: the code-shaped model `Upa.Impl` against the Standard-shaped
  `Upa.Spec`. Parser: ipv4_parse_number is the Standard's digit loop clamped to 32 bits (`numTail_eq` on its tail `numTail`,
  `ipv4ParseNumber_eq`), the combination of the parts agrees (`post_eq`), the scanning loop is strict splitting on '.', or an
  early stop where the Standard fails later (`scan_spec`); together `ipv4Parse_eq`. Serializer and round trip through
  `Radix` (`ipv4Serialize_eq`, `splitOnP_serialize`, `roundtrip`), its alphabet `v4Char` (`ipv4Serialize_chars`, `ipv4Serialize_ne_nil`). Ends-in-a-number over the last label `lastLabel` and the test
  `implLabelCheck` applied to it (`endsInNumber_eq`).
  `numTail`, `implLabelCheck`, `lastLabel`, `implPost` and the equations of the list models (first section) are also
  what the instrumented models of C04 are compared with (`BoundsIpv4Parse`). The helpers live in `Upa.Impl.Ipv4` so that generic names (`digitVal_lt`) cannot clash
  with other proof files.
-/
namespace Upa.Impl.Ipv4
open Upa.Spec
open Upa.Proofs.C17 (splitOnP_ne_nil splitOnP_cons_sep splitOnP_cons_other splitOnP_append_nosep splitOnP_nosep
  splitOnP_append_sep)

/-! ## the equations of the list models -/

theorem skipZeros_cons_ne (c : Nat) (r : List Nat) (h : c ≠ 0x30) : Impl.skipZeros (c :: r) = c :: r := by
  rw [Impl.skipZeros.eq_def]
  split
  · rename_i heq; cases heq; exact absurd rfl h
  · rfl

theorem skipZeros_cons_eq (r : List Nat) : Impl.skipZeros (0x30 :: r) = Impl.skipZeros r := by
  rw [Impl.skipZeros]

theorem accumulate_step (radix ch : Nat) (cs : List Nat) (num : Nat) :
    Impl.accumulate radix (ch :: cs) num =
      if radix ≤ 10 then
        if ch > 0x30 - 1 + radix ∨ ch < 0x30 then none
        else Impl.accumulate radix cs ((num * radix + (ch - 0x30)) % 2^64)
      else
        if (!isHex ch) = true then none
        else Impl.accumulate radix cs ((num * radix + hexVal ch) % 2^64) := by
  rw [Impl.accumulate]

theorem ipv4Scan_nil (cur : List Nat) (parts : List (List Nat)) :
    Impl.ipv4Scan [] cur parts = some ((cur.reverse :: parts).reverse) := by
  rw [Impl.ipv4Scan]

theorem ipv4Scan_cons (c : Nat) (cs cur : List Nat) (parts : List (List Nat)) :
    Impl.ipv4Scan (c :: cs) cur parts =
      if c = 0x2E then
        if parts.length = 4 then none
        else if cur = [] then none
        else Impl.ipv4Scan cs [] (cur.reverse :: parts)
      else if (!Spec.ipv4Char c) = true then none
      else Impl.ipv4Scan cs (c :: cur) parts := by
  rw [Impl.ipv4Scan]

theorem v4Add_nil (c acc : Nat) : Impl.ipv4Parse.add [] c acc = acc := by rw [Impl.ipv4Parse.add]

theorem v4Add_cons (n : Nat) (ns : List Nat) (c acc : Nat) :
    Impl.ipv4Parse.add (n :: ns) c acc = Impl.ipv4Parse.add ns (c + 1) ((acc + (n <<< (8 * (3 - c)))) % 2^32) := by
  rw [Impl.ipv4Parse.add]

/-! ## ipv4_parse_number = the Standard's number parser, clamped to 32 bits -/

theorem digitVal_lt {R c d} (h : digitVal R c = some d) : d < R := by
  unfold digitVal at h
  split at h
  · next h16 =>
    subst h16
    split at h
    · next hx => cases h; exact hexVal_lt _ hx
    · cases h
  · split at h
    · cases h; omega
    · cases h

theorem digitVal_pos {R c d} (h : digitVal R c = some d) (hc : c ≠ 48) : d ≠ 0 := by
  unfold digitVal at h
  split at h
  · split at h
    · next hx =>
      cases h; rw [isHex_iff] at hx; unfold hexVal
      split <;> (try split) <;> omega
    · cases h
  · split at h
    · cases h; omega
    · cases h

theorem digitVal_zero {R} (hR : R = 8 ∨ R = 10 ∨ R = 16) : digitVal R 48 = some 0 := by
  rcases hR with rfl | rfl | rfl <;> simp [digitVal, isHex, isDigit, hexVal]

theorem radixValue_skipZeros {R} (hR : R = 8 ∨ R = 10 ∨ R = 16) (cs : List Nat) :
    radixValue R (skipZeros cs) 0 = radixValue R cs 0 := by
  fun_induction skipZeros cs with
  | case1 cs ih => rw [ih]; simp [radixValue, digitVal_zero hR]
  | case2 cs h => rfl

theorem radixValue_ge {R} (cs : List Nat) (acc v : Nat) (h : radixValue R cs acc = some v) :
    acc * R ^ cs.length ≤ v := by
  induction cs generalizing acc with
  | nil => simp [radixValue] at h; simp [h]
  | cons c cs ih =>
    simp only [radixValue] at h
    split at h
    · rename_i d hd
      have := ih _ h
      simp only [List.length_cons, Nat.pow_succ]
      calc acc * (R ^ cs.length * R) = (acc * R) * R ^ cs.length := by
              rw [Nat.mul_comm (R ^ cs.length) R, Nat.mul_assoc]
        _ ≤ (acc * R + d) * R ^ cs.length := Nat.mul_le_mul_right _ (Nat.le_add_right _ _)
        _ ≤ v := this
    · cases h

/-- 12 or more digits without a leading zero do not fit 32 bits in any of the three radices: 8^11 = 2^33 -/
theorem long_numeral_big {R} (hR : R = 8 ∨ R = 10 ∨ R = 16) (c : Nat) (cs : List Nat) (v : Nat)
    (hc : c ≠ 48) (hlen : cs.length ≥ 11) (h : radixValue R (c :: cs) 0 = some v) :
    v > 4294967295 := by
  simp only [radixValue] at h
  split at h
  · rename_i d hd
    have hge := radixValue_ge cs _ v h
    have hd0 := Nat.pos_of_ne_zero (digitVal_pos hd hc)
    have h8 : (8:Nat) ^ 11 ≤ R ^ cs.length :=
      Nat.le_trans (Nat.pow_le_pow_left (by omega) 11) (Nat.pow_le_pow_right (by omega) hlen)
    have := Nat.mul_le_mul hd0 h8
    simp only [Nat.zero_mul, Nat.zero_add] at hge
    omega
  · cases h

theorem accumulate_cons {R} (hR : R = 8 ∨ R = 10 ∨ R = 16) (c : Nat) (cs : List Nat) (num : Nat) :
    accumulate R (c :: cs) num =
      match digitVal R c with
      | some d => accumulate R cs ((num * R + d) % 2 ^ 64)
      | none => none := by
  unfold digitVal
  by_cases h16 : R = 16
  · subst h16
    rw [accumulate_step, if_neg (by decide), if_pos rfl]
    cases isHex c <;> rfl
  · have h10 : R ≤ 10 := by omega
    rw [accumulate_step, if_pos h10, if_neg h16]
    by_cases hc : 0x30 ≤ c ∧ c < 0x30 + R
    · rw [if_pos hc, if_neg (by omega)]
    · rw [if_neg hc, if_pos (by omega)]

/-- the accumulation loop = the Standard's digit loop, as long as the 64-bit accumulator does not wrap:
    at most 11 digits in a radix ≤ 16 stay below 16^11 < 2^64 -/
theorem accumulate_eq {R} (hR : R = 8 ∨ R = 10 ∨ R = 16) (cs : List Nat) (num k : Nat)
    (hnum : num < R ^ k) (hk : k + cs.length ≤ 11) :
    accumulate R cs num = radixValue R cs num := by
  induction cs generalizing num k with
  | nil => rfl
  | cons c cs ih =>
    simp only [List.length_cons] at hk
    rw [accumulate_cons hR, radixValue]
    cases hd : digitVal R c with
    | none => rfl
    | some d =>
      have hd := digitVal_lt hd
      have hR16 : R ≤ 16 := by omega
      have h1 : (num + 1) * R ≤ R ^ k * R := Nat.mul_le_mul_right _ hnum
      have h2 : (num + 1) * R = num * R + R := by rw [Nat.add_mul, Nat.one_mul]
      have h3 : num * R + d < R ^ (k + 1) := by rw [Nat.pow_succ]; omega
      have h4 : R ^ (k + 1) ≤ 16 ^ 11 :=
        calc R ^ (k + 1) ≤ 16 ^ (k + 1) := Nat.pow_le_pow_left hR16 _
          _ ≤ 16 ^ 11 := Nat.pow_le_pow_right (by omega) (by omega)
      have e : (16:Nat) ^ 11 = 17592186044416 := by decide
      simp only
      rw [Nat.mod_eq_of_lt (by omega)]
      exact ih _ (k + 1) h3 (by omega)

/-- ipv4_parse_number reports a value above 2^32 - 1 as an error; the Standard's number parser returns it -/
def clamp32 : Option Nat → Option Nat
  | some v => if v > 0xFFFFFFFF then none else some v
  | none => none

theorem radixValue_nil (R) : radixValue R [] 0 = some 0 := rfl

theorem skipZeros_head (cs : List Nat) : ∀ c r, skipZeros cs = c :: r → c ≠ 48 := by
  fun_induction skipZeros cs with
  | case1 cs ih => exact ih
  | case2 cs h =>
    intro c r e hc
    subst e; subst hc
    exact h r rfl

/-- the common tail of ipv4_parse_number: emptiness / length test, accumulation, 32-bit check -/
def numTail (radix : Nat) (body : List Nat) : Option Nat :=
  if body = [] then some 0
  else if body.length > 11 then none
  else clamp32 (accumulate radix body 0)

/-- ipv4_parse_number on a text that does not begin with '0': decimal, no zeros to skip -/
theorem ipv4Num_A (c0 : Nat) (rest : List Nat) (h : c0 ≠ 0x30) :
    ipv4ParseNumber (c0 :: rest) = numTail 10 (c0 :: rest) := by
  unfold ipv4ParseNumber numTail
  split
  · rename_i heq; cases heq
  · rename_i heq; cases heq; exact absurd rfl h
  · rename_i heq; cases heq; exact absurd rfl h
  · simp; rfl

/-- ipv4_parse_number on '0' and one more character: hexadecimal behind "0x" / "0X", else octal; leading zeros of
    the body are skipped before the tail -/
theorem ipv4Num_C (c1 : Nat) (rest : List Nat) :
    ipv4ParseNumber (0x30 :: c1 :: rest) =
      numTail (if c1 = 0x58 ∨ c1 = 0x78 then 16 else 8)
        (skipZeros (if c1 = 0x58 ∨ c1 = 0x78 then rest else c1 :: rest)) := by
  unfold numTail
  rw [ipv4ParseNumber]
  by_cases hc : c1 = 0x58 ∨ c1 = 0x78
  · simp only [if_pos hc]; rfl
  · simp only [if_neg hc]; rfl

/-- on digits without a leading zero the tail is the Standard's digit loop, clamped: more than 11 of them do
    not fit 32 bits, up to 11 do not wrap the 64-bit accumulator -/
theorem numTail_eq {R} (hR : R = 8 ∨ R = 10 ∨ R = 16) (body : List Nat) (hz : ∀ c r, body = c :: r → c ≠ 48) :
    numTail R body = clamp32 (radixValue R body 0) := by
  cases body with
  | nil => rfl
  | cons c r =>
    rw [numTail, if_neg (List.cons_ne_nil c r)]
    split
    · rename_i hlen
      simp only [List.length_cons] at hlen
      cases hv : radixValue R (c :: r) 0 with
      | none => rfl
      | some v =>
        have := long_numeral_big hR c r v (hz c r rfl) (by omega) hv
        simp [clamp32, this]
    · rename_i hlen
      rw [accumulate_eq hR (c :: r) 0 0 (by simp) (by omega)]

theorem numTail_skipZeros {R} (hR : R = 8 ∨ R = 10 ∨ R = 16) (body : List Nat) :
    numTail R (skipZeros body) = clamp32 (radixValue R body 0) := by
  rw [← radixValue_skipZeros hR body]
  exact numTail_eq hR _ (skipZeros_head body)

theorem ipv4Number_of_head_ne (c : Nat) (cs : List Nat) (hc : c ≠ 48) :
    ipv4Number (c :: cs) = radixValue 10 (c :: cs) 0 := by
  unfold ipv4Number
  split
  · rename_i h; cases h
  · rename_i h; cases h; exact absurd rfl hc
  · rfl

theorem ipv4ParseNumber_eq (p : List Nat) : ipv4ParseNumber p = clamp32 (ipv4Number p) := by
  cases p with
  | nil => rfl
  | cons c cs =>
    by_cases hc : c = 48
    · subst hc
      cases cs with
      | nil => rfl
      | cons c1 rest =>
        rw [ipv4Num_C, ipv4Number]
        by_cases hx : c1 = 0x58 ∨ c1 = 0x78
        · simp only [hx, if_true]
          exact (numTail_skipZeros (Or.inr (Or.inr rfl)) rest).trans (by cases rest <;> rfl)
        · simp only [hx, if_false]
          exact numTail_skipZeros (Or.inl rfl) (c1 :: rest)
    · rw [ipv4Num_A c cs hc, ipv4Number_of_head_ne c cs hc]
      exact numTail_eq (Or.inr (Or.inl rfl)) _ (fun _ _ e => (List.cons.inj e).1 ▸ hc)

/-! ## combining the numbers -/

/-- the part of `Impl.ipv4Parse` after the numbers have been parsed -/
def implPost (number : List Nat) : Option Nat :=
  let partCount := number.length
  if (number.take (partCount - 1)).any (fun n => decide (n > 255)) then none
  else
    let ipv4 := number.getD (partCount - 1) 0
    if ipv4 > (0xFFFFFFFF >>> (8 * (partCount - 1))) then none
    else some (ipv4Parse.add (number.take (partCount - 1)) 0 ipv4)

/-- the part of `Spec.ipv4Parse` after the numbers have been parsed -/
def specPost (nums : List Nat) : Option Nat :=
  if nums.dropLast.any (fun n => decide (n > 255)) then none
  else match nums.getLast? with
    | none => none
    | some last =>
      if last ≥ pow256 (5 - nums.length) then none
      else some (last + Spec.ipv4Parse.sum nums.dropLast 0)

theorem pow256_succ (m : Nat) : pow256 (m + 1) = 256 * pow256 m := rfl

theorem pow256_eq (m : Nat) : pow256 m = 2 ^ (8 * m) := by
  induction m with
  | zero => rfl
  | succ m ih => rw [pow256_succ, ih, Nat.mul_succ, Nat.pow_add]; omega

theorem sum_bound : ∀ (L : List Nat) (c : Nat), (∀ x ∈ L, x ≤ 255) → c + L.length ≤ 4 →
    Spec.ipv4Parse.sum L c + pow256 (4 - c - L.length) ≤ pow256 (4 - c) := by
  intro L
  induction L with
  | nil => intro c _ _; simp [Spec.ipv4Parse.sum]
  | cons n ns ih =>
    intro c hb hc
    simp only [List.length_cons] at hc
    have ih' := ih (c + 1) (fun x hx => hb x (List.mem_cons_of_mem _ hx)) (by omega)
    have e1 : 4 - c - (ns.length + 1) = 3 - c - ns.length := by omega
    have e2 : 4 - c = (3 - c) + 1 := by omega
    have e3 : 4 - (c + 1) = 3 - c := by omega
    rw [Spec.ipv4Parse.sum, List.length_cons, e1, e2, pow256_succ]
    rw [e3] at ih'
    have hn : n * pow256 (3 - c) ≤ 255 * pow256 (3 - c) := Nat.mul_le_mul_right _ (hb n List.mem_cons_self)
    omega

theorem add_eq_sum : ∀ (L : List Nat) (c acc : Nat), acc + Spec.ipv4Parse.sum L c < 2 ^ 32 →
    ipv4Parse.add L c acc = acc + Spec.ipv4Parse.sum L c := by
  intro L
  induction L with
  | nil => intro c acc _; rfl
  | cons n ns ih =>
    intro c acc h
    rw [Spec.ipv4Parse.sum] at h ⊢
    rw [v4Add_cons, Nat.shiftLeft_eq, ← pow256_eq, Nat.mod_eq_of_lt (by omega), ih _ _ (by omega),
      Nat.add_assoc]

/-- `0xFFFFFFFF >> 8k` is the largest value that fits the remaining `4 - k` bytes -/
theorem shift_bound : ∀ k, k ≤ 3 → 0xFFFFFFFF >>> (8 * k) + 1 = pow256 (4 - k) := by decide

theorem pow256_le : ∀ m, m ≤ 4 → pow256 m ≤ 2 ^ 32 := by decide

theorem post_eq (nums : List Nat) (h1 : 1 ≤ nums.length) (h4 : nums.length ≤ 4) :
    implPost nums = specPost nums := by
  obtain ⟨init, last, rfl⟩ := snoc_cases nums (by intro h; subst h; simp at h1)
  have h3 : init.length ≤ 3 := by simp at h4; omega
  have e1 : (init ++ [last]).length - 1 = init.length := by simp
  have e2 : (init ++ [last]).take init.length = init := by simp
  have e3 : (init ++ [last]).getD init.length 0 = last := by simp
  have e4 : 5 - (init ++ [last]).length = 4 - init.length := by simp
  unfold implPost specPost
  simp only [e1, e2, e3, e4, List.dropLast_concat, List.getLast?_concat]
  have hs := shift_bound init.length h3
  by_cases hany : (init.any fun n => decide (n > 255)) = true
  · rw [if_pos hany, if_pos hany]
  · rw [if_neg hany, if_neg hany]
    by_cases hl : last > 0xFFFFFFFF >>> (8 * init.length)
    · rw [if_pos hl, if_pos (by omega)]
    · rw [if_neg hl, if_neg (by omega)]
      have hb : ∀ x ∈ init, x ≤ 255 := by
        intro x hx
        apply Classical.byContradiction
        intro hx'
        exact hany (List.any_eq_true.2 ⟨x, hx, by simpa using hx'⟩)
      have := sum_bound init 0 hb (by omega)
      rw [Nat.sub_zero] at this
      have e : pow256 4 = 2 ^ 32 := by decide
      rw [add_eq_sum _ _ _ (by omega)]

theorem specPost_big (nums : List Nat) (h4 : nums.length ≤ 4)
    (hbig : ∃ v ∈ nums, v > 0xFFFFFFFF) : specPost nums = none := by
  obtain ⟨v, hv, hb⟩ := hbig
  obtain ⟨init, last, rfl⟩ := snoc_cases nums (List.ne_nil_of_mem hv)
  unfold specPost
  rw [List.dropLast_concat, List.getLast?_concat]
  by_cases hany : (init.any fun n => decide (n > 255)) = true
  · rw [if_pos hany]
  · rw [if_neg hany]
    rcases List.mem_append.1 hv with h | h
    · exact absurd (List.any_eq_true.2 ⟨v, h, by simpa using (by omega : v > 255)⟩) hany
    · obtain rfl : v = last := by simpa using h
      have := pow256_le (5 - (init.length + 1)) (by omega)
      simp only [List.length_append, List.length_singleton]
      rw [if_pos (by omega)]

theorem mapM_clamp (P : List (List Nat)) :
    P.mapM ipv4ParseNumber =
      (P.mapM ipv4Number).bind (fun nums => if nums.all (fun v => decide (v ≤ 0xFFFFFFFF)) then some nums else none) := by
  induction P with
  | nil => simp
  | cons p P ih =>
    simp only [List.mapM_cons, ih, ipv4ParseNumber_eq]
    cases ipv4Number p with
    | none => simp [clamp32]
    | some v =>
      cases P.mapM ipv4Number with
      | none => simp [clamp32]
      | some vs =>
        simp [clamp32]
        by_cases h1 : 4294967295 < v
        · have : ¬ v ≤ 4294967295 := by omega
          simp [h1, this]
        · have : v ≤ 4294967295 := by omega
          simp [h1, this]
          split <;> rfl

theorem mapM_option_length {α β : Type} (f : α → Option β) (P : List α) :
    ∀ r, P.mapM f = some r → r.length = P.length := by
  induction P with
  | nil => intro r h; simp at h; subst h; rfl
  | cons p P ih =>
    intro r h
    simp only [List.mapM_cons] at h
    cases hp : f p with
    | none => simp [hp] at h
    | some v =>
      cases hP : P.mapM f with
      | none => simp [hp, hP] at h
      | some vs =>
        simp [hp, hP] at h
        subst h
        simp [ih vs hP]

theorem mapM_none_of_mem {α β : Type} (f : α → Option β) (P : List α) (p : α) (hp : p ∈ P)
    (hf : f p = none) : P.mapM f = none := by
  induction P with
  | nil => cases hp
  | cons x xs ih =>
    simp only [List.mapM_cons]
    rcases List.mem_cons.mp hp with rfl | h
    · simp [hf]
    · cases f x with
      | none => simp
      | some v => simp [ih h]

theorem post_mapM (P : List (List Nat)) (h1 : 1 ≤ P.length) (h4 : P.length ≤ 4) :
    (match P.mapM ipv4ParseNumber with
      | none => none
      | some number => implPost number) =
    (match P.mapM ipv4Number with
      | none => none
      | some nums => specPost nums) := by
  rw [mapM_clamp]
  cases hP : P.mapM ipv4Number with
  | none => rfl
  | some nums =>
    have hlen := mapM_option_length _ P nums hP
    simp only [Option.bind_some]
    by_cases hall : (nums.all fun v => decide (v ≤ 4294967295)) = true
    · simp only [hall, if_true]
      exact post_eq nums (by omega) (by omega)
    · simp only [hall]
      refine (specPost_big nums (by omega) ?_).symm
      simp at hall
      obtain ⟨v, hv, hb⟩ := hall
      exact ⟨v, hv, by omega⟩

/-! ## the scanning loop = strict splitting on '.'; `ipv4Parse_eq` -/

/-- `Spec.ipv4Parse` after the strict split -/
def specOnParts (parts : List (List Nat)) : Option Nat :=
  let parts := if parts.getLast? = some [] ∧ parts.length > 1 then parts.dropLast else parts
  if parts.length > 4 then none
  else match parts.mapM ipv4Number with
    | none => none
    | some nums => specPost nums

theorem spec_ipv4Parse_eq (s : List Nat) : Spec.ipv4Parse s = specOnParts (splitOnP isDot s) := rfl

/-- `Impl.ipv4Parse` after the scanning loop -/
def implOnParts (parts : List (List Nat)) : Option Nat :=
  let parts := if parts.length > 1 ∧ parts.getLast? = some [] then parts.dropLast else parts
  if parts.length > 4 then none
  else match parts.mapM ipv4ParseNumber with
    | none => none
    | some number => implPost number

theorem impl_ipv4Parse_eq (s : List Nat) : Impl.ipv4Parse s =
    if s = [] then none else match ipv4Scan s [] [] with
      | none => none
      | some parts => implOnParts parts := rfl

theorem onParts_eq (L : List (List Nat)) (hL : L ≠ []) : implOnParts L = specOnParts L := by
  unfold implOnParts specOnParts
  have hlen : 1 ≤ L.length := by cases L <;> simp at hL ⊢
  by_cases hc : L.length > 1 ∧ L.getLast? = some []
  · have hc' : L.getLast? = some [] ∧ L.length > 1 := ⟨hc.2, hc.1⟩
    simp only [hc, and_self, if_true]
    split
    · rfl
    · exact post_mapM _ (by simp; omega) (by omega)
  · have hc' : ¬ (L.getLast? = some [] ∧ L.length > 1) := fun h => hc ⟨h.2, h.1⟩
    simp only [hc, hc', if_false]
    split
    · rfl
    · exact post_mapM _ hlen (by omega)

theorem radixValue_none_of_mem {R c} (hd : digitVal R c = none) :
    ∀ cs acc, c ∈ cs → radixValue R cs acc = none := by
  intro cs
  induction cs with
  | nil => intro acc h; cases h
  | cons x xs ih =>
    intro acc h
    simp only [radixValue]
    rcases List.mem_cons.mp h with rfl | h
    · simp [hd]
    · split
      · exact ih _ h
      · rfl

theorem digitVal_none_of_not_ipv4Char {R c} (hR : R = 8 ∨ R = 10 ∨ R = 16)
    (hc : ipv4Char c = false) : digitVal R c = none := by
  simp [ipv4Char] at hc
  obtain ⟨⟨⟨h1, h2⟩, h3⟩, h4⟩ := hc
  unfold digitVal
  have hx := mt (isHex_iff c).2 (Bool.eq_false_iff.1 h1)
  rcases hR with rfl | rfl | rfl
  · simp; omega
  · simp; omega
  · simp [h1]

theorem ipv4Number_badchar (p : List Nat) (c : Nat) (hmem : c ∈ p) (hc : ipv4Char c = false) :
    ipv4Number p = none := by
  have hc' := hc
  simp [ipv4Char] at hc'
  obtain ⟨⟨⟨h1, h2⟩, h3⟩, h4⟩ := hc'
  have hc48 : c ≠ 48 := by
    intro h; subst h; exact absurd h1 (by decide)
  unfold ipv4Number
  split
  · cases hmem
  · rename_i c1 rest
    have hm : c ∈ c1 :: rest := by
      rcases List.mem_cons.mp hmem with h | h
      · exact absurd h hc48
      · exact h
    split
    · rename_i hx
      have hm' : c ∈ rest := by
        rcases List.mem_cons.mp hm with h | h
        · subst h; omega
        · exact h
      have : rest ≠ [] := by intro h; subst h; cases hm'
      simp only [this, if_false]
      exact radixValue_none_of_mem (digitVal_none_of_not_ipv4Char (Or.inr (Or.inr rfl)) hc) _ _ hm'
    · exact radixValue_none_of_mem (digitVal_none_of_not_ipv4Char (Or.inl rfl) hc) _ _ hm
  · exact radixValue_none_of_mem (digitVal_none_of_not_ipv4Char (Or.inr (Or.inl rfl)) hc) _ _ hmem

/-- conditions under which the Standard's IPv4 parser fails, stated on the strictly split input -/
def SpecFails (L : List (List Nat)) : Prop :=
  L.length ≥ 6 ∨ (∃ p ∈ L, p ≠ [] ∧ ipv4Number p = none) ∨ [] ∈ L.dropLast

theorem specOnParts_fails (L : List (List Nat)) (hf : SpecFails L) : specOnParts L = none := by
  unfold specOnParts
  by_cases hL : L = []
  · subst hL
    rcases hf with h | ⟨p, hp, _⟩ | h <;> simp at *
  obtain ⟨init, last, rfl⟩ := snoc_cases L hL
  unfold SpecFails at hf
  simp only [List.getLast?_concat, List.dropLast_concat, List.length_append, List.length_cons,
    List.length_nil, Option.some.injEq] at *
  -- the trimmed list still contains a part that is not a number, or is too long
  have key : ∀ L' : List (List Nat), L'.length > 4 ∨ (∃ p ∈ L', ipv4Number p = none) →
      (if L'.length > 4 then none
       else match L'.mapM ipv4Number with
        | none => none
        | some nums => specPost nums) = none := by
    intro L' h
    split
    · rfl
    · rcases h with h | ⟨p, hp, hn⟩
      · omega
      · rw [mapM_none_of_mem _ _ p hp hn]
  apply key
  rcases hf with h | ⟨p, hp, hne, hn⟩ | h
  · left
    split <;> simp <;> omega
  · right
    refine ⟨p, ?_, hn⟩
    split
    · rename_i hc
      rcases List.mem_append.mp hp with h | h
      · exact h
      · simp at h; rw [h] at hne; exact absurd hc.1 hne
    · exact hp
  · right
    refine ⟨[], ?_, rfl⟩
    split
    · exact h
    · exact List.mem_append_left _ h

/-- the scanning loop: it returns the finished parts followed by the strict split of the current part and the
    rest of the input, or stops early on an input on which the Standard's parser fails later -/
theorem scan_spec (s : List Nat) : ∀ cur parts, (∀ x ∈ cur, isDot x = false) →
    match ipv4Scan s cur parts with
    | some r => r = parts.reverse ++ splitOnP isDot (cur.reverse ++ s)
    | none => SpecFails (parts.reverse ++ splitOnP isDot (cur.reverse ++ s)) := by
  induction s with
  | nil =>
    intro cur parts hcur
    rw [ipv4Scan_nil, List.append_nil, splitOnP_nosep _ _ (fun x hx => hcur x (List.mem_reverse.1 hx))]
    simp
  | cons c cs ih =>
    intro cur parts hcur
    have hrev : ∀ x ∈ cur.reverse, isDot x = false := fun x hx => hcur x (List.mem_reverse.1 hx)
    rw [ipv4Scan_cons]
    by_cases hc : c = 0x2E
    · subst hc
      rw [splitOnP_append_sep _ _ _ _ (by rfl), splitOnP_nosep _ _ hrev, if_pos rfl]
      have hne := splitOnP_ne_nil isDot cs
      by_cases h4 : parts.length = 4
      · rw [if_pos h4]
        left
        have : 1 ≤ (splitOnP isDot cs).length := List.length_pos_iff.2 hne
        simp [h4]; omega
      · rw [if_neg h4]
        by_cases hcur0 : cur = []
        · rw [if_pos hcur0]
          right; right
          subst hcur0
          obtain ⟨init, last, hs⟩ := snoc_cases _ hne
          rw [hs, ← List.append_assoc, ← List.append_assoc, List.dropLast_concat]
          simp
        · rw [if_neg hcur0]
          simpa using ih [] (cur.reverse :: parts) (by simp)
    · rw [if_neg hc]
      have hd : isDot c = false := by simp [isDot, hc]
      by_cases hch : ipv4Char c = true
      · rw [if_neg (by simp [hch])]
        simpa using ih (c :: cur) parts (fun x hx => by
          rcases List.mem_cons.1 hx with rfl | hx
          · exact hd
          · exact hcur x hx)
      · rw [if_pos (by simpa using hch)]
        right; left
        rw [splitOnP_append_nosep _ _ _ hrev, splitOnP_cons_other _ _ _ hd]
        exact ⟨cur.reverse ++ c :: (splitOnP isDot cs).headD [], by simp, by simp,
          ipv4Number_badchar _ c (by simp) (by simpa using hch)⟩

theorem ipv4Parse_eq (s : List Nat) : Impl.ipv4Parse s = Spec.ipv4Parse s := by
  rw [impl_ipv4Parse_eq, spec_ipv4Parse_eq]
  by_cases hs : s = []
  · subst hs; rfl
  · simp only [hs, if_false]
    have h := scan_spec s [] [] (by simp)
    cases hscan : ipv4Scan s [] [] with
    | none => rw [hscan] at h; exact (specOnParts_fails _ h).symm
    | some r =>
      rw [hscan] at h
      rw [h]
      exact onParts_eq _ (splitOnP_ne_nil _ _)

/-! ## serializer and round trip -/

theorem ipv4Serialize_eq (n : Nat) : Impl.ipv4Serialize n = Spec.ipv4Serialize n := by
  unfold Impl.ipv4Serialize Spec.ipv4Serialize
  have hand : ∀ x : Nat, x &&& 0xFF = x % 256 := fun x => Nat.and_two_pow_sub_one_eq_mod x 8
  simp only [Impl.unsignedToStr_dec, hand, Nat.shiftRight_eq_div_pow]

theorem digitVal_dec (d : Nat) (hd : d < 10) : digitVal 10 (0x30 + d) = some d := by
  unfold digitVal
  have : 0x30 ≤ 0x30 + d ∧ 0x30 + d < 0x30 + 10 := by omega
  simp [this]

theorem ipv4Number_toDecimal (n : Nat) : ipv4Number (toDecimal n) = some n := by
  obtain ⟨d, r, e, hd⟩ := Radix.digits_head 10 n
  by_cases hn : n = 0
  · subst hn; rfl
  · have hv := Radix.radixValue_map (R := 10) (0x30 + ·) digitVal_dec (Radix.digits 10 n) 0
      (Radix.digits_lt (by omega) n)
    rw [← Radix.toDecimal_eq] at hv
    have hh : toDecimal n = (0x30 + d) :: r.map (0x30 + ·) := by rw [Radix.toDecimal_eq, e]; rfl
    rw [hh] at hv ⊢
    rw [ipv4Number_of_head_ne _ _ (by have := hd hn; omega), hv]
    exact congrArg some (Radix.ofDigits_digits 10 n)

/-- the four decimal parts. `isDot` is `(· == 0x2E)` by `rfl`: the laws of Upa/Proofs/ListScan.lean that speak of
    `(· == sep)` (`join_split`) apply after a `change` -/
theorem splitOnP_serialize (n : Nat) : splitOnP isDot (Spec.ipv4Serialize n) =
    [toDecimal (n / 16777216 % 256), toDecimal (n / 65536 % 256), toDecimal (n / 256 % 256), toDecimal (n % 256)] := by
  have nd : ∀ m, ∀ c ∈ toDecimal m, isDot c = false := by
    intro m c hc
    have := Radix.toDecimal_digits m c hc
    rw [isDigit_iff] at this; simp [isDot]; omega
  unfold Spec.ipv4Serialize
  simp only [List.append_assoc, List.cons_append, List.nil_append]
  simp only [splitOnP_append_sep isDot _ 0x2E _ (by rfl), splitOnP_nosep _ _ (nd _), List.cons_append,
    List.nil_append]

/-- decimal digits and '.' -/
def v4Char (c : Nat) : Bool := isDigit c || c == 0x2E

/-- the serializer's alphabet (from `Radix.toDecimal_digits`) -/
theorem ipv4Serialize_chars (n : Nat) : ∀ x ∈ Impl.ipv4Serialize n, v4Char x = true := by
  intro x hx
  simp only [Impl.ipv4Serialize, List.mem_append, List.mem_singleton, Impl.unsignedToStr_dec] at hx
  rcases hx with ((((((h | rfl) | h) | rfl) | h) | rfl) | h)
  all_goals first | decide | simp [v4Char, Radix.toDecimal_digits _ x h]

theorem ipv4Serialize_ne_nil (n : Nat) : Impl.ipv4Serialize n ≠ [] := by
  simp [Impl.ipv4Serialize]

/-- after the four numerals are read back (`ipv4Number_toDecimal`) what is left for `omega` is
    `n = n/2^24 % 256 * 2^24 + n/2^16 % 256 * 2^16 + n/2^8 % 256 * 2^8 + n % 256` for `n < 2^32` -/
theorem roundtrip (n : Nat) (hn : n < 2 ^ 32) : Impl.ipv4Parse (Impl.ipv4Serialize n) = some n := by
  rw [ipv4Serialize_eq, ipv4Parse_eq, spec_ipv4Parse_eq, splitOnP_serialize]
  unfold specOnParts
  have hne := Radix.toDecimal_ne_nil (n % 256)
  simp [hne, ipv4Number_toDecimal, specPost, Spec.ipv4Parse.sum, pow256]
  omega

/-! ## the range of the result, on the code's side (`% 2^32` in the last loop) -/

theorem add_lt : ∀ (L : List Nat) (c acc : Nat), acc < 2 ^ 32 → ipv4Parse.add L c acc < 2 ^ 32 := by
  intro L
  induction L with
  | nil => intro c acc h; rwa [v4Add_nil]
  | cons x xs ih =>
    intro c acc h
    rw [v4Add_cons]
    exact ih _ _ (Nat.mod_lt _ (by decide))

theorem implPost_lt (number : List Nat) (n : Nat) (h : implPost number = some n) : n < 2 ^ 32 := by
  unfold implPost at h
  simp only at h
  split at h
  · cases h
  · split at h
    · cases h
    · rename_i hle
      simp only [Option.some.injEq] at h
      subst h
      apply add_lt
      have := Nat.shiftRight_le 0xFFFFFFFF (8 * (number.length - 1))
      omega

theorem implOnParts_lt (parts : List (List Nat)) (n : Nat) (h : implOnParts parts = some n) :
    n < 2 ^ 32 := by
  unfold implOnParts at h
  generalize (if parts.length > 1 ∧ parts.getLast? = some [] then parts.dropLast else parts) = P at h
  simp only at h
  split at h
  · cases h
  · cases hm : P.mapM ipv4ParseNumber with
    | none => simp [hm] at h
    | some number =>
      simp only [hm] at h
      exact implPost_lt _ _ h

theorem ipv4Parse_lt (s : List Nat) (n : Nat) (h : Impl.ipv4Parse s = some n) : n < 2 ^ 32 := by
  rw [impl_ipv4Parse_eq] at h
  split at h
  · cases h
  · cases hs : ipv4Scan s [] [] with
    | none => simp [hs] at h
    | some parts =>
      simp only [hs] at h
      exact implOnParts_lt _ _ h

/-! ## hostname_ends_in_a_number = the ends-in-a-number checker -/

/-- the label scanned backwards from the end up to the previous '.' -/
def lastLabel (t : List Nat) : List Nat := (t.reverse.takeWhile (· != 0x2E)).reverse

/-- the test applied to the last label by `hostname_ends_in_a_number` -/
def implLabelCheck (label : List Nat) : Bool :=
  if label.length = 0 then false
  else
    match label with
    | 0x30 :: x :: rest =>
      if x = 0x58 ∨ x = 0x78 then rest.all isHex
      else label.all isDigit
    | _ => label.all isDigit

theorem implLabelCheck_of_ne (c0 : Nat) (t : List Nat) (h : c0 ≠ 0x30) :
    implLabelCheck (c0 :: t) = (c0 :: t).all isDigit := by
  unfold implLabelCheck
  rw [List.length_cons, if_neg (Nat.add_one_ne_zero _)]
  split
  · rename_i heq; exact absurd (List.cons.inj heq).1 h
  · rfl

theorem implLabelCheck_single (c : Nat) : implLabelCheck [c] = [c].all isDigit := by
  unfold implLabelCheck
  rw [List.length_cons, if_neg (Nat.add_one_ne_zero _)]
  split
  · rename_i heq; cases heq
  · rfl

/-- in the Bool shape of the C++ test `start_of_label[1] == 'X' || start_of_label[1] == 'x'` (url_ip.h:37) -/
theorem implLabelCheck_0x (c1 : Nat) (rest : List Nat) : implLabelCheck (0x30 :: c1 :: rest) =
    bif (c1 == 0x58 || c1 == 0x78) then rest.all isHex else (0x30 :: c1 :: rest).all isDigit := by
  show (if c1 = 0x58 ∨ c1 = 0x78 then _ else _) = _
  rw [cond_eq_ite]
  simp only [Bool.or_eq_true, beq_iff_eq]

theorem lastLabel_append (pre label : List Nat) (hlab : ∀ x ∈ label, x ≠ 0x2E)
    (hpre : pre = [] ∨ ∃ p, pre = p ++ [0x2E]) : lastLabel (pre ++ label) = label := by
  unfold lastLabel
  rw [List.reverse_append,
    List.takeWhile_append_of_pos (fun y hy => bne_iff_ne.2 (hlab y (List.mem_reverse.1 hy)))]
  rcases hpre with rfl | ⟨p, rfl⟩
  · rw [List.reverse_nil, List.takeWhile_nil, List.append_nil, List.reverse_reverse]
  · rw [List.reverse_concat, List.takeWhile_cons_of_neg (by decide), List.append_nil, List.reverse_reverse]

def specLabelCheck (last : List Nat) : Bool :=
  if last ≠ [] ∧ last.all isDigit then true
  else (ipv4Number last).isSome

theorem impl_endsInNumber_eq (s : List Nat) : Impl.endsInNumber s =
    if s = [] then false
    else implLabelCheck (lastLabel (if s.getLast? = some 0x2E then s.dropLast else s)) := rfl

theorem spec_endsInANumber_eq (s : List Nat) : Spec.endsInANumber s =
    match (if (splitOnP isDot s).getLast? = some [] then
        (if (splitOnP isDot s).length = 1 then [] else (splitOnP isDot s).dropLast)
      else splitOnP isDot s).getLast? with
    | none => false
    | some last => specLabelCheck last := rfl

theorem radixValue_isSome (R : Nat) : ∀ cs acc,
    (radixValue R cs acc).isSome = cs.all (fun c => (digitVal R c).isSome) := by
  intro cs
  induction cs with
  | nil => intro acc; rfl
  | cons c cs ih =>
    intro acc
    simp only [radixValue, List.all_cons]
    cases digitVal R c with
    | none => rfl
    | some d => simp [ih]

theorem digitVal16_isSome (c : Nat) : (digitVal 16 c).isSome = isHex c := by
  unfold digitVal; simp only [if_true]; split <;> simp_all

theorem digitVal10_isSome (c : Nat) : (digitVal 10 c).isSome = isDigit c := by
  unfold digitVal; simp [isDigit]
  split
  · rename_i h; simp; omega
  · rename_i h; simp; omega

theorem digitVal8_isSome (c : Nat) (h : (digitVal 8 c).isSome = true) : isDigit c = true := by
  unfold digitVal at h; simp at h; rw [isDigit_iff]
  omega

theorem labelCheck_eq (l : List Nat) : implLabelCheck l = specLabelCheck l := by
  unfold implLabelCheck specLabelCheck
  cases l with
  | nil => rfl
  | cons c cs =>
    simp only [List.length_cons, Nat.add_one_ne_zero, if_false, ne_eq, reduceCtorEq, not_false_eq_true,
      true_and]
    by_cases hc : c = 48
    · subst hc
      cases cs with
      | nil => rfl
      | cons x rest =>
        simp only [ipv4Number]
        by_cases hx : x = 0x58 ∨ x = 0x78
        · have hnd : isDigit x = false := by rcases hx with rfl | rfl <;> rfl
          simp only [hx, if_true, List.all_cons, hnd, Bool.false_and, Bool.and_false]
          cases rest with
          | nil => rfl
          | cons y ys =>
            simp only [reduceCtorEq, if_false, radixValue_isSome, digitVal16_isSome]
        · simp only [hx, if_false]
          by_cases hall : (48 :: x :: rest).all isDigit = true
          · simp [hall]
          · simp only [hall]
            have : (radixValue 8 (x :: rest) 0).isSome = false := by
              rw [radixValue_isSome]
              cases h8 : (x :: rest).all (fun c => (digitVal 8 c).isSome) with
              | false => rfl
              | true =>
                exfalso; apply hall
                rw [List.all_eq_true] at h8 ⊢
                intro y hy
                rcases List.mem_cons.mp hy with rfl | hy
                · rfl
                · exact digitVal8_isSome y (h8 y hy)
            simp [this]
    · have h1 : ipv4Number (c :: cs) = radixValue 10 (c :: cs) 0 := ipv4Number_of_head_ne c cs hc
      have h2 : (match c :: cs with
          | 0x30 :: x :: rest => if x = 0x58 ∨ x = 0x78 then rest.all isHex else (c :: cs).all isDigit
          | _ => (c :: cs).all isDigit) = (c :: cs).all isDigit := by
        split
        · rename_i h; cases h; exact absurd rfl hc
        · rfl
      rw [h1, radixValue_isSome]
      simp only [digitVal10_isSome]
      refine Eq.trans h2 ?_
      cases (c :: cs).all isDigit <;> simp

theorem lastLabel_nodot (t : List Nat) : ∀ c ∈ lastLabel t, isDot c = false := by
  intro c hc
  unfold lastLabel at hc
  rw [List.mem_reverse] at hc
  simpa [isDot] using (mem_takeWhile hc).1

theorem lastLabel_decomp (t : List Nat) :
    t = lastLabel t ∨ ∃ a, t = a ++ 0x2E :: lastLabel t := by
  have h := List.takeWhile_append_dropWhile (p := (· != 0x2E)) (l := t.reverse)
  have ht : t = (t.reverse.dropWhile (· != 0x2E)).reverse ++ lastLabel t := by
    unfold lastLabel
    rw [← List.reverse_append, h, List.reverse_reverse]
  cases hd : t.reverse.dropWhile (· != 0x2E) with
  | nil => left; rw [hd] at ht; simpa using ht
  | cons d r =>
    right
    have hd2 : d = 0x2E := by simpa using head?_dropWhile (p := (· != 0x2E)) (l := t.reverse) (c := d) (by rw [hd]; rfl)
    subst hd2
    refine ⟨r.reverse, ?_⟩
    rw [hd] at ht
    simpa using ht

theorem getLast?_splitOnP (t : List Nat) : (splitOnP isDot t).getLast? = some (lastLabel t) := by
  rcases lastLabel_decomp t with h | ⟨a, h⟩
  · have hnd : ∀ c ∈ t, isDot c = false := by rw [h]; exact lastLabel_nodot t
    rw [splitOnP_nosep _ t hnd]
    simpa using h
  · have : splitOnP isDot t = splitOnP isDot a ++ [lastLabel t] := by
      conv => lhs; rw [h]
      rw [splitOnP_append_sep _ _ _ _ (by rfl), splitOnP_nosep _ _ (lastLabel_nodot t)]
    rw [this, List.getLast?_concat]

theorem endsInNumber_eq (s : List Nat) : Impl.endsInNumber s = Spec.endsInANumber s := by
  rw [impl_endsInNumber_eq, spec_endsInANumber_eq]
  by_cases hs : s = []
  · subst hs; rfl
  simp only [hs, if_false]
  by_cases hdot : s.getLast? = some 0x2E
  · simp only [hdot, if_true]
    obtain ⟨s', rfl⟩ := List.getLast?_eq_some_iff.mp hdot
    have hsplit : splitOnP isDot (s' ++ [0x2E]) = splitOnP isDot s' ++ [[]] :=
      splitOnP_append_sep _ s' _ [] (by rfl)
    have hlen : 1 ≤ (splitOnP isDot s').length := by
      have := splitOnP_ne_nil isDot s'
      cases hh : splitOnP isDot s' <;> simp [hh] at this ⊢
    have hlen' : ¬ ((splitOnP isDot s').length + 1 = 1) := by omega
    simp only [hsplit, List.getLast?_concat, if_true, List.length_append, List.length_cons,
      List.length_nil, Nat.zero_add, hlen', if_false, List.dropLast_concat, getLast?_splitOnP]
    exact labelCheck_eq _
  · simp only [hdot, if_false, getLast?_splitOnP]
    have hne : lastLabel s ≠ [] := by
      intro h
      rcases lastLabel_decomp s with h1 | ⟨a, h1⟩
      · exact hs (by rw [h1, h])
      · exact hdot (by rw [h1, h]; simp)
    have : ¬ (some (lastLabel s) = some []) := by simpa using hne
    simp only [this, if_false, getLast?_splitOnP]
    exact labelCheck_eq _

/-- the Standard's test on the four decimal parts: the last one is a non-empty string of digits -/
theorem endsInNumber_serialize (n : Nat) : Impl.endsInNumber (Impl.ipv4Serialize n) = true := by
  rw [endsInNumber_eq, ipv4Serialize_eq, spec_endsInANumber_eq, splitOnP_serialize]
  have hne := Radix.toDecimal_ne_nil (n % 256)
  simp [hne, specLabelCheck, List.all_eq_true.2 (Radix.toDecimal_digits (n % 256))]

end Upa.Impl.Ipv4
