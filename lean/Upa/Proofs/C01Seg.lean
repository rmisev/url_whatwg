import Upa.Spec.UrlParser
import Upa.Proofs.EncHead
import Upa.Proofs.ParserRules
import Upa.Proofs.CharClass
/-
  C01 — one path segment: the code's `Impl.pathSegment` on the RAW segment equals the Standard's
  path-state update on the PERCENT-ENCODED buffer (`segUrl`), and `parse_path` as a left-to-right scan
  (`pathLoop`; `parsePath_eq_pathLoop`, from `C08.parsePath_eq`).  Pure list reasoning, no machine.
  * dot tests: `Impl.singleDot/doubleDot` (raw) vs `Spec.isSingleDot/isDoubleDot` (encoded, lower-cased),
    both characterised by `stripDot` (strip one `.` / `%2e` / `%2E` token; EncHead.lean);
  * `Spec.shorten = Impl.shortenPath`;
  * Windows drive letter quirk on the encoded buffer.
-/
namespace Upa.Proofs.C01
export C08 (pathSep pathSep_true pathSep_false)
open C02b (or20 stripDot stripDot_eq_some stripDot_escaped singleDot_iff doubleDot_iff)
-- `C02b.*`: EncHead.lean; `C14.*`: Percent.lean; `C08.*`: ParserRules.lean; `C17.splitOnP_*`: ListScan.lean

abbrev encPath (s : List Nat) : List Nat := Spec.utf8PercentEncode Spec.pathSet s
abbrev encPc (c : Nat) : List Nat := Spec.utf8PercentEncodeChar Spec.pathSet c

theorem encPath_nil : encPath [] = [] := rfl
theorem encPath_cons (c : Nat) (s : List Nat) : encPath (c :: s) = encPc c ++ encPath s := by
  simp [encPath, encPc, Spec.utf8PercentEncode]
theorem encPath_append (s t : List Nat) : encPath (s ++ t) = encPath s ++ encPath t := by
  simp [encPath, Spec.utf8PercentEncode]

theorem encPc_of_not_pathSet {a : Nat} (h : Spec.pathSet a = false) : encPc a = [a] := by
  simp only [encPc, Spec.utf8PercentEncodeChar, h, Bool.false_eq_true, if_false]

theorem encPc_ne_nil (c : Nat) : encPc c ≠ [] := by
  unfold encPc Spec.utf8PercentEncodeChar
  split
  · unfold Spec.utf8EncodeChar
    (repeat' split) <;> exact List.cons_ne_nil _ _
  · exact List.cons_ne_nil _ _

theorem encPath_eq_nil (r : List Nat) : encPath r = [] ↔ r = [] := by
  cases r with
  | nil => simp [encPath_nil]
  | cons c cs => rw [encPath_cons]; simp [encPc_ne_nil]

theorem enc_path (p : List Nat) (hp : ∀ c ∈ p, Spec.isScalar c = true) :
    Impl.percentEncode Impl.pathNoEnc p = encPath p :=
  C14.percentEncode_eq_spec Spec.pathSet C14.path_hi p hp

/-- What the head of `encPath s` says about `s`: the path encoder is the code's encode loop with a no-encode set that
    keeps `.` (`enc_path`), so an element other than `%`, and the escaped dot, stand at the head of `s` as they
    are (EncHead.lean). -/
theorem encPath_head {x : Nat} (hx : x ≠ 0x25) {s l : List Nat} (hs : ∀ c ∈ s, Spec.isScalar c = true)
    (e : encPath s = x :: l) : ∃ t, s = x :: t ∧ encPath t = l := by
  match s, hs with
  | [], _ => cases e
  | c :: cs, hs =>
    rw [← enc_path _ hs] at e
    obtain ⟨rfl, h2⟩ := C02b.enc_head_other _ c cs x l hx e
    exact ⟨cs, rfl, (enc_path cs (List.forall_mem_cons.1 hs).2).symm.trans h2⟩

theorem encPath_head_pct2e {c : Nat} (hc : c = 0x65 ∨ c = 0x45) {s l : List Nat}
    (hs : ∀ c ∈ s, Spec.isScalar c = true) (e : encPath s = 0x25 :: 0x32 :: c :: l) :
    ∃ t, s = 0x25 :: 0x32 :: c :: t ∧ encPath t = l := by
  match s, hs with
  | [], _ => cases e
  | c0 :: cs, hs =>
    have ht := (List.forall_mem_cons.1 hs).2
    rw [← enc_path _ hs] at e
    obtain ⟨rfl, h2⟩ := C02b.enc_head_escdot Impl.pathNoEnc (by decide) c0 cs c l ((or20 c).2 hc) e
    rw [enc_path cs ht] at h2
    obtain ⟨t1, rfl, e2⟩ := encPath_head (by decide) ht h2
    obtain ⟨t2, rfl, e3⟩ := encPath_head (by omega) (List.forall_mem_cons.1 ht).2 e2
    exact ⟨t2, rfl, e3⟩

theorem stripDot_mem {s r : List Nat} (h : stripDot s = some r) : ∀ c ∈ r, c ∈ s := by
  intro c hc
  rcases stripDot_eq_some.1 h with rfl | rfl | rfl <;> simp [hc]

theorem stripDot_encPath (s : List Nat) (hs : ∀ c ∈ s, Spec.isScalar c = true) :
    stripDot (encPath s) = (stripDot s).map encPath := by
  cases h : stripDot s with
  | some r => rcases stripDot_eq_some.1 h with rfl | rfl | rfl <;> rfl
  | none =>
    -- a dot token at the head of `encPath s` stands at the head of `s`
    cases h' : stripDot (encPath s) with
    | none => rfl
    | some l =>
      rcases stripDot_eq_some.1 h' with e | e | e
      · obtain ⟨t, rfl, _⟩ := encPath_head (by decide) hs e; cases h
      · obtain ⟨t, rfl, _⟩ := encPath_head_pct2e (.inl rfl) hs e; cases h
      · obtain ⟨t, rfl, _⟩ := encPath_head_pct2e (.inr rfl) hs e; cases h

theorem toLower_65 (a : Nat) : toLower a = 0x65 ↔ (a = 0x65 ∨ a = 0x45) := by unfold toLower; split <;> omega

/-- the lower-cased string is `.` or `%2e` followed by `l` exactly when the string is a dot token followed by
    something that lower-cases to `l` -/
theorem lowerStr_dot (s l : List Nat) :
    (Spec.lowerStr s = 0x2E :: l ∨ Spec.lowerStr s = 0x25 :: 0x32 :: 0x65 :: l) ↔
    ∃ r, stripDot s = some r ∧ Spec.lowerStr r = l := by
  constructor
  · rintro (h | h)
    · obtain ⟨a, r, rfl, ha, hl⟩ := List.map_eq_cons_iff.1 h
      rw [(toLower_eq_iff a _ (Or.inl (by decide))).1 ha]
      exact ⟨r, rfl, hl⟩
    · obtain ⟨a, _, rfl, ha, h⟩ := List.map_eq_cons_iff.1 h
      obtain ⟨b, _, rfl, hb, h⟩ := List.map_eq_cons_iff.1 h
      obtain ⟨c, r, rfl, hc, hl⟩ := List.map_eq_cons_iff.1 h
      rw [(toLower_eq_iff a _ (Or.inl (by decide))).1 ha, (toLower_eq_iff b _ (Or.inl (by decide))).1 hb]
      rcases (toLower_65 c).1 hc with rfl | rfl <;> exact ⟨r, rfl, hl⟩
  · rintro ⟨r, h, rfl⟩
    rcases stripDot_eq_some.1 h with rfl | rfl | rfl
    · exact .inl rfl
    · exact .inr rfl
    · exact .inr rfl

/-- the strings of `Spec.isSingleDot` / `isDoubleDot` as lists, for the two `simp` sets below -/
private theorem s1 : asciiStr "." = [0x2E] := by decide +kernel
private theorem s2 : asciiStr "%2e" = [0x25, 0x32, 0x65] := by decide +kernel
private theorem s3 : asciiStr ".." = [0x2E, 0x2E] := by decide +kernel
private theorem s4 : asciiStr ".%2e" = [0x2E, 0x25, 0x32, 0x65] := by decide +kernel
private theorem s5 : asciiStr "%2e." = [0x25, 0x32, 0x65, 0x2E] := by decide +kernel
private theorem s6 : asciiStr "%2e%2e" = [0x25, 0x32, 0x65, 0x25, 0x32, 0x65] := by decide +kernel

theorem isSingleDot_iff (s : List Nat) : Spec.isSingleDot s = true ↔ stripDot s = some [] := by
  simp only [Spec.isSingleDot, Bool.or_eq_true, beq_iff_eq, s1, s2, lowerStr_dot]
  simp only [Spec.lowerStr, List.map_eq_nil_iff, exists_eq_right]

/-- the Standard's four strings `..`, `.%2e`, `%2e.`, `%2e%2e`: a dot token, then a single-dot segment -/
theorem isDoubleDot_iff (s : List Nat) :
    Spec.isDoubleDot s = true ↔ ∃ r, stripDot s = some r ∧ Spec.isSingleDot r = true := by
  simp only [Spec.isSingleDot, Spec.isDoubleDot, Bool.or_eq_true, beq_iff_eq, s1, s2, s3, s4, s5, s6,
    and_or_left, exists_or, ← lowerStr_dot]
  rw [or_assoc, or_or_or_comm]

theorem isSingleDot_encPath (s : List Nat) (hs : ∀ c ∈ s, Spec.isScalar c = true) :
    Spec.isSingleDot (encPath s) = Impl.singleDot s := by
  rw [Bool.eq_iff_iff, isSingleDot_iff, singleDot_iff, stripDot_encPath s hs]
  cases stripDot s with
  | none => simp
  | some r => simp [encPath_eq_nil]

theorem isDoubleDot_encPath (s : List Nat) (hs : ∀ c ∈ s, Spec.isScalar c = true) :
    Spec.isDoubleDot (encPath s) = Impl.doubleDot s := by
  rw [Bool.eq_iff_iff, isDoubleDot_iff, doubleDot_iff, stripDot_encPath s hs]
  cases h : stripDot s with
  | none => simp
  | some r => simp [isSingleDot_encPath r fun c hc => hs c (stripDot_mem h c hc)]

theorem normDrive_eq (seg : List Nat) :
    Spec.isNormalizedWindowsDriveLetter seg =
      (match seg with | [a, b] => Impl.isNormalizedWindowsDrive a b | _ => false) := by
  unfold Spec.isNormalizedWindowsDriveLetter
  split <;> simp [Impl.isNormalizedWindowsDrive]

theorem shorten_eq (u : Url) : Spec.shorten u = Impl.shortenPath u := by
  unfold Spec.shorten Impl.shortenPath
  obtain ⟨sc, us, pw, h, po, op, opp, path, q, f⟩ := u
  match path with
  | [] => exact if_neg fun h => absurd h.2.1 Nat.zero_ne_one
  | [seg] =>
    simp only [List.length_cons, List.length_nil, List.head?_cons, normDrive_eq, Url.isFile, Impl.isFileScheme,
      Bool.and_eq_true, beq_iff_eq, true_and]
    rfl
  | a :: b :: t => exact if_neg fun h => absurd h.2.1 (by simp only [List.length_cons]; omega)

theorem pathSet_alpha {a : Nat} (h : isAlpha a = true) : Spec.pathSet a = false := by
  rw [isAlpha_iff] at h
  simp only [Spec.pathSet, Spec.querySet, Spec.c0ControlSet, Bool.or_eq_false_iff, decide_eq_false_iff_not,
    beq_eq_false_iff_ne]
  omega

/-- a drive letter `X:` / `X|` is not touched by the encoding, and the encoding does not produce one -/
theorem winDrive_encPath (s : List Nat) (hs : ∀ c ∈ s, Spec.isScalar c = true) :
    Spec.isWindowsDriveLetter (encPath s) = Spec.isWindowsDriveLetter s ∧
    (Spec.isWindowsDriveLetter s = true → encPath s = s) := by
  have h2 : Spec.isWindowsDriveLetter s = true → encPath s = s := by
    intro h
    unfold Spec.isWindowsDriveLetter at h
    split at h
    · next a b =>
      simp only [Bool.and_eq_true, Bool.or_eq_true, beq_iff_eq] at h
      rw [encPath_cons, encPath_cons, encPath_nil, encPc_of_not_pathSet (pathSet_alpha h.1),
        encPc_of_not_pathSet (by rcases h.2 with rfl | rfl <;> decide)]
      rfl
    · cases h
  refine ⟨Bool.eq_iff_iff.2 ⟨fun h => ?_, fun h => by rw [h2 h]; exact h⟩, h2⟩
  have h' := h
  unfold Spec.isWindowsDriveLetter at h'
  split at h'
  · next a b e =>
    simp only [Bool.and_eq_true, Bool.or_eq_true, beq_iff_eq] at h'
    obtain ⟨t, rfl, e1⟩ := encPath_head (by intro h; rw [h] at h'; exact absurd h'.1 (by decide)) hs e
    obtain ⟨t', rfl, e2⟩ := encPath_head (by omega) (List.forall_mem_cons.1 hs).2 e1
    rw [(encPath_eq_nil t').1 e2]
    exact Bool.and_eq_true _ _ ▸ ⟨h'.1, by simpa using h'.2⟩
  · cases h'

/-- the URL update of the Standard's path state when a segment ends (`isSep`: ended by a separator) -/
def segUrl (url : Url) (buffer : List Nat) (isSep : Bool) : Url :=
  if Spec.isDoubleDot buffer then
    let url := Spec.shorten url
    if !isSep then { url with path := url.path ++ [[]] } else url
  else if Spec.isSingleDot buffer ∧ !isSep then { url with path := url.path ++ [[]] }
  else if !Spec.isSingleDot buffer then
    let buffer :=
      if url.scheme = Impl.sFile ∧ url.path = [] ∧ Spec.isWindowsDriveLetter buffer then
        [buffer.head!, 0x3A] else buffer
    { url with path := url.path ++ [buffer] }
  else url

theorem segUrl_eq (u : Url) (s : List Nat) (isSep : Bool) (hs : ∀ c ∈ s, Spec.isScalar c = true) :
    segUrl u (encPath s) isSep = Impl.pathSegment u s (!isSep) := by
  unfold segUrl Impl.pathSegment
  rw [isDoubleDot_encPath s hs, isSingleDot_encPath s hs, shorten_eq, enc_path s hs]
  cases hd : Impl.doubleDot s
  · cases hsd : Impl.singleDot s
    · simp only [Bool.false_eq_true, if_false, false_and, Bool.not_false, if_true]
      obtain ⟨h1, h2⟩ := winDrive_encPath s hs
      rw [h1]
      by_cases hw : Spec.isWindowsDriveLetter s = true
      · rw [h2 hw]
        have hw' := hw
        unfold Spec.isWindowsDriveLetter at hw'
        split at hw'
        · next a b =>
          -- `[a, b]` is a drive letter for the Standard (`hw`) and for the code (`hw'`)
          simp only [hw, show Impl.isWindowsDrive a b = true from hw', and_true, Bool.and_true, Bool.and_eq_true,
            Url.isFile, Impl.isFileScheme, beq_iff_eq, List.isEmpty_iff, List.head!]
          split <;> rfl
        · cases hw'
      · rw [Bool.not_eq_true] at hw
        rw [hw, if_neg (fun h => Bool.false_ne_true h.2.2)]
        split
        · next a b => rw [show Impl.isWindowsDrive a b = false from hw, Bool.and_false, if_neg Bool.false_ne_true]
        · rfl
    · cases isSep <;> rfl
  · cases isSep <;> rfl

theorem pathSegment_isSpecial (u : Url) (s : List Nat) (l : Bool) :
    (Impl.pathSegment u s l).isSpecial = u.isSpecial := by
  obtain ⟨p, h⟩ := C08.pathSegment_frame u s l
  rw [h]; rfl

/-- `parse_path` as a left-to-right scan with the current raw segment `s` made explicit -/
def pathLoop (sp : Bool) : Url → List Nat → List Nat → Url
  | u, s, [] => Impl.pathSegment u s true
  | u, s, c :: cs =>
    if pathSep sp c then pathLoop sp (Impl.pathSegment u s false) [] cs
    else pathLoop sp u (s ++ [c]) cs

theorem pathLoop_eq (sp : Bool) : ∀ (r : List Nat) (u : Url) (s : List Nat),
    pathLoop sp u s r =
      Impl.pathSegments u (match splitOnP (pathSep sp) r with | h :: t => (s ++ h) :: t | [] => [s]) := by
  intro r
  induction r with
  | nil => intro u s; simp [pathLoop, splitOnP, Impl.pathSegments]
  | cons c cs ih =>
    intro u s
    obtain ⟨h, t, e⟩ := List.exists_cons_of_ne_nil (C17.splitOnP_ne_nil (pathSep sp) cs)
    unfold pathLoop splitOnP
    split
    · rw [ih, e]; simp [Impl.pathSegments]
    · rw [ih, e]; simp

theorem parsePath_eq_pathLoop (u : Url) (s : List Nat) : Impl.parsePath u s = pathLoop u.isSpecial u [] s := by
  rw [C08.parsePath_eq, pathLoop_eq]
  obtain ⟨h, t, e⟩ := List.exists_cons_of_ne_nil (C17.splitOnP_ne_nil (pathSep u.isSpecial) s)
  rw [e]
  rfl

end Upa.Proofs.C01
