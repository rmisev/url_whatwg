import Upa.Impl.ObjRep
import Upa.Proofs.EvalFuel
/-
  Evaluation kit for the concrete histories of Props/C05g.lean (and, through Proofs/LockstepEval.lean,
  of Props/C06.lean).

  `runR` / `runU` on a history that creates or sorts a params object run `formParse` and `Params.sort`, which
  `decide +kernel` cannot evaluate; their twins `formParseK`, `sortK` are in Upa/Proofs/EvalFuel.lean.  This file has the
  copies `runRK` / `runUK` of the two interpreters that use them, and the theorems `runRK_eq : runRK = runR`,
  `runUK_eq : runUK = runU` (likewise `stepRK_eq`, `retRK_eq`, …).  An evaluated example is then
  `by simp only [← runRK_eq]; decide +kernel`.
-/
namespace Upa.Proofs.ObjRep
open Upa Upa.Impl Upa.Proofs.C15

/-! ### the representation-level interpreter -/

def reparseParamsRK (o : RObj) : RObj :=
  match o.sp with
  | some _ => { o with sp := some { list := formParseK false (rQueryView o.rep), isSorted := false } }
  | none => o

theorem reparseParamsRK_eq (o : RObj) : reparseParamsRK o = o.reparseParams := by
  simp only [reparseParamsRK, RObj.reparseParams, formParse_eqK] <;> rfl

def parseRK (idna : Idna) (o : RObj) (e : Enc) (units : List Nat) (base : Option (Option Rep)) :
    RObj × Bool :=
  let o := if o.rep.isSome then o.clearParams else o
  match base with
  | some none => ({ o with rep := none }, false)
  | _ =>
    match parseRep idna e units (base.bind id) with
    | some r => (reparseParamsRK ({ o with rep := some r } : RObj), true)
    | none => ({ o with rep := none }, false)

theorem parseRK_eq (idna : Idna) (o : RObj) (e : Enc) (units : List Nat) (base : Option (Option Rep)) :
    parseRK idna o e units base = o.parse idna e units base := by
  simp only [parseRK, RObj.parse, reparseParamsRK_eq] <;> rfl

def copyAssignRK (dst src : RObj) : RObj :=
  match dst.sp, src.sp with
  | some _, some sp => { rep := src.rep, sp := some { list := sp.list, isSorted := sp.isSorted } }
  | some _, none => reparseParamsRK ({ rep := src.rep, sp := dst.sp } : RObj)
  | none, _ => { rep := src.rep, sp := none }

theorem copyAssignRK_eq (dst src : RObj) : copyAssignRK dst src = rCopyAssign dst src := by
  simp only [copyAssignRK, rCopyAssign, reparseParamsRK_eq] <;> rfl

def safeAssignRK (dst src : RObj) : RObj × RObj :=
  let dst' : RObj :=
    match dst.sp, src.sp with
    | some _, some sp => { rep := src.rep, sp := some { list := sp.list, isSorted := sp.isSorted } }
    | some _, none => { rep := src.rep, sp := some { list := formParseK false (rQueryView src.rep), isSorted := false } }
    | none, _ => { rep := src.rep, sp := none }
  (dst', { rep := none, sp := src.sp.map (fun _ => { list := [], isSorted := false }) })

theorem safeAssignRK_eq (dst src : RObj) : safeAssignRK dst src = rSafeAssign dst src := by
  simp only [safeAssignRK, rSafeAssign, formParse_eqK] <;> rfl

def setRK (idna : Idna) (o : RObj) (s : Setter) (e : Enc) (units : List Nat) : RObj × Bool :=
  match s, o.rep with
  | .href, _ =>
    match parseRK idna {} e units none with
    | (fresh, true) => ((safeAssignRK o fresh).1, true)
    | (_, false) => (o, false)
  | _, none => (o, false)
  | .search, some r =>
    let (r', ok) := setRep idna .search e units r
    let o' : RObj := { o with rep := some r' }
    (if units = [] then o'.clearParams else reparseParamsRK o', ok)
  | s, some r =>
    let (r', ok) := setRep idna s e units r
    ({ o with rep := some r' }, ok)

theorem setRK_eq (idna : Idna) (o : RObj) (s : Setter) (e : Enc) (units : List Nat) :
    setRK idna o s e units = o.set idna s e units := by
  unfold setRK RObj.set
  simp only [parseRK_eq, safeAssignRK_eq, reparseParamsRK_eq] <;> rfl

def searchParamsRK (o : RObj) : RObj :=
  match o.sp with
  | some _ => o
  | none => { o with sp := some { list := formParseK false (rQueryView o.rep), isSorted := false } }

theorem searchParamsRK_eq (o : RObj) : searchParamsRK o = o.searchParams := by
  simp only [searchParamsRK, RObj.searchParams, formParse_eqK] <;> rfl

def spApplyRK (o : RObj) (f : Params → Params) (always : Bool := true) : RObj :=
  let o := searchParamsRK o
  match o.sp with
  | some p =>
    let p' := f p
    let o' : RObj := { o with sp := some p' }
    if always || p'.list.length ≠ p.list.length then o'.update else o'
  | none => o

theorem spApplyRK_eq (o : RObj) (f : Params → Params) (always : Bool) :
    spApplyRK o f always = o.spApply f always := by
  simp only [spApplyRK, RObj.spApply, searchParamsRK_eq] <;> rfl

def spFnK : SpOp → Params → Params
  | .append n v => (·.append n v)
  | .set n v => (·.set n v)
  | .del n => (·.del n)
  | .del2 n v => (·.del2 n v)
  | .remove n => (·.del n)
  | .remove2 n v => (·.del2 n v)
  | .sort => sortK
  | .clear => (·.clear)
  | .parse q => fun _ => { list := formParseK true q, isSorted := false }

theorem spFnK_eq (f : SpOp) : spFnK f = f.fn := by
  cases f <;> try rfl
  · funext p; exact sortK_eq p
  · funext p; simp only [spFnK, SpOp.fn, Params.parse, formParse_eqK] <;> rfl

def stepRK (idna : Idna) (op : Op) (st : RObj × RObj) : (RObj × RObj) × Bool :=
  match op with
  | .parse k e units base =>
    let o := getSlot st k
    let res : RObj × Bool :=
      match base with
      | .none => parseRK idna o e units none
      | .other => parseRK idna o e units (some (getSlot st (!k)).rep)
      | .same => parseRK idna o e units (some o.rep)
      | .str eb ub =>
        match parseRK idna {} eb ub none with
        | (b, true) => parseRK idna o e units (some b.rep)
        | (_, false) => parseRK idna o e units (some none)
    (setSlot st k res.1, res.2)
  | .set k s e units =>
    let res := setRK idna (getSlot st k) s e units
    (setSlot st k res.1, res.2)
  | .searchParams k => (setSlot st k (searchParamsRK (getSlot st k)), true)
  | .sp k f => (setSlot st k (spApplyRK (getSlot st k) (spFnK f) f.always), true)
  | .spAssign k list sorted =>
    (setSlot st k (spApplyRK (getSlot st k) (fun _ => { list := list, isSorted := sorted })), true)
  | .spSafeAssign k list sorted =>
    (setSlot st k (spApplyRK (getSlot st k) (fun _ => { list := list, isSorted := sorted })), true)
  | .searchParamsRvalue k => (setSlot st k (getSlot st k).searchParamsRvalue, true)
  | .clear k => (setSlot st k (getSlot st k).clear, true)
  | .copyAssign d s =>
    if d = s then (st, true) else (setSlot st d (copyAssignRK (getSlot st d) (getSlot st s)), true)
  | .copyConstruct d s =>
    if d = s then (st, true) else (setSlot st d (rCopyConstruct (getSlot st s)), true)
  | .moveAssign d s =>
    if d = s then (st, true) else
      let r := rMoveAssign (getSlot st s)
      (setSlot (setSlot st d r.1) s r.2, true)
  | .safeAssign d s =>
    if d = s then (st, true) else
      let r := safeAssignRK (getSlot st d) (getSlot st s)
      (setSlot (setSlot st d r.1) s r.2, true)
  | .swap => ((st.2, st.1), true)

theorem stepRK_eq (idna : Idna) (op : Op) (st : RObj × RObj) : stepRK idna op st = stepR idna op st := by
  cases op with
  | parse k e units base => cases base <;> simp only [stepRK, stepR, parseRK_eq] <;> rfl
  | _ =>
    simp only [stepRK, stepR, setRK_eq, searchParamsRK_eq, spApplyRK_eq, spFnK_eq, copyAssignRK_eq,
      safeAssignRK_eq] <;> rfl

def runRK (idna : Idna) (ops : List Op) (st : RObj × RObj) : RObj × RObj :=
  ops.foldl (fun st op => (stepRK idna op st).1) st

theorem runRK_eq (idna : Idna) (ops : List Op) (st : RObj × RObj) : runRK idna ops st = runR idna ops st := by
  simp only [runRK, runR, stepRK_eq] <;> rfl

def retRK (idna : Idna) : List Op → RObj × RObj → List Bool
  | [], _ => []
  | op :: ops, st => (stepRK idna op st).2 :: retRK idna ops (stepRK idna op st).1

theorem retRK_eq (idna : Idna) (ops : List Op) (st : RObj × RObj) : retRK idna ops st = retR idna ops st := by
  induction ops generalizing st with
  | nil => rfl
  | cons op ops ih => simp only [retRK, retR, stepRK_eq, ih] <;> rfl

/-! ### the record-level interpreter -/

def reparseParamsUK (o : UrlObj) : UrlObj :=
  match o.sp with
  | some _ => { o with sp := some { list := formParseK false (queryBytes o.url), isSorted := false } }
  | none => o

theorem reparseParamsUK_eq (o : UrlObj) : reparseParamsUK o = o.reparseParams := by
  simp only [reparseParamsUK, UrlObj.reparseParams, formParse_eqK] <;> rfl

def parseUK (idna : Idna) (o : UrlObj) (e : Enc) (units : List Nat) (base : Option (Option Url)) :
    UrlObj × Bool :=
  let o := if o.url.isSome then o.clearParams else o
  match base with
  | some none => ({ o with url := none }, false)
  | _ =>
    match Impl.parse idna e units (base.bind id) with
    | some u => (reparseParamsUK ({ o with url := some u } : UrlObj), true)
    | none => ({ o with url := none }, false)

theorem parseUK_eq (idna : Idna) (o : UrlObj) (e : Enc) (units : List Nat) (base : Option (Option Url)) :
    parseUK idna o e units base = o.parse idna e units base := by
  simp only [parseUK, UrlObj.parse, reparseParamsUK_eq] <;> rfl

def copyAssignUK (dst src : UrlObj) : UrlObj :=
  match dst.sp, src.sp with
  | some _, some sp => { url := src.url, sp := some { list := sp.list, isSorted := sp.isSorted } }
  | some _, none => reparseParamsUK ({ url := src.url, sp := dst.sp } : UrlObj)
  | none, _ => { url := src.url, sp := none }

theorem copyAssignUK_eq (dst src : UrlObj) : copyAssignUK dst src = copyAssign dst src := by
  simp only [copyAssignUK, copyAssign, reparseParamsUK_eq] <;> rfl

def safeAssignUK (dst src : UrlObj) : UrlObj × UrlObj :=
  let dst' : UrlObj :=
    match dst.sp, src.sp with
    | some _, some sp => { url := src.url, sp := some { list := sp.list, isSorted := sp.isSorted } }
    | some _, none => { url := src.url, sp := some { list := formParseK false (queryBytes src.url), isSorted := false } }
    | none, _ => { url := src.url, sp := none }
  (dst', { url := none, sp := src.sp.map (fun _ => { list := [], isSorted := false }) })

theorem safeAssignUK_eq (dst src : UrlObj) : safeAssignUK dst src = safeAssign dst src := by
  simp only [safeAssignUK, safeAssign, formParse_eqK] <;> rfl

def setUK (idna : Idna) (o : UrlObj) (s : Setter) (e : Enc) (units : List Nat) : UrlObj × Bool :=
  match s, o.url with
  | .href, _ =>
    match Impl.parse idna e units none with
    | some u => (reparseParamsUK ({ o with url := some u } : UrlObj), true)
    | none => (o, false)
  | _, none => (o, false)
  | .search, some u =>
    let (u', ok) := setValid idna .search e units u
    let o' : UrlObj := { o with url := some u' }
    (if units = [] then o'.clearParams else reparseParamsUK o', ok)
  | s, some u =>
    let (u', ok) := setValid idna s e units u
    ({ o with url := some u' }, ok)

theorem setUK_eq (idna : Idna) (o : UrlObj) (s : Setter) (e : Enc) (units : List Nat) :
    setUK idna o s e units = o.set idna s e units := by
  unfold setUK UrlObj.set
  simp only [reparseParamsUK_eq] <;> rfl

def searchParamsUK (o : UrlObj) : UrlObj :=
  match o.sp with
  | some _ => o
  | none => { o with sp := some { list := formParseK false (queryBytes o.url), isSorted := false } }

theorem searchParamsUK_eq (o : UrlObj) : searchParamsUK o = o.searchParams := by
  simp only [searchParamsUK, UrlObj.searchParams, formParse_eqK] <;> rfl

def spApplyUK (o : UrlObj) (f : Params → Params) (always : Bool := true) : UrlObj :=
  let o := searchParamsUK o
  match o.sp with
  | some p =>
    let p' := f p
    let o' : UrlObj := { o with sp := some p' }
    if always || p'.list.length ≠ p.list.length then o'.update else o'
  | none => o

theorem spApplyUK_eq (o : UrlObj) (f : Params → Params) (always : Bool) :
    spApplyUK o f always = o.spApply f always := by
  simp only [spApplyUK, UrlObj.spApply, searchParamsUK_eq] <;> rfl

def stepUK (idna : Idna) (op : Op) (st : UrlObj × UrlObj) : (UrlObj × UrlObj) × Bool :=
  match op with
  | .parse k e units base =>
    let o := getSlot st k
    let res : UrlObj × Bool :=
      match base with
      | .none => parseUK idna o e units none
      | .other => parseUK idna o e units (some (getSlot st (!k)).url)
      | .same => parseUK idna o e units (some o.url)
      | .str eb ub =>
        match parseUK idna {} eb ub none with
        | (b, true) => parseUK idna o e units (some b.url)
        | (_, false) => parseUK idna o e units (some none)
    (setSlot st k res.1, res.2)
  | .set k s e units =>
    let res := setUK idna (getSlot st k) s e units
    (setSlot st k res.1, res.2)
  | .searchParams k => (setSlot st k (searchParamsUK (getSlot st k)), true)
  | .sp k f => (setSlot st k (spApplyUK (getSlot st k) (spFnK f) f.always), true)
  | .spAssign k list sorted =>
    (setSlot st k (spApplyUK (getSlot st k) (fun _ => { list := list, isSorted := sorted })), true)
  | .spSafeAssign k list sorted =>
    (setSlot st k (spApplyUK (getSlot st k) (fun _ => { list := list, isSorted := sorted })), true)
  | .searchParamsRvalue k => (setSlot st k (uSearchParamsRvalue (getSlot st k)), true)
  | .clear k => (setSlot st k (getSlot st k).clear, true)
  | .copyAssign d s =>
    if d = s then (st, true) else (setSlot st d (copyAssignUK (getSlot st d) (getSlot st s)), true)
  | .copyConstruct d s =>
    if d = s then (st, true) else (setSlot st d (copyConstruct (getSlot st s)), true)
  | .moveAssign d s =>
    if d = s then (st, true) else
      let r := moveAssign (getSlot st s)
      (setSlot (setSlot st d r.1) s r.2, true)
  | .safeAssign d s =>
    if d = s then (st, true) else
      let r := safeAssignUK (getSlot st d) (getSlot st s)
      (setSlot (setSlot st d r.1) s r.2, true)
  | .swap => ((st.2, st.1), true)

theorem stepUK_eq (idna : Idna) (op : Op) (st : UrlObj × UrlObj) : stepUK idna op st = stepU idna op st := by
  cases op with
  | parse k e units base => cases base <;> simp only [stepUK, stepU, parseUK_eq] <;> rfl
  | _ =>
    simp only [stepUK, stepU, setUK_eq, searchParamsUK_eq, spApplyUK_eq, spFnK_eq, copyAssignUK_eq,
      safeAssignUK_eq] <;> rfl

def runUK (idna : Idna) (ops : List Op) (st : UrlObj × UrlObj) : UrlObj × UrlObj :=
  ops.foldl (fun st op => (stepUK idna op st).1) st

theorem runUK_eq (idna : Idna) (ops : List Op) (st : UrlObj × UrlObj) : runUK idna ops st = runU idna ops st := by
  simp only [runUK, runU, stepUK_eq] <;> rfl

def retUK (idna : Idna) : List Op → UrlObj × UrlObj → List Bool
  | [], _ => []
  | op :: ops, st => (stepUK idna op st).2 :: retUK idna ops (stepUK idna op st).1

theorem retUK_eq (idna : Idna) (ops : List Op) (st : UrlObj × UrlObj) : retUK idna ops st = retU idna ops st := by
  induction ops generalizing st with
  | nil => rfl
  | cons op ops ih => simp only [retUK, retU, stepUK_eq, ih] <;> rfl

end Upa.Proofs.ObjRep
