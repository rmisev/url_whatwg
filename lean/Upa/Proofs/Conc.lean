import Upa.Impl.Conc
/-
  Invariants of the magic-static protocol (`Upa.Impl.Conc`), for every number of threads and every
  schedule.  Used by `Upa.Props.C19`.
-/
namespace Upa.Impl.Conc

/-- neither inside the initialiser nor past the guard -/
def Pc.outside (pc : Pc) : Prop := pc = .idle ∨ pc = .checkGuard
/-- past the released guard; a handle already read is the initialised one -/
def Pc.past (pc : Pc) : Prop := pc = .readHandle ∨ pc = .readVersion (some (freshHandle 0))
/-- not inside the initialiser -/
def Pc.reader (pc : Pc) : Prop := pc.outside ∨ pc.past

def State.vals (s : State) (n : Nat) (p v : Option Nat) : Prop :=
  s.initCount = n ∧ s.uidnaPtr = p ∧ s.icuVersion = v

/-- where the thread that holds the guard is, and what it has written so far -/
def Pc.phase (pc : Pc) (s : State) : Prop :=
  pc = .initPtr ∧ s.vals 0 none none ∨ pc = .initVer ∧ s.vals 1 (some (freshHandle 0)) none ∨
  pc = .finishInit ∧ s.vals 1 (some (freshHandle 0)) (some icuMajor)

/-- what the value of the guard says about the shared variables and about where the threads are -/
def GuardInv (s : State) : Guard → Prop
  | .uninit => s.vals 0 none none ∧ ∀ u, (s.thr u).pc.outside
  | .inProgress t => (s.thr t).pc.phase s ∧ ∀ u, u ≠ t → (s.thr u).pc.outside
  | .done => s.vals 1 (some (freshHandle 0)) (some icuMajor) ∧ ∀ u, (s.thr u).pc.reader

/-- the inductive invariant of the magic-static protocol -/
structure Inv (s : State) : Prop where
  logs  : ∀ u o, o ∈ (s.thr u).log → o = good
  guard : GuardInv s s.guard

theorem Inv.at {s : State} {g : Guard} (h : Inv s) (hg : s.guard = g) : GuardInv s g := hg ▸ h.guard

theorem inv_init (progs : List (List Call)) : Inv (init progs) :=
  ⟨fun _ _ ho => (nomatch ho), ⟨rfl, rfl, rfl⟩, fun _ => .inl rfl⟩

theorem inv_initDone (progs : List (List Call)) : Inv (initDone progs) :=
  ⟨fun _ _ ho => (nomatch ho), ⟨rfl, rfl, rfl⟩, fun _ => .inl (.inl rfl)⟩

@[simp] theorem setThr_guard (s : State) (t th) : (s.setThr t th).guard = s.guard := rfl
@[simp] theorem setThr_ptr (s : State) (t th) : (s.setThr t th).uidnaPtr = s.uidnaPtr := rfl
@[simp] theorem setThr_ver (s : State) (t th) : (s.setThr t th).icuVersion = s.icuVersion := rfl
@[simp] theorem setThr_count (s : State) (t th) : (s.setThr t th).initCount = s.initCount := rfl
@[simp] theorem setThr_thr (s : State) (t th u) :
    (s.setThr t th).thr u = if u = t then th else s.thr u := rfl

theorem phase_setThr (pc : Pc) (s : State) (t th) : pc.phase (s.setThr t th) = pc.phase s := rfl

theorem Pc.phase.not_reader {pc : Pc} {s : State} (h : pc.phase s) : ¬ pc.reader := by
  rcases h with ⟨h, _⟩ | ⟨h, _⟩ | ⟨h, _⟩ <;> simp [Pc.reader, Pc.outside, Pc.past, h]

/-- the invariant seen from one thread: it is outside, or holds the guard, or is past the released guard -/
theorem Inv.view {s : State} (h : Inv s) (t : Nat) :
    (s.thr t).pc.outside ∨ s.guard = .inProgress t ∧ (s.thr t).pc.phase s ∨ s.guard = .done ∧ (s.thr t).pc.past := by
  rcases hg : s.guard with _ | t' | _
  · exact .inl ((h.at hg).2 t)
  · by_cases htt : t = t'
    · exact .inr (.inl ⟨by rw [htt], htt ▸ (h.at hg).1⟩)
    · exact .inl ((h.at hg).2 t htt)
  · exact ((h.at hg).2 t).imp_right fun hp => .inr ⟨rfl, hp⟩

theorem inv_readVersion {s : State} (h : Inv s) {t : Nat} {a : Option Nat}
    (hpc : (s.thr t).pc = .readVersion a) : a = some (freshHandle 0) ∧ s.icuVersion = some icuMajor := by
  rcases h.view t with ho | ⟨_, hph⟩ | ⟨hg, hp⟩
  · simp [Pc.outside, hpc] at ho
  · simp [Pc.phase, hpc] at hph
  · exact ⟨by simpa [Pc.past, hpc] using hp, (h.at hg).1.2.2⟩

theorem logs_setThr {s : State} {t : Nat} {th : Thread} (h : Inv s) (hl : ∀ o ∈ th.log, o = good) (u : Nat) :
    ∀ o ∈ ((s.setThr t th).thr u).log, o = good := by
  rw [setThr_thr]; split
  · exact hl
  · exact h.logs u

/-- five of the nine kinds of step: a thread that is not inside the initialiser changes its own record only,
    and goes where the guard allows (the holder of the guard is inside the initialiser, so it is another thread) -/
theorem Inv.setThr {s : State} {t : Nat} (h : Inv s) (hr : (s.thr t).pc.reader) {th : Thread}
    (hlog : ∀ o ∈ th.log, o = good) (hpc : th.pc.outside ∨ (s.guard = .done ∧ th.pc.past)) :
    Inv (s.setThr t th) := by
  refine ⟨logs_setThr h hlog, ?_⟩
  show GuardInv _ s.guard
  have hg := h.guard
  have nr := @Pc.phase.not_reader
  cases hs : s.guard <;> simp only [hs, GuardInv, phase_setThr, State.vals, setThr_thr, setThr_count, setThr_ptr,
    setThr_ver, Pc.reader] at hg hpc ⊢ <;> grind

/-- the other four: the thread that takes, holds or releases the guard moves and writes the shared variables
    while all others are outside -/
theorem Inv.holderStep {s s' : State} {t : Nat} {th : Thread} (h : Inv s)
    (ho : ∀ u, u ≠ t → (s.thr u).pc.outside) (hthr : s'.thr = (s.setThr t th).thr)
    (hlog : th.log = (s.thr t).log)
    (hg : s'.guard = .inProgress t ∧ th.pc.phase s' ∨
      s'.guard = .done ∧ s'.vals 1 (some (freshHandle 0)) (some icuMajor) ∧ th.pc.past) : Inv s' := by
  refine ⟨fun u => hthr ▸ logs_setThr h (hlog ▸ h.logs t) u, ?_⟩
  rcases hg with ⟨hg, hph⟩ | ⟨hg, hv, hr⟩ <;> simp only [hg, GuardInv, hthr, setThr_thr, Pc.reader] <;> grind

theorem step_inv {s s' : State} {t : Nat} (h : Inv s) (hs : step .magicStatic s t = some s') : Inv s' := by
  rcases h.view t with ho | ⟨hg, hph⟩ | ⟨hg, hp⟩
  · have hr : (s.thr t).pc.reader := .inl ho
    rcases ho with hpc | hpc <;> simp only [step, hpc] at hs
    · -- `idle`: nothing left to do (no step), a `pure` call, or an `idna` call is begun
      split at hs <;> cases hs
      · exact h.setThr hr (h.logs t) (.inl (.inl rfl))
      · exact h.setThr hr (h.logs t) (.inl (.inr rfl))
    · -- `checkGuard`: the guard is released, or free and `t` takes it, or held (`t` is blocked: no step)
      split at hs <;> cases hs
      · exact h.setThr hr (h.logs t) (.inr ⟨‹_›, .inl rfl⟩)
      · obtain ⟨hv, ho⟩ := h.at ‹s.guard = .uninit›
        exact h.holderStep (fun u _ => ho u) rfl rfl (.inl ⟨rfl, .inl ⟨rfl, hv⟩⟩)
  · have ho := (h.at hg).2
    rcases hph with ⟨hpc, hc, hp, hv⟩ | ⟨hpc, hc, hp, hv⟩ | ⟨hpc, hv⟩ <;> simp only [step, hpc] at hs <;> cases hs
    · exact h.holderStep ho rfl rfl (.inl ⟨hg, .inr (.inl
        ⟨rfl, congrArg (· + 1) hc, congrArg (fun n => some (freshHandle n)) hc, hv⟩)⟩)
    · exact h.holderStep ho rfl rfl (.inl ⟨hg, .inr (.inr ⟨rfl, hc, hp, rfl⟩)⟩)
    · exact h.holderStep ho rfl rfl (.inr ⟨rfl, hv, .inl rfl⟩)
  · obtain ⟨⟨_, hptr, hv⟩, _⟩ := h.at hg
    rcases hp with hpc | hpc <;> simp only [step, hpc] at hs <;> cases hs
    · exact h.setThr (.inr (.inl hpc)) (h.logs t) (.inr ⟨hg, .inr (congrArg Pc.readVersion hptr)⟩)
    · refine h.setThr (.inr (.inr hpc)) (fun o ho => ?_) (.inl (.inl rfl))
      rcases List.mem_append.1 ho with ho | ho
      · exact h.logs t o ho
      · rw [List.mem_singleton.1 ho, hv]; rfl

theorem exec_nil (p : Proto) (s : State) : exec p s [] = s := rfl
theorem exec_cons (p : Proto) (s : State) (t : Nat) (r : List Nat) :
    exec p s (t :: r) = exec p ((step p s t).getD s) r := rfl
theorem exec_append (p : Proto) (s : State) (a b : List Nat) :
    exec p s (a ++ b) = exec p (exec p s a) b := by simp [exec, List.foldl_append]

theorem exec_inv {s : State} (h : Inv s) (sched : List Nat) : Inv (exec .magicStatic s sched) := by
  induction sched generalizing s with
  | nil => exact h
  | cons t r ih =>
    rw [exec_cons]
    cases hs : step .magicStatic s t with
    | none => exact ih h
    | some s' => exact ih (step_inv h hs)

/-- observation still owed by the call in progress -/
def pending (pc : Pc) : List Obs := if pc = .idle then [] else [good]

/-- what a thread has logged and computed so far, plus what its remaining calls mean sequentially,
    is the sequential meaning of its whole program -/
structure Track (prog0 : List Call) (th : Thread) : Prop where
  log  : th.log ++ pending th.pc ++ seqLog th.prog = seqLog prog0
  priv : seqPriv th.prog th.priv = seqPriv prog0 0

theorem track_init (progs : List (List Call)) (u : Nat) : Track (progs.getD u []) ((init progs).thr u) := by
  constructor <;> simp [init, pending]

theorem track_initDone (progs : List (List Call)) (u : Nat) :
    Track (progs.getD u []) ((initDone progs).thr u) := track_init progs u

theorem step_frame {p : Proto} {s s' : State} {t u : Nat} (hs : step p s t = some s') (hut : u ≠ t) :
    s'.thr u = s.thr u := by
  unfold step at hs
  simp only at hs
  repeat' split at hs
  all_goals cases hs <;> exact if_neg hut

theorem Track.of_eq {prog0 : List Call} {th th' : Thread} (ht : Track prog0 th)
    (hl : th'.log ++ pending th'.pc ++ seqLog th'.prog = th.log ++ pending th.pc ++ seqLog th.prog)
    (hp : seqPriv th'.prog th'.priv = seqPriv th.prog th.priv) : Track prog0 th' :=
  ⟨hl.trans ht.log, hp.trans ht.priv⟩

theorem step_track_self {s s' : State} {t : Nat} {prog0 : List Call} (h : Inv s)
    (hs : step .magicStatic s t = some s') (ht : Track prog0 (s.thr t)) : Track prog0 (s'.thr t) := by
  -- the one step that logs an observation logs the good one
  have hr := @inv_readVersion s h t
  unfold step at hs
  simp only at hs
  repeat' split at hs
  all_goals cases hs
  all_goals refine ht.of_eq ?_ ?_ <;> simp only [setThr_thr, if_true]
  all_goals simp_all [pending, seqLog, seqPriv, good]

theorem exec_track {s : State} {prog0 : Nat → List Call} (h : Inv s) (ht : ∀ u, Track (prog0 u) (s.thr u))
    (sched : List Nat) : ∀ u, Track (prog0 u) ((exec .magicStatic s sched).thr u) := by
  induction sched generalizing s with
  | nil => exact ht
  | cons t r ih =>
    rw [exec_cons]
    cases hs : step .magicStatic s t with
    | none => exact ih h ht
    | some s' =>
      refine ih (step_inv h hs) (fun u => ?_)
      by_cases hut : u = t
      · subst hut; exact step_track_self h hs (ht u)
      · show Track (prog0 u) (s'.thr u)
        rw [step_frame hs hut]; exact ht u

theorem track_finished {prog0 : List Call} {th : Thread} (ht : Track prog0 th) (hf : th.finished = true) :
    th.log = seqLog prog0 ∧ th.priv = seqPriv prog0 0 := by
  obtain ⟨h1, h2⟩ := ht
  simp only [Thread.finished, Bool.and_eq_true, beq_iff_eq, List.isEmpty_iff] at hf
  simp_all [pending, seqLog, seqPriv]

/-- the solo run: on an initialised state thread 0, scheduled alone, completes each call in `cost` steps -/
theorem solo_finish (prog : List Call) (s : State) (hg : s.guard = .done) (hpc : (s.thr 0).pc = .idle)
    (hp : (s.thr 0).prog = prog) :
    ((exec .magicStatic s (List.replicate (prog.map Call.cost).sum 0)).thr 0).finished = true := by
  induction prog generalizing s with
  | nil => simp [exec, Thread.finished, hpc, hp]
  | cons c r ih =>
    rw [List.map_cons, List.sum_cons, ← List.replicate_append_replicate, exec_append]
    -- after the `cost` steps of the first call thread 0 is idle again, with the rest of the program
    have e : ∀ s1, exec .magicStatic s (List.replicate c.cost 0) = s1 →
        s1.guard = .done ∧ (s1.thr 0).pc = .idle ∧ (s1.thr 0).prog = r := by
      rintro _ rfl
      cases c with
      | pure f => simp [Call.cost, exec, step, hpc, hp, hg, State.setThr]
      | idna => simp [Call.cost, exec, step, hpc, hp, hg, State.setThr, List.replicate]
    obtain ⟨e1, e2, e3⟩ := e _ rfl
    exact ih _ e1 e2 e3

/-- no deadlock: in a reachable state, if some thread is not finished then some thread can step
    (the holder of the guard is never blocked) -/
theorem inv_progress {s : State} (h : Inv s) {u : Nat} (hu : (s.thr u).finished = false) :
    ∃ t, (step .magicStatic s t).isSome = true := by
  have self : s.guard = .uninit ∨ s.guard = .done → (step .magicStatic s u).isSome = true := by
    intro hg
    simp only [Thread.finished] at hu
    cases hpc : (s.thr u).pc <;> rcases hg with hg | hg <;> simp [step, hpc, hg]
    all_goals cases hp : (s.thr u).prog with
      | nil => simp [hpc, hp] at hu
      | cons c r => cases c <;> simp
  rcases hg : s.guard with _ | t' | _
  · exact ⟨u, self (.inl hg)⟩
  · refine ⟨t', ?_⟩
    have := (h.at hg).1
    unfold step
    rcases this with h | h | h <;> simp [h.1]
  · exact ⟨u, self (.inr hg)⟩

theorem soloRun_eq (prog : List Call) :
    (soloRun prog).finished = true ∧ (soloRun prog).log = seqLog prog ∧ (soloRun prog).priv = seqPriv prog 0 := by
  have hf : (soloRun prog).finished = true :=
    solo_finish prog (initDone [prog]) rfl rfl rfl
  have ht := exec_track (inv_initDone [prog]) (track_initDone [prog])
    (List.replicate (prog.map Call.cost).sum 0) 0
  exact ⟨hf, track_finished ht hf⟩

end Upa.Impl.Conc
