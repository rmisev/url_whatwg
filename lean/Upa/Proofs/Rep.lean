import Upa.Impl.Rep
import Upa.Proofs.Radix
import Upa.Proofs.ListScan
/-
  A stored representation seen as a list of SEGMENTS (`mkRep`): the string is their concatenation,
  offset `i` is the total length of the first `i + 1` segments, and the offsets beyond the list are
  `0` (parts never started).  The layout of a record is presented by its eleven segments `segsOf u`
  (`layout_segs`), so a getter computed from offsets returns a segment, without its delimiter
  (`partView_mkRep`), or a run of segments (`slice_flatten`); these are then compared with the
  record-level getters.
-/
namespace Upa.Proofs.C05
open Upa Upa.Impl

/-! ### the named segments of the normalised string -/

/-- the serializer writes credentials -/
def credOn (u : Url) : Bool := u.host.isSome && u.hasCredentials

def sepSeg (u : Url) : List Nat := match u.host with | some _ => [0x2F, 0x2F] | none => []
def userSeg (u : Url) : List Nat := if credOn u then u.username else []
def passSeg (u : Url) : List Nat :=
  if credOn u then (if u.password ≠ [] then 0x3A :: u.password else []) else []
def atSeg (u : Url) : List Nat := if credOn u then [0x40] else []
def portSeg (u : Url) : List Nat :=
  match u.host with
  | some _ => (match u.port with | some p => 0x3A :: toDecimal p | none => [])
  | none => []
def prefixSeg (u : Url) : List Nat := if needsPathPrefix u then [0x2F, 0x2E] else []
def querySeg (u : Url) : List Nat := match u.query with | some q => 0x3F :: q | none => []
def fragSeg (u : Url) : List Nat := match u.fragment with | some f => 0x23 :: f | none => []

end Upa.Proofs.C05

namespace Upa.Proofs.SetRep
open Upa Upa.Impl Upa.Proofs.C05

/-! ### running end offsets of a list of segments -/

def sums : Nat → List (List Nat) → List Nat
  | _, [] => []
  | acc, s :: ss => (acc + s.length) :: sums (acc + s.length) ss

@[simp] theorem sums_nil (acc : Nat) : sums acc [] = [] := rfl
@[simp] theorem sums_cons (acc : Nat) (s : List Nat) (ss : List (List Nat)) :
    sums acc (s :: ss) = (acc + s.length) :: sums (acc + s.length) ss := rfl

@[simp] theorem sums_length (acc : Nat) (A : List (List Nat)) : (sums acc A).length = A.length := by
  induction A generalizing acc with
  | nil => rfl
  | cons s ss ih => simp [ih]

theorem sums_append (acc : Nat) (A B : List (List Nat)) :
    sums acc (A ++ B) = sums acc A ++ sums (acc + A.flatten.length) B := by
  induction A generalizing acc with
  | nil => simp
  | cons s ss ih => simp [ih, Nat.add_assoc]

theorem sums_length_cons (p s : List Nat) (ss : List (List Nat)) :
    sums p.length (s :: ss) = (p ++ s).length :: sums (p ++ s).length ss := by
  rw [sums_cons, List.length_append]

theorem sums_replicate_nil (acc m : Nat) : sums acc (List.replicate m []) = List.replicate m acc := by
  induction m with
  | zero => rfl
  | succ k ih => simp [List.replicate_succ, ih]

theorem sums_bounds (acc : Nat) (A : List (List Nat)) :
    ∀ x ∈ sums acc A, acc ≤ x ∧ x ≤ acc + A.flatten.length := by
  induction A generalizing acc with
  | nil => simp
  | cons s ss ih =>
    intro x hx
    simp only [sums_cons, List.mem_cons] at hx
    simp only [List.flatten_cons, List.length_append]
    rcases hx with h | h
    · omega
    · have := ih _ x h; omega

theorem sums_ge (acc : Nat) (A : List (List Nat)) : ∀ x ∈ sums acc A, acc ≤ x :=
  fun x hx => (sums_bounds acc A x hx).1

theorem sums_pairwise (acc : Nat) (A : List (List Nat)) : List.Pairwise (· ≤ ·) (sums acc A) := by
  induction A generalizing acc with
  | nil => exact List.Pairwise.nil
  | cons s ss ih => exact List.pairwise_cons.mpr ⟨sums_ge _ ss, ih _⟩

theorem sums_getD (acc : Nat) (A : List (List Nat)) (i : Nat) (h : i < A.length) :
    (sums acc A).getD i 0 = acc + ((A.take (i + 1)).flatten).length := by
  induction A generalizing acc i with
  | nil => simp at h
  | cons s ss ih =>
    cases i with
    | zero => simp
    | succ j =>
      simp only [List.length_cons] at h
      rw [sums_cons, List.getD_cons_succ, ih (acc + s.length) j (by omega)]
      simp only [List.take_succ_cons, List.flatten_cons, List.length_append]
      omega

theorem getD_replicate_zero (m i : Nat) : (List.replicate m 0).getD i 0 = 0 := by
  simp only [List.getD_eq_getElem?_getD, List.getElem?_replicate]
  split <;> rfl

/-! ### a representation given by segments -/

def mkRep (r0 : Rep) (A : List (List Nat)) : Rep :=
  { r0 with norm := A.flatten, partEnd := sums 0 A ++ List.replicate (11 - A.length) 0 }

/-- entry `i` of the offset table is `off A (i + 1)` (`pe_mkRep`); part `i` starts at `off A i` -/
def off (A : List (List Nat)) (n : Nat) : Nat := ((A.take n).flatten).length

theorem pe_mkRep (r0 : Rep) (A : List (List Nat)) (i : Nat) :
    (mkRep r0 A).pe i = if i < A.length then off A (i + 1) else 0 := by
  unfold Rep.pe mkRep off
  simp only
  split
  · next h =>
    rw [getD_append_left (by simpa using h), sums_getD 0 A i h]; simp
  · next h =>
    rw [getD_append_right (by simpa using h), getD_replicate_zero]

theorem pe_mkRep_lt (r0 : Rep) (A : List (List Nat)) (i : Nat) (h : i < A.length) :
    (mkRep r0 A).pe i = off A (i + 1) := by rw [pe_mkRep, if_pos h]

theorem pe_mkRep_ge (r0 : Rep) (A : List (List Nat)) (i : Nat) (h : A.length ≤ i) :
    (mkRep r0 A).pe i = 0 := by rw [pe_mkRep, if_neg (by omega)]

@[simp] theorem norm_mkRep (r0 : Rep) (A : List (List Nat)) : (mkRep r0 A).norm = A.flatten := rfl

theorem mkRep_congr {r0 r1 : Rep} {A B : List (List Nat)}
    (h1 : r0.hostNotNull = r1.hostNotNull) (h2 : r0.portNotNull = r1.portNotNull)
    (h3 : r0.queryNotNull = r1.queryNotNull) (h4 : r0.fragmentNotNull = r1.fragmentNotNull)
    (h5 : r0.opaquePath = r1.opaquePath) (h6 : r0.hostType = r1.hostType)
    (h7 : r0.segCount = r1.segCount) (h8 : r0.schemeIdx = r1.schemeIdx) (hA : A = B) :
    mkRep r0 A = mkRep r1 B := by
  subst hA
  simp only [mkRep, h1, h2, h3, h4, h5, h6, h7, h8]

/-- `r` and `r'` agree on every field but the string and the offsets (the two that `mkRep` overwrites): the
    flags, the host type, the segment count and the scheme index -/
def SameFields (r r' : Rep) : Prop := ∀ A, mkRep r A = mkRep r' A

theorem sameFields_of_nil {r r' : Rep} (h : mkRep r [] = mkRep r' []) : SameFields r r' := fun A =>
  (congrArg (fun x => mkRep x A) h : mkRep (mkRep r []) A = mkRep (mkRep r' []) A)

theorem rep_eq_mkRep {r r0 : Rep} {A : List (List Nat)} (hn : r.norm = A.flatten)
    (hp : r.partEnd = sums 0 A ++ List.replicate (11 - A.length) 0)
    (h1 : r.hostNotNull = r0.hostNotNull) (h2 : r.portNotNull = r0.portNotNull)
    (h3 : r.queryNotNull = r0.queryNotNull) (h4 : r.fragmentNotNull = r0.fragmentNotNull)
    (h5 : r.opaquePath = r0.opaquePath) (h6 : r.hostType = r0.hostType)
    (h7 : r.segCount = r0.segCount) (h8 : r.schemeIdx = r0.schemeIdx) : r = mkRep r0 A := by
  cases r
  simp only [mkRep] at *
  simp only [hn, hp, h1, h2, h3, h4, h5, h6, h7, h8]

theorem off_mono (S : List (List Nat)) {m n : Nat} (h : m ≤ n) : off S m ≤ off S n := by
  unfold off
  have e : n = m + (n - m) := by omega
  rw [e, List.take_add]
  simp only [List.flatten_append, List.length_append]
  omega

theorem off_succ_pos (A : List (List Nat)) (hpos : 0 < off A 1) {n : Nat} (hn : 1 ≤ n) : 0 < off A n :=
  Nat.lt_of_lt_of_le hpos (off_mono A hn)

/-- with a non-empty scheme, the started parts are those with a non-zero offset -/
theorem pe_mkRep_ne_zero_iff (r0 : Rep) (A : List (List Nat)) (hpos : 0 < off A 1) (i : Nat) :
    (mkRep r0 A).pe i ≠ 0 ↔ i < A.length := by
  rw [pe_mkRep]
  split
  · next h => exact ⟨fun _ => h, fun _ => Nat.ne_of_gt (off_succ_pos A hpos (by omega))⟩
  · next h => exact ⟨fun hc => absurd rfl hc, fun hc => absurd hc h⟩

theorem off_succ (A : List (List Nat)) (t : Nat) : off A (t + 1) = off A t + (A.getD t []).length := by
  unfold off
  rw [List.take_add_one, List.flatten_append, List.length_append, List.getD_eq_getElem?_getD]
  cases A[t]? <;> simp

/-! ### slices of a concatenation; the getters of a representation given by segments -/

theorem slice_eq {l a b c : List Nat} {i j : Nat}
    (hl : l = a ++ b ++ c) (hi : i = a.length) (hj : j = a.length + b.length) :
    slice l i j = b := by
  subst hl hi hj
  unfold slice
  rw [List.take_left' (by simp), List.drop_left' rfl]

theorem view_eq {l a b c : List Nat} {i j : Nat} (k : Nat)
    (hl : l = a ++ b ++ c) (hi : i = a.length) (hj : j = a.length + b.length) :
    (if j > i + k then slice l (i + k) j else []) = b.drop k := by
  subst hl hi hj
  unfold slice
  rw [List.take_left' (by simp), List.drop_append, List.drop_of_length_le (by omega),
    List.nil_append, Nat.add_sub_cancel_left]
  split
  · rfl
  · exact (List.drop_of_length_le (by omega)).symm

theorem slice_flatten (A : List (List Nat)) (i d : Nat) :
    slice A.flatten (off A i) (off A (i + d)) = ((A.drop i).take d).flatten := by
  have hA : A = A.take i ++ (A.drop i).take d ++ A.drop (i + d) := by
    rw [← List.take_add, List.take_append_drop]
  refine slice_eq (c := (A.drop (i + d)).flatten) ?_ rfl ?_
  · rw [← List.flatten_append, ← List.flatten_append, ← hA]
  · unfold off
    rw [List.take_add, List.flatten_append, List.length_append]

theorem slice_self (l : List Nat) (n : Nat) : slice l n n = [] := by
  unfold slice
  apply List.drop_eq_nil_of_le
  simp; omega

theorem slice_all (l : List Nat) : slice l 0 l.length = l := by
  unfold slice; simp

theorem flatten_split (A : List (List Nat)) (t : Nat) :
    A.flatten = (A.take t).flatten ++ A.getD t [] ++ (A.drop (t + 1)).flatten := by
  rw [List.getD_eq_getElem?_getD]
  conv => lhs; rw [← List.take_append_drop t A]
  rw [List.flatten_append, List.append_assoc]
  congr 1
  by_cases h : t < A.length
  · rw [List.drop_eq_getElem_cons h, List.getElem?_eq_getElem h]; rfl
  · rw [List.drop_of_length_le (by omega), List.drop_of_length_le (by omega),
      List.getElem?_eq_none (by omega)]; rfl

/-- `get_part_view` of a part other than the scheme: its segment without the delimiter (a part
    never started has offset `0` and no segment) -/
theorem partView_mkRep (r0 : Rep) (A : List (List Nat)) (t : Nat) (ht1 : 1 ≤ t) :
    (mkRep r0 A).partView t = (A.getD t []).drop (kPartStart.getD t 0) := by
  obtain ⟨m, rfl⟩ : ∃ m, t = m + 1 := ⟨t - 1, by omega⟩
  unfold Rep.partView
  rw [if_neg (by simp [SCHEME])]
  show (if (mkRep r0 A).pe (m + 1) > (mkRep r0 A).pe m + kPartStart.getD (m + 1) 0 then
    slice A.flatten ((mkRep r0 A).pe m + kPartStart.getD (m + 1) 0) ((mkRep r0 A).pe (m + 1))
    else []) = _
  by_cases ht : m + 1 < A.length
  · rw [pe_mkRep_lt _ _ _ ht, pe_mkRep_lt _ _ m (by omega)]
    exact view_eq _ (flatten_split A (m + 1)) rfl (off_succ A (m + 1))
  · rw [pe_mkRep_ge _ _ _ (by omega), if_neg (Nat.not_lt_zero _), getD_of_length_le (l := A) (by omega),
      List.drop_nil]

theorem partView_scheme_mkRep (r0 : Rep) (A : List (List Nat)) (hA : 0 < A.length) :
    (mkRep r0 A).partView SCHEME = A.getD 0 [] := by
  unfold Rep.partView
  rw [if_pos rfl, pe_mkRep_lt _ _ _ hA]
  exact slice_eq (a := []) (flatten_split A 0) rfl (off_succ A 0)

theorem isEmpty_mkRep (r0 : Rep) (A : List (List Nat)) (t : Nat) (ht1 : 1 ≤ t) :
    (mkRep r0 A).isEmpty t = decide ((A.getD t []).length ≤ kPartStart.getD t 0) := by
  obtain ⟨m, rfl⟩ : ∃ m, t = m + 1 := ⟨t - 1, by omega⟩
  unfold Rep.isEmpty
  rw [if_neg (by simp [SCHEME])]
  show decide ((mkRep r0 A).pe m + kPartStart.getD (m + 1) 0 ≥ (mkRep r0 A).pe (m + 1)) = _
  by_cases ht : m + 1 < A.length
  · rw [pe_mkRep_lt _ _ _ ht, pe_mkRep_lt _ _ m (by omega), off_succ A (m + 1)]
    apply decide_eq_decide.mpr
    omega
  · rw [pe_mkRep_ge _ _ (m + 1) (by omega), getD_of_length_le (l := A) (by omega)]
    simp

/-! ### the segments of a record -/

def segsOf (u : Url) : List (List Nat) :=
  [u.scheme, 0x3A :: sepSeg u, userSeg u, passSeg u, atSeg u, u.hostText, portSeg u, prefixSeg u,
   pathText u, querySeg u, fragSeg u]

/-- `layout` writes the eleven segments one after the other and records where each ends.  Offsets
    are compared as lengths of the same prefixes of the string (`sums_length_cons`), so no
    arithmetic is left. -/
theorem layout_segs (u : Url) :
    (layout u).norm = (segsOf u).flatten ∧ (layout u).partEnd = sums 0 (segsOf u) := by
  show _ ∧ _ = sums ([] : List Nat).length _
  unfold layout segsOf sepSeg userSeg passSeg atSeg portSeg prefixSeg querySeg fragSeg credOn
    Url.hostText
  cases hh : u.host with
  | none =>
    simp only [List.flatten_cons, List.flatten_nil, List.append_assoc, List.cons_append,
      List.nil_append, List.append_nil, sums_length_cons, sums_nil, Option.isSome_none,
      Bool.false_and, Bool.false_eq_true, if_false]
    exact ⟨rfl, rfl⟩
  | some h =>
    cases hp : u.port <;> by_cases hc : u.hasCredentials <;> by_cases hw : u.password = [] <;> (
      simp only [hc, hw, if_true, if_false, ne_eq, not_true_eq_false, not_false_eq_true,
        List.flatten_cons, List.flatten_nil, List.append_assoc, List.cons_append, List.nil_append,
        List.append_nil, sums_length_cons, sums_nil, Option.isSome_some, Bool.true_and,
        Bool.false_eq_true]
      exact ⟨rfl, rfl⟩)

theorem layout_norm (u : Url) : (layout u).norm = (segsOf u).flatten := (layout_segs u).1

theorem mkRep_segsOf (u : Url) : mkRep (layout u) (segsOf u) = layout u :=
  (rep_eq_mkRep (layout_segs u).1 ((layout_segs u).2.trans (List.append_nil _).symm)
    rfl rfl rfl rfl rfl rfl rfl rfl).symm

theorem pe_layout (u : Url) (i : Nat) (h : i < 11) : (layout u).pe i = off (segsOf u) (i + 1) := by
  rw [← mkRep_segsOf u]; exact pe_mkRep_lt _ _ i h

/-- the ":" after the scheme is always there -/
theorem pe_layout_pos (u : Url) (i : Nat) (h1 : 1 ≤ i) (h : i < 11) : (layout u).pe i ≠ 0 := by
  rw [pe_layout u i h]
  have := off_mono (segsOf u) (m := 2) (n := i + 1) (by omega)
  have h2 : 0 < off (segsOf u) 2 := by simp [off, segsOf]; omega
  omega

theorem partView_layout (u : Url) (t : Nat) (ht1 : 1 ≤ t) :
    (layout u).partView t = ((segsOf u).getD t []).drop (kPartStart.getD t 0) := by
  rw [← mkRep_segsOf u]; exact partView_mkRep _ _ t ht1

theorem isEmpty_layout (u : Url) (t : Nat) (ht1 : 1 ≤ t) :
    (layout u).isEmpty t = decide (((segsOf u).getD t []).length ≤ kPartStart.getD t 0) := by
  rw [← mkRep_segsOf u]; exact isEmpty_mkRep _ _ t ht1

theorem slice_layout (u : Url) (i d : Nat) :
    slice (layout u).norm (off (segsOf u) i) (off (segsOf u) (i + d)) =
      (((segsOf u).drop i).take d).flatten := by
  rw [layout_norm]; exact slice_flatten _ i d

end Upa.Proofs.SetRep

namespace Upa.Proofs.C05
open Upa Upa.Impl Upa.Proofs.SetRep

/-! ### well-formedness of a record needed by the offset getters

  * `protocol()` returns the empty string when the scheme is empty (url.h: `pe SCHEME ≠ 0 ? … : 0`),
    the record getter returns ":".
  * with a null host the string has no authority, so there is no place for username, password or
    port; the parser never produces such records.
  Nothing is required of the path fields (`pathText` reads only the field selected by
  `hasOpaquePath`), nor of query / fragment. -/
def RecWF (u : Url) : Prop :=
  u.scheme ≠ [] ∧ (u.host = none → u.username = [] ∧ u.password = [] ∧ u.port = none)

instance (u : Url) : Decidable (RecWF u) := by unfold RecWF; infer_instance

/-! ### the getters of a layout, in segments -/

theorem protocol_eq (u : Url) (h : u.scheme ≠ []) : (layout u).protocol = getProtocol u := by
  unfold Rep.protocol
  have h0 : (layout u).pe SCHEME ≠ 0 := by
    rw [pe_layout u _ (by decide)]
    simpa [off, segsOf] using h
  rw [if_pos h0, pe_layout u _ (by decide), layout_norm]
  exact slice_eq (a := []) (c := (sepSeg u :: (segsOf u).drop 2).flatten)
    (by simp [segsOf, getProtocol]) rfl (by simp [off, segsOf, getProtocol])

theorem username_seg (u : Url) : (layout u).username = userSeg u :=
  partView_layout u USERNAME (by decide)

theorem password_seg (u : Url) : (layout u).password = (passSeg u).drop 1 :=
  partView_layout u PASSWORD (by decide)

theorem hostname_seg (u : Url) : (layout u).hostname = u.hostText :=
  partView_layout u HOST (by decide)

theorem port_seg (u : Url) : (layout u).port = (portSeg u).drop 1 :=
  partView_layout u PORT (by decide)

theorem pathname_seg (u : Url) : (layout u).pathname = pathText u :=
  partView_layout u PATH (by decide)

theorem partView_scheme_layout (u : Url) : (layout u).partView SCHEME = u.scheme := by
  rw [← mkRep_segsOf u]; exact partView_scheme_mkRep _ _ (Nat.zero_lt_succ 10)

theorem partView_query_layout (u : Url) : (layout u).partView QUERY = (querySeg u).drop 1 :=
  partView_layout u QUERY (by decide)

theorem partView_fragment_layout (u : Url) : (layout u).partView FRAGMENT = (fragSeg u).drop 1 :=
  partView_layout u FRAGMENT (by decide)

theorem host_seg (u : Url) :
    (layout u).host = if u.host.isNone then [] else u.hostText ++ portSeg u := by
  unfold Rep.host
  show (if (!u.host.isSome) = true then [] else slice (layout u).norm ((layout u).pe HOST_START)
    (if (!u.port.isSome) = true then (layout u).pe HOST else (layout u).pe PORT)) = _
  cases hh : u.host with
  | none => rfl
  | some h =>
    have e : (if (!u.port.isSome) = true then (layout u).pe HOST else (layout u).pe PORT) =
        (layout u).pe PORT := by
      cases hp : u.port with
      | none =>
        rw [pe_layout u PORT (by decide), off_succ, ← pe_layout u HOST (by decide)]
        simp [segsOf, portSeg, hp, hh]
      | some p => rfl
    rw [e, pe_layout u _ (by decide), pe_layout u _ (by decide)]
    exact (slice_layout u 5 2).trans (by simp [segsOf])

theorem path_seg (u : Url) : (layout u).path = pathText u ++ querySeg u := by
  have hq := pe_layout_pos u QUERY (by decide) (by decide)
  unfold Rep.path
  show (if (if (layout u).pe QUERY ≠ 0 then (layout u).pe QUERY else (layout u).pe PATH) ≠ 0 then
    slice (layout u).norm ((layout u).pe PATH_PREFIX)
      (if (layout u).pe QUERY ≠ 0 then (layout u).pe QUERY else (layout u).pe PATH) else []) = _
  rw [if_pos hq, if_pos hq, pe_layout u _ (by decide), pe_layout u _ (by decide)]
  exact (slice_layout u 8 2).trans (by simp [segsOf])

theorem search_seg (u : Url) :
    (layout u).search = if (querySeg u).length ≤ 1 then [] else querySeg u := by
  unfold Rep.search
  rw [isEmpty_layout u QUERY (by decide), pe_layout u _ (by decide),
    pe_layout u _ (by decide)]
  show (if decide ((querySeg u).length ≤ 1) = true then [] else
    slice (layout u).norm (off (segsOf u) 9) (off (segsOf u) (9 + 1))) = _
  rw [slice_layout]
  simp [segsOf]

theorem hash_seg (u : Url) :
    (layout u).hash = if (fragSeg u).length ≤ 1 then [] else fragSeg u := by
  unfold Rep.hash
  rw [isEmpty_layout u FRAGMENT (by decide), pe_layout u _ (by decide),
    pe_layout u _ (by decide)]
  show (if decide ((fragSeg u).length ≤ 1) = true then [] else
    slice (layout u).norm (off (segsOf u) 10) (off (segsOf u) (10 + 1))) = _
  rw [slice_layout]
  simp [segsOf]

theorem serializeNoFragment_seg (u : Url) :
    (layout u).serializeNoFragment = ((segsOf u).take 10).flatten := by
  have hf := pe_layout_pos u FRAGMENT (by decide) (by decide)
  unfold Rep.serializeNoFragment
  rw [if_pos hf, pe_layout u _ (by decide)]
  exact slice_layout u 0 10

/-! ### segments vs. the record-level serializer and getters -/

theorem hasCredentials_false {u : Url} (h : u.hasCredentials = false) :
    u.username = [] ∧ u.password = [] := by
  simpa [Url.hasCredentials] using h

theorem serialize_segs (u : Url) (x : Bool) :
    serialize u x = ((segsOf u).take 10).flatten ++ (if x then [] else fragSeg u) := by
  unfold serialize segsOf sepSeg userSeg passSeg atSeg portSeg prefixSeg querySeg fragSeg credOn
    Url.hostText
  cases hh : u.host with
  | none => simp; rfl
  | some h => cases hc : u.hasCredentials <;> simp <;> rfl

theorem serialize_true_seg (u : Url) : serialize u true = ((segsOf u).take 10).flatten := by
  rw [serialize_segs]; exact List.append_nil _

theorem serialize_false_seg (u : Url) : serialize u false = (segsOf u).flatten := by
  rw [serialize_segs]; simp [segsOf]

theorem userSeg_eq (u : Url) (h : u.host = none → u.username = []) : userSeg u = u.username := by
  unfold userSeg credOn
  cases hh : u.host with
  | none => simp [h hh]
  | some x =>
    cases hc : u.hasCredentials with
    | true => simp
    | false => simp [(hasCredentials_false hc).1]

theorem passSeg_eq (u : Url) (h : u.host = none → u.password = []) :
    (passSeg u).drop 1 = u.password := by
  unfold passSeg credOn
  cases hh : u.host with
  | none => simp [h hh]
  | some x =>
    cases hc : u.hasCredentials with
    | true => by_cases hw : u.password = [] <;> simp [hw]
    | false => simp [(hasCredentials_false hc).2]

theorem portSeg_eq (u : Url) (h : u.host = none → u.port = none) :
    (portSeg u).drop 1 = getPort u := by
  unfold portSeg getPort
  cases hh : u.host with
  | none => simp [h hh]
  | some x => cases hp : u.port <;> simp

theorem portSeg_eq_nil {u : Url} (wf : RecWF u) (h : portSeg u = []) : u.port = none := by
  cases hh : u.host with
  | none => exact (wf.2 hh).2.2
  | some x =>
    cases hp : u.port with
    | none => rfl
    | some p => simp [portSeg, hh, hp] at h

theorem getHost_seg (u : Url) :
    getHost u = if u.host.isNone then [] else u.hostText ++ portSeg u := by
  unfold getHost portSeg Url.hostText
  cases hh : u.host with
  | none => simp
  | some x => cases hp : u.port <;> simp

theorem getSearch_seg (u : Url) :
    getSearch u = if (querySeg u).length ≤ 1 then [] else querySeg u := by
  unfold getSearch querySeg
  cases hq : u.query with
  | none => simp
  | some q => cases q <;> simp

theorem getHash_seg (u : Url) :
    getHash u = if (fragSeg u).length ≤ 1 then [] else fragSeg u := by
  unfold getHash fragSeg
  cases hq : u.fragment with
  | none => simp
  | some q => cases q <;> simp

theorem getPath_seg (u : Url) : getPath u = pathText u ++ querySeg u := rfl

/-! ### `RecWF` is necessary -/

theorem protocol_nil_scheme (u : Url) (h : u.scheme = []) : (layout u).protocol = [] := by
  unfold Rep.protocol
  rw [pe_layout u _ (by decide)]
  simp [off, segsOf, h, slice]

theorem recWF_of_getters (u : Url)
    (hpr : (layout u).protocol = getProtocol u) (hu : (layout u).username = u.username)
    (hpw : (layout u).password = u.password) (hpo : (layout u).port = getPort u) : RecWF u := by
  refine ⟨?_, ?_⟩
  · intro hs
    rw [protocol_nil_scheme u hs] at hpr
    simp [getProtocol] at hpr
  · intro hh
    rw [username_seg] at hu
    rw [password_seg] at hpw
    rw [port_seg] at hpo
    refine ⟨?_, ?_, ?_⟩
    · rw [← hu]; simp [userSeg, credOn, hh]
    · rw [← hpw]; simp [passSeg, credOn, hh]
    · cases hp : u.port with
      | none => rfl
      | some p =>
        exfalso
        have : getPort u = [] := by rw [← hpo]; simp [portSeg, hh]
        rw [getPort, hp] at this
        exact Radix.toDecimal_ne_nil p this

end Upa.Proofs.C05

/-! ### the text of a list path

  `ptext p` is the spelling of the serialised list path in the statements about the stored string
  (`Rep`, `SetRep*`, `ParseRep*`; the model writes it as `pathText u` with `u.hasOpaquePath = false`:
  `pathText_ptext`; the setter's path buffer as `(slashed p).flatten`: `SetRep.slashed_flatten`).  The
  record-level modules write the `flatMap` out (`Reparse` also has `joinSegs`, the same without the first "/"). -/

namespace Upa.Proofs.ParseRep
open Upa Upa.Impl

/-- the serialisation of a list path -/
def ptext (p : List (List Nat)) : List Nat := p.flatMap (fun seg => 0x2F :: seg)

def NoSlash (p : List (List Nat)) : Prop := ∀ seg ∈ p, ∀ c ∈ seg, c ≠ 0x2F

/-- what `wantPrefix_eq` asks of a path: its first segment does not begin with "/" -/
theorem NoSlash.head {p : List (List Nat)} (h : NoSlash p) : p.head?.bind List.head? ≠ some 0x2F := by
  match p with
  | [] => simp
  | [] :: _ => simp
  | (c :: cs) :: t => simpa using h (c :: cs) List.mem_cons_self c List.mem_cons_self

theorem ptext_append (p : List (List Nat)) (seg : List Nat) : ptext (p ++ [seg]) = ptext p ++ 0x2F :: seg := by
  simp [ptext]

theorem ptext_eq_nil {p : List (List Nat)} (h : ptext p = []) : p = [] := by
  cases p with
  | nil => rfl
  | cons a b => simp [ptext] at h

theorem pathText_ptext {u : Url} (ho : u.hasOpaquePath = false) : pathText u = ptext u.path := by
  simp [pathText, ho, ptext]

end Upa.Proofs.ParseRep
