import Upa.Impl.Url
import Upa.Proofs.Percent
/-
  What the head of the encode loop's output says about the input, for any no-encode set: an element other than
  `%` is an input element; a `%XX` triplet is an encoded byte; an encoder that keeps `.` never makes one of the
  dot tokens `.`, `%2e`, `%2E`, so a dot segment in the output was one in the input.  The encoder never shortens
  (`enc_length`), so its fixpoints are the strings it keeps element by element (`C02.percentEncode_fix_iff`).
-/
namespace Upa.Proofs.C02b
open Upa Upa.Impl

theorem isPctChar_lt {x : Nat} (h : C08.isPctChar x = true) : x < 128 := by
  simp only [C08.isPctChar, Bool.or_eq_true, beq_iff_eq, C14.isUpperHex_iff] at h; omega

/-- one step of the encode loop: the element is kept, or a `%XX` triplet of an encoded byte starts -/
theorem enc_cons_cases (noEnc : Nat → Bool) (c : Nat) (cs : List Nat) :
    (c < 0x80 ∧ noEnc c = true ∧ percentEncode noEnc (c :: cs) = c :: percentEncode noEnc cs) ∨
    (∃ b t, percentEncode noEnc (c :: cs) =
        0x25 :: hexDigitUpper (b / 16) :: hexDigitUpper (b % 16) :: (t ++ percentEncode noEnc cs) ∧
      b < 256 ∧ (0x80 ≤ b ∨ (b = c ∧ noEnc c = false))) := by
  rw [C14.percentEncode_cons]
  by_cases h : c ≥ 0x80
  · right
    obtain ⟨b, t, he, hb1, hb2, _⟩ := Impl.encodeUtf8Char_bytes c h
    rw [if_pos h]
    refine ⟨b, t.flatMap pctByte, ?_, hb2, Or.inl (by omega)⟩
    simp [pctEncodeChar, he, pctByte]
  · rw [if_neg h]
    cases hn : noEnc c with
    | true => left; exact ⟨by omega, rfl, by simp⟩
    | false =>
      right
      exact ⟨c, [], by simp [pctByte], by omega, Or.inr ⟨rfl, rfl⟩⟩

theorem enc_eq_nil {noEnc : Nat → Bool} {s : List Nat} (h : percentEncode noEnc s = []) : s = [] := by
  cases s with
  | nil => rfl
  | cons c cs => rcases enc_cons_cases noEnc c cs with ⟨_, _, e⟩ | ⟨b, t, e, _⟩ <;> rw [e] at h <;> cases h

theorem enc_head_other (noEnc : Nat → Bool) (c : Nat) (cs : List Nat) (k : Nat) (t : List Nat)
    (hk : k ≠ 0x25) (h : percentEncode noEnc (c :: cs) = k :: t) :
    c = k ∧ percentEncode noEnc cs = t := by
  rcases enc_cons_cases noEnc c cs with ⟨_, _, he⟩ | ⟨b, rest, he, _⟩
  · rw [he] at h
    simp only [List.cons.injEq] at h
    exact h
  · rw [he] at h
    simp only [List.cons.injEq] at h
    omega

theorem hexUpper_32 : ∀ n, n < 16 → hexDigitUpper n = 0x32 → n = 2 := by decide
theorem hexUpper_e : ∀ n, n < 16 → (hexDigitUpper n ||| 0x20) = 0x65 → n = 14 := by decide

/-- `%2e` / `%2E` in the output of an encoder that keeps `.` was `%2e` / `%2E` in the input: such an encoder
    never produces this triplet -/
theorem enc_head_escdot (f : Nat → Bool) (hdot : f 0x2E = true) (c : Nat) (cs : List Nat) (x : Nat) (t : List Nat)
    (hx : (x ||| 0x20) = 0x65)
    (h : percentEncode f (c :: cs) = 0x25 :: 0x32 :: x :: t) :
    c = 0x25 ∧ percentEncode f cs = 0x32 :: x :: t := by
  rcases enc_cons_cases f c cs with ⟨_, _, he⟩ | ⟨b, rest, he, hb, hc⟩
  · rw [he] at h
    simp only [List.cons.injEq] at h
    exact h
  · exfalso
    rw [he] at h
    simp only [List.cons.injEq, true_and] at h
    obtain ⟨h1, h2, _⟩ := h
    have a1 := hexUpper_32 (b / 16) (by omega) h1
    have a2 := hexUpper_e (b % 16) (by omega) (by rw [h2]; exact hx)
    have hb' : b = 0x2E := by omega
    rcases hc with hc | ⟨hc, hn⟩
    · omega
    · rw [← hc, hb', hdot] at hn
      cases hn

/-- strings made of the tokens `.`, `%2e`, `%2E` -/
def dotToks : List Nat → Bool
  | [] => true
  | a :: t =>
    if a = 0x2E then dotToks t
    else
      match t with
      | b :: x :: t' => a == 0x25 && b == 0x32 && (x ||| 0x20) == 0x65 && dotToks t'
      | _ => false

theorem dotToks_dot (t : List Nat) : dotToks (0x2E :: t) = dotToks t := by
  rw [dotToks.eq_def]; simp

theorem enc_dotToks (f : Nat → Bool) (hdot : f 0x2E = true) : ∀ (pat seg : List Nat), dotToks pat = true →
    percentEncode f seg = pat → seg = pat := by
  intro pat
  induction pat using dotToks.induct with
  | case1 => intro seg _ h; exact enc_eq_nil h
  | case2 t ih =>
    intro seg hd h
    rw [dotToks_dot] at hd
    cases seg with
    | nil => simp [percentEncode] at h
    | cons c cs =>
      obtain ⟨h1, h2⟩ := enc_head_other _ c cs _ t (by decide) h
      rw [h1, ih cs hd h2]
  | case3 a ha b x t' ih =>
    intro seg hd h
    simp only [dotToks, if_neg ha, Bool.and_eq_true, beq_iff_eq] at hd
    obtain ⟨⟨⟨rfl, rfl⟩, hx⟩, hd⟩ := hd
    cases seg with
    | nil => simp [percentEncode] at h
    | cons c cs =>
      obtain ⟨h1, h2⟩ := enc_head_escdot f hdot c cs x t' hx h
      cases cs with
      | nil => simp [percentEncode] at h2
      | cons c2 cs2 =>
        obtain ⟨h3, h4⟩ := enc_head_other _ c2 cs2 _ _ (by decide) h2
        cases cs2 with
        | nil => simp [percentEncode] at h4
        | cons c3 cs3 =>
          have hx25 : x ≠ 0x25 := by
            intro hh; subst hh; exact absurd hx (by decide)
          obtain ⟨h5, h6⟩ := enc_head_other _ c3 cs3 _ _ hx25 h4
          rw [h1, h3, h5, ih cs3 hd h6]
  | case4 a t ha hne =>
    intro seg hd h
    exfalso
    rcases t with _ | ⟨b, _ | ⟨x, t'⟩⟩
    · simp [dotToks, ha] at hd
    · simp [dotToks, ha] at hd
    · exact hne b x t' rfl

/-! ### dot tokens: the code's dot-segment tests strip one token at a time -/

theorem or20 (c : Nat) : (c ||| 0x20 = 0x65) ↔ (c = 0x65 ∨ c = 0x45) := by
  by_cases h : c ≤ 0x65
  · revert h; revert c; decide +kernel
  · have := @Nat.left_le_or c 0x20
    omega

def stripDot : List Nat → Option (List Nat)
  | [] => none
  | a :: r =>
    if a = 0x2E then some r
    else if a = 0x25 then
      match r with
      | b :: c :: r' => if b = 0x32 ∧ (c = 0x65 ∨ c = 0x45) then some r' else none
      | _ => none
    else none

theorem stripDot_eq_some {s r : List Nat} : stripDot s = some r ↔
    s = 0x2E :: r ∨ s = 0x25 :: 0x32 :: 0x65 :: r ∨ s = 0x25 :: 0x32 :: 0x45 :: r := by
  constructor
  · fun_cases stripDot s
    case case2 t => intro h; cases h; exact .inl rfl
    case case3 b c t hc _ =>
      intro h; cases h
      obtain ⟨rfl, rfl | rfl⟩ := hc
      · exact .inr (.inl rfl)
      · exact .inr (.inr rfl)
    all_goals exact nofun
  · rintro (rfl | rfl | rfl) <;> rfl

theorem stripDot_escaped {a b c : Nat} (r : List Nat) (h : escapedDot [a, b, c] = true) :
    stripDot (a :: b :: c :: r) = some r := by
  simp only [escapedDot, Bool.and_eq_true, beq_iff_eq, or20] at h
  obtain ⟨⟨rfl, rfl⟩, rfl | rfl⟩ := h <;> rfl

theorem singleDot_iff (s : List Nat) : singleDot s = true ↔ stripDot s = some [] := by
  constructor
  · intro h
    unfold singleDot at h
    split at h
    · rw [beq_iff_eq.1 h]; rfl
    · exact stripDot_escaped [] h
    · cases h
  · intro h
    rcases stripDot_eq_some.1 h with rfl | rfl | rfl <;> rfl

/-- the code's test by length and position: a dot token, then a single-dot segment -/
theorem doubleDot_iff (s : List Nat) :
    doubleDot s = true ↔ ∃ r, stripDot s = some r ∧ singleDot r = true := by
  constructor
  · intro h
    unfold doubleDot at h
    split at h
    · next a b =>
      simp only [Bool.and_eq_true, beq_iff_eq] at h
      obtain ⟨rfl, rfl⟩ := h
      exact ⟨_, rfl, rfl⟩
    · next a b c d =>
      simp only [Bool.or_eq_true, Bool.and_eq_true, beq_iff_eq] at h
      rcases h with ⟨rfl, h⟩ | ⟨h, rfl⟩
      · exact ⟨_, rfl, h⟩
      · exact ⟨_, stripDot_escaped _ h, rfl⟩
    · next a b c d e f =>
      rw [Bool.and_eq_true] at h
      exact ⟨_, stripDot_escaped _ h.1, h.2⟩
    · cases h
  · rintro ⟨r, h1, h2⟩
    rcases stripDot_eq_some.1 h1 with rfl | rfl | rfl <;>
      rcases stripDot_eq_some.1 ((singleDot_iff r).1 h2) with rfl | rfl | rfl <;> rfl

theorem dotToks_of_strip {s r : List Nat} (h : stripDot s = some r) (hr : dotToks r = true) : dotToks s = true := by
  rcases stripDot_eq_some.1 h with rfl | rfl | rfl
  · rw [dotToks_dot]; exact hr
  · simp [dotToks, hr]
  · simp [dotToks, hr]

theorem singleDot_toks (s : List Nat) (h : singleDot s = true) : dotToks s = true :=
  dotToks_of_strip ((singleDot_iff s).1 h) rfl

theorem doubleDot_toks (s : List Nat) (h : doubleDot s = true) : dotToks s = true := by
  obtain ⟨r, h1, h2⟩ := (doubleDot_iff s).1 h
  exact dotToks_of_strip h1 (singleDot_toks r h2)

/-- a text made of dot tokens is ASCII: the two tests of parse_path for a dot segment accept ASCII texts only -/
theorem dotToks_ascii : ∀ s : List Nat, dotToks s = true → ∀ c ∈ s, c < 0x80 := by
  intro s
  fun_induction dotToks s with
  | case1 => exact fun _ _ hc => nomatch hc
  | case2 t ih =>
    intro h
    exact List.forall_mem_cons.2 ⟨by decide, ih h⟩
  | case3 a _ b x t' ih =>
    intro h
    simp only [Bool.and_eq_true, beq_iff_eq] at h
    obtain ⟨⟨⟨rfl, rfl⟩, hx⟩, ht⟩ := h
    have hx' : x ||| 0x20 < 0x80 := hx ▸ by decide
    exact List.forall_mem_cons.2 ⟨by decide, List.forall_mem_cons.2 ⟨by decide,
      List.forall_mem_cons.2 ⟨Nat.lt_of_le_of_lt Nat.left_le_or hx', ih ht⟩⟩⟩
  | case4 => exact fun h => nomatch h

theorem singleDot_ascii (s : List Nat) (h : Impl.singleDot s = true) : ∀ c ∈ s, c < 0x80 :=
  dotToks_ascii s (singleDot_toks s h)

theorem doubleDot_ascii (s : List Nat) (h : Impl.doubleDot s = true) : ∀ c ∈ s, c < 0x80 :=
  dotToks_ascii s (doubleDot_toks s h)

/-! ### fix-points, and the dot segments an encoder can make -/

/-- the piece the encode loop appends for one element is the element itself, kept, or at least a `%XX` -/
theorem enc_cons_length (f : Nat → Bool) (c : Nat) (cs : List Nat) :
    (c < 0x80 ∧ f c = true ∧ percentEncode f (c :: cs) = c :: percentEncode f cs) ∨
      (percentEncode f cs).length + 3 ≤ (percentEncode f (c :: cs)).length := by
  rcases enc_cons_cases f c cs with h | ⟨b, t, he, _⟩
  · exact Or.inl h
  · rw [he]; simp only [List.length_cons, List.length_append]; exact Or.inr (by omega)

theorem enc_length (f : Nat → Bool) : ∀ t : List Nat, t.length ≤ (percentEncode f t).length ∧
    ((percentEncode f t).length = t.length → ∀ c ∈ t, c < 0x80 ∧ f c = true) := by
  intro t
  induction t with
  | nil => exact ⟨Nat.le_refl _, fun _ c hc => nomatch hc⟩
  | cons d ds ih =>
    rcases enc_cons_length f d ds with ⟨h1, h2, he⟩ | hl
    · rw [he]
      simp only [List.length_cons]
      refine ⟨by omega, fun h c hc => ?_⟩
      rcases List.mem_cons.1 hc with rfl | hc
      · exact ⟨h1, h2⟩
      · exact ih.2 (by omega) c hc
    · simp only [List.length_cons]
      exact ⟨by omega, fun h => by omega⟩

theorem enc_fix_keeps (f : Nat → Bool) (t : List Nat) (h : percentEncode f t = t) :
    ∀ c ∈ t, c < 0x80 ∧ f c = true := (enc_length f t).2 (congrArg List.length h)

/-- an encoder that keeps `.` and escapes `%` makes a dot segment only of "." and "..": a dot segment in the
    output was in the input (`enc_dotToks`), so the input is a fix-point and contains no `%` -/
theorem enc_singleDot (f : Nat → Bool) (hdot : f 0x2E = true) (hpct : f 0x25 = false) (t : List Nat) :
    singleDot (percentEncode f t) = true ↔ t = [0x2E] := by
  constructor
  · intro h
    have e := enc_dotToks f hdot _ t (singleDot_toks _ h) rfl
    have hk := enc_fix_keeps f t e.symm
    rw [← e] at h
    unfold singleDot at h
    split at h
    · simpa using h
    · have := (hk _ List.mem_cons_self).2
      simp only [escapedDot, Bool.and_eq_true, beq_iff_eq] at h
      rw [h.1.1, hpct] at this; cases this
    · cases h
  · rintro rfl
    rw [C14.percentEncode_ascii_noenc f _ _ (by omega) hdot]
    rfl

theorem enc_doubleDot (f : Nat → Bool) (hdot : f 0x2E = true) (hpct : f 0x25 = false) (t : List Nat) :
    doubleDot (percentEncode f t) = true ↔ t = [0x2E, 0x2E] := by
  constructor
  · intro h
    have e := enc_dotToks f hdot _ t (doubleDot_toks _ h) rfl
    have hk := enc_fix_keeps f t e.symm
    have hno : 0x25 ∉ t := fun hm => by rw [(hk _ hm).2] at hpct; cases hpct
    rw [← e] at h
    unfold doubleDot at h
    split at h
    · simpa using h
    · simp only [escapedDot, Bool.and_eq_true, Bool.or_eq_true, beq_iff_eq] at h
      exact absurd (by simp only [List.mem_cons]; omega) hno
    · simp only [escapedDot, Bool.and_eq_true, beq_iff_eq] at h
      exact absurd (by simp only [List.mem_cons]; omega) hno
    · cases h
  · rintro rfl
    rw [C14.percentEncode_ascii_noenc f _ _ (by omega) hdot, C14.percentEncode_ascii_noenc f _ _ (by omega) hdot]
    rfl

end Upa.Proofs.C02b

namespace Upa.Proofs.C02
open Upa Upa.Impl

/-- the fixpoints of `percentEncode noEnc`, for any set, are exactly the strings over the ASCII members of the
    no-encode set: any other element makes the output longer -/
theorem percentEncode_fix_iff (noEnc : Nat → Bool) (s : List Nat) :
    percentEncode noEnc s = s ↔ ∀ c ∈ s, keeps noEnc c = true :=
  ⟨fun h c hc => keeps_iff.2 (C02b.enc_fix_keeps noEnc s h c hc), C14.percentEncode_keeps noEnc s⟩

theorem percentEncodeC0_fix_iff (s : List Nat) :
    percentEncodeC0 s = s ↔ ∀ c ∈ s, 0x1F < c ∧ c < 0x7F := by
  rw [C14.percentEncodeC0_eq, percentEncode_fix_iff]
  refine forall_congr' fun c => imp_congr_right fun _ => ?_
  simp [keeps, C14.noEncode_c0]; omega

theorem percentEncodeC0_keeps (s : List Nat) (h : ∀ c ∈ s, 0x1F < c ∧ c < 0x7F) : percentEncodeC0 s = s :=
  (percentEncodeC0_fix_iff s).2 h

end Upa.Proofs.C02
