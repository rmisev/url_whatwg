import Upa.Impl.Percent
import Upa.Spec.Percent
import Upa.Proofs.AsciiHom
import Upa.Proofs.CharClass
import Upa.Proofs.Literal
/-
  C14: percent_encode / encode_url_component / percent_decode (include/upa/url_percent_encode.h:563-602) and the
  loops they run (`detail::append_percent_encoded_byte` … `append_percent_decoded`, :449-547).
  Encoding is compared with the Standard's UTF-8 percent-encode one character at a time (`pctPiece`; `encOne`
  is the piece with the UTF-8 bound as a parameter, for the C0 loop and the Bounds* encoders); its output is a
  word over `PctWord`, on which re-encoding is the identity.  Decoding: the library decodes each run of
  escapes into a buffer and repairs the runs separately; `aux_eq` shows that this is ONE repair of the
  Standard's string percent-decode, because a well-formed sequence ends every pending ill-formed one
  (`decode_scalar_split`).
  Also here, each under the namespace of the property whose theorems are stated with it: `C02.keeps` (the
  elements the encode loop leaves as they are), `C15.hex2` / `pctVal` / `pd_cons` (the two-digit lookahead, shared
  with the form parser), `C08.isPctChar` and `percentEncode_all` (the output alphabet as a `List.all` test).
-/
namespace Upa.Proofs.C14

def isUpperHex (c : Nat) : Bool :=
  (decide (0x30 ≤ c) && decide (c ≤ 0x39)) || (decide (0x41 ≤ c) && decide (c ≤ 0x46))

theorem isUpperHex_iff (c : Nat) :
    isUpperHex c = true ↔ ((0x30 ≤ c ∧ c ≤ 0x39) ∨ (0x41 ≤ c ∧ c ≤ 0x46)) := by
  simp [isUpperHex]

theorem isHex_of_upper (c : Nat) (h : isUpperHex c = true) : isHex c = true := by
  rw [isUpperHex_iff] at h; rw [isHex_iff]; omega

theorem hexDigitUpper_tbl : ∀ n, n < 16 →
    isUpperHex (hexDigitUpper n) = true ∧ isHex (hexDigitUpper n) = true ∧
      hexVal (hexDigitUpper n) = n := by decide

/-- `%XX` decodes to the byte it was made from -/
theorem pctByte_val (b : Nat) (hb : b < 256) :
    hexVal (hexDigitUpper (b / 16)) * 16 + hexVal (hexDigitUpper (b % 16)) = b := by
  rw [(hexDigitUpper_tbl (b / 16) (by omega)).2.2, (hexDigitUpper_tbl (b % 16) (by omega)).2.2]
  omega

theorem scalar_le (c : Nat) (h : Spec.isScalar c = true) : c ≤ 0x10FFFF := ((Impl.isScalar_iff c).1 h).1

theorem utf8EncodeChar_ascii (c : Nat) (h : c < 0x80) : Spec.utf8EncodeChar c = [c] := by
  unfold Spec.utf8EncodeChar; rw [if_pos (by omega)]

/-! ## the encode loop, one character at a time -/

theorem percentEncode_cons (noEnc : Nat → Bool) (c : Nat) (cs : List Nat) :
    Impl.percentEncode noEnc (c :: cs) =
      (if c ≥ 0x80 then Impl.pctEncodeChar c else if noEnc c then [c] else pctByte c) ++
        Impl.percentEncode noEnc cs := rfl

theorem percentEncodeC0_cons (c : Nat) (cs : List Nat) :
    Impl.percentEncodeC0 (c :: cs) =
      (if c ≥ 0x7F then Impl.pctEncodeChar c else if c ≤ 0x1F then pctByte c else [c]) ++
        Impl.percentEncodeC0 cs := rfl

theorem pctEncodeChar_ascii (c : Nat) (h : c < 0x80) : Impl.pctEncodeChar c = pctByte c := by
  unfold Impl.pctEncodeChar; rw [Impl.encodeUtf8Char_ascii c h]; simp

/-- what the encode loop appends for one element -/
def pctPiece (noEnc : Nat → Bool) (c : Nat) : List Nat :=
  if c ≥ 0x80 then Impl.pctEncodeChar c else if noEnc c then [c] else pctByte c

theorem percentEncode_cons_piece (noEnc : Nat → Bool) (c : Nat) (cs : List Nat) :
    Impl.percentEncode noEnc (c :: cs) = pctPiece noEnc c ++ Impl.percentEncode noEnc cs := rfl

theorem pctPiece_eq (noEnc : Nat → Bool) (c : Nat) : pctPiece noEnc c = Impl.percentEncode noEnc [c] :=
  (List.append_nil _).symm

theorem percentEncode_flatMap (noEnc : Nat → Bool) (s : List Nat) :
    Impl.percentEncode noEnc s = s.flatMap (pctPiece noEnc) := by
  induction s with
  | nil => rfl
  | cons c cs ih => rw [percentEncode_cons_piece, ih, List.flatMap_cons]

/-- what one iteration of the list models appends for the scalar value `c`, with the bound `hi` from which it is
    encoded as UTF-8 and the test `kf` below it: the form the three encoders share -/
def encOne (hi : Nat) (kf : Nat → Bool) (c : Nat) : List Nat :=
  if c ≥ hi then Impl.pctEncodeChar c else if kf c then [c] else pctByte c

theorem pctPiece_eq_encOne (noEnc : Nat → Bool) : pctPiece noEnc = encOne 0x80 noEnc := rfl

theorem percentEncodeC0_flatMap (s : List Nat) :
    Impl.percentEncodeC0 s = s.flatMap (encOne 0x7F (fun c => decide (¬ c ≤ 0x1F))) := by
  induction s with
  | nil => rfl
  | cons c cs ih =>
    rw [percentEncodeC0_cons, ih, List.flatMap_cons]
    congr 1
    unfold encOne
    by_cases h1 : c ≥ 0x7F
    · rw [if_pos h1, if_pos h1]
    · rw [if_neg h1, if_neg h1]
      by_cases h2 : c ≤ 0x1F
      · simp [h2]
      · simp [h2]

theorem percentEncode_append (noEnc : Nat → Bool) (a b : List Nat) :
    Impl.percentEncode noEnc (a ++ b) = Impl.percentEncode noEnc a ++ Impl.percentEncode noEnc b := by
  simp only [percentEncode_flatMap, List.flatMap_append]

theorem pctEncodeChar_head (c : Nat) : ∃ t, Impl.pctEncodeChar c = 0x25 :: t := by
  unfold Impl.pctEncodeChar Impl.encodeUtf8Char
  split
  · exact ⟨_, rfl⟩
  · split
    · exact ⟨_, rfl⟩
    · split <;> exact ⟨_, rfl⟩

/-- one step of the library loop = UTF-8 percent-encode of one scalar value -/
theorem encode_char_eq (inSet : Nat → Bool) (c : Nat) (hc : c ≤ 0x10FFFF)
    (hset : ∀ c, c ≥ 0x80 → inSet c = true) :
    pctPiece (Spec.noEncode inSet) c = Spec.utf8PercentEncodeChar inSet c := by
  unfold pctPiece Spec.utf8PercentEncodeChar
  by_cases h : c ≥ 0x80
  · rw [if_pos h, hset c h, if_pos rfl]
    unfold Impl.pctEncodeChar
    rw [Impl.encodeUtf8Char_eq c hc]
  · rw [if_neg h]
    have h256 : c < 256 := by omega
    cases hin : inSet c
    · simp [Spec.noEncode, hin, h256]
    · simp [Spec.noEncode, hin, utf8EncodeChar_ascii c (by omega)]

theorem percentEncode_eq_spec (inSet : Nat → Bool) (hset : ∀ c, c ≥ 0x80 → inSet c = true) :
    ∀ s : List Nat, (∀ c ∈ s, Spec.isScalar c = true) →
      Impl.percentEncode (Spec.noEncode inSet) s = Spec.utf8PercentEncode inSet s := by
  intro s hs
  rw [percentEncode_flatMap]
  exact Impl.flatMap_congr fun c hc => encode_char_eq inSet c (scalar_le c (hs c hc)) hset

theorem c0_hi (c : Nat) (h : c ≥ 0x80) : Spec.c0ControlSet c = true := by
  simp [Spec.c0ControlSet]; omega

theorem noEncode_c0 (c : Nat) : Spec.noEncode Spec.c0ControlSet c = (decide (0x1F < c) && decide (c < 0x7F)) := by
  rw [Bool.eq_iff_iff]; simp [Spec.noEncode, Spec.c0ControlSet]; omega

/-- The C0-control loop (`uch >= 0x7f` / `uc <= 0x1f` spelled out) is the general loop with the C0 control
    set: U+007F is in the set and its UTF-8 form is the single byte 7F. -/
theorem c0_char (c : Nat) :
    (if c ≥ 0x7F then Impl.pctEncodeChar c else if c ≤ 0x1F then pctByte c else [c]) =
      pctPiece (Spec.noEncode Spec.c0ControlSet) c := by
  unfold pctPiece
  rw [noEncode_c0]
  by_cases h80 : c ≥ 0x80
  · rw [if_pos h80, if_pos (by omega)]
  · rw [if_neg h80]
    by_cases h7F : c ≥ 0x7F
    · rw [if_pos h7F, pctEncodeChar_ascii c (by omega), if_neg (by simp; omega)]
    · rw [if_neg h7F]
      by_cases h1F : c ≤ 0x1F
      · rw [if_pos h1F, if_neg (by simp; omega)]
      · rw [if_neg h1F, if_pos (by simp; omega)]

theorem percentEncodeC0_eq (s : List Nat) :
    Impl.percentEncodeC0 s = Impl.percentEncode (Spec.noEncode Spec.c0ControlSet) s := by
  induction s with
  | nil => rfl
  | cons c cs ih => rw [percentEncodeC0_cons, c0_char, ih]; rfl

theorem c0_char_eq (c : Nat) (hc : c ≤ 0x10FFFF) :
    (if c ≥ 0x7F then Impl.pctEncodeChar c else if c ≤ 0x1F then pctByte c else [c]) =
      Spec.utf8PercentEncodeChar Spec.c0ControlSet c :=
  (c0_char c).trans (encode_char_eq Spec.c0ControlSet c hc c0_hi)

theorem percentEncodeC0_eq_spec :
    ∀ s : List Nat, (∀ c ∈ s, Spec.isScalar c = true) →
      Impl.percentEncodeC0 s = Spec.utf8PercentEncode Spec.c0ControlSet s :=
  fun s hs => (percentEncodeC0_eq s).trans (percentEncode_eq_spec Spec.c0ControlSet c0_hi s hs)

end Upa.Proofs.C14

namespace Upa.Proofs.C02
/-- `c` is kept as it is by `percentEncode noEnc` (ASCII and a member of the no-encode set);
    a string is a fixpoint of `percentEncode noEnc` iff all its elements are (`percentEncode_fix_iff`) -/
def keeps (noEnc : Nat → Bool) (c : Nat) : Bool := decide (c < 0x80) && noEnc c

theorem keeps_iff {noEnc : Nat → Bool} {c : Nat} : keeps noEnc c = true ↔ c < 0x80 ∧ noEnc c = true := by
  simp only [keeps, Bool.and_eq_true, decide_eq_true_eq]
end Upa.Proofs.C02

namespace Upa.Proofs.C14

/-! ## the output alphabet -/

/-- a concatenation of single elements `c` with `ok c` and triplets `%` `h1` `h2` with `h1`, `h2`
    upper-case hex digits -/
inductive PctWord (ok : Nat → Bool) : List Nat → Prop
  | nil : PctWord ok []
  | single (c : Nat) (w : List Nat) : ok c = true → PctWord ok w → PctWord ok (c :: w)
  | triplet (h1 h2 : Nat) (w : List Nat) : isUpperHex h1 = true → isUpperHex h2 = true →
      PctWord ok w → PctWord ok (0x25 :: h1 :: h2 :: w)

theorem PctWord.append {ok : Nat → Bool} {a b : List Nat} (ha : PctWord ok a) (hb : PctWord ok b) :
    PctWord ok (a ++ b) := by
  induction ha with
  | nil => exact hb
  | single c w hc _ ih => exact PctWord.single c _ hc ih
  | triplet h1 h2 w hh1 hh2 _ ih => exact PctWord.triplet h1 h2 _ hh1 hh2 ih

theorem PctWord.mono {ok ok' : Nat → Bool} (h : ∀ c, ok c = true → ok' c = true) {w : List Nat}
    (hw : PctWord ok w) : PctWord ok' w := by
  induction hw with
  | nil => exact PctWord.nil
  | single c w hc _ ih => exact PctWord.single c _ (h c hc) ih
  | triplet h1 h2 w hh1 hh2 _ ih => exact PctWord.triplet h1 h2 _ hh1 hh2 ih

theorem PctWord.forall {ok : Nat → Bool} {P : Nat → Prop} (hok : ∀ c, ok c = true → P c)
    (h25 : P 0x25) (hhex : ∀ c, isUpperHex c = true → P c) {w : List Nat}
    (hw : PctWord ok w) : ∀ x ∈ w, P x := by
  induction hw with
  | nil => intro x hx; simp at hx
  | single c w hc _ ih =>
    intro x hx
    rcases List.mem_cons.1 hx with rfl | hx
    · exact hok _ hc
    · exact ih x hx
  | triplet h1 h2 w hh1 hh2 _ ih =>
    intro x hx
    simp only [List.mem_cons] at hx
    rcases hx with rfl | rfl | rfl | hx
    · exact h25
    · exact hhex _ hh1
    · exact hhex _ hh2
    · exact ih x hx

theorem pctByte_word (ok : Nat → Bool) (b : Nat) (hb : b < 256) : PctWord ok (pctByte b) :=
  PctWord.triplet _ _ [] (hexDigitUpper_tbl (b / 16) (by omega)).1
    (hexDigitUpper_tbl (b % 16) (by omega)).1 PctWord.nil

theorem flatMap_pctByte_word (ok : Nat → Bool) (l : List Nat) (hl : ∀ x ∈ l, x < 256) :
    PctWord ok (l.flatMap pctByte) := by
  induction l with
  | nil => exact PctWord.nil
  | cons b l ih =>
    rw [List.flatMap_cons]
    exact (pctByte_word ok b (hl b List.mem_cons_self)).append
      (ih (fun x hx => hl x (List.mem_cons_of_mem _ hx)))

theorem pctEncodeChar_pctWord (ok : Nat → Bool) (c : Nat) : PctWord ok (Impl.pctEncodeChar c) :=
  flatMap_pctByte_word ok _ (Impl.encodeUtf8Char_lt256 c)

/-- A piece is the element itself, kept, or a word of `%XX` triplets.  Every UTF-8 byte the model emits is
    a byte for ANY number (`Impl.encodeUtf8Char_lt256`), so nothing is asked of `c`. -/
theorem pctPiece_cases (noEnc : Nat → Bool) (c : Nat) :
    (C02.keeps noEnc c = true ∧ pctPiece noEnc c = [c]) ∨
    (C02.keeps noEnc c = false ∧ PctWord (fun _ => false) (pctPiece noEnc c) ∧
      ∃ t, pctPiece noEnc c = 0x25 :: t) := by
  unfold pctPiece C02.keeps
  by_cases h : c ≥ 0x80
  · rw [if_pos h]
    exact Or.inr ⟨by simp; omega, pctEncodeChar_pctWord _ c, pctEncodeChar_head c⟩
  · rw [if_neg h]
    cases hn : noEnc c
    · exact Or.inr ⟨by simp, pctByte_word _ c (by omega), _, rfl⟩
    · exact Or.inl ⟨by simp; omega, rfl⟩

/-- the output alphabet element by element: a kept element of the input, `%`, or an upper-case hex digit
    (`C08.percentEncode_chars` is the same with `isPctChar` and `keeps` unpacked) -/
theorem mem_percentEncode {noEnc : Nat → Bool} {s : List Nat} {x : Nat}
    (hx : x ∈ Impl.percentEncode noEnc s) :
    (x ∈ s ∧ C02.keeps noEnc x = true) ∨ x = 0x25 ∨ isUpperHex x = true := by
  rw [percentEncode_flatMap, List.mem_flatMap] at hx
  obtain ⟨c, hc, hx⟩ := hx
  rcases pctPiece_cases noEnc c with ⟨hk, hp⟩ | ⟨_, hw, _⟩
  · rw [hp, List.mem_singleton] at hx; subst hx; exact Or.inl ⟨hc, hk⟩
  · exact Or.inr (hw.forall (P := fun x => x = 0x25 ∨ isUpperHex x = true) (fun _ h => by cases h)
      (Or.inl rfl) (fun _ h => Or.inr h) x hx)

/-- THE statement of the output alphabet: a word of kept elements and `%XX` triplets; what holds of every element
    follows by `PctWord.forall` (`percentEncode_lt`).  `mem_percentEncode` above adds that a kept element occurs in the
    input; `C08.percentEncode_chars` / `percentEncode_all` below are that in the `isPctChar` / `List.all` form. -/
theorem percentEncode_pctWord (noEnc : Nat → Bool) (s : List Nat) :
    PctWord (C02.keeps noEnc) (Impl.percentEncode noEnc s) := by
  rw [percentEncode_flatMap]
  induction s with
  | nil => exact PctWord.nil
  | cons c cs ih =>
    rw [List.flatMap_cons]
    refine PctWord.append ?_ ih
    rcases pctPiece_cases noEnc c with ⟨hk, hp⟩ | ⟨_, hw, _⟩
    · rw [hp]; exact PctWord.single c [] hk PctWord.nil
    · exact hw.mono (fun _ h => by cases h)

theorem percentEncode_lt (noEnc : Nat → Bool) (s : List Nat) : ∀ x ∈ Impl.percentEncode noEnc s, x < 0x80 :=
  (percentEncode_pctWord noEnc s).forall
    (fun c hc => (C02.keeps_iff.1 hc).1)
    (by decide) (fun c hc => isHex_lt c (isHex_of_upper c hc))

/-! ## re-encoding a word over the no-encode alphabet is the identity -/

theorem percentEncode_ascii_noenc (noEnc : Nat → Bool) (c : Nat) (cs : List Nat) (h : c < 0x80)
    (hn : noEnc c = true) : Impl.percentEncode noEnc (c :: cs) = c :: Impl.percentEncode noEnc cs := by
  rw [percentEncode_cons, if_neg (by omega), hn]; rfl

theorem percentEncode_keeps (noEnc : Nat → Bool) (s : List Nat) (h : ∀ c ∈ s, C02.keeps noEnc c = true) :
    Impl.percentEncode noEnc s = s := by
  induction s with
  | nil => rfl
  | cons c cs ih =>
    have hc := C02.keeps_iff.1 (h c List.mem_cons_self)
    rw [percentEncode_ascii_noenc noEnc c cs hc.1 hc.2, ih (fun x hx => h x (List.mem_cons_of_mem _ hx))]

theorem percentEncode_fix (noEnc : Nat → Bool) (hpct : noEnc 0x25 = true)
    (hhex : ∀ c, isHex c = true → noEnc c = true) {w : List Nat}
    (hw : PctWord (C02.keeps noEnc) w) : Impl.percentEncode noEnc w = w :=
  percentEncode_keeps noEnc w (hw.forall (fun _ h => h) (C02.keeps_iff.2 ⟨by decide, hpct⟩)
    (fun c h => C02.keeps_iff.2 ⟨isHex_lt c (isHex_of_upper c h), hhex c (isHex_of_upper c h)⟩))

theorem noEncode_hex (set : Nat → Bool) (h : ∀ c, isHex c = true → set c = false) :
    ∀ c, isHex c = true → Spec.noEncode set c = true := by
  intro c hc
  have := isHex_lt c hc
  simp [Spec.noEncode, h c hc]; omega

theorem c0_hex (c : Nat) (h : isHex c = true) : Spec.c0ControlSet c = false := by
  rw [isHex_iff] at h; simp [Spec.c0ControlSet]; omega
theorem fragment_hex (c : Nat) (h : isHex c = true) : Spec.fragmentSet c = false := by
  have := c0_hex c h; rw [isHex_iff] at h; simp [Spec.fragmentSet, this]; omega
theorem query_hex (c : Nat) (h : isHex c = true) : Spec.querySet c = false := by
  have := c0_hex c h; rw [isHex_iff] at h; simp [Spec.querySet, this]; omega
theorem specialQuery_hex (c : Nat) (h : isHex c = true) : Spec.specialQuerySet c = false := by
  have := query_hex c h; rw [isHex_iff] at h; simp [Spec.specialQuerySet, this]; omega
theorem path_hex (c : Nat) (h : isHex c = true) : Spec.pathSet c = false := by
  have := query_hex c h; rw [isHex_iff] at h; simp [Spec.pathSet, this]; omega
theorem userinfo_hex (c : Nat) (h : isHex c = true) : Spec.userinfoSet c = false := by
  have := path_hex c h; rw [isHex_iff] at h; simp [Spec.userinfoSet, this]; omega

theorem percentEncode_idem (noEnc : Nat → Bool) (s : List Nat) (h25 : noEnc 0x25 = true)
    (hhex : ∀ c, isHex c = true → noEnc c = true) :
    Impl.percentEncode noEnc (Impl.percentEncode noEnc s) = Impl.percentEncode noEnc s :=
  percentEncode_fix noEnc h25 hhex (percentEncode_pctWord noEnc s)

theorem percentEncodeC0_idem (s : List Nat) :
    Impl.percentEncodeC0 (Impl.percentEncodeC0 s) = Impl.percentEncodeC0 s := by
  rw [percentEncodeC0_eq, percentEncodeC0_eq]
  exact percentEncode_idem _ s (by decide) (noEncode_hex _ c0_hex)

end Upa.Proofs.C14

/-! ## the decode loops, one element at a time

  `Impl.percentDecodeAux`, `Spec.percentDecodeBytes` (and `Impl.formParseAux`, Upa/Proofs/Form.lean) match on
  `c :: r@(h1 :: h2 :: r')` and are compiled by well-founded recursion; each gets ONE equation for `c :: r`, with the
  lookahead as a function of `r`.  `decide`, `decide +kernel`, `rfl` cannot evaluate them: closed instances go through
  their fuel-driven copies (`Proofs.Eval.percentDecode_eq_fuel`, `C15.pd_eq_pdK`, Upa/Proofs/EvalFuel.lean). -/

namespace Upa.Proofs.C15

/-- two hex digits follow -/
def hex2 : List Nat → Bool
  | h1 :: h2 :: _ => isHex h1 && isHex h2
  | _ => false

/-- value of the two digits that follow -/
def pctVal : List Nat → Nat
  | h1 :: h2 :: _ => hexVal h1 * 16 + hexVal h2
  | _ => 0

theorem pd_nil : Spec.percentDecodeBytes [] = [] := by simp [Spec.percentDecodeBytes]

theorem pd_cons (b : Nat) (r : List Nat) :
    Spec.percentDecodeBytes (b :: r) =
      if b = 0x25 ∧ hex2 r = true then pctVal r :: Spec.percentDecodeBytes (r.drop 2)
      else b :: Spec.percentDecodeBytes r := by
  match r with
  | [] => simp [Spec.percentDecodeBytes, hex2]
  | [h1] => simp [Spec.percentDecodeBytes, hex2]
  | h1 :: h2 :: r' =>
    simp only [Spec.percentDecodeBytes, hex2, pctVal, List.drop_succ_cons, List.drop_zero, Bool.and_eq_true]

end Upa.Proofs.C15

namespace Upa.Proofs.C14
export Upa.Proofs.C15 (hex2 pctVal)
open Upa.Proofs.C15 (pd_nil pd_cons)

theorem hex2_true (r : List Nat) (h : hex2 r = true) :
    ∃ h1 h2 r', r = h1 :: h2 :: r' ∧ isHex h1 = true ∧ isHex h2 = true := by
  match r with
  | [] => simp [hex2] at h
  | [x] => simp [hex2] at h
  | h1 :: h2 :: r' =>
    simp only [hex2, Bool.and_eq_true] at h
    exact ⟨h1, h2, r', rfl, h.1, h.2⟩

theorem aux_none_nil : Impl.percentDecodeAux none [] = [] := by simp [Impl.percentDecodeAux]
theorem aux_some_nil (buf : List Nat) : Impl.percentDecodeAux (some buf) [] = Impl.checkFixUtf8 buf := by
  simp [Impl.percentDecodeAux]

/-- outside a run of escapes -/
theorem aux_none_cons (c : Nat) (r : List Nat) :
    Impl.percentDecodeAux none (c :: r) =
      if c = 0x25 ∧ hex2 r = true then
        if pctVal r < 0x80 then pctVal r :: Impl.percentDecodeAux none (r.drop 2)
        else Impl.percentDecodeAux (some [pctVal r]) (r.drop 2)
      else Impl.encodeUtf8Char c ++ Impl.percentDecodeAux none r := by
  by_cases h : c < 0x80
  · rw [Impl.encodeUtf8Char_ascii c h]
    by_cases h25 : c = 0x25
    · rcases r with _ | ⟨h1, _ | ⟨h2, r'⟩⟩ <;> simp [Impl.percentDecodeAux, hex2, pctVal, h25]
    · rcases r with _ | ⟨h1, _ | ⟨h2, r'⟩⟩ <;> simp [Impl.percentDecodeAux, h, h25]
  · have h25 : c ≠ 0x25 := by omega
    rcases r with _ | ⟨h1, _ | ⟨h2, r'⟩⟩ <;> simp [Impl.percentDecodeAux, h, h25]

/-- inside a run whose decoded bytes so far are `buf` -/
theorem aux_some_cons (buf : List Nat) (c : Nat) (r : List Nat) :
    Impl.percentDecodeAux (some buf) (c :: r) =
      if c = 0x25 then
        if hex2 r = true then Impl.percentDecodeAux (some (buf ++ [pctVal r])) (r.drop 2)
        else Impl.percentDecodeAux (some (buf ++ [0x25])) r
      else Impl.checkFixUtf8 buf ++ (Impl.encodeUtf8Char c ++ Impl.percentDecodeAux none r) := by
  by_cases h25 : c = 0x25
  · rcases r with _ | ⟨h1, _ | ⟨h2, r'⟩⟩ <;> simp [Impl.percentDecodeAux, hex2, pctVal, h25]
  · by_cases h : c < 0x80
    · rw [Impl.encodeUtf8Char_ascii c h]
      rcases r with _ | ⟨h1, _ | ⟨h2, r'⟩⟩ <;> simp [Impl.percentDecodeAux, h, h25]
    · rcases r with _ | ⟨h1, _ | ⟨h2, r'⟩⟩ <;> simp [Impl.percentDecodeAux, h, h25]

/-! ## a byte that is not a continuation byte ends every pending sequence -/
open Upa.Impl (nonTrail)

theorem utf8EncodeChar_head (c : Nat) (hc : c ≤ 0x10FFFF) :
    ∃ b t, Spec.utf8EncodeChar c = b :: t ∧ nonTrail b := by
  by_cases h : c < 0x80
  · exact ⟨c, [], utf8EncodeChar_ascii c h, Or.inl h⟩
  · obtain ⟨b, t, e, h1, h2, _⟩ := Impl.utf8EncodeChar_bytes c (by omega)
    exact ⟨b, t, e, Or.inr ⟨by omega, by have := h2 hc; omega⟩⟩

/-- decoding distributes over a well-formed sequence, whatever precedes it (a pending incomplete
    sequence in `a` is closed as one U+FFFD by the lead byte of `c`) -/
theorem decode_scalar_split (c : Nat) (hc : Spec.isScalar c = true) (b : List Nat) (a : List Nat) :
    Impl.decode .u8 (a ++ (Spec.utf8EncodeChar c ++ b)) =
      Impl.decode .u8 a ++ c :: Impl.decode .u8 b := by
  obtain ⟨b0, t, e, hnt⟩ := utf8EncodeChar_head c (scalar_le c hc)
  exact Impl.decode_split .u8 _ b c (Impl.utf8EncodeChar_ne_nil c) (Impl.readU8_encode c b hc)
    (fun a ha => by rw [e]; exact Impl.readU8_append a b0 (t ++ b) ha hnt) a

theorem decode_scalar_cons (c : Nat) (hc : Spec.isScalar c = true) (b : List Nat) :
    Impl.decode .u8 (Spec.utf8EncodeChar c ++ b) = c :: Impl.decode .u8 b := by
  have := decode_scalar_split c hc b []
  rwa [List.nil_append, Impl.decode_nil, List.nil_append] at this

/-! ## the Standard's string percent-decode, one scalar value at a time -/

theorem pdb_append (l rest : List Nat) (hl : ∀ x ∈ l, x ≠ 0x25) :
    Spec.percentDecodeBytes (l ++ rest) = l ++ Spec.percentDecodeBytes rest := by
  induction l with
  | nil => rfl
  | cons x l ih =>
    rw [List.cons_append, pd_cons, if_neg (fun h => hl x List.mem_cons_self h.1),
      ih (fun y hy => hl y (List.mem_cons_of_mem _ hy))]
    rfl

theorem utf8EncodeChar_no_pct (c : Nat) (h : c ≠ 0x25) : ∀ x ∈ Spec.utf8EncodeChar c, x ≠ 0x25 := by
  by_cases h80 : c < 0x80
  · rw [utf8EncodeChar_ascii c h80]; intro x hx; simp at hx; omega
  · obtain ⟨b, t, e, _, _, ht⟩ := Impl.utf8EncodeChar_bytes c (by omega)
    rw [e]; intro x hx
    rcases List.mem_cons.1 hx with rfl | hx
    · omega
    · have := ht x hx; omega

theorem utf8Encode_cons (c : Nat) (r : List Nat) :
    Spec.utf8Encode (c :: r) = Spec.utf8EncodeChar c ++ Spec.utf8Encode r := by
  simp [Spec.utf8Encode]

theorem hex2_cons_nonhex (b : Nat) (t : List Nat) (h : isHex b = false) : hex2 (b :: t) = false := by
  cases t with
  | nil => rfl
  | cons x t => simp [hex2, h]

/-- the two-hex-digit lookahead sees the same before and after a map that keeps the ASCII units in place -/
theorem _root_.Upa.Proofs.C10b.AsciiHom.hex2_eq {T : List Nat → List Nat}
    (h : C10b.AsciiHom T) (l : List Nat) : hex2 (T l) = hex2 l := by
  have nonhex : ∀ {x : Nat}, ¬ x < 0x80 → isHex x = false := fun {x} hx =>
    Bool.eq_false_iff.2 fun hh => hx (isHex_lt x hh)
  have hi : ∀ x r, ¬ x < 0x80 → hex2 (T (x :: r)) = false ∧ isHex x = false := by
    intro x r hx
    obtain ⟨y, t, e, hy⟩ := h.head x r hx
    exact ⟨by rw [e, hex2_cons_nonhex y t (nonhex hy)], nonhex hx⟩
  match l with
  | [] => rw [h.nil]
  | x :: r =>
    by_cases hx : x < 0x80
    · rw [h.cons hx]
      match r with
      | [] => rw [h.nil]
      | y :: r' =>
        by_cases hy : y < 0x80
        · rw [h.cons hy]; rfl
        · obtain ⟨y', t, e, hy'⟩ := h.head y r' hy
          rw [e]; simp [hex2, nonhex hy, nonhex hy']
    · rw [(hi x r hx).1, hex2_cons_nonhex x r (hi x r hx).2]

theorem hex2_utf8Encode (r : List Nat) : hex2 (Spec.utf8Encode r) = hex2 r :=
  (C10b.encode_asciiHom .u8).hex2_eq r

theorem spd_nil : Spec.stringPercentDecode [] = [] := by
  simp [Spec.stringPercentDecode, Spec.utf8Encode, Spec.percentDecodeBytes]

theorem spd_other (c : Nat) (r : List Nat) (h : c ≠ 0x25) :
    Spec.stringPercentDecode (c :: r) = Spec.utf8EncodeChar c ++ Spec.stringPercentDecode r := by
  unfold Spec.stringPercentDecode
  rw [utf8Encode_cons, pdb_append _ _ (utf8EncodeChar_no_pct c h)]

theorem spd_hex (h1 h2 : Nat) (r' : List Nat) (a1 : isHex h1 = true) (a2 : isHex h2 = true) :
    Spec.stringPercentDecode (0x25 :: h1 :: h2 :: r') =
      (hexVal h1 * 16 + hexVal h2) :: Spec.stringPercentDecode r' := by
  unfold Spec.stringPercentDecode
  rw [utf8Encode_cons, utf8Encode_cons, utf8Encode_cons, utf8EncodeChar_ascii 0x25 (by decide),
    utf8EncodeChar_ascii h1 (isHex_lt h1 a1), utf8EncodeChar_ascii h2 (isHex_lt h2 a2)]
  show Spec.percentDecodeBytes (0x25 :: h1 :: h2 :: Spec.utf8Encode r') = _
  rw [pd_cons, if_pos ⟨rfl, by simp [hex2, a1, a2]⟩]; rfl

theorem spd_pct (r : List Nat) (h : hex2 r = false) :
    Spec.stringPercentDecode (0x25 :: r) = 0x25 :: Spec.stringPercentDecode r := by
  unfold Spec.stringPercentDecode
  rw [utf8Encode_cons, utf8EncodeChar_ascii 0x25 (by decide)]
  show Spec.percentDecodeBytes (0x25 :: Spec.utf8Encode r) = _
  rw [pd_cons, if_neg (by simp [hex2_utf8Encode r, h])]

theorem spd_cons (c : Nat) (r : List Nat) :
    Spec.stringPercentDecode (c :: r) =
      if c = 0x25 ∧ hex2 r = true then pctVal r :: Spec.stringPercentDecode (r.drop 2)
      else Spec.utf8EncodeChar c ++ Spec.stringPercentDecode r := by
  by_cases h25 : c = 0x25
  · subst h25
    cases hh : hex2 r
    · simp [spd_pct r hh, utf8EncodeChar_ascii]
    · obtain ⟨h1, h2, r', rfl, a1, a2⟩ := hex2_true r hh
      simp [spd_hex h1 h2 r' a1 a2, pctVal]
  · simp [h25, spd_other c r h25]

/-- The simulation: in state "no run" the loop computes repair(decode(string-percent-decode rest));
    in state "run with buffer `buf`" it computes the same for `buf ++ …` — the per-run repair equals
    one global repair, for ANY buffer content.  Both sides test the same condition (`aux_none_cons`,
    `aux_some_cons`, `spd_cons`).  Everything is stated on `Impl.decode .u8`, which is total on `List Nat`;
    the byte range is needed only to pass to `Spec.utf8Decode` (`Impl.decode_u8_eq_spec`). -/
theorem aux_eq (n : Nat) : ∀ s : List Nat, s.length ≤ n → (∀ c ∈ s, Spec.isScalar c = true) →
    Impl.percentDecodeAux none s =
        Impl.encodeUtf8 (Impl.decode .u8 (Spec.stringPercentDecode s)) ∧
    ∀ buf, Impl.percentDecodeAux (some buf) s =
        Impl.encodeUtf8 (Impl.decode .u8 (buf ++ Spec.stringPercentDecode s)) := by
  induction n using Nat.strongRecOn with
  | _ n ih =>
    intro s hl hs
    match s with
    | [] =>
      rw [spd_nil, aux_none_nil]
      exact ⟨rfl, fun buf => by rw [aux_some_nil, List.append_nil]; rfl⟩
    | c :: r =>
      have hc := hs c List.mem_cons_self
      have hr : ∀ x ∈ r, Spec.isScalar x = true := fun x hx => hs x (List.mem_cons_of_mem _ hx)
      simp only [List.length_cons] at hl
      obtain ⟨ihn, ihs⟩ := ih r.length (by omega) r (Nat.le_refl _) hr
      obtain ⟨ihn2, ihs2⟩ := ih (r.drop 2).length (by rw [List.length_drop]; omega) (r.drop 2) (Nat.le_refl _)
        (fun x hx => hr x (List.mem_of_mem_drop hx))
      rw [aux_none_cons, spd_cons c r]
      refine ⟨?_, fun buf => ?_⟩
      · split
        · split
          · next hv => rw [ihn2, Impl.decode_cons_ascii .u8 _ _ hv, Impl.encodeUtf8_cons, Impl.encodeUtf8Char_ascii _ hv]; rfl
          · rw [ihs2]; rfl
        · rw [ihn, decode_scalar_cons c hc, Impl.encodeUtf8_cons]
      · rw [aux_some_cons]
        by_cases h25 : c = 0x25
        · subst h25
          rw [if_pos rfl]
          cases hh : hex2 r
          · simp only [Bool.false_eq_true, and_false, if_false]
            rw [ihs, List.append_assoc, utf8EncodeChar_ascii 0x25 (by decide)]
          · simp only [and_self, if_true]
            rw [ihs2, List.append_assoc]; rfl
        · rw [if_neg h25, if_neg (fun h => h25 h.1), ihn, decode_scalar_split c hc, Impl.encodeUtf8_append,
            Impl.encodeUtf8_cons]
          rfl

/-- percent_decode in closed form: `aux_eq` for the loop entered without a pending run -/
theorem percentDecode_eq (s : List Nat) (hs : ∀ c ∈ s, Spec.isScalar c = true) :
    Impl.percentDecode s = Impl.encodeUtf8 (Impl.decode .u8 (Spec.stringPercentDecode s)) :=
  (aux_eq s.length s (Nat.le_refl _) hs).1

theorem pdb_lt (l : List Nat) (hb : ∀ x ∈ l, x < 256) : ∀ x ∈ Spec.percentDecodeBytes l, x < 256 := by
  fun_induction Spec.percentDecodeBytes l
  all_goals simp_all
  next h _ => have := hexVal_lt _ h.2.1; have := hexVal_lt _ h.2.2; omega

theorem spd_lt (s : List Nat) (hs : ∀ c ∈ s, Spec.isScalar c = true) :
    ∀ x ∈ Spec.stringPercentDecode s, x < 256 :=
  pdb_lt _ (Impl.utf8Encode_lt s hs)

/-- percent_decode = string percent-decode, then UTF-8 decode with replacement, re-encoded -/
theorem percentDecode_eq_spec (s : List Nat) (hs : ∀ c ∈ s, Spec.isScalar c = true) :
    Impl.percentDecode s = Spec.utf8Encode (Spec.utf8Decode (Spec.stringPercentDecode s)) := by
  rw [percentDecode_eq s hs, Impl.encodeUtf8_eq _ (Impl.decode_u8_isScalar _),
    Impl.decode_u8_eq_spec _ (spd_lt s hs)]

theorem spd_pctByte (b : Nat) (hb : b < 256) (rest : List Nat) :
    Spec.stringPercentDecode (pctByte b ++ rest) = b :: Spec.stringPercentDecode rest := by
  have := spd_hex (hexDigitUpper (b / 16)) (hexDigitUpper (b % 16)) rest
    (hexDigitUpper_tbl (b / 16) (by omega)).2.1 (hexDigitUpper_tbl (b % 16) (by omega)).2.1
  rw [pctByte_val b hb] at this
  exact this

theorem spd_flatMap_pctByte (l : List Nat) (hl : ∀ x ∈ l, x < 256) (rest : List Nat) :
    Spec.stringPercentDecode (l.flatMap pctByte ++ rest) = l ++ Spec.stringPercentDecode rest := by
  induction l with
  | nil => rfl
  | cons b l ih =>
    rw [List.flatMap_cons, List.append_assoc, spd_pctByte b (hl b List.mem_cons_self),
      ih (fun x hx => hl x (List.mem_cons_of_mem _ hx))]
    rfl

theorem spd_percentEncode (noEnc : Nat → Bool) (h25 : noEnc 0x25 = false) :
    ∀ s : List Nat, (∀ c ∈ s, Spec.isScalar c = true) →
      Spec.stringPercentDecode (Impl.percentEncode noEnc s) = Spec.utf8Encode s := by
  intro s
  induction s with
  | nil => intro _; exact spd_nil
  | cons c cs ih =>
    intro hs
    have hc := scalar_le c (hs c List.mem_cons_self)
    have ih' := ih (fun x hx => hs x (List.mem_cons_of_mem _ hx))
    rw [percentEncode_cons, utf8Encode_cons]
    by_cases h : c ≥ 0x80
    · rw [if_pos h]
      unfold Impl.pctEncodeChar
      rw [spd_flatMap_pctByte _ (Impl.encodeUtf8Char_lt256 c), ih', Impl.encodeUtf8Char_eq c hc]
    · rw [if_neg h, utf8EncodeChar_ascii c (by omega)]
      cases hn : noEnc c
      · simp only [Bool.false_eq_true, if_false]
        rw [spd_pctByte c (by omega), ih']; rfl
      · simp only [if_true]
        have hne : c ≠ 0x25 := by intro e; rw [e, h25] at hn; cases hn
        show Spec.stringPercentDecode (c :: Impl.percentEncode noEnc cs) = _
        rw [spd_other c _ hne, ih', utf8EncodeChar_ascii c (by omega)]

theorem ascii_scalar (c : Nat) (h : c < 0x80) : Spec.isScalar c = true := by
  rw [Impl.isScalar_iff]; omega

theorem percentEncode_scalar (noEnc : Nat → Bool) (s : List Nat) :
    ∀ c ∈ Impl.percentEncode noEnc s, Spec.isScalar c = true :=
  fun c hc => ascii_scalar c (percentEncode_lt noEnc s c hc)

theorem percentDecode_percentEncode (noEnc : Nat → Bool) (s : List Nat)
    (hs : ∀ c ∈ s, Spec.isScalar c = true) (h25 : noEnc 0x25 = false) :
    Impl.percentDecode (Impl.percentEncode noEnc s) = Spec.utf8Encode s := by
  rw [percentDecode_eq _ (percentEncode_scalar noEnc s), spd_percentEncode noEnc h25 s hs]
  have := Impl.decode_encode .u8 s hs
  simp only [Spec.encode] at this
  rw [this, Impl.encodeUtf8_eq s hs]

/-! ## every Standard percent-encode set contains all code points from U+0080 up -/

theorem fragment_hi (c : Nat) (h : c ≥ 0x80) : Spec.fragmentSet c = true := by
  simp [Spec.fragmentSet, c0_hi c h]
theorem query_hi (c : Nat) (h : c ≥ 0x80) : Spec.querySet c = true := by
  simp [Spec.querySet, c0_hi c h]
theorem specialQuery_hi (c : Nat) (h : c ≥ 0x80) : Spec.specialQuerySet c = true := by
  simp [Spec.specialQuerySet, query_hi c h]
theorem path_hi (c : Nat) (h : c ≥ 0x80) : Spec.pathSet c = true := by
  simp [Spec.pathSet, query_hi c h]
theorem userinfo_hi (c : Nat) (h : c ≥ 0x80) : Spec.userinfoSet c = true := by
  simp [Spec.userinfoSet, path_hi c h]
theorem component_hi (c : Nat) (h : c ≥ 0x80) : Spec.componentSet c = true := by
  simp [Spec.componentSet, userinfo_hi c h]
theorem urlencoded_hi (c : Nat) (h : c ≥ 0x80) : Spec.urlencodedSet c = true := by
  simp [Spec.urlencodedSet, component_hi c h]

/-! ## sample inputs for the examples in Upa/Props/C14.lean -/

/-- `a`, space, U+00E9, U+20AC, U+1F600, `%`, DEL, `?` -/
def sample : List Nat := [0x61, 0x20, 0xE9, 0x20AC, 0x1F600, 0x25, 0x7F, 0x3F]

/-- `%41%C3%A9%E2%82` U+20AC `%E2%82%41%C3%zz%ff%4` :
    `%41` (ASCII escape), `%C3%A9` (well-formed run), `%E2%82` + raw U+20AC (truncated run closed by a raw
    non-ASCII scalar), `%E2%82%41` (truncated sequence, then an ASCII escape inside the same run),
    `%C3%zz` (run continued by a non-hex `%`), `%ff` (lower-case hex digits, lone byte FF), `%4` (incomplete) -/
def dsample : List Nat :=
  [0x25, 0x34, 0x31, 0x25, 0x43, 0x33, 0x25, 0x41, 0x39, 0x25, 0x45, 0x32, 0x25, 0x38, 0x32, 0x20AC,
   0x25, 0x45, 0x32, 0x25, 0x38, 0x32, 0x25, 0x34, 0x31, 0x25, 0x43, 0x33, 0x25, 0x7A, 0x7A,
   0x25, 0x66, 0x66, 0x25, 0x34]

theorem dsample_eq :
    dsample = asciiStr "%41%C3%A9%E2%82" ++ [0x20AC] ++ asciiStr "%E2%82%41%C3%zz%ff%4" := by
  decide_ascii

end Upa.Proofs.C14

/-! ## the output alphabet as a Bool predicate on elements (`List.all`): the form in which the canonical and the
  normal form of a record use `C14.mem_percentEncode` -/

namespace Upa.Proofs.C08
open Upa Upa.Impl
open Upa.Proofs.C14 (isUpperHex isUpperHex_iff hexDigitUpper_tbl)

/-- the characters a `%XX` triplet consists of -/
def isPctChar (c : Nat) : Bool := c == 0x25 || isUpperHex c

theorem isPctChar_iff (c : Nat) : isPctChar c = true ↔ c = 0x25 ∨ isUpperHex c = true := by
  simp [isPctChar]

theorem pctWord_chars {w : List Nat} (h : C14.PctWord (fun _ => false) w) : ∀ x ∈ w, isPctChar x = true :=
  h.forall (fun _ h => by cases h) (by decide) (fun c hc => (isPctChar_iff c).2 (Or.inr hc))

theorem pctByte_chars (b : Nat) (hb : b < 256) : ∀ x ∈ pctByte b, isPctChar x = true :=
  pctWord_chars (C14.pctByte_word _ b hb)

theorem pctEncodeChar_chars (c : Nat) : ∀ x ∈ pctEncodeChar c, isPctChar x = true :=
  pctWord_chars (C14.pctEncodeChar_pctWord _ c)

theorem percentEncode_chars (noEnc : Nat → Bool) (s : List Nat) : ∀ x ∈ percentEncode noEnc s,
    isPctChar x = true ∨ (x ∈ s ∧ x < 0x80 ∧ noEnc x = true) := by
  intro x hx
  rcases C14.mem_percentEncode hx with ⟨h1, h2⟩ | h
  · exact Or.inr ⟨h1, C02.keeps_iff.1 h2⟩
  · exact Or.inl ((isPctChar_iff x).2 h)

theorem percentEncodeC0_chars (s : List Nat) : ∀ x ∈ percentEncodeC0 s,
    isPctChar x = true ∨ (x ∈ s ∧ 0x1F < x ∧ x < 0x7F) := by
  intro x hx
  rw [C14.percentEncodeC0_eq] at hx
  refine (percentEncode_chars _ s x hx).imp_right fun ⟨h1, _, h3⟩ => ⟨h1, ?_⟩
  simpa [C14.noEncode_c0] using h3

theorem percentEncode_all (noEnc : Nat → Bool) (ok : Nat → Bool) (s : List Nat)
    (hpct : ∀ c, c < 128 → isPctChar c = true → ok c = true)
    (hraw : ∀ c ∈ s, c < 128 → noEnc c = true → ok c = true) :
    (percentEncode noEnc s).all ok = true := by
  rw [List.all_eq_true]
  intro x hx
  rcases percentEncode_chars noEnc s x hx with h | ⟨h1, h2, h3⟩
  · refine hpct x ?_ h
    simp only [isPctChar_iff, isUpperHex_iff] at h; omega
  · exact hraw x h1 h2 h3

theorem percentEncodeC0_all (ok : Nat → Bool) (s : List Nat)
    (hpct : ∀ c, c < 128 → isPctChar c = true → ok c = true)
    (hraw : ∀ c ∈ s, 0x1F < c → c < 0x7F → ok c = true) :
    (percentEncodeC0 s).all ok = true := by
  rw [C14.percentEncodeC0_eq]
  refine percentEncode_all _ ok s hpct fun c hc _ h => ?_
  rw [C14.noEncode_c0, Bool.and_eq_true, decide_eq_true_eq, decide_eq_true_eq] at h
  exact hraw c hc h.1 h.2

end Upa.Proofs.C08

/-! ## what the no-encode sets of the parser keep

  Below 0x80 the encoders leave alone only printable characters, and each set escapes its own delimiters.  One
  table per set (a fixed finite fact: evaluated once, here); the normal form (Reparse) and the canonical form
  (Canon) read their alphabets off these. -/
namespace Upa.Proofs.C14
open Upa.Spec

theorem fragmentSet_keeps : ∀ c, c < 128 → noEncode fragmentSet c = true → 0x20 < c ∧ c < 0x7F := by
  decide +kernel

theorem querySet_keeps : ∀ c, c < 128 → noEncode querySet c = true → 0x20 < c ∧ c < 0x7F ∧ c ≠ 0x23 := by
  decide +kernel

theorem specialQuerySet_keeps : ∀ c, c < 128 → noEncode specialQuerySet c = true →
    0x20 < c ∧ c < 0x7F ∧ c ≠ 0x23 ∧ c ≠ 0x27 := by decide +kernel

/-- the path set does not escape `/` (the parser has split at it before) nor `\` -/
theorem pathSet_keeps : ∀ c, c < 128 → noEncode pathSet c = true → 0x20 < c ∧ c < 0x7F ∧ c ≠ 0x3F ∧ c ≠ 0x23 := by
  decide +kernel

theorem userinfoSet_keeps : ∀ c, c < 128 → noEncode userinfoSet c = true →
    0x20 < c ∧ c < 0x7F ∧ c ≠ 0x2F ∧ c ≠ 0x3F ∧ c ≠ 0x23 ∧ c ≠ 0x40 ∧ c ≠ 0x3A ∧ c ≠ 0x5C := by decide +kernel

end Upa.Proofs.C14
