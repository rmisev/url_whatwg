import Upa.Basic
/-
  The character classes and `toLower` of Upa/Basic.lean: the ranges they stand for, that they are ASCII, that
  `hexVal` of a hex digit is below 16, and that `toLower` moves the capitals up by 0x20 and nothing else.
-/
namespace Upa

theorem isDigit_iff (c : Nat) : isDigit c = true ↔ 0x30 ≤ c ∧ c ≤ 0x39 := by
  simp [isDigit]

theorem isAlpha_iff (c : Nat) : isAlpha c = true ↔ (0x61 ≤ c ∧ c ≤ 0x7A) ∨ (0x41 ≤ c ∧ c ≤ 0x5A) := by
  simp [isAlpha]

theorem isHex_iff (c : Nat) :
    isHex c = true ↔ ((0x30 ≤ c ∧ c ≤ 0x39) ∨ (0x41 ≤ c ∧ c ≤ 0x46) ∨ (0x61 ≤ c ∧ c ≤ 0x66)) := by
  simp [isHex, isDigit, or_assoc]

theorem isDigit_lt (c : Nat) (h : isDigit c = true) : c < 0x80 := by
  rw [isDigit_iff] at h; omega

theorem isAlpha_lt (c : Nat) (h : isAlpha c = true) : c < 0x80 := by
  rw [isAlpha_iff] at h; omega

theorem isHex_lt (c : Nat) (h : isHex c = true) : c < 0x80 := by
  rw [isHex_iff] at h; omega

theorem isSchemeChar_lt (c : Nat) (h : isSchemeChar c = true) : c < 0x80 := by
  simp only [isSchemeChar, Bool.or_eq_true, beq_iff_eq] at h
  rcases h with (((h | h) | h) | h) | h
  · exact isAlpha_lt c h
  · exact isDigit_lt c h
  all_goals omega

theorem hexVal_lt (c : Nat) (h : isHex c = true) : hexVal c < 16 := by
  rw [isHex_iff] at h; unfold hexVal; split
  · omega
  · split <;> omega

/-- `toLower` moves the capitals up by 0x20 and nothing else: what does not see that step on the capitals
    does not see `toLower` -/
theorem toLower_lift {β : Sort _} (f : Nat → β) (hup : ∀ c, 0x41 ≤ c → c ≤ 0x5A → f (c + 0x20) = f c)
    (c : Nat) : f (toLower c) = f c := by
  unfold toLower
  by_cases h : 0x41 ≤ c ∧ c ≤ 0x5A
  · rw [if_pos h]; exact hup c h.1 h.2
  · rw [if_neg h]

/-- a value that is no letter is reached by `toLower` only from itself -/
theorem toLower_eq_iff (c k : Nat) (hk : k < 0x41 ∨ (0x5A < k ∧ k < 0x61) ∨ 0x7A < k) :
    toLower c = k ↔ c = k := by
  unfold toLower; split <;> omega

theorem toLower_beq (c k : Nat) (hk : k < 0x41 ∨ (0x5A < k ∧ k < 0x61) ∨ 0x7A < k) :
    (toLower c == k) = (c == k) :=
  Bool.eq_iff_iff.2 (by rw [beq_iff_eq, beq_iff_eq]; exact toLower_eq_iff c k hk)

theorem isDigit_toLower : ∀ c, isDigit (toLower c) = isDigit c :=
  toLower_lift isDigit fun c h1 h2 => by
    rw [Bool.eq_iff_iff, isDigit_iff, isDigit_iff]; omega

end Upa
