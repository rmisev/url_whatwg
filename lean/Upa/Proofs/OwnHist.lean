import Upa.Proofs.OwnLock
/-
  C06b: histories.  `HistOK` (with its `Decidable` instance) is the side condition of the lock-step half
  along a history; `runH_ownInv`, `runH_lockInv`: both invariants after every history;
  `checkLock_of_lockInv`: the executable lock-step check.  Then what `update()` can reach, and that a new
  params object (copy, move, `search_params() &&`) and the params object of a copied url are detached.
-/
namespace Upa.Proofs.Own
open Upa Upa.Impl Upa.Impl.Own Upa.Proofs.C06

/-- the side conditions of the lock-step half along a history: every operation is well-formed and, if
    it is executed, does not move the list out of an OWNED params object -/
def HistOK (idna : Idna) : Heap → List HOp → Prop
  | _, [] => True
  | h, op :: ops =>
    op.WF ∧ (pre h op = true → lockSafe h op = true) ∧
    HistOK idna (if pre h op then stepH idna h op else h) ops

instance (idna : Idna) : ∀ (h : Heap) (ops : List HOp), Decidable (HistOK idna h ops)
  | _, [] => isTrue trivial
  | h, op :: ops =>
    have := instDecidableHistOK idna (if pre h op then stepH idna h op else h) ops
    inferInstanceAs (Decidable (_ ∧ _ ∧ _))

theorem runH_cons (idna : Idna) (h : Heap) (op : HOp) (ops : List HOp) :
    runH idna h (op :: ops) = runH idna (if pre h op then stepH idna h op else h) ops := rfl
theorem runH_nil (idna : Idna) (h : Heap) : runH idna h [] = h := rfl
theorem runH_append (idna : Idna) (h : Heap) (a b : List HOp) :
    runH idna h (a ++ b) = runH idna (runH idna h a) b := by
  unfold runH; rw [List.foldl_append]

theorem runH_ownInv (idna : Idna) (ops : List HOp) : ∀ h, OwnInv h → OwnInv (runH idna h ops) := by
  induction ops with
  | nil => intro h hi; exact hi
  | cons op ops ih =>
    intro h hi
    rw [runH_cons]
    by_cases hp : pre h op = true
    · rw [if_pos hp]; exact ih _ (stepH_ownInv idna h op hp hi)
    · rw [if_neg hp]; exact ih _ hi

theorem runH_lockInv (idna : Idna) (ops : List HOp) : ∀ h, OwnInv h → LockInv h → HistOK idna h ops →
    LockInv (runH idna h ops) := by
  induction ops with
  | nil => intro h _ hl _; exact hl
  | cons op ops ih =>
    intro h hi hl hk
    rw [runH_cons]
    obtain ⟨hw, hs, hk'⟩ := hk
    by_cases hp : pre h op = true
    · simp only [hp, if_true] at hk' ⊢
      exact ih _ (stepH_ownInv idna h op hp hi)
        (stepH_lockInv idna h op hi.ownG hl hp hw (hs hp)) hk'
    · simp only [hp] at hk' ⊢
      exact ih _ hi hl hk'

theorem LockInv.cells {h : Heap} (hl : LockInv h) :
    ∀ u uc r p pc, h.getU u = some uc → uc.url = some r → uc.spPtr = some p → h.getP p = some pc →
      pc.list = formParse false (queryBytes (some r)) := by
  intro u uc r p pc hu hr hp hpc
  have habs : abs h u = { url := some r, sp := some { list := pc.list, isSorted := pc.isSorted } } := by
    unfold abs; simp [hu, hr, hp, hpc]
  exact (hl.lock u).lock r { list := pc.list, isSorted := pc.isSorted } (by rw [habs]) (by rw [habs])

theorem checkLock_of_lockInv {h : Heap} (hi : OwnInv h) (hl : LockInv h) : h.checkLock = true := by
  unfold Heap.checkLock
  rw [List.all_eq_true]
  rintro ⟨u, uc⟩ hm
  have hg := (getU_iff_mem h hi.keysU u uc).2 hm
  dsimp only
  split
  · rename_i r p hr hp
    obtain ⟨pc, hpc, _⟩ := hi.fwd u uc p hg hp
    rw [hpc]
    simp [hl.cells u uc r p pc hg hr hp hpc]
  · rfl

/-! ## what an edit of a params object can reach -/

theorem paramsMutate_getP_ne (h : Heap) (p : Nat) (f : Params → Params) (a : Bool) (q : Nat) (hq : q ≠ p) :
    (paramsMutate h p f a).getP q = h.getP q := by
  rcases paramsMutate_cases h p f a with e | ⟨l, s, e | e⟩ <;> rw [e]
  · unfold update Heap.setRec Heap.setContent
    split <;> simp [hq]
  · simp [Heap.setContent, hq]

theorem paramsMutate_recOf (h : Heap) (p : Nat) (f : Params → Params) (a : Bool) (u : Nat)
    (hu : h.urlPtrOf p ≠ some u) : (paramsMutate h p f a).recOf u = h.recOf u := by
  rw [urlPtrOf_eq] at hu
  rcases paramsMutate_cases h p f a with e | ⟨l, s, e | e⟩ <;> rw [e]
  · rw [recOf_update]; simp [hu]
  · simp

theorem paramsMutate_target (h : Heap) (p : Nat) (f : Params → Params) (a : Bool) (hi : OwnInv h) (u : Nat)
    (hne : (paramsMutate h p f a).recOf u ≠ h.recOf u) : h.urlPtrOf p = some u ∧ h.spOf u = some p := by
  have h1 : h.urlPtrOf p = some u := Decidable.by_contra fun hc => hne (paramsMutate_recOf h p f a u hc)
  exact ⟨h1, spOf_eq_some.2 (hi.ownG.back p u (urlPtrOf_eq_some.1 h1))⟩

/-! ## new params objects (copy, move, `search_params() &&`) and copied urls are detached -/

theorem OwnInv.dead_ge {h : Heap} (hi : OwnInv h) {q : Nat} (hq : h.next ≤ q) : h.getP q = none := by
  cases hg : h.getP q with
  | none => rfl
  | some c => exact absurd (hi.freshP q (by unfold Heap.liveP; rw [hg]; rfl)) (Nat.not_lt.2 hq)

/-- edits of two distinct params objects, one of them FREE, do not reach each other, and those of the
    FREE one reach no url -/
theorem detached_of_free (h : Heap) (p q : Nat) (hne : q ≠ p) (hq : h.urlPtrOf q = none) :
    (∀ f a, (paramsMutate h p f a).getP q = h.getP q) ∧
    (∀ f a u, (paramsMutate h q f a).recOf u = h.recOf u) ∧
    (∀ f a, (paramsMutate h q f a).getP p = h.getP p) :=
  ⟨fun f a => paramsMutate_getP_ne _ _ _ _ _ hne,
   fun f a u => paramsMutate_recOf _ _ _ _ _ (by rw [hq]; exact fun he => nomatch he),
   fun f a => paramsMutate_getP_ne _ _ _ _ _ (Ne.symm hne)⟩

/-- a new FREE params object at `h.next` (what the copy and the move constructor leave, whatever else
    they did): it was no object before, it is not `p`, and the two do not reach each other -/
theorem detached_new {h h' : Heap} (hi : OwnInv h) {p : Nat} (hp : h.liveP p = true) {pc : PCell}
    (hg : h'.getP h.next = some pc) (hf : pc.urlPtr = none) :
    h.getP h.next = none ∧ h.next ≠ p ∧
    (∀ f a, (paramsMutate h' p f a).getP h.next = h'.getP h.next) ∧
    (∀ f a u, (paramsMutate h' h.next f a).recOf u = h'.recOf u) ∧
    (∀ f a, (paramsMutate h' h.next f a).getP p = h'.getP p) :=
  have hne : h.next ≠ p := Nat.ne_of_gt (hi.freshP p hp)
  ⟨hi.dead_ge (Nat.le_refl _), hne, detached_of_free _ p h.next hne (by unfold Heap.urlPtrOf; rw [hg]; exact hf)⟩

theorem getP_paramsCopyConstruct (h : Heap) (p : Nat) : (paramsCopyConstruct h p).1.getP h.next =
    some { list := h.listOf p, isSorted := h.sortedOf p, urlPtr := none } := by simp [paramsCopyConstruct]

theorem getP_paramsMoveConstruct {h : Heap} (hi : OwnInv h) {p : Nat} (hp : h.liveP p = true) :
    (paramsMoveConstruct h p).1.getP h.next =
      some { list := h.listOf p, isSorted := h.sortedOf p, urlPtr := none } := by
  simp [paramsMoveConstruct, Heap.setContent, Nat.ne_of_gt (hi.freshP p hp)]

/-- the result of `search_params() &&` is the new object `h.next`, FREE, and not what `u` holds -/
theorem urlSearchParamsRvalue_new {h : Heap} (hg : OwnG h) (u : Nat) :
    (urlSearchParamsRvalue h u).2 = h.next ∧ h.spOf u ≠ some h.next ∧
    (urlSearchParamsRvalue h u).1.urlPtrOf h.next = none ∧ (urlSearchParamsRvalue h u).1.liveP h.next = true := by
  have hsp : h.spOf u ≠ some h.next := fun he =>
    Nat.lt_irrefl _ (hg.liveP_lt (hg.fwd u _ (spOf_eq_some.1 he)))
  refine ⟨by unfold urlSearchParamsRvalue; split <;> rfl, hsp, ?_⟩
  unfold urlSearchParamsRvalue
  split
  · rename_i p hp
    have hne : h.next ≠ p := by intro he; rw [← he] at hp; exact hsp hp
    simp [paramsMoveConstruct, Heap.urlPtrOf, Heap.liveP, Heap.setContent, hne]
  · simp [newParams, Heap.urlPtrOf, Heap.liveP]

/-- the pointers after `n = url(s)` (`n = h.next`) and `n.search_params()`: the new url holds the new
    object `h.next + 1`, every old link is as it was -/
theorem urlCopy_searchParams_views (h : Heap) (s : Nat) :
    (∀ p, up (urlSearchParams (urlCopyConstruct h s).1 h.next) p =
      if p = h.next + 1 then some (some h.next) else up h p) ∧
    (∀ u, sp (urlSearchParams (urlCopyConstruct h s).1 h.next) u =
      if u = h.next then some (some (h.next + 1)) else sp h u) := by
  refine ⟨fun p => ?_, fun u => ?_⟩
  · rw [urlSearchParams_eq, if_pos (by simp [urlCopyConstruct])]; simp [urlCopyConstruct]
    rfl
  · rw [urlSearchParams_eq, if_pos (by simp [urlCopyConstruct])]; simp [urlCopyConstruct]
    split <;> simp_all

end Upa.Proofs.Own
