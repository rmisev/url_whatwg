import Upa.Impl.SimpleBuffer
import Upa.Proofs.SizeT
/-
  Lemmas about the model of upa::simple_buffer (Impl/SimpleBuffer.lean): the closed form of the checked
  element-wise copy, the growth arithmetic, one `Good` lemma per member function and for the constructor, histories
  (`run_good`, `runCatch_good`), the list semantics as a function (`RefinesAll_spec`); at the end the `size_t` / `int`
  arithmetic of util.h (`add_sizes`, `checked_diff`), which the same model file holds.
-/
namespace Upa.Impl.SB
open Upa.Impl

/-! ## the checked copy in closed form -/

theorem writeAt_eq (m : List Nat) (i v : Nat) (h : i < m.length) :
    writeAt m i v = some (m.take i ++ [v] ++ m.drop (i + 1)) := by
  rw [writeAt, if_pos h, List.set_eq_take_append_cons_drop, if_pos h, List.append_assoc, List.singleton_append]

theorem copyCells_eq (n : Nat) : ∀ (dst : List Nat) (di : Nat) (src : List Nat) (si : Nat),
    di + n ≤ dst.length → si + n ≤ src.length →
    copyCells dst di src si n = some (dst.take di ++ (src.drop si).take n ++ dst.drop (di + n)) := by
  induction n with
  | zero => intro dst di src si _ _; simp [copyCells]
  | succ n ih =>
    intro dst di src si h1 h2
    have hs : si < src.length := by omega
    have hd : di < dst.length := by omega
    have hd' : di < (dst.set di src[si]).length := by rw [List.length_set]; exact hd
    rw [copyCells, List.getElem?_eq_getElem hs]
    simp only [writeAt, if_pos hd]
    rw [ih _ _ _ _ (by rw [List.length_set]; omega) (by omega), ← List.take_append_getElem hd',
      List.take_set_of_le (Nat.le_refl _), List.getElem_set_self, List.drop_set_of_lt (by omega),
      List.drop_eq_getElem_cons hs, List.take_succ_cons, Nat.add_assoc di 1 n, Nat.add_comm 1 n]
    simp only [List.append_assoc, List.singleton_append]

/-! ## the doubling loop of `grow` -/

theorem mul_two_pow (c j : Nat) : c * 2 * 2 ^ j = c * 2 ^ (j + 1) := by
  rw [Nat.pow_succ, Nat.mul_assoc, Nat.mul_comm 2]

/-- the candidates of the loop started at `c·2` are those of the loop started at `c`, one place on -/
theorem small_shift {c minCap k : Nat} (h1 : c * 2 < minCap) (h : ∀ j, 1 ≤ j → j ≤ k → c * 2 * 2 ^ j < minCap) :
    ∀ j, 1 ≤ j → j ≤ k + 1 → c * 2 ^ j < minCap := by
  intro j hj hjk
  obtain ⟨i, rfl⟩ : ∃ i, j = i + 1 := ⟨j - 1, by omega⟩
  rw [← mul_two_pow]
  cases i with
  | zero => simpa using h1
  | succ i => exact h (i + 1) (by omega) (by omega)

theorem GuardStops.zero {M c minCap : Nat} (h : M / 2 < c) : GuardStops M c minCap 0 :=
  ⟨fun j h1 h2 => absurd (Nat.le_trans h1 h2) (by decide), by rw [Nat.pow_zero, Nat.mul_one]; exact h⟩

theorem GrowsTo.one {M c minCap : Nat} (hg : c ≤ M / 2) (h : minCap ≤ c * 2) : GrowsTo M c minCap 1 :=
  ⟨Nat.le_refl 1, by rw [Nat.pow_one]; exact h, fun j h1 h2 => absurd h2 (by omega),
    by rw [Nat.pow_zero, Nat.mul_one]; exact hg⟩

/-- what the doubling loop does: it returns the first candidate that reaches `minCap`, or the guard stops
    it at a candidate that has not.  The fuel of the model is never the reason: `bufGrow` starts with fuel `M + 2`,
    and a round that goes on has `c ≤ M / 2` and doubles `c ≥ 1`, so `M + 2 ≤ fuel + c` is kept until the guard stops it -/
theorem growLoop_spec {M minCap : Nat} : ∀ fuel c, 0 < c → M + 2 ≤ fuel + c →
    (∃ k, GrowsTo M c minCap k ∧ growLoop M minCap fuel c = some (c * 2 ^ k)) ∨
    (∃ k, GuardStops M c minCap k ∧ growLoop M minCap fuel c = none) := by
  intro fuel
  induction fuel with
  | zero => intro c _ hf; exact .inr ⟨0, .zero (by omega), rfl⟩
  | succ n ih =>
    intro c hc hf
    rw [growLoop]
    by_cases hg : c > M / 2
    · rw [if_pos hg]
      exact .inr ⟨0, .zero hg, rfl⟩
    rw [if_neg hg]
    by_cases hlt : c * 2 < minCap
    · rw [if_pos hlt]
      rcases ih (c * 2) (by omega) (by omega) with ⟨k, ⟨h1, h2, h3, h4⟩, e⟩ | ⟨k, ⟨h1, h2⟩, e⟩
      · refine .inl ⟨k + 1, ⟨by omega, ?_, fun j hj hjk => ?_, ?_⟩, ?_⟩
        · rw [← mul_two_pow]; exact h2
        · exact small_shift (k := k - 1) hlt (fun j hj hjk => h3 j hj (by omega)) j hj (by omega)
        · obtain ⟨i, rfl⟩ : ∃ i, k = i + 1 := ⟨k - 1, by omega⟩
          rw [Nat.add_sub_cancel, ← mul_two_pow]; exact h4
        · rw [e, mul_two_pow]
      · refine .inr ⟨k + 1, ⟨small_shift hlt h1, ?_⟩, e⟩
        rw [← mul_two_pow]; exact h2
    · rw [if_neg hlt]
      exact .inl ⟨1, .one (by omega) (by omega), by rw [Nat.pow_one]⟩

theorem pow_mono_mul (c : Nat) {i j : Nat} (h : i ≤ j) : c * 2 ^ i ≤ c * 2 ^ j :=
  Nat.mul_le_mul_left c (Nat.pow_le_pow_right (by omega) h)

theorem growsTo_guardStops_absurd {M c0 minCap k k' : Nat} (h : GrowsTo M c0 minCap k)
    (h' : GuardStops M c0 minCap k') : False := by
  obtain ⟨h1, h2, h3, h4⟩ := h
  obtain ⟨g1, g2⟩ := h'
  by_cases hk : k ≤ k'
  · have := g1 k h1 hk; omega
  · have := pow_mono_mul c0 (show k' ≤ k - 1 by omega); omega

theorem growsTo_unique {M c0 minCap k k' : Nat} (h : GrowsTo M c0 minCap k) (h' : GrowsTo M c0 minCap k') :
    k = k' := by
  obtain ⟨h1, h2, h3, h4⟩ := h
  obtain ⟨g1, g2, g3, g4⟩ := h'
  by_cases hlt : k < k'
  · have := g3 k h1 hlt; omega
  · by_cases hgt : k' < k
    · have := h3 k' g1 hgt; omega
    · omega

theorem bufGrow_exact (M cap minCap : Nat) :
    (∀ r, bufGrow M cap minCap = some r ↔
      ∃ k, GrowsTo M (if cap = 0 then 16 else cap) minCap k ∧ r = (if cap = 0 then 16 else cap) * 2 ^ k) ∧
    (bufGrow M cap minCap = none ↔ ∃ k, GuardStops M (if cap = 0 then 16 else cap) minCap k) := by
  have hc0 : 0 < (if cap = 0 then 16 else cap) := by split <;> omega
  rw [bufGrow]
  -- exactly one of the two ends is reached
  rcases growLoop_spec (minCap := minCap) (M + 2) _ hc0 (Nat.le_add_right _ _) with ⟨k, hk, e⟩ | ⟨k, hk, e⟩ <;> rw [e]
  · refine ⟨fun r => ⟨fun h => ⟨k, hk, (Option.some.inj h).symm⟩, ?_⟩, fun h => (nomatch h), ?_⟩
    · rintro ⟨k', hk', rfl⟩; rw [growsTo_unique hk hk']
    · rintro ⟨k', hk'⟩; exact (growsTo_guardStops_absurd hk hk').elim
  · refine ⟨fun r => ⟨fun h => (nomatch h), ?_⟩, fun _ => ⟨k, hk⟩, fun _ => rfl⟩
    rintro ⟨k', hk', -⟩; exact (growsTo_guardStops_absurd hk' hk).elim

theorem GrowsTo.bounds {M c minCap k : Nat} (h : GrowsTo M c minCap k) :
    minCap ≤ c * 2 ^ k ∧ c * 2 ^ k ≤ M ∧ 2 * c ≤ c * 2 ^ k := by
  obtain ⟨h1, h2, -, h4⟩ := h
  obtain ⟨i, rfl⟩ : ∃ i, k = i + 1 := ⟨k - 1, by omega⟩
  rw [Nat.add_sub_cancel] at h4
  have := pow_mono_mul c (Nat.zero_le i)
  rw [← mul_two_pow, Nat.mul_right_comm] at h2 ⊢
  omega

theorem bufGrow_some {M cap minCap r : Nat} (h : bufGrow M cap minCap = some r) :
    minCap ≤ r ∧ r ≤ M ∧ cap < r := by
  obtain ⟨k, hk, rfl⟩ := ((bufGrow_exact M cap minCap).1 r).1 h
  have hc : cap ≤ (if cap = 0 then 16 else cap) ∧ 0 < (if cap = 0 then 16 else cap) := by split <;> omega
  have := hk.bounds
  omega

/-! ## rules for `Good`; the invariant -/

/-- `s'` is a later state of the buffer `s`: the invariant holds, the two parameters of the object are the same
    and the capacity has not shrunk (what `Good` promises of a state that is returned, besides `Q`) -/
def Later (s s' : State) : Prop :=
  Inv s' ∧ s'.fixedCap = s.fixedCap ∧ s'.maxSize = s.maxSize ∧ s.capacity ≤ s'.capacity

theorem Good.later {s s' : State} {Q : State → Prop} (h : Good s Q (.ok s')) : Later s s' ∧ Q s' :=
  ⟨⟨h.1, h.2.1, h.2.2.1, h.2.2.2.1⟩, h.2.2.2.2⟩

theorem Later.good {s s' : State} {Q : State → Prop} (hl : Later s s') (hq : Q s') : Good s Q (.ok s') :=
  ⟨hl.1, hl.2.1, hl.2.2.1, hl.2.2.2, hq⟩

theorem Later.refl {s : State} (hi : Inv s) : Later s s := ⟨hi, rfl, rfl, Nat.le_refl _⟩

theorem Later.trans {s s1 s2 : State} (h1 : Later s s1) (h2 : Later s1 s2) : Later s s2 :=
  ⟨h2.1, h2.2.1.trans h1.2.1, h2.2.2.1.trans h1.2.2.1, Nat.le_trans h1.2.2.2 h2.2.2.2⟩

theorem Good.mono {s : State} {Q Q' : State → Prop} {o : Outcome} (h : Good s Q o)
    (hq : ∀ s', Later s s' → Q s' → Q' s') : Good s Q' o := by
  cases o with
  | ok s' => exact h.later.1.good (hq _ h.later.1 h.later.2)
  | oob => exact h
  | lengthError s' => exact h
  | badAlloc s' => exact h

/-- the rest of a member function runs on what its first part returned; an exception thrown by the first
    part is the outcome of the whole -/
theorem Good.bind {s : State} {Q Q' : State → Prop} {o : Outcome} {f : State → Outcome} (h : Good s Q o)
    (hf : ∀ s1, Later s s1 → Q s1 → Good s Q' (f s1)) : Good s Q' (o.bind f) := by
  cases o with
  | ok s1 => exact hf s1 h.later.1 h.later.2
  | oob => exact h
  | lengthError s' => exact h
  | badAlloc s' => exact h

theorem Good.ok_self {s : State} {Q : State → Prop} (hi : Inv s) (hq : Q s) : Good s Q (.ok s) :=
  (Later.refl hi).good hq

theorem Inv.store {s : State} (h : Inv s) {m : List Nat} {k : Nat} (hm : m.length = s.mem.length)
    (hk : k ≤ s.capacity) : Inv { s with mem := m, size := k } :=
  ⟨hk, h.cap_len.trans hm.symm, h.inline, h.fixed_le, h.cap_max⟩

theorem abs_length {s : State} (h : Inv s) : (abs s).length = s.size := by
  simp [abs, List.length_take]; have := h.size_le; have := h.cap_len; omega

theorem freshMem_length (e : Env) (k n : Nat) : (freshMem e k n).length = n := by simp [freshMem]

theorem init_inv (e : Env) (F M : Nat) (h : F ≤ M) : Inv (init e F M) := by
  constructor <;> simp [init, freshMem_length, h]

theorem init_abs (e : Env) (F M : Nat) : abs (init e F M) = [] := by simp [abs, init]

/-! ## one `Good` lemma per member function, and for the constructor -/

theorem allocate_none {e : Env} {s s' : State} {n : Nat} (h : allocate e s n = (none, s')) :
    s' = { s with nalloc := s'.nalloc } := by
  unfold allocate at h
  split at h
  · simp at h; subst h; rfl
  · split at h
    · simp at h; subst h; rfl
    · simp at h

theorem allocate_some {e : Env} {s s' : State} {n : Nat} {nm : List Nat} (h : allocate e s n = (some nm, s')) :
    nm.length = n ∧ s' = { s with nalloc := s.nalloc + 1 } ∧ n ≤ s.maxSize ∧ e.allocFails s.nalloc = false := by
  unfold allocate at h
  split at h
  · simp at h
  · split at h
    · simp at h
    · simp at h
      obtain ⟨h1, h2⟩ := h
      subst h1 h2
      refine ⟨freshMem_length _ _ _, rfl, by omega, by simp_all⟩

theorem growCapacity_good (e : Env) (s : State) (n : Nat) (hi : Inv s) (hn : s.capacity < n) :
    Good s (fun s' => s'.mem.take s.size = s.mem.take s.size ∧ s'.size = s.size ∧ s'.capacity = n ∧
      s'.nalloc = s.nalloc + 1 ∧ e.allocFails s.nalloc = false)
      (growCapacity e s n) := by
  unfold growCapacity
  have h1 := hi.size_le; have h2 := hi.cap_len; have h3 := hi.fixed_le
  split
  · rename_i s' heq
    exact allocate_none heq
  · rename_i nm s' heq
    obtain ⟨hlen, hs', hmax, hfail⟩ := allocate_some heq
    subst hs'
    rw [copyCells_eq _ _ _ _ _ (by omega) (by omega), List.take_zero, List.nil_append, List.drop_zero, Nat.zero_add]
    have hl : (List.take s.size s.mem).length = s.size := by rw [List.length_take]; omega
    refine ⟨⟨Nat.le_trans h1 (Nat.le_of_lt hn), ?_, fun h => (nomatch h), Nat.le_trans h3 (Nat.le_of_lt hn), hmax⟩,
      rfl, rfl, Nat.le_of_lt hn, List.take_left' hl, rfl, rfl, rfl, hfail⟩
    show n = (List.take s.size s.mem ++ List.drop s.size nm).length
    rw [List.length_append, hl, List.length_drop]; omega

theorem reserve_good (e : Env) (s : State) (n : Nat) (hi : Inv s) :
    Good s (fun s' => s'.mem.take s.size = s.mem.take s.size ∧ s'.size = s.size ∧ n ≤ s'.capacity)
      (reserve e s n) := by
  unfold reserve
  split
  · exact (growCapacity_good e s n hi ‹_›).mono fun s' _ hq => ⟨hq.1, hq.2.1, by omega⟩
  · exact .ok_self hi ⟨rfl, rfl, by omega⟩

theorem grow_good (e : Env) (s : State) (n : Nat) (hi : Inv s) :
    Good s (fun s' => s'.mem.take s.size = s.mem.take s.size ∧ s'.size = s.size ∧ n ≤ s'.capacity)
      (grow e s n) := by
  unfold grow
  split
  · exact rfl
  · rename_i r hr
    have := bufGrow_some hr
    unfold reserve
    rw [if_pos (by omega)]
    exact (growCapacity_good e s r hi (by omega)).mono fun s' _ hq => ⟨hq.1, hq.2.1, by omega⟩

/-- `xs` stored behind the `s.size` elements of `s1`, the object after the optional `grow` -/
theorem Good.store {s s1 : State} {xs : List Nat} {k : Nat} (hl1 : Later s s1)
    (ht : s1.mem.take s.size = s.mem.take s.size) (hsz : s1.size = s.size)
    (hcap : s.size + xs.length ≤ s1.capacity) (hk : k = s.size + xs.length) :
    Good s (fun s' => abs s' = abs s ++ xs ∧ s'.size = s.size + xs.length)
      (.ok { s1 with mem := s1.mem.take s1.size ++ xs ++ s1.mem.drop (s1.size + xs.length), size := k }) := by
  obtain ⟨i1, hf, hm, hc⟩ := hl1
  have l1 := i1.cap_len
  have hl : (List.take s.size s1.mem).length = s.size := by rw [List.length_take]; omega
  subst hk
  rw [hsz]
  refine ⟨i1.store ?_ hcap, hf, hm, hc, ?_, rfl⟩
  · rw [List.length_append, List.length_append, hl, List.length_drop]; omega
  · show List.take (s.size + xs.length) (List.take s.size s1.mem ++ xs ++ _) = List.take s.size s.mem ++ xs
    rw [List.take_left' (by rw [List.length_append, hl]), ht]

theorem append_good (e : Env) (s : State) (xs : List Nat) (hi : Inv s) :
    Good s (fun s' => abs s' = abs s ++ xs ∧ s'.size = s.size + xs.length) (append e s xs) := by
  unfold append bufAddSizes
  split
  · exact rfl
  · rename_i ns hns
    split at hns <;> cases hns
    have hpre : Good s (fun s1 => s1.mem.take s.size = s.mem.take s.size ∧ s1.size = s.size ∧
        s.size + xs.length ≤ s1.capacity)
        (if s.size + xs.length > s.capacity then grow e s (s.size + xs.length) else .ok s) := by
      split
      · exact grow_good e s _ hi
      · exact .ok_self hi ⟨rfl, rfl, by omega⟩
    refine hpre.bind fun s1 hl1 ⟨ht, hsz, hcap⟩ => ?_
    rw [copyCells_eq _ _ _ _ _ (by have := hl1.1.cap_len; omega) (by omega), List.drop_zero, List.take_length]
    exact .store hl1 ht hsz hcap rfl

theorem pushBack_good (e : Env) (s : State) (v : Nat) (hi : Inv s) :
    Good s (fun s' => abs s' = abs s ++ [v] ∧ s'.size = s.size + 1) (pushBack e s v) := by
  have tail : ∀ s1 : State, Later s s1 → s1.mem.take s.size = s.mem.take s.size ∧ s1.size = s.size ∧
      s.size + 1 ≤ s1.capacity →
      Good s (fun s' => abs s' = abs s ++ [v] ∧ s'.size = s.size + 1)
        (match writeAt s1.mem s1.size v with
          | none => Outcome.oob
          | some m => Outcome.ok { s1 with mem := m, size := s1.size + 1 }) := by
    intro s1 hl1 ⟨ht, hsz, hcap⟩
    rw [writeAt_eq _ _ _ (by have := hl1.1.cap_len; omega)]
    exact .store hl1 ht hsz hcap (congrArg (· + 1) hsz)
  unfold pushBack
  split
  · exact tail s (.refl hi) ⟨rfl, rfl, by omega⟩
  · unfold bufAddSizes
    split
    · exact rfl
    · rename_i ns hns
      split at hns <;> cases hns
      exact (grow_good e s _ hi).bind tail

theorem resize_good (e : Env) (s : State) (n : Nat) (hi : Inv s) :
    Good s (fun s' => s'.size = n ∧ (abs s').length = n ∧ (abs s').take s.size = (abs s).take n)
      (resize e s n) := by
  unfold resize
  refine (reserve_good e s n hi).bind fun s1 ⟨i1, hf, hm, hc⟩ ⟨ht, hsz, hcap⟩ => ?_
  refine ⟨i1.store rfl hcap, hf, hm, hc, rfl, ?_, ?_⟩
  · simp [abs, List.length_take]; have := i1.cap_len; omega
  · show List.take s.size (List.take n s1.mem) = List.take n (List.take s.size s.mem)
    rw [← ht, List.take_take, List.take_take, Nat.min_comm]

theorem clear_good (s : State) (hi : Inv s) :
    Good s (fun s' => abs s' = [] ∧ s'.size = 0) (.ok (clear s)) :=
  ⟨hi.store rfl (Nat.zero_le _), rfl, rfl, Nat.le_refl _, by simp [abs, clear], rfl⟩

theorem popBack_good (s : State) (hi : Inv s) (h : 0 < s.size) :
    Good s (fun s' => abs s' = (abs s).dropLast ∧ s'.size = s.size - 1) (.ok (popBack s)) := by
  have h1 := hi.size_le; have h2 := hi.cap_len
  have hne : s.size ≠ 0 := by omega
  have hsz : (popBack s).size = s.size - 1 := if_neg hne
  refine ⟨hi.store rfl (by rw [if_neg hne]; omega), rfl, rfl, Nat.le_refl _, ?_, hsz⟩
  show List.take (popBack s).size s.mem = _
  rw [hsz, abs, List.dropLast_eq_take, List.take_take, List.length_take]
  congr 1; omega

/-- without the precondition: `size_` wraps to 2^64-1 and the invariant is gone -/
theorem popBack_empty (s : State) (h : s.size = 0) : (popBack s).size = 18446744073709551615 := by
  simp [popBack, h]

theorem grow_capacity (e : Env) (s s' : State) (n : Nat) (hi : Inv s) (h : grow e s n = .ok s') :
    bufGrow s.maxSize s.capacity n = some s'.capacity := by
  unfold grow at h
  split at h
  · simp at h
  · rename_i r hr
    have hb := bufGrow_some hr
    unfold reserve at h
    rw [if_pos (by omega)] at h
    have hg := growCapacity_good e s r hi (by omega)
    rw [h] at hg
    obtain ⟨-, -, -, -, -, -, hcap, -⟩ := hg
    rw [hr, hcap]

theorem resizeZero_good (e : Env) (s : State) (n : Nat) (hi : Inv s) :
    Good s (fun s' => s'.size = n ∧ abs s' = (abs s).take n ++ List.replicate (n - s.size) 0)
      (resizeZero e s n) := by
  unfold resizeZero
  refine (resize_good e s n hi).bind fun s1 ⟨i1, hf, hm, hc⟩ ⟨hsz, _, ht⟩ => ?_
  have l0 := hi.size_le
  have l1 := i1.cap_len
  have l2 := i1.size_le
  rw [copyCells_eq (n - s.size) s1.mem s.size (List.replicate (n - s.size) 0) 0 (by omega)
    (by rw [List.length_replicate]; omega), List.drop_zero, List.take_replicate, Nat.min_self]
  refine ⟨i1.store (by simp; omega) l2, hf, hm, hc, hsz, ?_⟩
  -- the first `n` cells: what is left of the old elements, then the zeros
  show List.take s1.size (List.take s.size s1.mem ++ List.replicate (n - s.size) 0 ++ _) = List.take n (abs s) ++ _
  rw [hsz, List.append_assoc, List.take_append, List.take_append, List.length_take, List.length_replicate,
    Nat.min_eq_left (by omega), Nat.sub_self, List.take_zero, List.append_nil, List.take_replicate, Nat.min_self,
    ← ht, abs, hsz, List.take_take, List.take_take, Nat.min_comm]

theorem construct_good (e : Env) (F M c : Nat) (h : F ≤ M) :
    Good (init e F M) (fun s' => abs s' = [] ∧ s'.size = 0 ∧ s'.capacity = max F c) (construct e F M c) := by
  unfold construct
  simp only
  split
  · rename_i hc
    split
    · rename_i s' heq
      exact allocate_none heq
    · rename_i nm s' heq
      obtain ⟨hlen, hs', hmax, hfail⟩ := allocate_some heq
      subst hs'
      have hmx : max F c = c := by omega
      exact ⟨⟨Nat.zero_le _, hlen.symm, fun h => (nomatch h), Nat.le_of_lt hc, hmax⟩, rfl, rfl, Nat.le_of_lt hc,
        by simp [abs, init], rfl, by simp [hmx]⟩
  · rename_i hc
    have hmx : max F c = F := by omega
    exact (Later.refl (init_inv e F M h)).good ⟨init_abs e F M, rfl, by simp [init, hmx]⟩

/-! ## one operation of a history; histories -/

theorem step_good (e : Env) (s : State) (op : Op) (hi : Inv s) (hp : op = .popBack → 0 < s.size) :
    Good s (fun s' => Refines (abs s) op (abs s') ∧ s'.size = sizeAfter s.size op) (step e s op) := by
  cases op with
  | pushBack v => exact pushBack_good e s v hi
  | append xs => exact append_good e s xs hi
  | clear => exact clear_good s hi
  | popBack => exact popBack_good s hi (hp rfl)
  | reserve n =>
    refine (reserve_good e s n hi).mono ?_
    intro s' _ hq
    refine ⟨?_, hq.2.1⟩
    show abs s' = abs s
    simp only [abs]; rw [hq.2.1, hq.1]
  | resize n =>
    refine (resize_good e s n hi).mono ?_
    intro s' _ hq
    obtain ⟨h1, h2, h3⟩ := hq
    refine ⟨?_, h1⟩
    have hl := abs_length hi
    show if n ≤ (abs s).length then abs s' = (abs s).take n else (abs s').length = n ∧ (abs s').take (abs s).length = abs s
    rw [hl]
    split
    · rw [← h3, List.take_of_length_le (by omega)]
    · refine ⟨h2, ?_⟩
      rw [h3, List.take_of_length_le (by omega)]

theorem stepG_good (e : Env) (s : State) (op : Op) (hi : Inv s) :
    Good s (fun s' => Refines (abs s) op (abs s') ∧ s'.size = sizeAfter s.size op) (stepG e s op) := by
  unfold stepG
  split
  · rename_i h
    obtain ⟨h1, h2⟩ := h
    subst h1
    refine (Later.refl hi).good ⟨?_, by simp [sizeAfter, h2]⟩
    show abs s = (abs s).dropLast
    simp [abs, h2]
  · rename_i h
    apply step_good e s op hi
    intro hop
    have : ¬ s.size = 0 := fun h0 => h ⟨hop, h0⟩
    omega

theorem Inv_nalloc {s : State} (hi : Inv s) (k : Nat) : Inv { s with nalloc := k } :=
  ⟨hi.size_le, hi.cap_len, hi.inline, hi.fixed_le, hi.cap_max⟩

theorem abs_nalloc (s : State) (k : Nat) : abs { s with nalloc := k } = abs s := rfl

/-- the history `ops` started on `s` throws `o`, leaving `s'`: the operations before the throwing one
    completed, `o` is what that one threw, and the object is as they left it -/
def Thrown (e : Env) (s : State) (ops : List Op) (o : Outcome) (s' : State) : Prop :=
  ∃ done op rest s'', ops = done ++ op :: rest ∧ run e s done = .ok s'' ∧ stepG e s'' op = o ∧
    s' = { s'' with nalloc := s'.nalloc }

/-- what a history started on `s` may end with: no memory error; when it returns, the invariant and the
    list operations applied in order -/
def GoodRun (e : Env) (s : State) (ops : List Op) : Outcome → Prop
  | .ok s' => Later s s' ∧ RefinesAll (abs s) ops (abs s') ∧ s'.size = ops.foldl sizeAfter s.size
  | .oob => False
  | .lengthError s' => Thrown e s ops (.lengthError s') s'
  | .badAlloc s' => Thrown e s ops (.badAlloc s') s'

theorem Thrown.cons {e : Env} {s s1 : State} {op : Op} {ops : List Op} {o : Outcome} {s' : State}
    (hs : stepG e s op = .ok s1) (h : Thrown e s1 ops o s') : Thrown e s (op :: ops) o s' := by
  obtain ⟨done, op', rest, s'', e1, e2, e3, e4⟩ := h
  exact ⟨op :: done, op', rest, s'', by rw [e1]; rfl, by rw [run, hs, Outcome.bind, e2], e3, e4⟩

theorem run_good (e : Env) : ∀ (ops : List Op) (s : State), Inv s → GoodRun e s ops (run e s ops) := by
  intro ops
  induction ops with
  | nil => intro s hi; exact ⟨.refl hi, rfl, rfl⟩
  | cons op ops ih =>
    intro s hi
    have hg := stepG_good e s op hi
    rw [run]
    cases hs : stepG e s op with
    | ok s1 =>
      rw [hs] at hg
      obtain ⟨l1, hr, hsz⟩ := hg.later
      have h1 := ih s1 l1.1
      rw [Outcome.bind]
      cases hrun : run e s1 ops with
      | ok s' =>
        rw [hrun] at h1
        obtain ⟨l', hr', hsz'⟩ := h1
        exact ⟨l1.trans l', ⟨abs s1, hr, hr'⟩, by rw [List.foldl_cons, ← hsz]; exact hsz'⟩
      | oob => rw [hrun] at h1; exact h1
      | lengthError s' => rw [hrun] at h1; exact h1.cons hs
      | badAlloc s' => rw [hrun] at h1; exact h1.cons hs
    | oob => rw [hs] at hg; exact hg.elim
    | lengthError s1 => rw [hs] at hg; exact ⟨[], op, ops, s, rfl, rfl, hs, by rw [show s1 = s from hg]⟩
    | badAlloc s1 => rw [hs] at hg; exact ⟨[], op, ops, s, rfl, rfl, hs, hg⟩

theorem run_ok (e : Env) : ∀ (ops : List Op) (s s' : State), Inv s → run e s ops = .ok s' →
    Inv s' ∧ s'.fixedCap = s.fixedCap ∧ s'.maxSize = s.maxSize ∧ s.capacity ≤ s'.capacity ∧
      RefinesAll (abs s) ops (abs s') ∧ s'.size = ops.foldl sizeAfter s.size := by
  intro ops s s' hi h
  have := run_good e ops s hi
  rw [h] at this; exact ⟨this.1.1, this.1.2.1, this.1.2.2.1, this.1.2.2.2, this.2⟩

theorem run_not_oob (e : Env) : ∀ (ops : List Op) (s : State), Inv s → run e s ops ≠ .oob := by
  intro ops s hi h
  have := run_good e ops s hi
  rw [h] at this; exact this

theorem run_throw (e : Env) : ∀ (ops : List Op) (s s' : State), Inv s →
    (run e s ops = .badAlloc s' ∨ run e s ops = .lengthError s') →
    ∃ done op rest s'', ops = done ++ op :: rest ∧ run e s done = .ok s'' ∧
      (stepG e s'' op = .badAlloc s' ∨ stepG e s'' op = .lengthError s') ∧
      s' = { s'' with nalloc := s'.nalloc } := by
  intro ops s s' hi h
  have := run_good e ops s hi
  rcases h with h | h <;> rw [h] at this
  · obtain ⟨done, op, rest, s'', e1, e2, e3, e4⟩ := this
    exact ⟨done, op, rest, s'', e1, e2, .inl e3, e4⟩
  · obtain ⟨done, op, rest, s'', e1, e2, e3, e4⟩ := this
    exact ⟨done, op, rest, s'', e1, e2, .inr e3, e4⟩

theorem runCatch_good (e : Env) : ∀ (ops : List Op) (s : State), Inv s →
    ∃ s' done, runCatch e s ops = some (s', done) ∧ Inv s' ∧ s'.fixedCap = s.fixedCap ∧
      s'.maxSize = s.maxSize ∧ done.Sublist ops ∧ RefinesAll (abs s) done (abs s') := by
  intro ops
  induction ops with
  | nil => intro s hi; exact ⟨s, [], rfl, hi, rfl, rfl, List.Sublist.slnil, rfl⟩
  | cons op ops ih =>
    intro s hi
    have hg := stepG_good e s op hi
    rw [runCatch]
    -- an operation that throws has left the object as it was and is skipped
    have skip (s1 : State) (hs1 : s1 = { s with nalloc := s1.nalloc }) :
        ∃ s' done, runCatch e s1 ops = some (s', done) ∧ Inv s' ∧ s'.fixedCap = s.fixedCap ∧
          s'.maxSize = s.maxSize ∧ done.Sublist (op :: ops) ∧ RefinesAll (abs s) done (abs s') := by
      obtain ⟨s', done, h1, h2, h3, h4, h5, h6⟩ := ih s1 (hs1 ▸ Inv_nalloc hi _)
      rw [hs1] at h3 h4 h6
      exact ⟨s', done, h1, h2, h3, h4, h5.cons op, h6⟩
    cases hs : stepG e s op with
    | ok s1 =>
      rw [hs] at hg
      obtain ⟨i1, hf, hm, hc, hr, hsz⟩ := hg
      obtain ⟨s', done, h1, h2, h3, h4, h5, h6⟩ := ih s1 i1
      exact ⟨s', op :: done, by simp [h1], h2, h3.trans hf, h4.trans hm, h5.cons_cons op, ⟨abs s1, hr, h6⟩⟩
    | oob => rw [hs] at hg; exact hg.elim
    | lengthError s1 => rw [hs] at hg; exact skip s1 (by rw [show s1 = s from hg])
    | badAlloc s1 => rw [hs] at hg; exact skip s1 hg

/-! ## the list semantics is a function when no `resize` exposes cells -/

theorem Refines_length {l l' : List Nat} {op : Op} (h : Refines l op l') : l'.length = sizeAfter l.length op := by
  cases op with
  | resize n =>
    simp only [Refines] at h
    split at h
    · simp [h, sizeAfter]; omega
    · simp [h.1, sizeAfter]
  | _ => simp [Refines] at h; simp [h, sizeAfter]

theorem RefinesAll_length : ∀ (ops : List Op) (l l' : List Nat), RefinesAll l ops l' →
    l'.length = ops.foldl sizeAfter l.length := by
  intro ops
  induction ops with
  | nil => intro l l' h; simp [RefinesAll] at h; simp [h]
  | cons op ops ih =>
    intro l l' h
    obtain ⟨m, h1, h2⟩ := h
    rw [List.foldl_cons, ← Refines_length h1]
    exact ih m l' h2

theorem RefinesAll_spec : ∀ (ops : List Op) (l l' : List Nat), RefinesAll l ops l' → NoExpose l.length ops →
    l' = specRun l ops := by
  intro ops
  induction ops with
  | nil => intro l l' h _; simpa [RefinesAll, specRun] using h
  | cons op ops ih =>
    intro l l' h hn
    obtain ⟨m, h1, h2⟩ := h
    obtain ⟨hn1, hn2⟩ := hn
    have hm : m = specStep l op := by
      cases op with
      | resize n =>
        have := hn1 n rfl
        simp only [Refines, this, if_true] at h1
        simpa [specStep] using h1
      | _ => simpa [Refines, specStep] using h1
    rw [← Refines_length h1] at hn2
    have := ih m l' h2 hn2
    rw [this, hm]; rfl

/-! ## `add_sizes` and `checked_diff` of util.h on machine integers -/

theorem addSizesW_eq (M n1 n2 : Nat) (hM : M < 18446744073709551616) (h1 : n1 ≤ M) :
    addSizesW M n1 n2 = bufAddSizes M n1 n2 := by
  unfold addSizesW bufAddSizes
  rw [wrap_sub hM h1]
  split
  · rw [Nat.mod_eq_of_lt (by omega)]
  · rfl

theorem utilAddSizesW_eq (n1 n2 M : Nat) (hM : M < 18446744073709551616) (h1 : n1 ≤ M) :
    utilAddSizesW n1 n2 M = if n1 + n2 ≤ M then some (n1 + n2) else none := by
  unfold utilAddSizesW
  rw [wrap_sub hM h1]
  split
  · rw [if_neg (by omega)]
  · rw [if_pos (by omega), Nat.mod_eq_of_lt (by omega)]

/-- `checked_diff` for any widths, as long as the difference fits the unsigned version of `T`: the casts to
    `UT` cancel, and what is left are the two comparisons with the limits of `Out` -/
theorem checkedDiff_eq (wT : Nat) (sOut : Bool) (wOut : Nat) (a b : Int) (h1 : a - b < 2 ^ wT)
    (h2 : b - a < 2 ^ wT) :
    checkedDiff wT sOut wOut a b =
      if a ≥ b then (if a - b ≤ limMax sOut wOut then some (a - b) else none)
      else if sOut then (if b - a ≤ limMin sOut wOut then some (a - b) else none) else none := by
  unfold checkedDiff
  simp only [toU, ← Int.sub_emod]
  split
  · rw [Int.emod_eq_of_lt (by omega) h1]
  · rw [Int.emod_eq_of_lt (by omega) h2, show 0 - (b - a - 1) - 1 = a - b by omega]

theorem checkedDiff_signed (wT wOut : Nat) (a b : Int) (h1 : a - b < 2 ^ wT) (h2 : b - a < 2 ^ wT) :
    checkedDiff wT true wOut a b =
      if -(limMin true wOut) ≤ a - b ∧ a - b ≤ limMax true wOut then some (a - b) else none := by
  have hX : 0 ≤ limMax true wOut := by
    have := Int.pow_pos (n := 2) (m := wOut - 1) (by decide)
    simp only [limMax, if_true]; omega
  have hY : 0 ≤ limMin true wOut := Int.emod_nonneg _ (Int.pow_ne_zero (by decide))
  rw [checkedDiff_eq _ _ _ _ _ h1 h2, if_pos rfl]
  by_cases hab : a ≥ b
  · rw [if_pos hab]
    split
    · rw [if_pos ⟨by omega, ‹_›⟩]
    · rw [if_neg fun h => ‹¬ _› h.2]
  · rw [if_neg hab]
    split
    · rw [if_pos ⟨by omega, by omega⟩]
    · rw [if_neg fun h => ‹¬ _› (by omega)]

theorem checkedDiff_unsigned (wT wOut : Nat) (a b : Int) (h1 : a - b < 2 ^ wT) (h2 : b - a < 2 ^ wT) :
    checkedDiff wT false wOut a b =
      if 0 ≤ a - b ∧ a - b ≤ limMax false wOut then some (a - b) else none := by
  rw [checkedDiff_eq _ _ _ _ _ h1 h2]
  by_cases hab : a ≥ b
  · rw [if_pos hab]
    split
    · rw [if_pos ⟨by omega, ‹_›⟩]
    · rw [if_neg fun h => ‹¬ _› h.2]
  · rw [if_neg hab, if_neg (by decide), if_neg fun h => hab (by omega)]

/-- `checked_diff<std::ptrdiff_t>(size_t, size_t)` (url.h:2829, 2866) -/
theorem checkedDiff_size_ptrdiff (a b : Int) (ha : 0 ≤ a ∧ a < 2^64) (hb : 0 ≤ b ∧ b < 2^64) :
    checkedDiff 64 true 64 a b =
      if -(2^63) ≤ a - b ∧ a - b ≤ 2^63 - 1 then some (a - b) else none := by
  rw [checkedDiff_signed _ _ _ _ (by omega) (by omega)]; rfl

/-- `checked_diff<int>(int, int)` of test/test-util.cpp, 32-bit `int` -/
theorem checkedDiff_int_int (a b : Int) (ha : -(2^31) ≤ a ∧ a < 2^31) (hb : -(2^31) ≤ b ∧ b < 2^31) :
    checkedDiff 32 true 32 a b =
      if -(2^31) ≤ a - b ∧ a - b ≤ 2^31 - 1 then some (a - b) else none := by
  rw [checkedDiff_signed _ _ _ _ (by omega) (by omega)]; rfl

/-- `checked_diff<unsigned>(int, int)` of test/test-util.cpp -/
theorem checkedDiff_int_unsigned (a b : Int) (ha : -(2^31) ≤ a ∧ a < 2^31) (hb : -(2^31) ≤ b ∧ b < 2^31) :
    checkedDiff 32 false 32 a b =
      if 0 ≤ a - b ∧ a - b ≤ 2^32 - 1 then some (a - b) else none := by
  rw [checkedDiff_unsigned _ _ _ _ (by omega) (by omega)]; rfl

end Upa.Impl.SB
