import Upa.Impl.Form
import Upa.Spec.Form
import Upa.Proofs.Percent
import Upa.Proofs.ListScan
/-
  C15: the one-pass application/x-www-form-urlencoded parser of url_search_params::do_parse against the
  Standard's split / replace / percent-decode / UTF-8 decode pipeline, `urlencode` / `serialize` against
  the Standard's serializer, parse ∘ serialize.  `formParseAux` and `percentDecodeBytes` match on
  `c :: r@(h1 :: h2 :: r')` with recursion on `r` and `r'` (compiled by well-founded recursion); the three-way
  pattern is replaced by one equation for `c :: r` each (`formParseAux_cons`, `dec_cons`; `pd_cons`, `hex2`,
  `pctVal` are in Upa/Proofs/Percent.lean).  Their kernel-evaluable twins are in Upa/Proofs/EvalFuel.lean.
-/
namespace Upa.Proofs.C15
open Upa Upa.Impl Upa.Spec
open Upa.Proofs.C17 (splitOnP_ne_nil splitOnP_cons_sep splitOnP_cons_other splitOnP_mem)

/-! ## uniform "cons" equations (the models match on `c :: h1 :: h2 :: r'` vs `c :: r`) -/

theorem formParseAux_nil (st : FormSt) (acc : List BPair) : formParseAux [] st acc = st.flush acc := by
  simp [formParseAux]

theorem formParseAux_cons (c : Nat) (r : List Nat) (st : FormSt) (acc : List BPair) :
    formParseAux (c :: r) st acc =
      if c = 0x3D then
        if !st.inValue then formParseAux r { st with inValue := true, nonEmpty := true } acc
        else formParseAux r (st.push c) acc
      else if c = 0x26 then formParseAux r {} (st.flush acc)
      else if c = 0x2B then formParseAux r (st.push 0x20) acc
      else if c = 0x25 ∧ hex2 r = true then formParseAux (r.drop 2) (st.push (pctVal r)) acc
      else formParseAux r (st.push c) acc := by
  match r with
  | [] => simp [formParseAux, hex2]
  | [h1] => simp [formParseAux, hex2]
  | h1 :: h2 :: r' =>
    simp only [formParseAux, hex2, pctVal, List.drop_succ_cons, List.drop_zero]
    by_cases h25 : c = 0x25
    · subst h25
      by_cases hh : (isHex h1 && isHex h2) = true <;> simp [hh]
    · simp [h25]


/-! ## '+' → space then percent-decode, as one pass -/

/-- what the Standard applies to a name / a value before UTF-8 decoding -/
def dec (l : List Nat) : List Nat := percentDecodeBytes (plusToSpace l)

theorem isHex_p2s (c : Nat) : isHex (if c = 0x2B then 0x20 else c) = isHex c := by
  by_cases h : c = 0x2B
  · subst h; decide
  · simp [h]

theorem hexVal_p2s (c : Nat) (h : isHex c = true) : hexVal (if c = 0x2B then 0x20 else c) = hexVal c := by
  by_cases h' : c = 0x2B
  · subst h'; revert h; decide
  · simp [h']

theorem hex2_p2s (s : List Nat) : hex2 (plusToSpace s) = hex2 s := by
  match s with
  | [] => rfl
  | [_] => rfl
  | h1 :: h2 :: r => simp [plusToSpace, hex2, isHex_p2s]

theorem pctVal_p2s (s : List Nat) (h : hex2 s = true) : pctVal (plusToSpace s) = pctVal s := by
  match s with
  | [] => rfl
  | [_] => rfl
  | h1 :: h2 :: r =>
    simp only [hex2, Bool.and_eq_true] at h
    simp [plusToSpace, pctVal, hexVal_p2s _ h.1, hexVal_p2s _ h.2]

theorem dec_nil : dec [] = [] := by simp [dec, plusToSpace, pd_nil]

theorem dec_cons (c : Nat) (s : List Nat) :
    dec (c :: s) =
      if c = 0x2B then 0x20 :: dec s
      else if c = 0x25 ∧ hex2 s = true then pctVal s :: dec (s.drop 2)
      else c :: dec s := by
  have hd : (plusToSpace s).drop 2 = plusToSpace (s.drop 2) := by simp [plusToSpace, List.map_drop]
  by_cases h2B : c = 0x2B
  · subst h2B
    simp [dec, plusToSpace, pd_cons]
  · simp only [dec, plusToSpace, List.map_cons, if_neg h2B, pd_cons]
    have h := hex2_p2s s
    simp only [plusToSpace] at h hd
    rw [h, hd]
    by_cases hc : c = 0x25 ∧ hex2 s = true
    · have hv := pctVal_p2s s hc.2
      simp only [plusToSpace] at hv
      rw [if_pos hc, if_pos hc, hv]
    · rw [if_neg hc, if_neg hc]

/-- `StopsAt isHex rest` is asked of what follows a scanned segment: a `%` in its last two places must not find
    hex digits beyond it -/
theorem hex2_append (s rest : List Nat) (hr : C02.StopsAt isHex rest) : hex2 (s ++ rest) = hex2 s := by
  match s, rest, hr with
  | _, [], _ => rw [List.append_nil]
  | [], [_], _ => rfl
  | [], d :: _ :: _, hd | [_], d :: _, hd => simp [hex2, show isHex d = false from hd]
  | _ :: _ :: _, _, _ => simp [hex2]

theorem push_inValue (st : FormSt) (b : Nat) : (st.push b).inValue = st.inValue := by
  unfold FormSt.push; split <;> simp_all

/-- scanning a segment that contains no active delimiter pushes its `dec` -/
theorem scan (n : Nat) : ∀ (seg : List Nat) (st : FormSt) (acc : List BPair) (rest : List Nat),
    seg.length ≤ n →
    (∀ c ∈ seg, c ≠ 0x26 ∧ (st.inValue = false → c ≠ 0x3D)) → C02.StopsAt isHex rest →
    formParseAux (seg ++ rest) st acc = formParseAux rest ((dec seg).foldl FormSt.push st) acc := by
  induction n with
  | zero =>
    intro seg st acc rest hl _ _
    have : seg = [] := List.length_eq_zero_iff.1 (Nat.le_zero.1 hl)
    subst this; simp [dec_nil]
  | succ n ih =>
    intro seg st acc rest hl hseg hr
    match seg with
    | [] => simp [dec_nil]
    | c :: s =>
      have hc := hseg c (by simp)
      have hs : ∀ b, ∀ x ∈ s, x ≠ 0x26 ∧ ((st.push b).inValue = false → x ≠ 0x3D) := by
        intro b x hx; rw [push_inValue]; exact hseg x (by simp [hx])
      have hl' : s.length ≤ n := by simp at hl; omega
      rw [List.cons_append, formParseAux_cons, dec_cons, if_neg hc.1, hex2_append s rest hr]
      by_cases h3D : c = 0x3D
      · have hv : st.inValue = true := by
          cases hiv : st.inValue with
          | true => rfl
          | false => exact absurd h3D (hc.2 hiv)
        have h1 : ¬ c = 0x2B := by omega
        have h2 : ¬ (c = 0x25 ∧ hex2 s = true) := by omega
        rw [if_pos h3D, if_neg h1, if_neg h2]
        simp only [hv, Bool.not_true, List.foldl_cons]
        exact ih s (st.push c) acc rest hl' (hs c) hr
      · rw [if_neg h3D]
        by_cases h2B : c = 0x2B
        · rw [if_pos h2B, if_pos h2B, List.foldl_cons]
          exact ih s (st.push 0x20) acc rest hl' (hs _) hr
        · rw [if_neg h2B, if_neg h2B]
          by_cases hp : c = 0x25 ∧ hex2 s = true
          · rw [if_pos hp, if_pos hp, List.foldl_cons]
            obtain ⟨h1, h2, s', rfl, _, _⟩ := C14.hex2_true _ hp.2
            simp only [List.cons_append, List.drop_succ_cons, List.drop_zero, pctVal]
            refine ih s' (st.push _) acc rest (by simp at hl'; omega) ?_ hr
            intro x hx; exact hs _ x (by simp [hx])
          · rw [if_neg hp, if_neg hp, List.foldl_cons]
            exact ih s (st.push c) acc rest hl' (hs c) hr


/-! ## one piece (no '&' inside) -/

theorem foldl_push (l : List Nat) : ∀ (st : FormSt), l.foldl FormSt.push st =
    { name := if st.inValue then st.name else st.name ++ l,
      value := if st.inValue then st.value ++ l else st.value,
      inValue := st.inValue, nonEmpty := st.nonEmpty || !l.isEmpty } := by
  induction l with
  | nil => intro st; cases st; simp
  | cons b l ih =>
    intro st
    rw [List.foldl_cons, ih, push_inValue]
    cases h : st.inValue <;> simp [FormSt.push, h]

theorem splitFirst_spec (sep : Nat) (l : List Nat) :
    ((∀ c ∈ l, c ≠ sep) ∧ splitFirst sep l = (l, [])) ∨
    (∃ a b, l = a ++ sep :: b ∧ (∀ c ∈ a, c ≠ sep) ∧ splitFirst sep l = (a, b)) := by
  induction l with
  | nil => left; simp [splitFirst]
  | cons c cs ih =>
    by_cases h : c = sep
    · right; exact ⟨[], cs, by simp [h], by simp, by simp [splitFirst, h]⟩
    · rcases ih with ⟨h1, h2⟩ | ⟨a, b, h1, h2, h3⟩
      · left; refine ⟨?_, by simp [splitFirst, h, h2]⟩
        intro x hx; rcases List.mem_cons.1 hx with rfl | hx
        · exact h
        · exact h1 x hx
      · right; refine ⟨c :: a, b, by simp [h1], ?_, by simp [splitFirst, h, h3]⟩
        intro x hx; rcases List.mem_cons.1 hx with rfl | hx
        · exact h
        · exact h2 x hx

theorem splitFirst_sub (sep : Nat) (l : List Nat) :
    (∀ x ∈ (splitFirst sep l).1, x ∈ l) ∧ (∀ x ∈ (splitFirst sep l).2, x ∈ l) := by
  rcases splitFirst_spec sep l with ⟨_, h⟩ | ⟨a, b, h1, _, h⟩
  · rw [h]; exact ⟨fun _ hx => hx, fun _ hx => nomatch hx⟩
  · rw [h]; exact ⟨fun x hx => by rw [h1]; simp [hx], fun x hx => by rw [h1]; simp [hx]⟩

theorem dec_eq_nil {l : List Nat} : dec l = [] ↔ l = [] := by
  constructor
  · intro h
    match l with
    | [] => rfl
    | c :: s => rw [dec_cons] at h; split at h <;> (try split at h) <;> simp at h
  · rintro rfl; exact dec_nil

/-- what one non-'&' piece contributes to the output list -/
def pieceResult (p : List Nat) : List BPair :=
  if p = [] then []
  else [(checkFixUtf8 (dec (splitFirst 0x3D p).1), checkFixUtf8 (dec (splitFirst 0x3D p).2))]

def AmpOrEnd (rest : List Nat) : Prop := rest = [] ∨ ∃ r, rest = 0x26 :: r

theorem AmpOrEnd.noHex {rest : List Nat} (h : AmpOrEnd rest) : C02.StopsAt isHex rest := by
  rcases h with rfl | ⟨r, rfl⟩
  · trivial
  · show isHex 0x26 = false; decide

theorem piece_state (p : List Nat) (hp : ∀ c ∈ p, c ≠ 0x26) :
    ∃ st : FormSt, (∀ acc, st.flush acc = acc ++ pieceResult p) ∧
      ∀ rest acc, AmpOrEnd rest → formParseAux (p ++ rest) {} acc = formParseAux rest st acc := by
  rcases splitFirst_spec 0x3D p with ⟨hno, hsf⟩ | ⟨a, b, rfl, ha, hsf⟩
  · -- no '=' in the piece: everything goes to the name
    refine ⟨(dec p).foldl FormSt.push {}, ?_, ?_⟩
    · intro acc
      rw [foldl_push]
      by_cases hpe : p = []
      · subst hpe; simp [FormSt.flush, pieceResult, dec_nil]
      · have : dec p ≠ [] := fun h => hpe (dec_eq_nil.1 h)
        simp [FormSt.flush, pieceResult, hpe, hsf, this, dec_nil]
    · intro rest acc hr
      exact scan p.length p {} acc rest (Nat.le_refl _) (fun c hc => ⟨hp c hc, fun _ => hno c hc⟩) hr.noHex
  · -- name '=' value
    have hb : ∀ c ∈ b, c ≠ 0x26 := fun c hc => hp c (by simp [hc])
    have ha' : ∀ c ∈ a, c ≠ 0x26 := fun c hc => hp c (by simp [hc])
    refine ⟨(dec b).foldl FormSt.push
      { name := dec a, value := [], inValue := true, nonEmpty := true }, ?_, ?_⟩
    · intro acc
      rw [foldl_push]
      simp [FormSt.flush, pieceResult, hsf]
    · intro rest acc hr
      rw [List.append_assoc, List.cons_append, scan a.length a {} acc _ (Nat.le_refl _)
        (fun c hc => ⟨ha' c hc, fun _ => ha c hc⟩) (show C02.StopsAt isHex (0x3D :: _) from (by decide : isHex 0x3D = false))]
      rw [foldl_push, formParseAux_cons]
      simp only [if_true, Bool.not_false, List.nil_append]
      exact scan b.length b _ acc rest (Nat.le_refl _) (fun c hc => ⟨hb c hc, fun h => by simp at h⟩) hr.noHex

theorem piece_last (p : List Nat) (hp : ∀ c ∈ p, c ≠ 0x26) (acc : List BPair) :
    formParseAux p {} acc = acc ++ pieceResult p := by
  obtain ⟨st, h1, h2⟩ := piece_state p hp
  have := h2 [] acc (Or.inl rfl)
  rw [List.append_nil, formParseAux_nil, h1] at this
  exact this

theorem piece_amp (p r : List Nat) (hp : ∀ c ∈ p, c ≠ 0x26) (acc : List BPair) :
    formParseAux (p ++ 0x26 :: r) {} acc = formParseAux r {} (acc ++ pieceResult p) := by
  obtain ⟨st, h1, h2⟩ := piece_state p hp
  rw [h2 _ acc (Or.inr ⟨r, rfl⟩), formParseAux_cons]
  simp [h1]

theorem parse_intercalate (ps : List (List Nat)) (hps : ∀ p ∈ ps, ∀ c ∈ p, c ≠ 0x26) :
    ∀ acc, formParseAux (intercalateAmp ps) {} acc = acc ++ ps.flatMap pieceResult := by
  fun_induction intercalateAmp ps with
  | case1 => intro acc; simp [formParseAux_nil, FormSt.flush]
  | case2 p => intro acc; simp [piece_last p (hps p (by simp))]
  | case3 p ps _ ih =>
    intro acc
    rw [piece_amp p _ (hps p (by simp)), ih (fun x hx => hps x (by simp [hx]))]
    simp


/-! ## strict split on '&' -/

theorem intercalateAmp_cons_cons (c : Nat) (h : List Nat) (t : List (List Nat)) :
    intercalateAmp ((c :: h) :: t) = c :: intercalateAmp (h :: t) := by
  cases t <;> simp [intercalateAmp]

theorem intercalate_split (l : List Nat) : intercalateAmp (splitOnP (· == 0x26) l) = l := by
  induction l with
  | nil => simp [splitOnP, intercalateAmp]
  | cons c cs ih =>
    cases hs : splitOnP (· == 0x26) cs with
    | nil => exact absurd hs (splitOnP_ne_nil _ cs)
    | cons hd tl =>
      rw [hs] at ih
      by_cases h : (c == 0x26) = true
      · rw [splitOnP_cons_sep _ c cs h, hs]
        simp only [intercalateAmp, List.nil_append, ih]
        simp at h; rw [h]
      · rw [splitOnP_cons_other _ c cs (by simpa using h), hs]
        show intercalateAmp ((c :: hd) :: tl) = c :: cs
        rw [intercalateAmp_cons_cons, ih]

theorem split_noamp (l : List Nat) : ∀ p ∈ splitOnP (· == 0x26) l, ∀ c ∈ p, c ≠ 0x26 :=
  fun p hp c hc => by simpa using (splitOnP_mem _ l p hp c hc).2

/-! ## bytes stay bytes; `check_fix_utf8` is UTF-8 decode + encode -/

theorem dec_lt (l : List Nat) (hb : ∀ x ∈ l, x < 256) : ∀ x ∈ dec l, x < 256 := by
  refine C14.pdb_lt _ fun x hx => ?_
  obtain ⟨c, hc, rfl⟩ := List.mem_map.1 hx
  have := hb c hc
  split <;> omega

/-- the Standard's per-piece step of the urlencoded parser -/
def specPiece (piece : List Nat) : Option Spec.Pair :=
  if piece = [] then none
  else
    let (name, value) := splitFirst 0x3D piece
    some (utf8Decode (percentDecodeBytes (plusToSpace name)),
          utf8Decode (percentDecodeBytes (plusToSpace value)))

theorem urlencodedParse_eq (bytes : List Nat) :
    urlencodedParse bytes = (splitOnP (· == 0x26) bytes).filterMap specPiece := rfl

/-- Standard strings → stored UTF-8 -/
def encPair (p : Spec.Pair) : BPair := (utf8Encode p.1, utf8Encode p.2)

theorem pieceResult_spec (p : List Nat) (hp : ∀ b ∈ p, b < 256) :
    pieceResult p = ((specPiece p).map encPair).toList := by
  unfold pieceResult specPiece
  by_cases hpe : p = []
  · simp [hpe]
  · rw [if_neg hpe, if_neg hpe]
    have hs := splitFirst_sub 0x3D p
    rw [checkFix_spec _ (dec_lt _ fun x hx => hp x (hs.1 x hx)),
      checkFix_spec _ (dec_lt _ fun x hx => hp x (hs.2 x hx))]
    rfl

theorem flatMap_pieceResult (ps : List (List Nat)) (hps : ∀ p ∈ ps, ∀ b ∈ p, b < 256) :
    ps.flatMap pieceResult = (ps.filterMap specPiece).map encPair := by
  induction ps with
  | nil => rfl
  | cons p ps ih =>
    rw [List.flatMap_cons, ih (fun q hq => hps q (by simp [hq])), pieceResult_spec p (hps p (by simp)),
      List.filterMap_cons]
    cases specPiece p <;> simp

theorem formParse_qmark (r : List Nat) : formParse true (0x3F :: r) = formParseAux r {} [] := rfl

theorem formParse_keep (remQmark : Bool) (l : List Nat) (h : ¬ (remQmark = true ∧ l.head? = some 0x3F)) :
    formParse remQmark l = formParseAux l {} [] := by
  unfold formParse
  split
  · exact absurd ⟨rfl, rfl⟩ h
  · rfl

theorem formParse_false (bytes : List Nat) : formParse false bytes = formParseAux bytes {} [] :=
  formParse_keep false bytes (fun h => nomatch h.1)

theorem parse_eq (bytes : List Nat) (hb : ∀ b ∈ bytes, b < 256) :
    formParse false bytes = (urlencodedParse bytes).map encPair := by
  rw [formParse_false, urlencodedParse_eq]
  conv => lhs; rw [← intercalate_split bytes]
  rw [parse_intercalate _ (split_noamp bytes), List.nil_append]
  exact flatMap_pieceResult _ (fun p hp b hb' => hb b (splitOnP_mem _ bytes p hp b hb').1)


/-! ## urlencode / serialize -/

/-- what `urlencode` appends for one byte -/
def enc1 (b : Nat) : List Nat :=
  if urlencodedByte b = 0x25 then pctByte b else [urlencodedByte b]

theorem urlencode_eq (n : List Nat) : urlencode n = n.flatMap enc1 := rfl
theorem urlencode_nil : urlencode [] = [] := rfl
theorem urlencode_cons (b : Nat) (n : List Nat) : urlencode (b :: n) = enc1 b ++ urlencode n := rfl

/-- the alphabet of a serialized query: ASCII alphanumerics, `*-._`, `+`, `%`, `=`, `&` -/
def isFormChar (c : Nat) : Bool :=
  isAlpha c || isDigit c || c == 0x2A || c == 0x2D || c == 0x2E || c == 0x5F ||
    c == 0x2B || c == 0x25 || c == 0x3D || c == 0x26

theorem isFormChar_lt (c : Nat) (h : isFormChar c = true) : c < 128 := by
  simp [isFormChar, isAlpha, isDigit] at h; omega

/-- `kEncByte` on bytes: the Standard's byte serializer (space ↦ `+`, a byte of the urlencoded set ↦ escape),
    and what it keeps is in the alphabet and is none of the characters that the parser treats specially -/
theorem urlencodedByte_tbl : ∀ b, b < 256 →
    urlencodedByte b = (if b = 0x20 then 0x2B else if urlencodedSet b then 0x25 else b) ∧
    (urlencodedSet b = false → isFormChar b = true ∧ b ≠ 0x26 ∧ b ≠ 0x3D ∧ b ≠ 0x2B ∧ b ≠ 0x25) := by
  decide +kernel

theorem urlencodedByte_spec (b : Nat) :
    urlencodedByte b = (if b = 0x20 then 0x2B else if urlencodedSet b then 0x25 else b) := by
  by_cases h : b < 256
  · exact (urlencodedByte_tbl b h).1
  · have h1 : urlencodedByte b = 0x25 := by
      have h20 : (b == 0x20) = false := by simp; omega
      have hA : isAlpha b = false := by simp [isAlpha]; omega
      have hD : isDigit b = false := by simp [isDigit]; omega
      have h2A : (b == 0x2A) = false := by simp; omega
      have h2D : (b == 0x2D) = false := by simp; omega
      have h2E : (b == 0x2E) = false := by simp; omega
      have h5F : (b == 0x5F) = false := by simp; omega
      simp [urlencodedByte, h20, hA, hD, h2A, h2D, h2E, h5F]
    rw [h1, if_neg (by omega), C14.urlencoded_hi b (by omega)]
    rfl

theorem enc1_spec (b : Nat) :
    enc1 b = (if b = 0x20 then [0x2B] else if urlencodedSet b then pctByte b else [b]) := by
  unfold enc1
  rw [urlencodedByte_spec]
  by_cases h20 : b = 0x20
  · rw [if_pos h20, if_pos h20]; rfl
  · rw [if_neg h20, if_neg h20]
    cases hs : urlencodedSet b
    · have : b ≠ 0x25 := fun h => by rw [h] at hs; revert hs; decide
      simp [this]
    · simp

theorem urlencode_spec (bytes : List Nat) : urlencode bytes = urlencodedSerializeBytes bytes :=
  congrArg (fun f => bytes.flatMap f) (funext enc1_spec)

theorem hexUpper_form : ∀ n, n < 16 →
    isFormChar (hexDigitUpper n) = true ∧ hexDigitUpper n ≠ 0x26 ∧ hexDigitUpper n ≠ 0x3D := by decide

theorem enc1_alphabet (b : Nat) (hb : b < 256) :
    ∀ c ∈ enc1 b, isFormChar c = true ∧ c ≠ 0x26 ∧ c ≠ 0x3D := by
  intro c hc
  rw [enc1_spec] at hc
  split at hc
  · rw [List.mem_singleton.1 hc]; decide
  · split at hc
    · simp only [pctByte, List.mem_cons, List.not_mem_nil, or_false] at hc
      rcases hc with rfl | rfl | rfl
      · decide
      · exact hexUpper_form _ (by omega)
      · exact hexUpper_form _ (by omega)
    · next hs =>
      have := (urlencodedByte_tbl b hb).2 (by simpa using hs)
      rw [List.mem_singleton.1 hc]
      exact ⟨this.1, this.2.1, this.2.2.1⟩

theorem urlencode_alphabet (n : List Nat) (hn : ∀ b ∈ n, b < 256) :
    ∀ c ∈ urlencode n, isFormChar c = true ∧ c ≠ 0x26 ∧ c ≠ 0x3D := by
  intro c hc
  obtain ⟨b, hb, hcb⟩ := List.mem_flatMap.1 hc
  exact enc1_alphabet b (hn b hb) c hcb

def encPiece (p : BPair) : List Nat := urlencode p.1 ++ 0x3D :: urlencode p.2

theorem encPiece_alphabet (p : BPair) (h : (∀ b ∈ p.1, b < 256) ∧ (∀ b ∈ p.2, b < 256)) :
    ∀ c ∈ encPiece p, isFormChar c = true ∧ c ≠ 0x26 := by
  intro c hc
  simp only [encPiece, List.mem_append, List.mem_cons] at hc
  rcases hc with hc | rfl | hc
  · exact ⟨(urlencode_alphabet _ h.1 c hc).1, (urlencode_alphabet _ h.1 c hc).2.1⟩
  · decide
  · exact ⟨(urlencode_alphabet _ h.2 c hc).1, (urlencode_alphabet _ h.2 c hc).2.1⟩

theorem formSerialize_eq (l : List BPair) : formSerialize l = intercalateAmp (l.map encPiece) := by
  induction l with
  | nil => rfl
  | cons p l ih =>
    obtain ⟨n, v⟩ := p
    match l with
    | [] => simp [formSerialize, intercalateAmp, encPiece]
    | q :: qs =>
      have : formSerialize ((n, v) :: q :: qs) =
          urlencode n ++ 0x3D :: urlencode v ++ 0x26 :: formSerialize (q :: qs) := by
        simp [formSerialize]
      rw [this, ih]
      simp [intercalateAmp, encPiece]

theorem mem_intercalateAmp (ps : List (List Nat)) (c : Nat) (h : c ∈ intercalateAmp ps) :
    c = 0x26 ∨ ∃ p ∈ ps, c ∈ p := by
  fun_induction intercalateAmp ps with
  | case1 => simp at h
  | case2 x => exact .inr ⟨x, by simp, h⟩
  | case3 x xs _ ih =>
    rw [List.mem_append, List.mem_cons] at h
    rcases h with h | h | h
    · exact .inr ⟨x, by simp, h⟩
    · exact .inl h
    · rcases ih h with h | ⟨y, hy, hc⟩
      · exact .inl h
      · exact .inr ⟨y, List.mem_cons_of_mem _ hy, hc⟩

theorem serialize_alphabet (l : List BPair)
    (hl : ∀ p ∈ l, (∀ b ∈ p.1, b < 256) ∧ (∀ b ∈ p.2, b < 256)) :
    ∀ c ∈ formSerialize l, isFormChar c = true := by
  intro c hc
  rw [formSerialize_eq] at hc
  rcases mem_intercalateAmp _ c hc with rfl | ⟨x, hx, hcx⟩
  · decide
  · obtain ⟨p, hp, rfl⟩ := List.mem_map.1 hx
    exact (encPiece_alphabet p (hl p hp) c hcx).1

theorem serialize_spec (l : List Spec.Pair) :
    formSerialize (l.map encPair) = urlencodedSerialize l := by
  rw [formSerialize_eq, urlencodedSerialize, List.map_map]
  congr 1
  apply List.map_congr_left
  intro p _
  simp [encPiece, encPair, urlencode_spec]

/-! ## parsing what `serialize` wrote -/

theorem enc1_class (b : Nat) (hb : b < 256) :
    (b = 0x20 ∧ enc1 b = [0x2B]) ∨
    (enc1 b = [b] ∧ b ≠ 0x2B ∧ b ≠ 0x25) ∨
    enc1 b = pctByte b := by
  rw [enc1_spec]
  by_cases h20 : b = 0x20
  · exact Or.inl ⟨h20, if_pos h20⟩
  · rw [if_neg h20]
    cases hs : urlencodedSet b
    · have := (urlencodedByte_tbl b hb).2 hs
      exact Or.inr (Or.inl ⟨by simp, this.2.2.2⟩)
    · exact Or.inr (Or.inr (by simp))

theorem dec_enc1 (b : Nat) (hb : b < 256) (rest : List Nat) : dec (enc1 b ++ rest) = b :: dec rest := by
  rcases enc1_class b hb with ⟨rfl, h⟩ | ⟨h, h1, h2⟩ | h
  · rw [h]; simp [dec_cons]
  · rw [h, List.singleton_append, dec_cons, if_neg h1, if_neg (fun hh => h2 hh.1)]
  · have x1 := (C14.hexDigitUpper_tbl (b / 16) (by omega)).2.1
    have x2 := (C14.hexDigitUpper_tbl (b % 16) (by omega)).2.1
    rw [h, pctByte]
    simp only [List.cons_append, List.nil_append]
    rw [dec_cons, if_neg (by decide), if_pos ⟨rfl, by simp [hex2, x1, x2]⟩]
    simp [pctVal, C14.pctByte_val b hb]

theorem dec_urlencode (n : List Nat) (hn : ∀ b ∈ n, b < 256) : dec (urlencode n) = n := by
  induction n with
  | nil => simp [urlencode_nil, dec_nil]
  | cons b n ih =>
    rw [urlencode_cons, dec_enc1 b (hn b (by simp)), ih (fun x hx => hn x (by simp [hx]))]

theorem splitFirst_append (sep : Nat) (a b : List Nat) (ha : ∀ c ∈ a, c ≠ sep) :
    splitFirst sep (a ++ sep :: b) = (a, b) := by
  induction a with
  | nil => simp [splitFirst]
  | cons c a ih =>
    have hc : c ≠ sep := ha c (by simp)
    simp [splitFirst, hc, ih (fun x hx => ha x (by simp [hx]))]

theorem pieceResult_encPiece (p : BPair) (h1 : ∀ b ∈ p.1, b < 256) (h2 : ∀ b ∈ p.2, b < 256) :
    pieceResult (encPiece p) = [(checkFixUtf8 p.1, checkFixUtf8 p.2)] := by
  have hne : encPiece p ≠ [] := by simp [encPiece]
  rw [pieceResult, if_neg hne, encPiece,
    splitFirst_append 0x3D _ _ (fun c hc => (urlencode_alphabet p.1 h1 c hc).2.2),
    dec_urlencode _ h1, dec_urlencode _ h2]

/-- for arbitrary stored byte strings, parse ∘ serialize repairs the UTF-8 and changes nothing else -/
theorem roundtrip_bytes (l : List BPair)
    (hl : ∀ p ∈ l, (∀ b ∈ p.1, b < 256) ∧ (∀ b ∈ p.2, b < 256)) :
    formParse false (formSerialize l) = l.map fun p => (checkFixUtf8 p.1, checkFixUtf8 p.2) := by
  rw [formParse_false, formSerialize_eq, parse_intercalate, List.nil_append]
  · induction l with
    | nil => rfl
    | cons p l ih =>
      rw [List.map_cons, List.flatMap_cons, pieceResult_encPiece p (hl p (by simp)).1 (hl p (by simp)).2,
        ih (fun q hq => hl q (by simp [hq]))]
      rfl
  · intro x hx c hc
    obtain ⟨p, hp, rfl⟩ := List.mem_map.1 hx
    exact (encPiece_alphabet p (hl p hp) c hc).2

theorem roundtrip (l : List Spec.Pair)
    (hl : ∀ p ∈ l, (∀ c ∈ p.1, isScalar c = true) ∧ (∀ c ∈ p.2, isScalar c = true)) :
    formParse false (formSerialize (l.map encPair)) = l.map encPair := by
  rw [roundtrip_bytes]
  · rw [List.map_map]
    apply List.map_congr_left
    intro p hp
    simp [encPair, checkFix_wf _ (hl p hp).1, checkFix_wf _ (hl p hp).2]
  · intro q hq
    obtain ⟨p, hp, rfl⟩ := List.mem_map.1 hq
    exact ⟨utf8Encode_lt _ (hl p hp).1, utf8Encode_lt _ (hl p hp).2⟩

/-! ## the leading '?' -/

theorem formParse_true (bytes : List Nat) :
    formParse true bytes = formParse false (match bytes with | 0x3F :: r => r | l => l) := by
  unfold formParse
  split <;> simp_all

end Upa.Proofs.C15
