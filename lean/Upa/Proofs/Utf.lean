import Upa.Impl.Utf
import Upa.Spec.Encoding
/-
  C10: the UTF decoders / encoders of url_utf against the Encoding Standard and Infra.
  UTF-8: `readU8` (ICU macros, two bit tables) is a test on the lead and second byte (`t3ok`, `t4ok`)
  followed by continuation bytes (`trail`, test `trailOk`); the table tests are the WHATWG ranges for every
  natural number (the trail test only modulo 256), and on bytes the Standard's state machine in a state that
  wants a continuation byte does what `trail k` does (`aux_trail`), so one read is one scalar value or one
  error of the machine (`utf8DecodeAux_readU8`).  UTF-16: on 16-bit units the bit tests are ranges
  (`surr_iff`, `lead_iff`, `trail_iff`); UTF-32 directly.  Then: the encoders (bit operations = div/mod),
  `read_code_point` looks only at the units it consumes (`*_append`, hence `decode_ascii_split`), reading
  back an encoded scalar value and the round trip, and `check_fix_utf8`.  A lemma about `readU8` that does
  not need its units to be bytes is stated without `< 256` (and `t3ok_iff`, `t4ok_iff` cover every natural
  number): `compareByCodeUnits` (C16) runs `readU8` on unrestricted lists.
-/
namespace Upa.Impl
open Upa.Spec

theorem and3F (x : Nat) : x &&& 0x3F = x % 64 := Nat.and_two_pow_sub_one_eq_mod x 6
theorem and1F (x : Nat) : x &&& 0x1F = x % 32 := Nat.and_two_pow_sub_one_eq_mod x 5
theorem andF (x : Nat) : x &&& 0xF = x % 16 := Nat.and_two_pow_sub_one_eq_mod x 4
theorem and7 (x : Nat) : x &&& 0x7 = x % 8 := Nat.and_two_pow_sub_one_eq_mod x 3
theorem and3FF (x : Nat) : x &&& 0x3FF = x % 1024 := Nat.and_two_pow_sub_one_eq_mod x 10

theorem shl10 (x : Nat) : x <<< 10 = x * 1024 := by simp [Nat.shiftLeft_eq]
theorem shr4 (x : Nat) : x >>> 4 = x / 16 := by simp [Nat.shiftRight_eq_div_pow]
theorem shr5 (x : Nat) : x >>> 5 = x / 32 := by simp [Nat.shiftRight_eq_div_pow]
theorem shr6 (x : Nat) : x >>> 6 = x / 64 := by simp [Nat.shiftRight_eq_div_pow]
theorem shr10 (x : Nat) : x >>> 10 = x / 1024 := by simp [Nat.shiftRight_eq_div_pow]
theorem shr12 (x : Nat) : x >>> 12 = x / 4096 := by simp [Nat.shiftRight_eq_div_pow]
theorem shr18 (x : Nat) : x >>> 18 = x / 262144 := by simp [Nat.shiftRight_eq_div_pow]

theorem shl6_or_mod (a b : Nat) : (a <<< 6) ||| (b % 64) = a * 64 + b % 64 := by
  rw [← Nat.shiftLeft_add_eq_or_of_lt (i := 6) (Nat.mod_lt _ (by decide)), Nat.shiftLeft_eq]

theorem or80 : ∀ x, x < 64 → x ||| 0x80 = x + 0x80 := by decide
theorem orC0 : ∀ x, x < 32 → x ||| 0xC0 = x + 0xC0 := by decide
theorem orE0 : ∀ x, x < 16 → x ||| 0xE0 = x + 0xE0 := by decide
theorem orF0 : ∀ x, x < 8 → x ||| 0xF0 = x + 0xF0 := by decide
theorem orDC00 (x : Nat) (h : x < 1024) : x ||| 0xDC00 = x + 0xDC00 := by
  have := Nat.shiftLeft_add_eq_or_of_lt (i := 10) (b := x) (by simpa using h) 55
  have h55 : (55 : Nat) <<< 10 = 0xDC00 := by decide
  rw [h55] at this
  rw [Nat.or_comm, ← this]; omega

theorem and_ones_shl (c k n : Nat) : c &&& ((2 ^ n - 1) * 2 ^ k) = (c / 2 ^ k % 2 ^ n) * 2 ^ k := by
  have hd : (c &&& ((2 ^ n - 1) * 2 ^ k)) / 2 ^ k = c / 2 ^ k &&& ((2 ^ n - 1) * 2 ^ k) / 2 ^ k :=
    Nat.and_div_two_pow
  have hm : (c &&& ((2 ^ n - 1) * 2 ^ k)) % 2 ^ k = (c % 2 ^ k) &&& (((2 ^ n - 1) * 2 ^ k) % 2 ^ k) :=
    Nat.and_mod_two_pow
  rw [Nat.mul_div_cancel _ (Nat.two_pow_pos k), Nat.and_two_pow_sub_one_eq_mod] at hd
  rw [Nat.mul_mod_left, Nat.and_zero] at hm
  rw [← hd, ← Nat.div_add_mod (c &&& ((2 ^ n - 1) * 2 ^ k)) (2 ^ k), hm, Nat.add_zero,
    Nat.mul_div_cancel_left _ (Nat.two_pow_pos k), Nat.mul_comm]

theorem andHi11 (c : Nat) : c &&& 0xFFFFF800 = (c / 2048 % 2097152) * 2048 := and_ones_shl c 11 21
theorem andHi10 (c : Nat) : c &&& 0xFFFFFC00 = (c / 1024 % 4194304) * 1024 := and_ones_shl c 10 22
theorem and400 (c : Nat) : c &&& 0x400 = (c / 1024 % 2) * 1024 := and_ones_shl c 10 1

/-! ## the two ICU bit tables are the WHATWG lower/upper boundaries -/

theorem and_two_pow_of_lt {x s : Nat} (h : x < 2 ^ s) : x &&& 2 ^ s = 0 := by
  apply Nat.eq_of_testBit_eq
  intro j
  simp only [Nat.testBit_and, Nat.testBit_two_pow, Nat.zero_testBit]
  by_cases hj : s = j
  · subst hj; simp [Nat.testBit_lt_two_pow h]
  · simp [hj]

/-- the three tests of `readU8`: lead3 table, lead4 table, trail byte -/
def t3ok (b0 b1 : Nat) : Prop := (lead3T1Bits.getD (b0 &&& 0xF) 0) &&& (1 <<< (b1 >>> 5)) ≠ 0
def t4ok (b0 b1 : Nat) : Prop :=
  b0 - 0xF0 ≤ 4 ∧ (lead4T1Bits.getD (b1 >>> 4) 0) &&& (1 <<< (b0 - 0xF0)) ≠ 0
def trailOk (b : Nat) : Prop := subByte80 b ≤ 0x3F
instance (b0 b1 : Nat) : Decidable (t3ok b0 b1) :=
  inferInstanceAs (Decidable ((lead3T1Bits.getD (b0 &&& 0xF) 0) &&& (1 <<< (b1 >>> 5)) ≠ 0))
instance (b0 b1 : Nat) : Decidable (t4ok b0 b1) :=
  inferInstanceAs (Decidable (b0 - 0xF0 ≤ 4 ∧ (lead4T1Bits.getD (b1 >>> 4) 0) &&& (1 <<< (b0 - 0xF0)) ≠ 0))
instance (b : Nat) : Decidable (trailOk b) := inferInstanceAs (Decidable (subByte80 b ≤ 0x3F))

/-- k_U8_LEAD3_T1_BITS: entry `k` (lead byte `E0 + k`) has bit `j` set iff a second byte with top three
    bits `j` is allowed; only bits 4 (80..9F) and 5 (A0..BF) occur. -/
theorem lead3_bits : ∀ k, k < 16 → lead3T1Bits.getD k 0 < 2 ^ 6 ∧ ∀ j, j < 6 →
    (lead3T1Bits.getD k 0 &&& (1 <<< j) ≠ 0 ↔ (j = 4 ∨ j = 5) ∧ (k = 0 → j = 5) ∧ (k = 13 → j = 4)) := by
  decide

/-- k_U8_LEAD4_T1_BITS: entry `i` (second byte with top nibble `i`) has bit `c` set iff lead byte
    `F0 + c` allows it. -/
theorem lead4_bits : ∀ i, i < 16 → ∀ c, c ≤ 4 →
    (lead4T1Bits.getD i 0 &&& (1 <<< c) ≠ 0 ↔ (8 ≤ i ∧ i ≤ 11) ∧ (c = 0 → 9 ≤ i) ∧ (c = 4 → i = 8)) := by
  decide

/-- The table tests decide the WHATWG ranges for every natural number `b1`, byte or not: a shift count
    past the table width finds no bit. -/
theorem t3ok_iff (b0 b1 : Nat) (hE : 0xE0 ≤ b0) (hF : b0 < 0xF0) :
    t3ok b0 b1 ↔ 0x80 ≤ b1 ∧ b1 ≤ 0xBF ∧ (b0 = 0xE0 → 0xA0 ≤ b1) ∧ (b0 = 0xED → b1 ≤ 0x9F) := by
  unfold t3ok
  rw [andF, shr5]
  obtain ⟨hlt, hb⟩ := lead3_bits (b0 % 16) (Nat.mod_lt _ (by decide))
  by_cases hj : b1 / 32 < 6
  · rw [hb _ hj]; omega
  · rw [Nat.one_shiftLeft,
      and_two_pow_of_lt (Nat.lt_of_lt_of_le hlt (Nat.pow_le_pow_right (by decide) (by omega)))]
    omega

theorem t4ok_iff (b0 b1 : Nat) (hF : 0xF0 ≤ b0) :
    t4ok b0 b1 ↔
      b0 ≤ 0xF4 ∧ 0x80 ≤ b1 ∧ b1 ≤ 0xBF ∧ (b0 = 0xF0 → 0x90 ≤ b1) ∧ (b0 = 0xF4 → b1 ≤ 0x8F) := by
  unfold t4ok
  rw [shr4]
  by_cases hc : b0 - 0xF0 ≤ 4
  · by_cases hi : b1 / 16 < 16
    · rw [lead4_bits _ hi _ hc]; omega
    · rw [List.getD_eq_getElem?_getD, List.getElem?_eq_none (by simp [lead4T1Bits]; omega)]
      simp only [Option.getD_none, Nat.zero_and]
      omega
  · omega

theorem trailOk_iff (b : Nat) : trailOk b ↔ 0x80 ≤ b % 256 ∧ b % 256 ≤ 0xBF := by
  unfold trailOk subByte80; omega

theorem trailOk_val (b : Nat) (h : trailOk b) : subByte80 b = b % 64 := by
  unfold trailOk at h; unfold subByte80 at *; omega

/-! ## `readU8`: a lead test, then continuation bytes -/

theorem readU8_ascii (b0 : Nat) (r : List Nat) (h : b0 < 0x80) : readU8 (b0 :: r) = (true, b0, r) := by
  simp only [readU8, h, if_true]
theorem readU8_one (b0 : Nat) (h : ¬ b0 < 0x80) : readU8 [b0] = (false, 0xFFFD, []) := by
  simp only [readU8, h, if_false]

/-- one continuation byte of `readU8`: `k` receives its six payload bits and the rest -/
def trail (k : Nat → List Nat → Bool × Nat × List Nat) : List Nat → Bool × Nat × List Nat
  | [] => (false, 0xFFFD, [])
  | b :: r => if trailOk b then k (subByte80 b) r else (false, 0xFFFD, b :: r)

theorem trail_cons (k : Nat → List Nat → Bool × Nat × List Nat) (b : Nat) (r : List Nat) :
    trail k (b :: r) = if trailOk b then k (subByte80 b) r else (false, 0xFFFD, b :: r) := rfl

theorem readU8_2 (b0 b1 : Nat) (r1 : List Nat) (h : ¬ b0 < 0x80) (hE : ¬ b0 ≥ 0xE0) :
    readU8 (b0 :: b1 :: r1) =
      if b0 ≥ 0xC2 then trail (fun t r => (true, ((b0 &&& 0x1F) <<< 6) ||| t, r)) (b1 :: r1)
      else (false, 0xFFFD, b1 :: r1) := by
  simp only [readU8, h, hE, if_false, trailOk, trail]
  rfl
theorem readU8_3 (b0 b1 : Nat) (r1 : List Nat) (hE : b0 ≥ 0xE0) (hF : b0 < 0xF0) :
    readU8 (b0 :: b1 :: r1) =
      if t3ok b0 b1 then
        trail (fun t r => (true, ((((b0 &&& 0xF) <<< 6) ||| (b1 &&& 0x3F)) <<< 6) ||| t, r)) r1
      else (false, 0xFFFD, b1 :: r1) := by
  have h : ¬ b0 < 0x80 := by omega
  simp only [readU8, h, hE, hF, if_false, if_true, t3ok]
  rfl
theorem readU8_4 (b0 b1 : Nat) (r1 : List Nat) (hF : ¬ b0 < 0xF0) :
    readU8 (b0 :: b1 :: r1) =
      if t4ok b0 b1 then
        trail (fun t r => trail (fun t3 r3 =>
          (true, ((((((b0 - 0xF0) <<< 6) ||| (b1 &&& 0x3F)) <<< 6) ||| t) <<< 6) ||| t3, r3)) r) r1
      else (false, 0xFFFD, b1 :: r1) := by
  have h : ¬ b0 < 0x80 := by omega
  have hE : b0 ≥ 0xE0 := by omega
  simp only [readU8, h, hE, hF, if_false, if_true, t4ok]
  rfl

theorem trail_ok {k : Nat → List Nat → Bool × Nat × List Nat} {r : List Nat} (h : (trail k r).1 = true) :
    ∃ b r', r = b :: r' ∧ trailOk b ∧ trail k r = k (b % 64) r' := by
  cases r with
  | nil => exact (Bool.false_ne_true h).elim
  | cons b r' =>
    by_cases hb : trailOk b
    · exact ⟨b, r', rfl, hb, by rw [trail_cons, if_pos hb, trailOk_val b hb]⟩
    · rw [trail_cons, if_neg hb] at h; exact (Bool.false_ne_true h).elim

theorem ite_iff {α : Sort _} {p q : Prop} [Decidable p] [Decidable q] (h : p ↔ q) (a b : α) :
    (if p then a else b) = (if q then a else b) := by
  by_cases hq : q
  · rw [if_pos hq, if_pos (h.2 hq)]
  · rw [if_neg hq, if_neg (fun hp => hq (h.1 hp))]

theorem trail_byte (k : Nat → List Nat → Bool × Nat × List Nat) (b : Nat) (r : List Nat) (hb : b < 256) :
    trail k (b :: r) = if 0x80 ≤ b ∧ b ≤ 0xBF then k (b % 64) r else (false, 0xFFFD, b :: r) := by
  have h : trailOk b ↔ 0x80 ≤ b ∧ b ≤ 0xBF := by rw [trailOk_iff, Nat.mod_eq_of_lt hb]
  rw [trail_cons, ite_iff h]
  split
  · next hr => rw [trailOk_val b (h.2 hr)]
  · rfl

/-! ## structure of the decode loop -/

/-- the code point delivered by one `read_utf_char` -/
def cpOf (r : Bool × Nat × List Nat) : Nat := if r.1 then r.2.1 else 0xFFFD

theorem readUtfChar_eq (e : Enc) (l : List Nat) :
    readUtfChar e l = (cpOf (readChar e l), (readChar e l).2.2) := rfl

theorem readU8_suffix (l : List Nat) (h : l ≠ []) : ∃ pre, pre ≠ [] ∧ pre ++ (readU8 l).2.2 = l := by
  fun_cases readU8 l
  all_goals first
    | exact absurd rfl h
    | exact ⟨[_], List.cons_ne_nil _ _, rfl⟩
    | exact ⟨[_, _], List.cons_ne_nil _ _, rfl⟩
    | exact ⟨[_, _, _], List.cons_ne_nil _ _, rfl⟩
    | exact ⟨[_, _, _, _], List.cons_ne_nil _ _, rfl⟩

theorem readU16_suffix (l : List Nat) (h : l ≠ []) : ∃ pre, pre ≠ [] ∧ pre ++ (readU16 l).2.2 = l := by
  fun_cases readU16 l
  all_goals first
    | exact absurd rfl h
    | exact ⟨[_], List.cons_ne_nil _ _, rfl⟩
    | exact ⟨[_, _], List.cons_ne_nil _ _, rfl⟩

theorem readU32_suffix (l : List Nat) (h : l ≠ []) : ∃ pre, pre ≠ [] ∧ pre ++ (readU32 l).2.2 = l := by
  fun_cases readU32 l
  · exact absurd rfl h
  · exact ⟨[_], List.cons_ne_nil _ _, rfl⟩

theorem readChar_suffix (e : Enc) (l : List Nat) (h : l ≠ []) :
    ∃ pre, pre ≠ [] ∧ pre ++ (readChar e l).2.2 = l := by
  cases e
  · exact readU8_suffix l h
  · exact readU16_suffix l h
  · exact readU32_suffix l h

theorem readChar_rest_length (e : Enc) (l : List Nat) (h : l ≠ []) :
    (readChar e l).2.2.length < l.length := by
  obtain ⟨pre, hp, he⟩ := readChar_suffix e l h
  have : (pre ++ (readChar e l).2.2).length = l.length := by rw [he]
  rw [List.length_append] at this
  have : 0 < pre.length := List.length_pos_iff.mpr hp
  omega

theorem readChar_rest_mem (e : Enc) (l : List Nat) (h : l ≠ []) :
    ∀ x ∈ (readChar e l).2.2, x ∈ l := by
  obtain ⟨pre, _, he⟩ := readChar_suffix e l h
  intro x hx
  rw [← he]; exact List.mem_append_right _ hx

theorem decodeAux_fuel (e : Enc) : ∀ (fuel : Nat) (l : List Nat), l.length ≤ fuel →
    ∀ fuel', l.length ≤ fuel' → decodeAux e fuel l = decodeAux e fuel' l := by
  intro fuel
  induction fuel with
  | zero =>
    intro l hl fuel' _
    have : l = [] := List.length_eq_zero_iff.mp (by omega)
    subst this
    cases fuel' <;> rfl
  | succ n ih =>
    intro l hl fuel' hl'
    match l, fuel' with
    | [], 0 => rfl
    | [], _+1 => rfl
    | x :: xs, 0 => simp at hl'
    | x :: xs, m+1 =>
      have hlen := readChar_rest_length e (x :: xs) (by simp)
      simp only [decodeAux, readUtfChar_eq]
      congr 1
      simp only [List.length_cons] at hlen hl hl'
      exact ih _ (by omega) _ (by omega)

theorem decode_nil (e : Enc) : decode e [] = [] := rfl

theorem decode_step (e : Enc) (l : List Nat) (h : l ≠ []) :
    decode e l = cpOf (readChar e l) :: decode e (readChar e l).2.2 := by
  match l with
  | [] => contradiction
  | x :: xs =>
    have hlen := readChar_rest_length e (x :: xs) (by simp)
    simp only [List.length_cons] at hlen
    unfold decode
    simp only [List.length_cons, decodeAux, readUtfChar_eq]
    congr 1
    exact decodeAux_fuel e _ _ (by omega) _ (Nat.le_refl _)

theorem decode_induction (e : Enc) (P : List Nat → Prop) (hnil : P [])
    (hstep : ∀ l, l ≠ [] → P (readChar e l).2.2 → P l) : ∀ l, P l := by
  intro l
  generalize hn : l.length = n
  induction n using Nat.strongRecOn generalizing l with
  | _ n ih =>
    by_cases h : l = []
    · subst h; exact hnil
    · exact hstep l h (ih _ (by have := readChar_rest_length e l h; omega) _ rfl)

/-! ## the WHATWG UTF-8 decoder, one scalar value / one error at a time -/

theorem step0_ascii (b : Nat) (h : b < 0x80) : utf8Step0 b = ({}, [b]) := by
  unfold utf8Step0; rw [if_pos (by omega)]
theorem step0_2 (b : Nat) (h : 0xC2 ≤ b) (h' : b < 0xE0) :
    utf8Step0 b = ({ needed := 1, cp := b % 32 }, []) := by
  unfold utf8Step0; rw [if_neg (by omega), if_pos (by omega), and1F]
theorem step0_3 (b : Nat) (h : 0xE0 ≤ b) (h' : b < 0xF0) :
    utf8Step0 b = ({ needed := 2, cp := b % 16, lower := if b = 0xE0 then 0xA0 else 0x80, upper := if b = 0xED then 0x9F else 0xBF }, []) := by
  unfold utf8Step0; rw [if_neg (by omega), if_neg (by omega), if_pos (by omega), andF]
theorem step0_4 (b : Nat) (h : 0xF0 ≤ b) (h' : b ≤ 0xF4) :
    utf8Step0 b = ({ needed := 3, cp := b - 0xF0, lower := if b = 0xF0 then 0x90 else 0x80, upper := if b = 0xF4 then 0x8F else 0xBF }, []) := by
  unfold utf8Step0
  rw [if_neg (by omega), if_neg (by omega), if_neg (by omega), if_pos (by omega), and7,
    show b % 8 = b - 0xF0 by omega]
theorem step0_bad (b : Nat) (h : (0x80 ≤ b ∧ b < 0xC2) ∨ 0xF5 ≤ b) : utf8Step0 b = ({}, [0xFFFD]) := by
  unfold utf8Step0
  rw [if_neg (by omega), if_neg (by omega), if_neg (by omega), if_neg (by omega)]

theorem aux_start (b : Nat) (bs : List Nat) :
    utf8DecodeAux {} (b :: bs) = (utf8Step0 b).2 ++ utf8DecodeAux (utf8Step0 b).1 bs := by
  simp [utf8DecodeAux, utf8Step]

theorem aux_end (st : Utf8State) (h : st.needed ≠ 0) : utf8DecodeAux st [] = [0xFFFD] := by
  simp [utf8DecodeAux, h]

theorem aux_bad (st : Utf8State) (b : Nat) (bs : List Nat) (h : st.needed ≠ 0)
    (hb : b < st.lower ∨ b > st.upper) :
    utf8DecodeAux st (b :: bs) = 0xFFFD :: utf8DecodeAux {} (b :: bs) := by
  rw [aux_start]
  simp [utf8DecodeAux, utf8Step, h, hb]

theorem aux_last (st : Utf8State) (b : Nat) (bs : List Nat) (h : st.needed ≠ 0)
    (hb : ¬(b < st.lower ∨ b > st.upper)) (hs : st.seen + 1 = st.needed) :
    utf8DecodeAux st (b :: bs) = (st.cp * 64 + b % 64) :: utf8DecodeAux {} bs := by
  simp [utf8DecodeAux, utf8Step, h, hb, hs, and3F, shl6_or_mod]

theorem aux_more (st : Utf8State) (b : Nat) (bs : List Nat) (h : st.needed ≠ 0)
    (hb : ¬(b < st.lower ∨ b > st.upper)) (hs : st.seen + 1 ≠ st.needed) :
    utf8DecodeAux st (b :: bs) =
      utf8DecodeAux { cp := st.cp * 64 + b % 64, needed := st.needed, seen := st.seen + 1 } bs := by
  simp [utf8DecodeAux, utf8Step, h, hb, hs, and3F, shl6_or_mod]

theorem range3_iff (b0 b1 : Nat) :
    (b1 < (if b0 = 0xE0 then 0xA0 else 0x80) ∨ b1 > (if b0 = 0xED then 0x9F else 0xBF)) ↔
      ¬(0x80 ≤ b1 ∧ b1 ≤ 0xBF ∧ (b0 = 0xE0 → 0xA0 ≤ b1) ∧ (b0 = 0xED → b1 ≤ 0x9F)) := by
  split <;> split <;> omega
theorem range4_iff (b0 b1 : Nat) :
    (b1 < (if b0 = 0xF0 then 0x90 else 0x80) ∨ b1 > (if b0 = 0xF4 then 0x8F else 0xBF)) ↔
      ¬(0x80 ≤ b1 ∧ b1 ≤ 0xBF ∧ (b0 = 0xF0 → 0x90 ≤ b1) ∧ (b0 = 0xF4 → b1 ≤ 0x8F)) := by
  split <;> split <;> omega

theorem step0_end (b : Nat) (h : ¬ b < 0x80) :
    (utf8Step0 b).2 ++ utf8DecodeAux (utf8Step0 b).1 [] = [0xFFFD] := by
  unfold utf8Step0
  rw [if_neg (by omega)]
  repeat' split
  all_goals rfl

/-- what the Standard's decoder has emitted when the library's reader returns `r`, and how it goes on -/
def emit (r : Bool × Nat × List Nat) : List Nat := cpOf r :: utf8DecodeAux {} r.2.2

/-- The machine in a state that wants a plain continuation byte does what `trail k` does, if after an
    accepted byte it goes on as `k` does.  (For the last byte of a sequence `k t r = (true, cp * 64 + t, r)` and
    `hk` holds by unfolding `emit`; for the third byte of four `k` is another `trail` and `hk` is this lemma again.) -/
theorem aux_trail (st : Utf8State) (k : Nat → List Nat → Bool × Nat × List Nat) (h : st.needed ≠ 0)
    (hlo : st.lower = 0x80) (hup : st.upper = 0xBF)
    (hk : ∀ b r, (∀ x ∈ r, x < 256) → emit (k (b % 64) r) =
      if st.seen + 1 = st.needed then (st.cp * 64 + b % 64) :: utf8DecodeAux {} r
      else utf8DecodeAux { cp := st.cp * 64 + b % 64, needed := st.needed, seen := st.seen + 1 } r)
    (r : List Nat) (hr : ∀ x ∈ r, x < 256) : utf8DecodeAux st r = emit (trail k r) := by
  match r with
  | [] => exact aux_end st h
  | b :: r' =>
    rw [trail_byte _ _ _ (hr b List.mem_cons_self)]
    by_cases hb : 0x80 ≤ b ∧ b ≤ 0xBF
    · rw [if_pos hb, hk b r' fun x hx => hr x (List.mem_cons_of_mem _ hx)]
      have hb' : ¬(b < st.lower ∨ b > st.upper) := by omega
      by_cases hs : st.seen + 1 = st.needed
      · rw [if_pos hs, aux_last st b r' h hb' hs]
      · rw [if_neg hs, aux_more st b r' h hb' hs]
    · rw [if_neg hb, aux_bad st b r' h (by omega)]; rfl

theorem utf8DecodeAux_readU8 (l : List Nat) (hne : l ≠ []) (hl : ∀ x ∈ l, x < 256) :
    utf8DecodeAux {} l = emit (readU8 l) := by
  match l with
  | [] => contradiction
  | b0 :: r =>
    have hr : ∀ x ∈ r, x < 256 := fun x hx => hl x (List.mem_cons_of_mem _ hx)
    rw [aux_start]
    by_cases c0 : b0 < 0x80
    · rw [readU8_ascii _ _ c0, step0_ascii b0 c0]; rfl
    · match r with
      | [] => rw [readU8_one b0 c0]; exact step0_end b0 c0
      | b1 :: r1 =>
        have hr1 : ∀ x ∈ r1, x < 256 := fun x hx => hr x (List.mem_cons_of_mem _ hx)
        by_cases cE : b0 ≥ 0xE0
        · by_cases cF : b0 < 0xF0
          · rw [readU8_3 _ _ _ cE cF, ite_iff (t3ok_iff b0 b1 cE cF), step0_3 b0 cE cF, List.nil_append]
            by_cases hb1 : 0x80 ≤ b1 ∧ b1 ≤ 0xBF ∧ (b0 = 0xE0 → 0xA0 ≤ b1) ∧ (b0 = 0xED → b1 ≤ 0x9F)
            · rw [if_pos hb1, aux_more _ _ _ (by simp) (by rw [range3_iff]; simpa using hb1) (by simp)]
              exact aux_trail _ _ (by simp) rfl rfl
                (fun b r _ => by simp [emit, cpOf, and3F, andF, shl6_or_mod]) r1 hr1
            · rw [if_neg hb1, aux_bad _ _ _ (by simp) (by rw [range3_iff]; simpa using hb1)]; rfl
          · rw [readU8_4 _ _ _ cF, ite_iff (t4ok_iff b0 b1 (by omega))]
            by_cases hb1 : b0 ≤ 0xF4 ∧ 0x80 ≤ b1 ∧ b1 ≤ 0xBF ∧ (b0 = 0xF0 → 0x90 ≤ b1) ∧ (b0 = 0xF4 → b1 ≤ 0x8F)
            · rw [if_pos hb1, step0_4 b0 (by omega) hb1.1, List.nil_append,
                aux_more _ _ _ (by simp) (by rw [range4_iff]; simpa using hb1.2) (by simp)]
              refine aux_trail _ _ (by simp) rfl rfl (fun b r hr => ?_) r1 hr1
              rw [if_neg (by simp)]
              exact (aux_trail _ _ (by simp) rfl rfl
                (fun b' r' _ => by simp [emit, cpOf, and3F, shl6_or_mod]) r hr).symm
            · rw [if_neg hb1]
              by_cases c5 : 0xF5 ≤ b0
              · rw [step0_bad b0 (by omega)]; rfl
              · rw [step0_4 b0 (by omega) (by omega), List.nil_append,
                  aux_bad _ _ _ (by simp) (by rw [range4_iff]; simp; omega)]; rfl
        · rw [readU8_2 _ _ _ c0 cE]
          by_cases cC : b0 ≥ 0xC2
          · rw [if_pos cC, step0_2 b0 cC (by omega), List.nil_append]
            exact aux_trail _ _ (by simp) rfl rfl (fun b r _ => by simp [emit, cpOf, and1F, shl6_or_mod]) _ hr
          · rw [if_neg cC, step0_bad b0 (by omega)]; rfl

theorem decode_u8_eq_spec (l : List Nat) : (∀ b ∈ l, b < 256) → decode .u8 l = utf8Decode l := by
  refine decode_induction .u8 (fun l => (∀ b ∈ l, b < 256) → decode .u8 l = utf8Decode l) ?_ ?_ l
  · intro _; rfl
  · intro l hne ih hl
    rw [decode_step .u8 l hne, ih (fun b hb => hl b (readChar_rest_mem .u8 l hne b hb))]
    exact (utf8DecodeAux_readU8 l hne hl).symm

/-! ## UTF-16: `readU16` against Infra's conversion; UTF-32 -/

theorem surr_iff (c : Nat) (h : c < 65536) : c &&& 0xFFFFF800 = 0xD800 ↔ (0xD800 ≤ c ∧ c ≤ 0xDFFF) := by
  rw [andHi11]; omega
theorem lead_iff (c : Nat) (h : 0xD800 ≤ c ∧ c ≤ 0xDFFF) : c &&& 0x400 = 0 ↔ c ≤ 0xDBFF := by
  rw [and400]; omega
theorem trail_iff (c : Nat) (h : c < 65536) : c &&& 0xFFFFFC00 = 0xDC00 ↔ (0xDC00 ≤ c ∧ c ≤ 0xDFFF) := by
  rw [andHi10]; omega

theorem utf16Decode_nil : utf16Decode [] = [] := by simp [utf16Decode]
theorem utf16Decode_one (c : Nat) :
    utf16Decode [c] = [if 0xD800 ≤ c ∧ c ≤ 0xDFFF then 0xFFFD else c] := by
  simp [utf16Decode, isSurrogate]
theorem utf16Decode_two (c t : Nat) (r1 : List Nat) :
    utf16Decode (c :: t :: r1) =
      if (0xD800 ≤ c ∧ c ≤ 0xDBFF) ∧ (0xDC00 ≤ t ∧ t ≤ 0xDFFF) then
        (0x10000 + (c - 0xD800) * 0x400 + (t - 0xDC00)) :: utf16Decode r1
      else (if 0xD800 ≤ c ∧ c ≤ 0xDFFF then 0xFFFD else c) :: utf16Decode (t :: r1) := by
  rw [utf16Decode]
  simp [isSurrogate, isLeadSurrogate, isTrailSurrogate]

theorem utf16Decode_step (l : List Nat) (h : l ≠ []) (hl : ∀ x ∈ l, x < 65536) :
    utf16Decode l = cpOf (readU16 l) :: utf16Decode (readU16 l).2.2 := by
  unfold cpOf
  match l with
  | [] => contradiction
  | [c] =>
    simp only [readU16, utf16Decode_one]
    rw [ite_iff (surr_iff c (hl c (by simp)))]
    by_cases h1 : 0xD800 ≤ c ∧ c ≤ 0xDFFF
    · rw [if_pos h1, if_pos h1]; split <;> simp [utf16Decode_nil]
    · rw [if_neg h1, if_neg h1]; simp [utf16Decode_nil]
  | c :: t :: r1 =>
    simp only [readU16]
    rw [utf16Decode_two, ite_iff (surr_iff c (hl c (by simp)))]
    by_cases h1 : 0xD800 ≤ c ∧ c ≤ 0xDFFF
    · rw [if_pos h1, if_pos h1, ite_iff (lead_iff c h1)]
      by_cases h2 : c ≤ 0xDBFF
      · rw [if_pos h2, ite_iff (trail_iff t (hl t (by simp)))]
        by_cases h3 : 0xDC00 ≤ t ∧ t ≤ 0xDFFF
        · rw [if_pos h3, if_pos ⟨⟨h1.1, h2⟩, h3⟩, shl10, show (0xD800 : Nat) <<< 10 = 0xD800 * 1024 by decide]
          rw [show c * 1024 + t - (0xD800 * 1024 + 0xDC00 - 0x10000) = 0x10000 + (c - 0xD800) * 0x400 + (t - 0xDC00) by omega]
          rfl
        · rw [if_neg h3, if_neg (fun hh => h3 hh.2)]; rfl
      · rw [if_neg h2, if_neg (fun hh => h2 hh.1.2)]; rfl
    · rw [if_neg h1, if_neg h1, if_neg (fun hh => h1 ⟨hh.1.1, by omega⟩)]; rfl
theorem decode_u16_eq_spec (l : List Nat) : (∀ u ∈ l, u < 65536) → decode .u16 l = utf16Decode l := by
  refine decode_induction .u16 (fun l => (∀ b ∈ l, b < 65536) → decode .u16 l = utf16Decode l) ?_ ?_ l
  · intro _; rw [utf16Decode_nil]; rfl
  · intro l hne ih hl
    rw [decode_step .u16 l hne, ih (fun b hb => hl b (readChar_rest_mem .u16 l hne b hb)),
      utf16Decode_step l hne hl]
    rfl

theorem isScalar_iff (c : Nat) : isScalar c = true ↔ (c ≤ 0x10FFFF ∧ ¬(0xD800 ≤ c ∧ c ≤ 0xDFFF)) := by
  simp [isScalar, isSurrogate]; omega

/-- `read_code_point` for `char32_t`: the test is "is a scalar value" -/
theorem readU32_cons (c : Nat) (r : List Nat) : readU32 (c :: r) = (isScalar c, c, r) := by
  simp only [readU32, Prod.mk.injEq, and_true]
  rw [Bool.eq_iff_iff, isScalar_iff]
  simp only [Bool.or_eq_true, Bool.and_eq_true, decide_eq_true_eq]
  omega

theorem decode_u32_eq_spec (l : List Nat) : decode .u32 l = utf32Decode l := by
  induction l with
  | nil => rfl
  | cons c r ih =>
    rw [decode_step .u32 (c :: r) (by simp)]
    show cpOf (readU32 (c :: r)) :: decode .u32 (readU32 (c :: r)).2.2 = _
    rw [readU32_cons, ih]
    simp only [cpOf, utf32Decode, List.map_cons, List.cons.injEq, and_true]
    unfold isScalar
    cases isSurrogate c <;> by_cases h : c ≤ 0x10FFFF <;> simp [h] <;> omega

/-! ## the encoders: bit operations are div / mod -/

theorem encodeUtf8Char_eq (c : Nat) (h : c ≤ 0x10FFFF) : encodeUtf8Char c = utf8EncodeChar c := by
  unfold encodeUtf8Char utf8EncodeChar
  simp only [and3F, shr6, shr12, shr18]
  split
  · rfl
  · split
    · rw [orC0 _ (by omega), or80 _ (by omega)]; simp only [Nat.add_comm]
    · split
      · rw [orE0 _ (by omega), or80 _ (by omega), or80 _ (by omega)]; simp only [Nat.add_comm]
      · rw [orF0 _ (by omega), or80 _ (by omega), or80 _ (by omega), or80 _ (by omega)]
        rw [Nat.mod_eq_of_lt (by omega)]; simp only [Nat.add_comm]

theorem encodeUtf16Char_eq (c : Nat) (h : c ≤ 0x10FFFF) : encodeUtf16Char c = utf16EncodeChar c := by
  unfold encodeUtf16Char utf16EncodeChar
  simp only [and3FF, shr10]
  split
  · rfl
  · rw [orDC00 _ (by omega)]
    have h1 : (c / 1024 + 0xD7C0) % 65536 = 0xD800 + (c - 0x10000) / 0x400 := by omega
    have h2 : c % 1024 + 0xDC00 = 0xDC00 + (c - 0x10000) % 0x400 := by omega
    rw [h1, h2]

/-- `append_utf8` writes a lead byte from C0 up and then continuation bytes, whatever number it is given -/
theorem encodeUtf8Char_bytes (c : Nat) (h : 0x80 ≤ c) :
    ∃ b t, encodeUtf8Char c = b :: t ∧ 0xC0 ≤ b ∧ b < 256 ∧ ∀ x ∈ t, 0x80 ≤ x ∧ x ≤ 0xBF := by
  have a6 : ∀ y : Nat, 0x80 ≤ (y &&& 0x3F) ||| 0x80 ∧ (y &&& 0x3F) ||| 0x80 ≤ 0xBF := fun y => by
    rw [and3F, or80 _ (Nat.mod_lt _ (by decide))]; omega
  unfold encodeUtf8Char
  rw [if_neg (by omega)]
  repeat' split
  · refine ⟨_, _, rfl, Nat.le_trans (by decide) Nat.right_le_or, ?_, fun x hx => ?_⟩
    · rw [shr6, orC0 _ (by omega)]; omega
    · rw [List.mem_singleton] at hx; exact hx ▸ a6 _
  · refine ⟨_, _, rfl, Nat.le_trans (by decide) Nat.right_le_or, ?_, fun x hx => ?_⟩
    · rw [shr12, orE0 _ (by omega)]; omega
    · simp only [List.mem_cons, List.not_mem_nil, or_false] at hx
      rcases hx with rfl | rfl <;> exact a6 _
  · refine ⟨_, _, rfl, ?_, Nat.mod_lt _ (by decide), fun x hx => ?_⟩
    · rw [Nat.or_mod_two_pow (n := 8)]; exact Nat.le_trans (by decide) Nat.right_le_or
    · simp only [List.mem_cons, List.not_mem_nil, or_false] at hx
      rcases hx with rfl | rfl | rfl <;> exact a6 _

/-- `append_utf8` writes bytes, whatever number it is given -/
theorem encodeUtf8Char_lt256 (c : Nat) : ∀ x ∈ encodeUtf8Char c, x < 256 := by
  intro x hx
  by_cases h : c < 0x80
  · unfold encodeUtf8Char at hx
    rw [if_pos (by omega), List.mem_singleton] at hx
    omega
  · obtain ⟨b, t, e, _, hb, ht⟩ := encodeUtf8Char_bytes c (by omega)
    rw [e, List.mem_cons] at hx
    rcases hx with rfl | hx
    · exact hb
    · have := ht x hx; omega

theorem encodeUtf8Char_ascii (c : Nat) (h : c < 0x80) : encodeUtf8Char c = [c] := by
  unfold encodeUtf8Char; rw [if_pos (by omega)]

theorem encodeUtf16Char_ascii (c : Nat) (h : c < 0x80) : encodeUtf16Char c = [c] := by
  unfold encodeUtf16Char; rw [if_pos (by omega)]

theorem encodeUtf8_cons (c : Nat) (r : List Nat) : encodeUtf8 (c :: r) = encodeUtf8Char c ++ encodeUtf8 r :=
  List.flatMap_cons

theorem encodeUtf8_append (a b : List Nat) : encodeUtf8 (a ++ b) = encodeUtf8 a ++ encodeUtf8 b :=
  List.flatMap_append

theorem encodeUtf16_cons (c : Nat) (r : List Nat) : encodeUtf16 (c :: r) = encodeUtf16Char c ++ encodeUtf16 r :=
  List.flatMap_cons

theorem flatMap_congr {f g : Nat → List Nat} {s : List Nat} (h : ∀ c ∈ s, f c = g c) :
    s.flatMap f = s.flatMap g := by
  rw [List.flatMap_def, List.flatMap_def, List.map_congr_left h]

theorem encodeUtf8_eq (s : List Nat) (h : ∀ c ∈ s, isScalar c = true) : encodeUtf8 s = utf8Encode s :=
  flatMap_congr fun c hc => encodeUtf8Char_eq c ((isScalar_iff c).1 (h c hc)).1

theorem encodeUtf16_eq (s : List Nat) (h : ∀ c ∈ s, isScalar c = true) : encodeUtf16 s = utf16Encode s :=
  flatMap_congr fun c hc => encodeUtf16Char_eq c ((isScalar_iff c).1 (h c hc)).1

theorem encode_eq (e : Enc) (s : List Nat) (h : ∀ c ∈ s, isScalar c = true) :
    Impl.encode e s = Spec.encode e s := by
  cases e
  · exact encodeUtf8_eq s h
  · exact encodeUtf16_eq s h
  · rfl

/-! ## the bytes of the Standard's UTF-8 encoder; what one successful `readU8` delivers -/

theorem utf8EncodeChar_bytes (c : Nat) (h : 0x80 ≤ c) :
    ∃ b t, utf8EncodeChar c = b :: t ∧ 0xC2 ≤ b ∧ (c ≤ 0x10FFFF → b ≤ 0xF4) ∧
      ∀ x ∈ t, 0x80 ≤ x ∧ x ≤ 0xBF := by
  unfold utf8EncodeChar
  rw [if_neg (by omega)]
  repeat' split
  all_goals
    refine ⟨_, _, rfl, by omega, by omega, fun x hx => ?_⟩
    simp only [List.mem_cons, List.not_mem_nil, or_false] at hx
    omega

theorem utf8EncodeChar_lt (c : Nat) (h : c ≤ 0x10FFFF) : ∀ x ∈ utf8EncodeChar c, x < 256 :=
  encodeUtf8Char_eq c h ▸ encodeUtf8Char_lt256 c

theorem readU8_ok_scalar (b0 : Nat) (r : List Nat) (h0 : ¬ b0 < 0x80) (hok : (readU8 (b0 :: r)).1 = true) :
    0x80 ≤ (readU8 (b0 :: r)).2.1 ∧ isScalar (readU8 (b0 :: r)).2.1 = true := by
  rw [isScalar_iff]
  match r with
  | [] => rw [readU8_one b0 h0] at hok; cases hok
  | b1 :: r1 =>
    by_cases hE : b0 ≥ 0xE0
    · by_cases hF : b0 < 0xF0
      · simp only [readU8_3 _ _ _ hE hF] at hok ⊢
        split at hok
        · next h1 =>
          obtain ⟨b2, r2, rfl, _, e⟩ := trail_ok hok
          have := (t3ok_iff b0 b1 hE hF).1 h1
          rw [if_pos h1, e, and3F, andF, shl6_or_mod, shl6_or_mod]
          simp only []; omega
        · cases hok
      · simp only [readU8_4 _ _ _ hF] at hok ⊢
        split at hok
        · next h1 =>
          obtain ⟨b2, r2, rfl, _, e⟩ := trail_ok hok
          rw [e] at hok
          obtain ⟨b3, r3, rfl, _, e'⟩ := trail_ok hok
          have := (t4ok_iff b0 b1 (by omega)).1 h1
          rw [if_pos h1, e, e', and3F, shl6_or_mod, shl6_or_mod, shl6_or_mod]
          simp only []; omega
        · cases hok
    · simp only [readU8_2 _ _ _ h0 hE] at hok ⊢
      split at hok
      · next hC =>
        obtain ⟨b, r', _, _, e⟩ := trail_ok hok
        rw [if_pos hC, e, and1F, shl6_or_mod]
        simp only []; omega
      · cases hok

theorem readU8_cp (l : List Nat) (hne : l ≠ []) :
    isScalar (cpOf (readU8 l)) = true ∧ (cpOf (readU8 l) < 0x80 → l = cpOf (readU8 l) :: (readU8 l).2.2) := by
  unfold cpOf
  match l, hne with
  | b0 :: r, _ =>
    by_cases h0 : b0 < 0x80
    · rw [readU8_ascii _ _ h0]
      exact ⟨(isScalar_iff b0).2 (by omega), fun _ => rfl⟩
    · by_cases hok : (readU8 (b0 :: r)).1 = true
      · rw [if_pos hok]
        have := readU8_ok_scalar b0 r h0 hok
        exact ⟨this.2, fun h => by omega⟩
      · rw [if_neg hok]
        exact ⟨rfl, fun h => absurd h (by decide)⟩

theorem div64 (q r : Nat) (hr : r < 64) : (q * 64 + r) / 64 = q ∧ (q * 64 + r) % 64 = r := by
  rw [Nat.mul_comm, Nat.mul_add_div (by decide), Nat.mul_add_mod, Nat.div_eq_of_lt hr, Nat.mod_eq_of_lt hr]
  exact ⟨rfl, rfl⟩

/-- `utf8EncodeChar` on a code point given by its base-64 digits -/
theorem utf8Enc2 (x y : Nat) (hx : 2 ≤ x) (hx' : x < 32) (hy : y < 64) :
    utf8EncodeChar (x * 64 + y) = [0xC0 + x, 0x80 + y] := by
  unfold utf8EncodeChar
  rw [if_neg (by omega), if_pos (by omega), (div64 x y hy).1, (div64 x y hy).2]

theorem utf8Enc3 (x y z : Nat) (hx : x < 16) (hy : y < 64) (hz : z < 64) (hlo : x = 0 → 32 ≤ y) :
    utf8EncodeChar ((x * 64 + y) * 64 + z) = [0xE0 + x, 0x80 + y, 0x80 + z] := by
  unfold utf8EncodeChar
  rw [if_neg (by omega), if_neg (by omega), if_pos (by omega), (div64 _ z hz).2,
    show (4096 : Nat) = 64 * 64 from rfl, ← Nat.div_div_eq_div_mul, (div64 _ z hz).1, (div64 x y hy).1, (div64 x y hy).2]

theorem utf8Enc4 (x y z w : Nat) (hy : y < 64) (hz : z < 64) (hw : w < 64) (hlo : x = 0 → 16 ≤ y) :
    utf8EncodeChar (((x * 64 + y) * 64 + z) * 64 + w) = [0xF0 + x, 0x80 + y, 0x80 + z, 0x80 + w] := by
  unfold utf8EncodeChar
  rw [if_neg (by omega), if_neg (by omega), if_neg (by omega), (div64 _ w hw).2,
    show (262144 : Nat) = 64 * 64 * 64 from rfl, show (4096 : Nat) = 64 * 64 from rfl,
    ← Nat.div_div_eq_div_mul, ← Nat.div_div_eq_div_mul,
    (div64 _ w hw).1, (div64 _ z hz).1, (div64 _ z hz).2, (div64 x y hy).1, (div64 x y hy).2]

theorem readU8_ok_encode (l : List Nat) (hok : (readU8 l).1 = true) (hl : ∀ x ∈ l, x < 256) :
    l = utf8EncodeChar (readU8 l).2.1 ++ (readU8 l).2.2 := by
  have tb : ∀ b, b ∈ l → trailOk b → 0x80 ≤ b ∧ b ≤ 0xBF := fun b hb ht => by
    rw [trailOk_iff, Nat.mod_eq_of_lt (hl b hb)] at ht; exact ht
  match l with
  | [] => cases hok
  | b0 :: r =>
    by_cases h0 : b0 < 0x80
    · rw [readU8_ascii _ _ h0]; simp only []; unfold utf8EncodeChar; rw [if_pos (by omega)]; rfl
    · match r with
      | [] => rw [readU8_one b0 h0] at hok; cases hok
      | b1 :: r1 =>
        by_cases hE : b0 ≥ 0xE0
        · by_cases hF : b0 < 0xF0
          · simp only [readU8_3 _ _ _ hE hF] at hok ⊢
            split at hok
            · next h1 =>
              obtain ⟨b2, r2, rfl, ht2, e⟩ := trail_ok hok
              have := (t3ok_iff b0 b1 hE hF).1 h1
              have := tb b2 (by simp) ht2
              rw [if_pos h1, e, and3F, andF, shl6_or_mod, shl6_or_mod]
              simp only []
              rw [utf8Enc3 _ _ _ (by omega) (by omega) (by omega) (by omega)]
              simp only [List.cons_append, List.nil_append, List.cons.injEq, and_true]
              omega
            · cases hok
          · simp only [readU8_4 _ _ _ hF] at hok ⊢
            split at hok
            · next h1 =>
              obtain ⟨b2, r2, rfl, ht2, e⟩ := trail_ok hok
              rw [e] at hok
              obtain ⟨b3, r3, rfl, ht3, e'⟩ := trail_ok hok
              have := (t4ok_iff b0 b1 (by omega)).1 h1
              have := tb b2 (by simp) ht2
              have := tb b3 (by simp) ht3
              rw [if_pos h1, e, e', and3F, shl6_or_mod, shl6_or_mod, shl6_or_mod]
              simp only []
              rw [utf8Enc4 _ _ _ _ (by omega) (by omega) (by omega) (by omega)]
              simp only [List.cons_append, List.nil_append, List.cons.injEq, and_true]
              omega
            · cases hok
        · simp only [readU8_2 _ _ _ h0 hE] at hok ⊢
          split at hok
          · next hC =>
            obtain ⟨b, r', hr, ht, e⟩ := trail_ok hok
            cases hr
            have := tb b1 (by simp) ht
            rw [if_pos hC, e, and1F, shl6_or_mod]
            simp only []
            rw [utf8Enc2 _ _ (by omega) (by omega) (by omega)]
            simp only [List.cons_append, List.nil_append, List.cons.injEq, and_true]
            omega
          · cases hok

/-! ## `read_code_point` only looks at the code units it consumes -/

def nonTrail (c : Nat) : Prop := c < 0x80 ∨ (0xC0 ≤ c ∧ c < 256)

theorem not_t3ok_nt (b0 c : Nat) (hE : 0xE0 ≤ b0) (hF : b0 < 0xF0) (hc : nonTrail c) : ¬ t3ok b0 c := by
  rw [t3ok_iff b0 c hE hF]; unfold nonTrail at hc; omega
theorem not_t4ok_nt (b0 c : Nat) (hF : ¬ b0 < 0xF0) (hc : nonTrail c) : ¬ t4ok b0 c := by
  rw [t4ok_iff b0 c (by omega)]; unfold nonTrail at hc; omega
theorem not_trailOk_nt (c : Nat) (hc : nonTrail c) : ¬ trailOk c := by
  rw [trailOk_iff]; unfold nonTrail at hc; omega

theorem trail_append (k : Nat → List Nat → Bool × Nat × List Nat) (r : List Nat) (c : Nat) (b : List Nat)
    (hc : nonTrail c)
    (hk : ∀ t r', k t (r' ++ c :: b) = ((k t r').1, (k t r').2.1, (k t r').2.2 ++ c :: b)) :
    trail k (r ++ c :: b) = ((trail k r).1, (trail k r).2.1, (trail k r).2.2 ++ c :: b) := by
  cases r with
  | nil => rw [List.nil_append, trail_cons, if_neg (not_trailOk_nt c hc)]; rfl
  | cons b' r' =>
    simp only [List.cons_append, trail_cons]
    by_cases hb : trailOk b'
    · simp only [if_pos hb]; exact hk _ _
    · simp only [if_neg hb]; rfl

/-- A unit that is not a continuation byte ends every sequence: what `readU8` reads from `a` does not
    change when such a unit follows. -/
theorem readU8_append (a : List Nat) (c : Nat) (b : List Nat) (ha : a ≠ []) (hc : nonTrail c) :
    readU8 (a ++ c :: b) = ((readU8 a).1, (readU8 a).2.1, (readU8 a).2.2 ++ c :: b) := by
  match a with
  | [] => contradiction
  | b0 :: r =>
    by_cases c0 : b0 < 0x80
    · rw [List.cons_append, readU8_ascii _ _ c0, readU8_ascii _ _ c0]
    · match r with
      | [] =>
        rw [readU8_one b0 c0]
        show readU8 (b0 :: c :: b) = _
        by_cases hE : b0 ≥ 0xE0
        · by_cases hF : b0 < 0xF0
          · rw [readU8_3 _ _ _ hE hF, if_neg (not_t3ok_nt b0 c hE hF hc)]; rfl
          · rw [readU8_4 _ _ _ hF, if_neg (not_t4ok_nt b0 c hF hc)]; rfl
        · rw [readU8_2 _ _ _ c0 hE]
          by_cases hC : b0 ≥ 0xC2
          · rw [if_pos hC, trail_cons, if_neg (not_trailOk_nt c hc)]; rfl
          · rw [if_neg hC]; rfl
      | b1 :: r1 =>
        show readU8 (b0 :: b1 :: (r1 ++ c :: b)) = _
        by_cases hE : b0 ≥ 0xE0
        · by_cases hF : b0 < 0xF0
          · simp only [readU8_3 _ _ _ hE hF]
            split
            · exact trail_append _ r1 c b hc (fun _ _ => rfl)
            · rfl
          · simp only [readU8_4 _ _ _ hF]
            split
            · exact trail_append _ r1 c b hc (fun _ r' => trail_append _ r' c b hc (fun _ _ => rfl))
            · rfl
        · simp only [readU8_2 _ _ _ c0 hE]
          split
          · exact trail_append _ (b1 :: r1) c b hc (fun _ _ => rfl)
          · rfl

theorem readU16_append (a : List Nat) (c : Nat) (b : List Nat) (ha : a ≠ []) (hc : c < 0x80) :
    readU16 (a ++ c :: b) = ((readU16 a).1, (readU16 a).2.1, (readU16 a).2.2 ++ c :: b) := by
  match a with
  | [] => contradiction
  | u :: r =>
    rw [List.cons_append]
    simp only [readU16]
    split
    · split
      · cases r with
        | nil =>
          have : ¬ (c &&& 0xFFFFFC00 = 0xDC00) := by
            have := Nat.and_le_left (n := c) (m := 0xFFFFFC00); omega
          simp only [List.nil_append, if_neg this]
        | cons t r1 => simp only [List.cons_append]; split <;> rfl
      · rfl
    · rfl

theorem readU32_append (a x : List Nat) (ha : a ≠ []) :
    readU32 (a ++ x) = ((readU32 a).1, (readU32 a).2.1, (readU32 a).2.2 ++ x) := by
  match a with
  | [] => contradiction
  | u :: r => simp [readU32]

theorem readChar_append (e : Enc) (a : List Nat) (c : Nat) (b : List Nat) (ha : a ≠ []) (hc : c < 0x80) :
    readChar e (a ++ c :: b) = ((readChar e a).1, (readChar e a).2.1, (readChar e a).2.2 ++ c :: b) := by
  cases e
  · exact readU8_append a c b ha (Or.inl hc)
  · exact readU16_append a c b ha hc
  · exact readU32_append a _ ha

theorem readChar_ascii (e : Enc) (c : Nat) (b : List Nat) (hc : c < 0x80) :
    readChar e (c :: b) = (true, c, b) := by
  cases e
  · exact readU8_ascii c b hc
  · show readU16 (c :: b) = _
    have : ¬ (c &&& 0xFFFFF800 = 0xD800) := by
      have := Nat.and_le_left (n := c) (m := 0xFFFFF800); omega
    simp only [readU16, if_neg this]
  · show readU32 (c :: b) = _
    rw [readU32_cons, (isScalar_iff c).2 (by omega)]

/-- Decoding distributes over a unit sequence `w` that reads as `c` and whose head ends whatever
    sequence is pending before it. -/
theorem decode_split (e : Enc) (w b : List Nat) (c : Nat) (hne : w ≠ [])
    (hw : readChar e (w ++ b) = (true, c, b))
    (happ : ∀ a, a ≠ [] → readChar e (a ++ (w ++ b)) =
      ((readChar e a).1, (readChar e a).2.1, (readChar e a).2.2 ++ (w ++ b))) (a : List Nat) :
    decode e (a ++ (w ++ b)) = decode e a ++ c :: decode e b := by
  refine decode_induction e (fun a => decode e (a ++ (w ++ b)) = decode e a ++ c :: decode e b) ?_ ?_ a
  · rw [List.nil_append, decode_step e _ (by simp [hne]), hw]; rfl
  · intro a ha ih
    rw [decode_step e (a ++ (w ++ b)) (by simp [ha]), decode_step e a ha, happ a ha]
    simp only [List.cons_append]
    rw [ih]
    rfl

/-- C10 (6): decoding distributes over an ASCII delimiter (the law `split` of `C10b.decode_asciiHom e`, AsciiHom.lean,
    which takes `a c b hc` in that order) -/
theorem decode_ascii_split (e : Enc) (b : List Nat) (c : Nat) (hc : c < 0x80) (a : List Nat) :
    decode e (a ++ c :: b) = decode e a ++ c :: decode e b :=
  decode_split e [c] b c (List.cons_ne_nil _ _) (readChar_ascii e c b hc)
    (fun a ha => readChar_append e a c b ha hc) a

theorem decode_cons_ascii (e : Enc) (x : Nat) (r : List Nat) (hx : x < 0x80) :
    decode e (x :: r) = x :: decode e r := by
  have := decode_ascii_split e r x hx []
  simpa [decode_nil] using this

/-! ## reading back an encoded scalar value; the round trip -/

theorem utf8EncodeChar_ne_nil (c : Nat) : utf8EncodeChar c ≠ [] := by
  unfold utf8EncodeChar; repeat' split
  all_goals exact List.cons_ne_nil _ _

/-- the encoder's bytes pass the lead test and each `trail` -/
theorem readU8_encode (c : Nat) (rest : List Nat) (h : isScalar c = true) :
    readU8 (utf8EncodeChar c ++ rest) = (true, c, rest) := by
  rw [isScalar_iff] at h
  have tr : ∀ (k : Nat → List Nat → Bool × Nat × List Nat) (t : Nat) (r : List Nat), t < 64 →
      trail k ((0x80 + t) :: r) = k t r := fun k t r ht => by
    rw [trail_byte _ _ _ (by omega), if_pos (by omega)]; congr 1; omega
  unfold utf8EncodeChar
  split
  · exact readU8_ascii c rest (by omega)
  · split
    · simp only [List.cons_append, List.nil_append]
      rw [readU8_2 _ _ _ (by omega) (by omega), if_pos (by omega), tr _ _ _ (Nat.mod_lt _ (by decide)),
        and1F, shl6_or_mod]
      congr 2; omega
    · split
      · simp only [List.cons_append, List.nil_append]
        rw [readU8_3 _ _ _ (by omega) (by omega), if_pos ((t3ok_iff _ _ (by omega) (by omega)).2 (by omega)),
          tr _ _ _ (Nat.mod_lt _ (by decide)), andF, and3F, shl6_or_mod, shl6_or_mod]
        congr 2; omega
      · simp only [List.cons_append, List.nil_append]
        rw [readU8_4 _ _ _ (by omega), if_pos ((t4ok_iff _ _ (by omega)).2 (by omega)),
          tr _ _ _ (Nat.mod_lt _ (by decide)), tr _ _ _ (Nat.mod_lt _ (by decide)), and3F, shl6_or_mod,
          shl6_or_mod, shl6_or_mod]
        congr 2; omega

theorem utf16EncodeChar_ne_nil (c : Nat) : utf16EncodeChar c ≠ [] := by
  unfold utf16EncodeChar; split
  all_goals exact List.cons_ne_nil _ _

theorem readU16_encode (c : Nat) (rest : List Nat) (h : isScalar c = true) :
    readU16 (utf16EncodeChar c ++ rest) = (true, c, rest) := by
  rw [isScalar_iff] at h
  unfold utf16EncodeChar
  split
  · simp only [List.cons_append, List.nil_append, readU16]
    rw [if_neg (fun hs => by have := (surr_iff c (by omega)).1 hs; omega)]
  · simp only [List.cons_append, List.nil_append, readU16]
    rw [if_pos ((surr_iff _ (by omega)).2 (by omega)), if_pos ((lead_iff _ (by omega)).2 (by omega)),
      if_pos ((trail_iff _ (by omega)).2 (by omega)), shl10, show (0xD800 : Nat) <<< 10 = 0xD800 * 1024 by decide]
    exact congrArg (fun v => (true, v, rest)) (by omega)

theorem readU32_encode (c : Nat) (rest : List Nat) (h : isScalar c = true) :
    readU32 (c :: rest) = (true, c, rest) := by
  rw [readU32_cons, h]

/-- `Spec.encode e` as a per-character map -/
def encChar : Enc → Nat → List Nat
  | .u8 => utf8EncodeChar
  | .u16 => utf16EncodeChar
  | .u32 => fun c => [c]

theorem encode_flatMap (e : Enc) (s : List Nat) : Spec.encode e s = s.flatMap (encChar e) := by
  cases e
  · rfl
  · rfl
  · simp [Spec.encode, encChar]

theorem encode_cons (e : Enc) (c : Nat) (r : List Nat) :
    Spec.encode e (c :: r) = encChar e c ++ Spec.encode e r := by
  rw [encode_flatMap, encode_flatMap, List.flatMap_cons]

theorem encChar_ne_nil (e : Enc) (c : Nat) : encChar e c ≠ [] := by
  cases e
  · exact utf8EncodeChar_ne_nil c
  · exact utf16EncodeChar_ne_nil c
  · exact List.cons_ne_nil _ _

theorem readChar_encode (e : Enc) (c : Nat) (rest : List Nat) (h : isScalar c = true) :
    readChar e (encChar e c ++ rest) = (true, c, rest) := by
  cases e
  · exact readU8_encode c rest h
  · exact readU16_encode c rest h
  · exact readU32_encode c rest h

theorem decode_encode (e : Enc) (s : List Nat) (h : ∀ c ∈ s, isScalar c = true) :
    decode e (Spec.encode e s) = s := by
  induction s with
  | nil => cases e <;> rfl
  | cons c s ih =>
    rw [encode_cons, decode_step _ _ (by simp [encChar_ne_nil]),
      readChar_encode e c _ (h c List.mem_cons_self)]
    exact congrArg _ (ih fun x hx => h x (List.mem_cons_of_mem _ hx))

/-! ## decoder output is scalar values -/

theorem decode_u8_isScalar (b : List Nat) : ∀ c ∈ decode .u8 b, isScalar c = true := by
  refine decode_induction .u8 (fun b => ∀ c ∈ decode .u8 b, isScalar c = true) ?_ ?_ b
  · intro c hc; exact absurd hc List.not_mem_nil
  · intro l hne ih c hc
    rw [decode_step .u8 l hne, List.mem_cons] at hc
    rcases hc with rfl | hc
    · exact (readU8_cp l hne).1
    · exact ih c hc

theorem decode_u8_scalar (b : List Nat) : (∀ x ∈ b, x < 256) → ∀ c ∈ decode .u8 b, isScalar c = true :=
  fun _ => decode_u8_isScalar b

theorem utf8Encode_lt (s : List Nat) (h : ∀ c ∈ s, isScalar c = true) : ∀ x ∈ utf8Encode s, x < 256 := by
  intro x hx
  simp only [utf8Encode, List.mem_flatMap] at hx
  obtain ⟨c, hc, hx⟩ := hx
  exact utf8EncodeChar_lt c ((isScalar_iff c).1 (h c hc)).1 x hx

/-! ## `check_fix_utf8` -/

theorem checkFix_idem (b : List Nat) (_hb : ∀ x ∈ b, x < 256) :
    checkFixUtf8 (checkFixUtf8 b) = checkFixUtf8 b := by
  unfold checkFixUtf8
  have hs := decode_u8_isScalar b
  rw [encodeUtf8_eq _ hs]
  have := decode_encode .u8 _ hs
  simp only [Spec.encode] at this
  rw [this, encodeUtf8_eq _ hs]

theorem checkFix_wf (s : List Nat) (hs : ∀ c ∈ s, isScalar c = true) :
    checkFixUtf8 (utf8Encode s) = utf8Encode s := by
  unfold checkFixUtf8
  have := decode_encode .u8 _ hs
  simp only [Spec.encode] at this
  rw [this, encodeUtf8_eq _ hs]

theorem checkFix_byte (b : List Nat) : ∀ x ∈ checkFixUtf8 b, x < 256 := by
  intro x hx
  simp only [checkFixUtf8, encodeUtf8, List.mem_flatMap] at hx
  obtain ⟨c, _, hx⟩ := hx
  exact encodeUtf8Char_lt256 c x hx

theorem checkFix_spec (b : List Nat) (hb : ∀ x ∈ b, x < 256) : checkFixUtf8 b = utf8Encode (utf8Decode b) := by
  unfold checkFixUtf8
  rw [encodeUtf8_eq _ (decode_u8_isScalar b), decode_u8_eq_spec b hb]

end Upa.Impl
