import Upa.Impl.Ip
import Upa.Spec.Ip
import Upa.Proofs.CharClass
/-
  Positional notation over a variable radix `b ≥ 2`: `digits b n` (most significant first, `[0]` for 0) and
  `ofDigits b l`, inverse to each other on numerals without a leading zero. The printers of the model
  (`toDigitsAux`, hence `toDecimal`, `toHexLower`; `unsigned_to_str` with its digit-count loop) are `digits` mapped
  through the digit table. Of the readers, `decimalValue` is `ofDigits` of the digit values (`decimalValue_eq`; both
  round trips with `toDecimal`: `decimalValue_toDecimal`, `toDecimal_decimalValue`);
  `Spec.radixValue` reads a printed numeral back as the fold of its digits (`radixValue_map`; the same for the
  model's `getHexNumber` is `V6.getHex_map` in Ipv6Round).
-/
namespace Upa.Radix

def ofDigits (b : Nat) (l : List Nat) : Nat := l.foldl (fun a d => a * b + d) 0

def digits (b n : Nat) : List Nat :=
  if _h : 2 ≤ b ∧ b ≤ n then digits b (n / b) ++ [n % b] else [n]
termination_by n
decreasing_by exact Nat.div_lt_self (by omega) (by omega)

theorem foldl_eq (b : Nat) (l : List Nat) (a : Nat) :
    l.foldl (fun a d => a * b + d) a = a * b ^ l.length + ofDigits b l := by
  unfold ofDigits
  induction l generalizing a with
  | nil => simp
  | cons d l ih =>
    simp only [List.foldl_cons, List.length_cons, Nat.zero_mul, Nat.zero_add]
    rw [ih, ih d, Nat.add_mul, Nat.pow_succ, Nat.mul_assoc, Nat.mul_comm b, Nat.add_assoc]

theorem ofDigits_cons (b d : Nat) (l : List Nat) : ofDigits b (d :: l) = d * b ^ l.length + ofDigits b l := by
  conv => lhs; unfold ofDigits
  simp only [List.foldl_cons, Nat.zero_mul, Nat.zero_add]
  exact foldl_eq b l d

theorem ofDigits_snoc (b d : Nat) (l : List Nat) : ofDigits b (l ++ [d]) = ofDigits b l * b + d := by
  simp [ofDigits, List.foldl_append]

theorem le_ofDigits (b : Nat) {d : Nat} (l : List Nat) (hd : d ≠ 0) : b ^ l.length ≤ ofDigits b (d :: l) := by
  rw [ofDigits_cons]
  exact Nat.le_trans (Nat.le_mul_of_pos_left _ (Nat.pos_of_ne_zero hd)) (Nat.le_add_right _ _)

theorem digits_small {b n : Nat} (h : n < b) : digits b n = [n] := by
  rw [digits, dif_neg (by omega)]

theorem digits_step {b n : Nat} (hb : 2 ≤ b) (h : b ≤ n) : digits b n = digits b (n / b) ++ [n % b] := by
  rw [digits, dif_pos ⟨hb, h⟩]

theorem ofDigits_digits (b n : Nat) : ofDigits b (digits b n) = n := by
  fun_induction digits b n with
  | case1 n h ih => rw [ofDigits_snoc, ih, Nat.div_add_mod']
  | case2 n h => simp [ofDigits]

theorem digits_lt {b : Nat} (hb : 2 ≤ b) (n : Nat) : ∀ d ∈ digits b n, d < b := by
  fun_induction digits b n with
  | case1 n h ih =>
    intro d hd
    rcases List.mem_append.1 hd with hd | hd
    · exact ih d hd
    · rw [List.mem_singleton.1 hd]; exact Nat.mod_lt _ (by omega)
  | case2 n h => intro d hd; rw [List.mem_singleton.1 hd]; omega

theorem digits_head (b n : Nat) : ∃ d r, digits b n = d :: r ∧ (n ≠ 0 → d ≠ 0) := by
  fun_induction digits b n with
  | case1 n h ih =>
    obtain ⟨d, r, e, hd⟩ := ih
    have : n / b ≠ 0 := Nat.ne_of_gt (Nat.div_pos h.2 (by omega))
    exact ⟨d, r ++ [n % b], by rw [e]; rfl, fun _ => hd this⟩
  | case2 n h => exact ⟨n, [], rfl, id⟩

theorem digits_length_le {b : Nat} (n k : Nat) (h : n < b ^ (k + 1)) : (digits b n).length ≤ k + 1 := by
  fun_induction digits b n generalizing k with
  | case1 n hn ih =>
    cases k with
    | zero => rw [Nat.zero_add, Nat.pow_one] at h; omega
    | succ k =>
      have := ih k (Nat.div_lt_of_lt_mul (by rw [Nat.mul_comm, ← Nat.pow_succ]; exact h))
      simp; omega
  | case2 n h => simp

theorem digits_foldl {b : Nat} (hb : 2 ≤ b) : ∀ (r : List Nat) (a : Nat), a ≠ 0 → (∀ x ∈ r, x < b) →
    digits b (r.foldl (fun a d => a * b + d) a) = digits b a ++ r := by
  intro r
  induction r with
  | nil => intro a _ _; simp
  | cons x r ih =>
    intro a ha hr
    have hx := hr x List.mem_cons_self
    have h1 : b ≤ a * b + x := Nat.le_trans (Nat.le_mul_of_pos_left _ (Nat.pos_of_ne_zero ha)) (Nat.le_add_right _ _)
    have h2 : (a * b + x) / b = a := by
      rw [Nat.mul_comm, Nat.mul_add_div (by omega), Nat.div_eq_of_lt hx, Nat.add_zero]
    have h3 : (a * b + x) % b = x := by rw [Nat.mul_comm, Nat.mul_add_mod, Nat.mod_eq_of_lt hx]
    rw [List.foldl_cons, ih _ (by omega) (fun y hy => hr y (List.mem_cons_of_mem _ hy)), digits_step hb h1,
      h2, h3, List.append_assoc, List.singleton_append]

theorem digits_ofDigits {b : Nat} (hb : 2 ≤ b) (d : Nat) (r : List Nat) (h : ∀ x ∈ d :: r, x < b)
    (h0 : d ≠ 0 ∨ r = []) : digits b (ofDigits b (d :: r)) = d :: r := by
  have hd := h d List.mem_cons_self
  by_cases hz : d = 0
  · obtain rfl : r = [] := h0.resolve_left (fun h => h hz)
    subst hz
    have e : ofDigits b [0] = 0 := by simp [ofDigits]
    rw [e]; exact digits_small hd
  · have : ofDigits b (d :: r) = r.foldl (fun a d => a * b + d) d := by simp [ofDigits]
    rw [this, digits_foldl hb r d hz (fun x hx => h x (List.mem_cons_of_mem _ hx)), digits_small hd,
      List.singleton_append]

theorem toDigitsAux_eq {b : Nat} (hb : 2 ≤ b) (digit : Nat → Nat) (fuel n : Nat) (acc : List Nat)
    (hf : n < fuel) : toDigitsAux b digit fuel n acc = (digits b n).map digit ++ acc := by
  fun_induction toDigitsAux b digit fuel n acc with
  | case1 => omega
  | case2 fuel n acc acc' h =>
    have hn : n < b := Nat.lt_of_div_eq_zero (by omega) h
    simp only [acc', digits_small hn, Nat.mod_eq_of_lt hn, List.map_cons, List.map_nil, List.singleton_append]
  | case3 fuel n acc acc' h ih =>
    have hn : b ≤ n := Nat.le_of_not_lt (fun hlt => h (Nat.div_eq_of_lt hlt))
    rw [ih (Nat.lt_of_lt_of_le (Nat.div_lt_self (by omega) hb) (by omega)), digits_step hb hn]
    simp [acc']

theorem toDecimal_eq (n : Nat) : toDecimal n = (digits 10 n).map (0x30 + ·) := by
  rw [toDecimal, toDigitsAux_eq (by omega) _ _ _ _ (by omega), List.append_nil]

/-- the alphabet of `toDecimal` (that of `toHexLower`: `toHexLower_chars`) -/
theorem toDecimal_digits (n : Nat) : ∀ c ∈ toDecimal n, isDigit c = true := by
  intro c hc
  rw [toDecimal_eq] at hc
  obtain ⟨d, hd, rfl⟩ := List.mem_map.1 hc
  have := digits_lt (by omega : 2 ≤ 10) n d hd
  rw [isDigit_iff]; omega

theorem toDecimal_ne_nil (n : Nat) : toDecimal n ≠ [] := by
  obtain ⟨d, r, e, -⟩ := digits_head 10 n
  rw [toDecimal_eq, e]; simp

/-- the canonical decimal numeral: no leading '0' unless it is "0" -/
theorem toDecimal_head (n : Nat) : ∃ c r, toDecimal n = c :: r ∧ (n ≠ 0 → c ≠ 0x30) ∧ (n = 0 → r = []) := by
  obtain ⟨d, r, e, hd⟩ := digits_head 10 n
  refine ⟨0x30 + d, r.map (0x30 + ·), by rw [toDecimal_eq, e]; rfl, fun hn => by have := hd hn; omega, fun hn => ?_⟩
  subst hn; rw [digits_small (by omega)] at e; cases e; rfl

theorem toDecimal_length_le (n k : Nat) (hk : n < 10 ^ (k + 1)) : (toDecimal n).length ≤ k + 1 := by
  rw [toDecimal_eq, List.length_map]; exact digits_length_le n k hk

theorem toHexLower_eq (n : Nat) : toHexLower n = (digits 16 n).map hexDigitLower := by
  rw [toHexLower, toDigitsAux_eq (by omega) _ _ _ _ (by omega), List.append_nil]

theorem toHexLower_ne_nil (n : Nat) : toHexLower n ≠ [] := by
  obtain ⟨d, r, e, -⟩ := digits_head 16 n
  rw [toHexLower_eq, e]; simp

/-- the alphabet of `toHexLower`: decimal digits and 'a' … 'f' (that of `toDecimal`: `toDecimal_digits`) -/
theorem toHexLower_chars (n : Nat) : ∀ c ∈ toHexLower n, isDigit c = true ∨ (0x61 ≤ c ∧ c ≤ 0x66) := by
  intro c hc
  rw [toHexLower_eq] at hc
  obtain ⟨d, hd, rfl⟩ := List.mem_map.1 hc
  exact (by decide : ∀ d, d < 16 → isDigit (hexDigitLower d) = true ∨ (0x61 ≤ hexDigitLower d ∧ hexDigitLower d ≤ 0x66))
    d (digits_lt (by omega) n d hd)

theorem decimalValue_eq (s : List Nat) : decimalValue s = ofDigits 10 (s.map (· - 0x30)) := by
  simp [decimalValue, ofDigits, List.foldl_map]

theorem decimalValue_cons (c : Nat) (cs : List Nat) :
    decimalValue (c :: cs) = (c - 0x30) * 10 ^ cs.length + decimalValue cs := by
  rw [decimalValue_eq, decimalValue_eq, List.map_cons, ofDigits_cons, List.length_map]

theorem decimalValue_snoc (d : List Nat) (x : Nat) :
    decimalValue (d ++ [x]) = decimalValue d * 10 + (x - 0x30) := by
  rw [decimalValue_eq, decimalValue_eq, List.map_append, List.map_singleton, ofDigits_snoc]

theorem decimalValue_toDecimal (n : Nat) : decimalValue (toDecimal n) = n := by
  rw [decimalValue_eq, toDecimal_eq, List.map_map]
  have : ((· - 0x30) ∘ (0x30 + ·) : Nat → Nat) = id := funext fun x => by simp
  rw [this, List.map_id, ofDigits_digits]

/-- a canonical digit string (no leading zero unless it is the single digit) is the decimal form of its value -/
theorem toDecimal_decimalValue (d : List Nat) (hne : d ≠ [])
    (hdig : ∀ c ∈ d, isDigit c = true) (hcan : d.length = 1 ∨ d.head? ≠ some 0x30) :
    toDecimal (decimalValue d) = d := by
  have hv : ∀ c ∈ d, c - 0x30 < 10 ∧ 0x30 + (c - 0x30) = c := fun c hc => by
    have := (isDigit_iff c).1 (hdig c hc); omega
  have h1 : ∀ x ∈ d.map (· - 0x30), x < 10 := fun x hx => by
    obtain ⟨c, hc, rfl⟩ := List.mem_map.1 hx
    exact (hv c hc).1
  have h2 : (d.map (· - 0x30)).map (0x30 + ·) = d := by
    rw [List.map_map]
    conv => rhs; rw [← List.map_id d]
    exact List.map_congr_left (fun c hc => (hv c hc).2)
  cases d with
  | nil => exact absurd rfl hne
  | cons c t =>
    rw [toDecimal_eq, decimalValue_eq, List.map_cons, digits_ofDigits (by omega) _ _ (by simpa using h1) ?_]
    · simpa using h2
    · rcases hcan with h | h
      · right; simpa using h
      · left; have := hv c List.mem_cons_self; simp at h; omega

/-- more than `k` digits without a leading zero: the value is beyond anything below `b ^ k`. This is why a cut-off
    by length is sound: ports, k = 5, M = 65535 < 10^5 (`C08.strip_long_big`); the 11-character cut-off of
    ipv4_parse_number rests on the same argument over `Spec.radixValue` (`Ipv4.long_numeral_big`, 2^32 - 1 < 8^11). -/
theorem lt_of_long {b k M : Nat} (hM : M < b ^ k) (hb : 0 < b) {d : Nat} (r : List Nat) (hd : d ≠ 0)
    (hlen : k ≤ r.length) : M < ofDigits b (d :: r) :=
  Nat.lt_of_lt_of_le hM (Nat.le_trans (Nat.pow_le_pow_right hb hlen) (le_ofDigits b r hd))

/-! ### `util::unsigned_to_str` and the Standard's digit loop -/

theorem fillDigits_digits {b : Nat} (hb : 2 ≤ b) (digit : Nat → Nat) (n : Nat) (acc : List Nat) :
    Impl.fillDigits b digit (digits b n).length n acc = (digits b n).map digit ++ acc := by
  fun_induction digits b n generalizing acc with
  | case1 n h ih => simp [Impl.fillDigits, ih]
  | case2 n h =>
    have hn : n < b := by omega
    simp [Impl.fillDigits, Nat.mod_eq_of_lt hn]

/-- the divider loop counts the digits of any `x` with `x / b = num0 / divider` -/
theorem digitCountLoop_eq {b : Nat} (hb : 2 ≤ b) (num0 : Nat) : ∀ fuel divider count x, 0 < divider →
    num0 / divider < fuel → x / b = num0 / divider →
    Impl.digitCountLoop b num0 fuel divider count + 1 = count + (digits b x).length := by
  intro fuel
  induction fuel with
  | zero => intro _ _ _ _ h; exact absurd h (Nat.not_lt_zero _)
  | succ fuel ih =>
    intro divider count x hd hf hx
    unfold Impl.digitCountLoop
    by_cases hle : divider ≤ num0
    · have hm : 0 < num0 / divider := Nat.div_pos hle hd
      have hbx : b ≤ x := Nat.le_of_not_lt (fun h => by rw [Nat.div_eq_of_lt h] at hx; omega)
      have hlt : num0 / divider / b < num0 / divider := Nat.div_lt_self hm hb
      have := ih (divider * b) (count + 1) (x / b) (Nat.mul_pos hd (by omega))
          (by rw [← Nat.div_div_eq_div_mul]; omega) (by rw [hx, Nat.div_div_eq_div_mul])
      rw [if_pos hle, digits_step hb hbx, List.length_append, List.length_singleton]
      omega
    · have hxb : x < b := Nat.lt_of_div_eq_zero (by omega) (by rw [hx]; exact Nat.div_eq_of_lt (by omega))
      rw [if_neg hle, digits_small hxb]; rfl

theorem digitCount_eq {b : Nat} (hb : 2 ≤ b) (n : Nat) :
    Impl.digitCountLoop b (n / b) (n + 1) 1 1 = (digits b n).length := by
  have := digitCountLoop_eq hb (n / b) (n + 1) 1 1 n (by omega)
    (by rw [Nat.div_one]; exact Nat.lt_succ_of_le (Nat.div_le_self _ _)) (Nat.div_one _).symm
  omega

theorem unsignedToStr_eq {b : Nat} (hb : 2 ≤ b) (digit : Nat → Nat) (n : Nat) :
    Impl.unsignedToStr b digit n = (digits b n).map digit := by
  unfold Impl.unsignedToStr
  rw [digitCount_eq hb, fillDigits_digits hb, List.append_nil]

/-- base 10 never reaches the letters of the hex table -/
theorem unsignedToStr_ten_hexDigitLower (n : Nat) :
    Impl.unsignedToStr 10 hexDigitLower n = Impl.unsignedToStr 10 (fun d => 0x30 + d) n := by
  rw [unsignedToStr_eq (by decide), unsignedToStr_eq (by decide)]
  exact List.map_congr_left fun d hd => if_pos (digits_lt (by decide) n d hd)

theorem radixValue_map {R : Nat} (digit : Nat → Nat) (hd : ∀ d, d < R → Spec.digitVal R (digit d) = some d) :
    ∀ (l : List Nat) (acc : Nat), (∀ d ∈ l, d < R) →
      Spec.radixValue R (l.map digit) acc = some (l.foldl (fun a d => a * R + d) acc) := by
  intro l
  induction l with
  | nil => intro acc _; rfl
  | cons d l ih =>
    intro acc h
    rw [List.map_cons, Spec.radixValue, hd d (h d List.mem_cons_self)]
    exact ih _ (fun x hx => h x (List.mem_cons_of_mem _ hx))

/-! ### the printers in their own terms

What `toDigitsAux`, `toDecimal` and `unsigned_to_str` do, said without `digits`: for a reader of the model who wants the
recursion equation or the independence of the fuel and not the numeral. -/

theorem toDigitsAux_fuel {b : Nat} (hb : 2 ≤ b) (digit : Nat → Nat) (fuel n : Nat) (acc : List Nat) (hf : n < fuel) :
    toDigitsAux b digit fuel n acc = toDigitsAux b digit (n + 1) n [] ++ acc := by
  rw [toDigitsAux_eq hb _ _ _ _ hf, toDigitsAux_eq hb _ _ _ _ (Nat.lt_succ_self n), List.append_nil]

theorem toDecimal_step (n : Nat) :
    toDecimal n = if n < 10 then [0x30 + n] else toDecimal (n / 10) ++ [0x30 + n % 10] := by
  rw [toDecimal_eq, toDecimal_eq]
  split
  · next h => rw [digits_small h]; rfl
  · next h => rw [digits_step (by omega) (by omega), List.map_append]; rfl

theorem unsignedToStr_toDigitsAux {b : Nat} (hb : 2 ≤ b) (digit : Nat → Nat) (n : Nat) :
    Impl.unsignedToStr b digit n = toDigitsAux b digit (n + 1) n [] := by
  rw [unsignedToStr_eq hb, toDigitsAux_eq hb _ _ _ _ (Nat.lt_succ_self n), List.append_nil]

end Upa.Radix

namespace Upa.Impl

theorem unsignedToStr_dec (n : Nat) : unsignedToStr 10 (fun d => 0x30 + d) n = toDecimal n := by
  rw [Radix.unsignedToStr_eq (by omega), Radix.toDecimal_eq]

theorem unsignedToStr_hex (n : Nat) : unsignedToStr 16 hexDigitLower n = toHexLower n := by
  rw [Radix.unsignedToStr_eq (by omega), Radix.toHexLower_eq]

end Upa.Impl
