import Upa.Proofs.BoundsPctDecode
import Upa.Proofs.AsciiHom
/-
  C04b, C04h: `checkFixUtf8` of `Upa/Impl/Bounds.lean` (src/url_utf.cpp:37-68, the two copy loops with `ptr` /
  `bgn`) = `Impl.checkFixUtf8` (decode with replacement, re-encode).  Key fact (`Impl.readU8_ok_encode`): a successful
  `read_code_point` consumed exactly the UTF-8 encoding of the code point it returns.  Then `appendPercentDecoded`
  (url_percent_encode.h:508-547): the shared loop of `BoundsPctDecode.lean` with check_fix_utf8 as its repair routine.
-/

namespace Upa.Impl.B
open Upa.Proofs.C10b

/-- one `read_code_point` on `[it, last)`: where it stops, and — on a byte buffer — what it did in terms of the list decoder -/
theorem readU8_step (a : Array Nat) (it last : Nat) (hlt : it < last) (hl : last ≤ a.size) :
    (readU8 a it last).sat (fun r => it < r.2.2 ∧ r.2.2 ≤ last ∧ (ByteUnits a it last →
      Impl.encodeUtf8 (Impl.decode .u8 (slice a it last)) =
        (if r.1 = true then slice a it r.2.2 else replUtf8) ++ Impl.encodeUtf8 (Impl.decode .u8 (slice a r.2.2 last)))) := by
  refine R.sat_mono (readU8_spec a it last hlt hl) ?_
  intro ⟨ok, cp, it'⟩ ⟨hpost, hag⟩
  simp only [ReadPost] at hpost hag ⊢
  refine ⟨hpost.1, hpost.2, fun hb => ?_⟩
  rw [bytes_eq_slice a it last hl hb,
    bytes_eq_slice a it' last hl (fun i h1 h2 => hb i (Nat.le_trans (Nat.le_of_lt hpost.1) h1) h2)] at hag
  have hne : slice a it last ≠ [] := by rw [slice_cons a it last hlt hl]; simp
  have hmem : ∀ x ∈ slice a it last, x < 256 := by
    intro x hx
    obtain ⟨i, hi1, hi2, rfl⟩ := mem_slice a it last x hl hx
    exact hb i hi1 hi2
  rw [Impl.decode_step .u8 _ hne, Impl.cpOf, Impl.encodeUtf8_cons,
    show Impl.readChar .u8 (slice a it last) = _ from hag]
  simp only []
  cases ok with
  | false => simp only [Bool.false_eq_true, if_false]; rfl
  | true =>
    simp only [if_true]
    congr 1
    have henc := Impl.readU8_ok_encode (slice a it last) (by rw [hag]) hmem
    have hsc := (Impl.readU8_cp (slice a it last) hne).1
    rw [hag] at henc hsc
    simp only at henc hsc
    rw [Impl.encodeUtf8Char_eq cp ((Impl.isScalar_iff cp).1 hsc).1]
    have hsplit := slice_append a it it' last (by omega) hpost.2
    rw [← hsplit] at henc
    exact (List.append_cancel_right henc).symm

theorem checkFixUtf8_spec (a : Array Nat) (first last : Nat) (h : first ≤ last) (hl : last ≤ a.size) :
    (checkFixUtf8 a first last).sat (fun r => ByteUnits a first last →
      r = Impl.checkFixUtf8 (slice a first last)) := by
  generalize hH : ByteUnits a first last = H
  have hsub : ∀ {p}, first ≤ p → H → ByteUnits a p last :=
    fun hp hb i h1 h2 => (hH ▸ hb) i (Nat.le_trans hp h1) h2
  unfold checkFixUtf8 Impl.checkFixUtf8
  refine R.sat_bind (scan_sat _ (·.2) first last
    (fun s => s.1 = s.2 ∧ (H →
      slice a first s.2 ++ Impl.encodeUtf8 (Impl.decode .u8 (slice a s.2 last)) =
        Impl.encodeUtf8 (Impl.decode .u8 (slice a first last))))
    (fun r => (r.1 = last ∧ (H → slice a first last = Impl.encodeUtf8 (Impl.decode .u8 (slice a first last)))) ∨
      (first ≤ r.1 ∧ r.1 < r.2 ∧ r.2 ≤ last ∧ (H →
        slice a first r.1 ++ replUtf8 ++ Impl.encodeUtf8 (Impl.decode .u8 (slice a r.2 last)) =
          Impl.encodeUtf8 (Impl.decode .u8 (slice a first last))))) ?_ _ _ (Nat.le_refl _) h ?_ ?_) ?_
  · intro ⟨ptr, it⟩ i1 i2 ⟨i0, i3⟩
    simp only at i0 i1 i2 i3 ⊢
    subst i0
    refine R.sat_if (fun hit => ?_) (fun hit => ?_)
    · refine R.sat_pure (Or.inl ⟨by omega, fun hb => ?_⟩)
      have : ptr = last := by omega
      subst this
      have i3 := i3 hb
      rw [slice_nil a ptr ptr (Nat.le_refl _), Impl.decode_nil] at i3
      rw [← i3]
      simp [Impl.encodeUtf8]
    have hlt : ptr < last := by omega
    refine R.sat_range ?_ i1 (Nat.le_of_lt hlt) (Nat.le_refl _)
    refine R.sat_bind (readU8_step a ptr last hlt hl) ?_
    intro ⟨ok, cp, it'⟩ ⟨q1, q2, q3⟩
    simp only at q1 q2 q3 ⊢
    replace i3 := fun hb => (q3 (hsub i1 hb)) ▸ i3 hb
    cases ok with
    | true =>
      simp only [if_true] at i3 ⊢
      refine R.sat_pure ⟨q1, q2, rfl, fun hb => ?_⟩
      simp only []
      rw [← i3 hb, ← List.append_assoc, slice_append a first ptr it' i1 (Nat.le_of_lt q1)]
    | false =>
      simp only [Bool.false_eq_true, if_false] at i3 ⊢
      refine R.sat_pure (Or.inr ⟨i1, q1, q2, fun hb => ?_⟩)
      simp only []
      rw [← i3 hb, List.append_assoc]
  · refine ⟨rfl, fun _ => ?_⟩
    rw [slice_nil a first first (Nat.le_refl _)]; rfl
  · exact Nat.lt_succ_self _
  intro ⟨ptr, it⟩ hpost
  simp only at hpost ⊢
  rcases hpost with ⟨hp, hT⟩ | ⟨p1, p2, p3, hT⟩
  · rw [if_neg (by omega)]
    refine R.sat_pure fun hb => ?_
    rw [← hT hb]; rfl
  · rw [if_pos (by omega)]
    refine R.sat_range ?_ (Nat.le_refl first) p1
    refine R.sat_bind (scan_sat _ (·.2.2.2) it last
      (fun s => s.2.2.1 = s.2.2.2 ∧ it ≤ s.2.1 ∧ s.2.1 ≤ s.2.2.2 ∧ (H →
        s.1 ++ slice a s.2.1 s.2.2.2 ++ Impl.encodeUtf8 (Impl.decode .u8 (slice a s.2.2.2 last)) =
          Impl.encodeUtf8 (Impl.decode .u8 (slice a first last))))
      (fun r => it ≤ r.2.1 ∧ r.2.1 ≤ r.2.2 ∧ r.2.2 ≤ last ∧ (H →
        r.1 ++ slice a r.2.1 r.2.2 = Impl.encodeUtf8 (Impl.decode .u8 (slice a first last)))) ?_ _ _ (Nat.le_refl _) p3 ?_ ?_) ?_
    · intro ⟨buff, bgn, ptr2, it2⟩ _ j3 ⟨j0, j1, j2, j4⟩
      simp only at j0 j1 j2 j3 j4 ⊢
      subst j0
      refine R.sat_if (fun hit => ?_) (fun hit => ?_)
      · refine R.sat_pure ⟨j1, j2, j3, fun hb => ?_⟩
        simp only []
        have j4 := j4 hb
        rw [hit, slice_nil a last last (Nat.le_refl _), Impl.decode_nil] at j4
        rw [← j4, hit]
        simp [Impl.encodeUtf8]
      have hlt : ptr2 < last := by omega
      have hf2 : first ≤ ptr2 := Nat.le_trans p1 (Nat.le_trans (Nat.le_of_lt p2) (Nat.le_trans j1 j2))
      refine R.sat_range ?_ hf2 (Nat.le_of_lt hlt) (Nat.le_refl _)
      refine R.sat_bind (readU8_step a ptr2 last hlt hl) ?_
      intro ⟨ok, cp, it'⟩ ⟨q1, q2, q3⟩
      simp only at q1 q2 q3 ⊢
      replace j4 := fun hb => (q3 (hsub hf2 hb)) ▸ j4 hb
      cases ok with
      | true =>
        simp only [if_true] at j4 ⊢
        refine R.sat_pure ⟨q1, q2, rfl, j1, Nat.le_trans j2 (Nat.le_of_lt q1), fun hb => ?_⟩
        simp only []
        rw [← j4 hb, ← slice_append a bgn ptr2 it' j2 (Nat.le_of_lt q1)]
        simp only [List.append_assoc]
      | false =>
        simp only [Bool.false_eq_true, if_false] at j4 ⊢
        have hfb : first ≤ bgn := Nat.le_trans p1 (Nat.le_trans (Nat.le_of_lt p2) j1)
        refine R.sat_range ?_ hfb j2 (Nat.le_of_lt hlt)
        refine R.sat_pure ⟨q1, q2, rfl, Nat.le_trans j1 (Nat.le_trans j2 (Nat.le_of_lt q1)), Nat.le_refl _, fun hb => ?_⟩
        simp only []
        rw [← j4 hb, slice_nil a it' it' (Nat.le_refl _)]
        simp only [List.append_assoc, List.append_nil]
        rfl
    · refine ⟨rfl, Nat.le_refl _, Nat.le_refl _, fun hb => ?_⟩
      simp only []
      rw [slice_nil a it it (Nat.le_refl _), List.append_nil]
      exact hT hb
    · exact Nat.lt_succ_of_le (Nat.sub_le_sub_left (Nat.le_trans p1 (Nat.le_of_lt p2)) last)
    intro ⟨buff, bgn, ptr2⟩ ⟨r1, r2, r3, r4⟩
    simp only at r1 r2 r3 r4 ⊢
    refine R.sat_range (R.sat_pure fun hb => ?_) (by omega) r2 r3
    rw [← r4 hb]
    rfl

theorem checkFixUtf8_sat (a : Array Nat) (first last : Nat) (h : first ≤ last) (hl : last ≤ a.size) :
    (checkFixUtf8 a first last).sat (fun _ => True) :=
  (checkFixUtf8_spec a first last h hl).true

theorem checkFixUtf8_agrees (a : Array Nat) (first last : Nat) (h : first ≤ last) (hl : last ≤ a.size)
    (hb : ByteUnits a first last) :
    checkFixUtf8 a first last = .ok (Impl.checkFixUtf8 (slice a first last)) :=
  R.eq_ok_of_sat ((checkFixUtf8_spec a first last h hl).mp hb)

theorem appendPercentDecoded_spec (e : Enc) (a : Array Nat) (first last : Nat) (h : first ≤ last) (hl : last ≤ a.size) :
    (appendPercentDecoded e a first last).sat (fun r => UOk e (slice a first last) → r = EC Impl.encodeUtf8Char (G e (slice a first last))) := by
  rw [appendPercentDecoded_eq_iter]
  exact pctLoop_spec e a first last Impl.encodeUtf8Char (fun b => checkFixUtf8 b.toArray 0 b.length) id hl
    Impl.encodeUtf8Char_ascii
    (fun b8 hb8 => ⟨_, checkFixUtf8_agrees b8.toArray 0 b8.length (Nat.zero_le _) (by simp) (lt256_toArray b8 hb8),
      by rw [slice_ofList]; rfl⟩)
    first [] (Nat.le_refl _) h

theorem appendPercentDecoded_sat (e : Enc) (a : Array Nat) (first last : Nat) (h : first ≤ last) (hl : last ≤ a.size) :
    (appendPercentDecoded e a first last).sat (fun _ => True) :=
  (appendPercentDecoded_spec e a first last h hl).true

theorem appendPercentDecoded_agrees (e : Enc) (a : Array Nat) (first last : Nat) (h : first ≤ last)
    (hl : last ≤ a.size) (hu : UOk e (slice a first last)) :
    appendPercentDecoded e a first last = .ok (Impl.percentDecode (Impl.decode e (slice a first last))) := by
  rw [Proofs.C14.percentDecode_eq _ (decode_scalars e _ hu)]
  exact R.eq_ok_of_sat ((appendPercentDecoded_spec e a first last h hl).mp hu)

end Upa.Impl.B
