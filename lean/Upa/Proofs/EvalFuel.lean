import Upa.Proofs.Form
/-
  Kernel-evaluable twins.

  Lean compiles `Impl.percentDecodeAux`, `Impl.formParseAux`, `Spec.percentDecodeBytes` (nested patterns
  `c :: r@(h1 :: h2 :: r')`), `List.merge` and `List.mergeSort` by well-founded recursion, and the kernel does not unfold
  that: `decide +kernel` cannot run them.  Each has a twin here that recurses on a fuel argument (`…Fuel`; the length of
  the input, or one more, suffices), a closed form with the fuel put in (`…K`; merge sort's fuel-taking twins are
  called `mergeK`, `mergeSortK`), and the equation with the model, so an evaluated instance is
  `rw [percentDecode_eq_fuel]`, `rw [formParse_eqK]`, `rw [pd_eq_pdK]`, `rw [← sortK_eq]`, `rw [← mergeSortK_eq _ n _ (by decide)]`
  followed by `decide +kernel`.  The twins of the two object-level interpreters, which use these, are in
  Upa/Proofs/ObjRepEval.lean and Upa/Proofs/LockstepEval.lean.  `Impl.hasDotDotSegment` and `Spec.utf16Decode`, compiled
  the same way, have no twin: their few instances are unfolded with `simp`.
-/
namespace Upa.Proofs.Eval
open Upa Upa.Impl Upa.Proofs.C14 Upa.Proofs.C15

/-- `percentDecodeAux` in the one-equation-per-state form of `aux_none_cons` / `aux_some_cons` -/
def percentDecodeFuel : Nat → Option (List Nat) → List Nat → List Nat
  | 0, _, _ => []
  | _+1, none, [] => []
  | _+1, some buf, [] => checkFixUtf8 buf
  | n+1, none, c :: r =>
    if c = 0x25 ∧ hex2 r = true then
      if pctVal r < 0x80 then pctVal r :: percentDecodeFuel n none (r.drop 2)
      else percentDecodeFuel n (some [pctVal r]) (r.drop 2)
    else encodeUtf8Char c ++ percentDecodeFuel n none r
  | n+1, some buf, c :: r =>
    if c = 0x25 then
      if hex2 r = true then percentDecodeFuel n (some (buf ++ [pctVal r])) (r.drop 2)
      else percentDecodeFuel n (some (buf ++ [0x25])) r
    else checkFixUtf8 buf ++ (encodeUtf8Char c ++ percentDecodeFuel n none r)

theorem percentDecodeFuel_eq (n : Nat) (run : Option (List Nat)) (l : List Nat) (hl : l.length < n) :
    percentDecodeFuel n run l = percentDecodeAux run l := by
  induction n generalizing run l with
  | zero => omega
  | succ n ih =>
    cases l with
    | nil => cases run <;> simp [percentDecodeFuel, aux_none_nil, aux_some_nil]
    | cons c r =>
      have hr : r.length < n := by simpa using hl
      have hd : (r.drop 2).length < n := by rw [List.length_drop]; omega
      cases run with
      | none => rw [percentDecodeFuel, aux_none_cons, ih none r hr, ih none _ hd, ih (some _) _ hd]
      | some buf => rw [percentDecodeFuel, aux_some_cons, ih none r hr, ih (some _) r hr, ih (some _) _ hd]

/-- `percentDecode` in a form that `decide +kernel` evaluates -/
theorem percentDecode_eq_fuel (s : List Nat) : percentDecode s = percentDecodeFuel (s.length + 1) none s :=
  (percentDecodeFuel_eq _ none s (Nat.lt_succ_self _)).symm

end Upa.Proofs.Eval

namespace Upa.Proofs.C15
open Upa Upa.Impl Upa.Spec

def formParseFuel : Nat → List Nat → FormSt → List BPair → List BPair
  | 0, _, st, acc => st.flush acc
  | _+1, [], st, acc => st.flush acc
  | n+1, c :: r, st, acc =>
    if c = 0x3D then
      if !st.inValue then formParseFuel n r { st with inValue := true, nonEmpty := true } acc
      else formParseFuel n r (st.push c) acc
    else if c = 0x26 then formParseFuel n r {} (st.flush acc)
    else if c = 0x2B then formParseFuel n r (st.push 0x20) acc
    else if c = 0x25 ∧ hex2 r = true then formParseFuel n (r.drop 2) (st.push (pctVal r)) acc
    else formParseFuel n r (st.push c) acc

theorem formParseFuel_eq (n : Nat) (l : List Nat) (st : FormSt) (acc : List BPair) (hl : l.length ≤ n) :
    formParseFuel n l st acc = formParseAux l st acc := by
  fun_induction formParseFuel n l st acc <;> simp_all [formParseAux_nil, formParseAux_cons]
  next ih => exact ih (by omega)

/-- `formParse`, evaluable by `decide +kernel` -/
def formParseK (remQmark : Bool) (bytes : List Nat) : List BPair :=
  let b := match remQmark, bytes with
    | true, 0x3F :: r => r
    | _, l => l
  formParseFuel b.length b {} []

theorem formParse_eqK (remQmark : Bool) (bytes : List Nat) :
    formParse remQmark bytes = formParseK remQmark bytes := by
  unfold formParse formParseK
  simp only [formParseFuel_eq _ _ _ _ (Nat.le_refl _)]
  rfl

def pdFuel : Nat → List Nat → List Nat
  | 0, l => l
  | _+1, [] => []
  | n+1, b :: r =>
    if b = 0x25 ∧ hex2 r = true then pctVal r :: pdFuel n (r.drop 2) else b :: pdFuel n r

theorem pdFuel_eq (n : Nat) (l : List Nat) (hl : l.length ≤ n) : pdFuel n l = percentDecodeBytes l := by
  fun_induction pdFuel n l <;> simp_all [pd_nil, pd_cons]
  next ih => exact ih (by omega)

def pdK (l : List Nat) : List Nat := pdFuel l.length l

theorem pd_eq_pdK : percentDecodeBytes = pdK := funext fun l => (pdFuel_eq _ l (Nat.le_refl _)).symm

/-- `urlencodedParse`, evaluable by `decide +kernel` -/
def urlencodedParseK (bytes : List Nat) : List Spec.Pair :=
  (splitOnP (· == 0x26) bytes).filterMap fun piece =>
    if piece = [] then none
    else
      let (name, value) := splitFirst 0x3D piece
      some (utf8Decode (pdK (plusToSpace name)), utf8Decode (pdK (plusToSpace value)))

theorem urlencodedParse_eqK (bytes : List Nat) : urlencodedParse bytes = urlencodedParseK bytes := by
  unfold urlencodedParse urlencodedParseK
  rw [pd_eq_pdK]

end Upa.Proofs.C15

namespace Upa.Proofs.ObjRep
open Upa Upa.Impl

def mergeK {α : Type} (le : α → α → Bool) : Nat → List α → List α → List α
  | 0, xs, ys => xs ++ ys
  | _+1, [], ys => ys
  | _+1, x :: xs, [] => x :: xs
  | n+1, x :: xs, y :: ys =>
    if le x y then x :: mergeK le n xs (y :: ys) else y :: mergeK le n (x :: xs) ys

theorem mergeK_eq {α : Type} (le : α → α → Bool) : ∀ (n : Nat) (xs ys : List α),
    xs.length + ys.length ≤ n → mergeK le n xs ys = List.merge xs ys le := by
  intro n
  induction n with
  | zero =>
    intro xs ys h
    have h1 : xs = [] := List.length_eq_zero_iff.1 (by omega)
    have h2 : ys = [] := List.length_eq_zero_iff.1 (by omega)
    subst h1 h2
    simp [mergeK]
  | succ n ih =>
    intro xs ys h
    match xs, ys with
    | [], ys => simp [mergeK]
    | x :: xs, [] => simp [mergeK]
    | x :: xs, y :: ys =>
      simp only [List.length_cons] at h
      rw [mergeK, List.cons_merge_cons]
      split
      · rw [ih xs (y :: ys) (by simp only [List.length_cons]; omega)]
      · rw [ih (x :: xs) ys (by simp only [List.length_cons]; omega)]

def mergeSortK {α : Type} (le : α → α → Bool) : Nat → List α → List α
  | 0, l => l
  | _+1, [] => []
  | _+1, [a] => [a]
  | n+1, a :: b :: xs =>
    let l := a :: b :: xs
    let h := (l.length + 1) / 2
    mergeK le l.length (mergeSortK le n (l.take h)) (mergeSortK le n (l.drop h))

theorem mergeSortK_eq {α : Type} (le : α → α → Bool) : ∀ (n : Nat) (l : List α),
    l.length ≤ n → mergeSortK le n l = l.mergeSort le := by
  intro n
  induction n with
  | zero =>
    intro l h
    have h1 : l = [] := List.length_eq_zero_iff.1 (by omega)
    subst h1
    simp [mergeSortK]
  | succ n ih =>
    intro l h
    match l with
    | [] => simp [mergeSortK]
    | [a] => simp [mergeSortK]
    | a :: b :: xs =>
      simp only [List.length_cons] at h
      rw [mergeSortK, List.mergeSort.eq_3]
      simp only [List.MergeSort.Internal.splitInTwo_fst, List.MergeSort.Internal.splitInTwo_snd]
      rw [ih _ (by simp only [List.length_take, List.length_cons]; omega),
        ih _ (by simp only [List.length_drop, List.length_cons]; omega)]
      apply mergeK_eq
      simp only [List.length_mergeSort, List.length_take, List.length_drop, List.length_cons]
      omega

/-- `Params.sort`, evaluable by `decide +kernel` (the comparator is `C16.nameLe` of Upa/Proofs/ParamsCmp.lean written out) -/
def sortK (p : Params) : Params :=
  if !p.isSorted then { list := mergeSortK (fun a b => !nameLess b a) p.list.length p.list, isSorted := true }
  else p

theorem sortK_eq (p : Params) : sortK p = p.sort := by
  unfold sortK Params.sort
  rw [mergeSortK_eq _ _ _ (Nat.le_refl _)]

end Upa.Proofs.ObjRep
