import Upa.Impl.Api
import Upa.Impl.BoundsMisc
import Upa.Impl.BoundsUrl
import Upa.Proofs.Bounds
/-
  `detail::do_trim` and `detail::do_remove_whitespace` (url.h:953-984).  The C++ functions have two
  bounds-instrumented models, `trimM` / `removeWhitespaceM` (`Upa/Impl/BoundsMisc.lean`) and `doTrimB` /
  `doRemoveWhitespaceB` (`Upa/Impl/BoundsUrl.lean`, the scans before url_parse), which differ in the fuel they give
  the loops and in how a test is spelt; each loop is proved once, for any sufficient fuel, and the theorems about the
  four models put the loops together: they run to `.ok` and compute what the list models `Impl.doTrim` /
  `Impl.removeWs` (`Upa/Impl/Api.lean`) compute on the slice (`trimM_agrees`, `doTrimB_agrees` with the new range inside
  the old one).
-/
namespace Upa.Impl.B

/-- `while (first < last && is_trim_char(*first)) ++first;` -/
theorem trimFwd_spec (a : Array Nat) (first last : Nat) (h : first ≤ last) (hl : last ≤ a.size) (fuel : Nat)
    (hf : last - first < fuel) :
    (iter (fun (p : Nat) =>
      if p < last + 0 then do
        let c ← rd a first last p
        if Impl.isTrimChar c then do
          let p' ← mkptr first last (p + 1)
          pure (.inl p')
        else pure (.inr p)
      else pure (.inr p)) fuel first).sat
      (fun p => first ≤ p ∧ p ≤ last ∧ (slice a first last).dropWhile Impl.isTrimChar = slice a p last) := by
  refine scan_sat _ id first last
    (fun p => (slice a first last).dropWhile Impl.isTrimChar = (slice a p last).dropWhile Impl.isTrimChar)
    _ ?_ _ _ (Nat.le_refl _) h rfl hf
  intro p h1 h2 h3
  refine R.sat_if (fun hlt => ?_) (fun hge => ?_)
  · have hlt : p < last := hlt
    rw [slice_cons a p last hlt hl] at h3
    refine R.sat_read hl (R.sat_if (fun ht => ?_) (fun ht => ?_)) h1 hlt
    · rw [List.dropWhile_cons_of_pos ht] at h3
      refine R.sat_ptr ?_ (Nat.le_succ_of_le h1) hlt
      exact R.sat_pure ⟨Nat.lt_succ_self p, hlt, h3⟩
    · rw [List.dropWhile_cons_of_neg ht, ← slice_cons a p last hlt hl] at h3
      exact R.sat_pure ⟨h1, h2, h3⟩
  · have hn := slice_nil a p last (Nat.le_of_not_lt hge)
    rw [hn] at h3
    exact R.sat_pure ⟨h1, h2, h3.trans hn.symm⟩

/-- `while (first < last && is_trim_char(*(last-1))) --last;` with `first = f` -/
theorem trimBwd_spec (a : Array Nat) (first last f : Nat) (f1 : first ≤ f) (f2 : f ≤ last) (hl : last ≤ a.size)
    (fuel : Nat) (hf : last - f < fuel) :
    (iter (fun (q : Nat) =>
      if f < q then do
        let c ← rdPrev a first last q
        if Impl.isTrimChar c then do
          let q' ← mkptrSub first last q 1
          pure (.inl q')
        else pure (.inr q)
      else pure (.inr q)) fuel last).sat
      (fun q => f ≤ q ∧ q ≤ last ∧ (slice a f last).reverse.dropWhile Impl.isTrimChar = (slice a f q).reverse) := by
  refine iter_sat _
    (fun q => f ≤ q ∧ q ≤ last ∧
      (slice a f last).reverse.dropWhile Impl.isTrimChar = (slice a f q).reverse.dropWhile Impl.isTrimChar)
    (fun q => q - f) _ ?_ _ _ ⟨f2, Nat.le_refl _, rfl⟩ hf
  intro q ⟨g1, g2, g3⟩
  refine R.sat_if (fun hlt => ?_) (fun hge => ?_)
  · have hsn := slice_snoc a f q hlt (Nat.le_trans g2 hl)
    rw [hsn, List.reverse_append, List.reverse_singleton, List.singleton_append] at g3
    refine R.sat_readPrev hl (R.sat_if (fun ht => ?_) (fun ht => ?_)) (Nat.lt_of_le_of_lt f1 hlt) g2
    · rw [List.dropWhile_cons_of_pos ht] at g3
      refine R.sat_ptrSub ?_ (Nat.succ_le_of_lt (Nat.lt_of_le_of_lt f1 hlt)) (Nat.le_trans (Nat.sub_le _ _) g2)
      exact R.sat_pure ⟨⟨Nat.le_sub_one_of_lt hlt, Nat.le_trans (Nat.sub_le _ _) g2, g3⟩, Nat.sub_lt_sub_right
        (Nat.le_sub_one_of_lt hlt) (Nat.sub_lt (Nat.lt_of_le_of_lt (Nat.zero_le _) hlt) Nat.one_pos)⟩
    · rw [List.dropWhile_cons_of_neg ht, ← List.singleton_append, ← List.reverse_singleton (a := a[q - 1]!),
        ← List.reverse_append, ← hsn] at g3
      exact R.sat_pure ⟨g1, g2, g3⟩
  · have hn := slice_nil a f q (Nat.le_of_not_lt hge)
    rw [hn] at g3
    exact R.sat_pure ⟨g1, g2, g3.trans (congrArg List.reverse hn.symm)⟩

theorem doTrim_of_loops (a : Array Nat) (first last f l : Nat)
    (hf : (slice a first last).dropWhile Impl.isTrimChar = slice a f last)
    (hl : (slice a f last).reverse.dropWhile Impl.isTrimChar = (slice a f l).reverse) :
    slice a f l = Impl.doTrim (slice a first last) := by
  rw [Impl.doTrim, hf, hl, List.reverse_reverse]

theorem removeWs_snoc (l : List Nat) (c : Nat) :
    Impl.removeWs (l ++ [c]) = if (!Impl.isRemovable c) = true then Impl.removeWs l ++ [c] else Impl.removeWs l := by
  rw [Impl.removeWs, List.filter_append, List.filter_cons, List.filter_nil]
  cases (!Impl.isRemovable c) with
  | true => rfl
  | false => exact List.append_nil _

/-- `for (; it < last; ++it) if (!is_removable_char(*it)) buff.push_back(*it);` for a step function `step` that
    does this, however its test is spelt (`hstep` is `rfl` or `ite_not`) -/
theorem removeTail_spec (a : Array Nat) (first last : Nat) (hl : last ≤ a.size)
    (step : Nat × List Nat → R ((Nat × List Nat) ⊕ List Nat))
    (hstep : ∀ p b, step (p, b) = if p < last then do
        let c ← rd a first last p
        let p' ← mkptr first last (p + 1)
        pure (.inl (p', if !Impl.isRemovable c then b ++ [c] else b))
      else pure (.inr b))
    (fuel it : Nat) (buff : List Nat) (h1 : first ≤ it) (h2 : it ≤ last) (hb : buff = Impl.removeWs (slice a first it))
    (hf : last - it < fuel) :
    (iter step fuel (it, buff)).sat (fun b => b = Impl.removeWs (slice a first last)) := by
  refine scan_sat _ (·.1) first last (fun s => s.2 = Impl.removeWs (slice a first s.1)) _ ?_ _ _ h1 h2 hb hf
  intro ⟨p, b⟩ g0 g2 (g3 : b = _)
  rw [hstep]
  refine R.sat_if (fun hlt => ?_) (fun hge => ?_)
  · refine R.sat_read hl (R.sat_ptr ?_ (Nat.le_succ_of_le g0) hlt) g0 hlt
    refine R.sat_pure ⟨Nat.lt_succ_self p, hlt, ?_⟩
    rw [slice_succ a first p g0 (Nat.lt_of_lt_of_le hlt hl), removeWs_snoc, g3]
  · rw [Nat.le_antisymm g2 (Nat.le_of_not_lt hge)] at g3
    exact R.sat_pure g3

/-- `do_remove_whitespace` for a step function `step` of the outer loop that does what the C++ does, with `tail it`
    the inner loop entered at `it` -/
theorem removeWhitespace_spec (a : Array Nat) (first last : Nat) (h : first ≤ last) (hl : last ≤ a.size)
    (step : Nat → R (Nat ⊕ Option (List Nat))) (tail : Nat → R (List Nat))
    (hstep : ∀ it, step it = if it < last then do
        let c ← rd a first last it
        if !Impl.isRemovable c then do
          let it' ← mkptr first last (it + 1)
          pure (.inl it')
        else do
          sub first last first it
          let buff ← tail it
          pure (.inr (some buff))
      else pure (.inr none))
    (htail : ∀ it, first ≤ it → it ≤ last → Impl.removeWs (slice a first it) = slice a first it →
      (tail it).sat (fun b => b = Impl.removeWs (slice a first last)))
    (fuel : Nat) (hf : last - first < fuel) :
    (iter step fuel first).sat (fun r => r.getD (slice a first last) = Impl.removeWs (slice a first last)) := by
  refine scan_sat _ id first last (fun it => Impl.removeWs (slice a first it) = slice a first it)
    _ ?_ _ _ (Nat.le_refl _) h ?_ hf
  · intro it h1 (h2 : it ≤ last) h3
    rw [hstep]
    refine R.sat_if (fun hlt => ?_) (fun hge => ?_)
    · refine R.sat_read hl (R.sat_if (fun hnr => ?_) (fun hr => ?_)) h1 hlt
      · refine R.sat_ptr (R.sat_pure ⟨Nat.lt_succ_self it, hlt, ?_⟩) (Nat.le_succ_of_le h1) hlt
        rw [slice_succ a first it h1 (Nat.lt_of_lt_of_le hlt hl), removeWs_snoc, if_pos hnr, h3]
      · exact R.sat_range (R.sat_bind (htail it h1 h2 h3) fun b hb => R.sat_pure hb) (Nat.le_refl first) h1 h2
    · rw [Nat.le_antisymm h2 (Nat.le_of_not_lt hge)] at h3
      exact R.sat_pure h3.symm
  · rw [slice_nil a first first (Nat.le_refl _)]
    rfl

/-! ### the four models -/

theorem trimM_agrees (a : Array Nat) (first last : Nat) (h : first ≤ last) (hl : last ≤ a.size) :
    (trimM a first last).sat (fun r => first ≤ r.1 ∧ r.1 ≤ r.2 ∧ r.2 ≤ last ∧
      slice a r.1 r.2 = Impl.doTrim (slice a first last)) := by
  refine R.sat_bind (trimFwd_spec a first last h hl _ (Nat.lt_succ_of_lt (Nat.lt_succ_self _))) fun f ⟨f1, f2, f3⟩ => ?_
  refine R.sat_bind (trimBwd_spec a first last f f1 f2 hl _ (Nat.lt_succ_of_le (Nat.sub_le_sub_left f1 last)))
    fun l ⟨l1, l2, l3⟩ => R.sat_pure ⟨f1, l1, l2, doTrim_of_loops a first last f l f3 l3⟩

theorem trimM_sat (a : Array Nat) (first last : Nat) (h : first ≤ last) (hl : last ≤ a.size) :
    (trimM a first last).sat (fun r => first ≤ r.1 ∧ r.1 ≤ r.2 ∧ r.2 ≤ last) :=
  R.sat_mono (trimM_agrees a first last h hl) (fun _ hr => ⟨hr.1, hr.2.1, hr.2.2.1⟩)

theorem removeWhitespaceM_agrees (a : Array Nat) (first last : Nat) (h : first ≤ last) (hl : last ≤ a.size) :
    (removeWhitespaceM a first last).sat (fun r => r.getD (slice a first last) = Impl.removeWs (slice a first last)) :=
  removeWhitespace_spec a first last h hl _ _ (fun _ => ite_not _ _ _)
    (fun it h1 h2 h3 => removeTail_spec a first last hl _ (fun _ _ => ite_not _ _ _) _ it _ h1 h2 h3.symm
      (Nat.lt_succ_of_le (Nat.le_succ_of_le (Nat.sub_le_sub_left h1 last)))) _ (Nat.lt_succ_self _)

theorem removeWhitespaceM_sat (a : Array Nat) (first last : Nat) (h : first ≤ last) (hl : last ≤ a.size) :
    (removeWhitespaceM a first last).sat (fun _ => True) :=
  (removeWhitespaceM_agrees a first last h hl).true

theorem R.sat_trueU {α : Type} {r : R α} {P : α → Prop} (h : r.sat P) : r.sat (fun _ => True) :=
  h.true

theorem doRemoveWhitespaceB_agrees (a : Array Nat) (first last fuel : Nat) (h : first ≤ last) (hl : last ≤ a.size)
    (hf : last - first < fuel) :
    (doRemoveWhitespaceB a first last fuel).sat (fun r =>
      (match r with | none => slice a first last | some b => b) = removeWs (slice a first last)) :=
  R.sat_mono (removeWhitespace_spec a first last h hl _ _ (fun _ => rfl)
    (fun it h1 h2 h3 => removeTail_spec a first last hl _ (fun _ _ => rfl) _ it _ h1 h2 h3.symm
      (Nat.lt_of_le_of_lt (Nat.sub_le_sub_left h1 last) hf)) _ hf) fun r hr =>
    match r, hr with
    | none, hr => hr
    | some _, hr => hr

theorem doTrimB_agrees (a : Array Nat) (first last fuel : Nat) (h : first ≤ last) (hl : last ≤ a.size)
    (hf : last - first < fuel) :
    (doTrimB a first last fuel).sat (fun r => first ≤ r.1 ∧ r.1 ≤ r.2 ∧ r.2 ≤ last ∧
      slice a r.1 r.2 = doTrim (slice a first last)) := by
  refine R.sat_bind (trimFwd_spec a first last h hl _ hf) fun f ⟨f1, f2, f3⟩ => ?_
  refine R.sat_bind (trimBwd_spec a first last f f1 f2 hl _ (Nat.lt_of_le_of_lt (Nat.sub_le_sub_left f1 last) hf))
    fun l ⟨l1, l2, l3⟩ => R.sat_pure ⟨f1, l1, l2, doTrim_of_loops a first last f l f3 l3⟩

theorem doTrimB_sat (a : Array Nat) (first last fuel : Nat) (h : first ≤ last) (hl : last ≤ a.size)
    (hf : last - first < fuel) :
    (doTrimB a first last fuel).sat (fun r => first ≤ r.1 ∧ r.1 ≤ r.2 ∧ r.2 ≤ last) :=
  R.sat_mono (doTrimB_agrees a first last fuel h hl hf) fun _ hr => ⟨hr.1, hr.2.1, hr.2.2.1⟩

theorem doRemoveWhitespaceB_sat (a : Array Nat) (first last fuel : Nat) (h : first ≤ last) (hl : last ≤ a.size)
    (hf : last - first < fuel) :
    (doRemoveWhitespaceB a first last fuel).sat (fun _ => True) :=
  (doRemoveWhitespaceB_agrees a first last fuel h hl hf).true

end Upa.Impl.B
