import Upa.Proofs.Lockstep
import Upa.Proofs.ObjRepEval
import Upa.Proofs.EvalFuel
/-
  C06 — evaluating concrete histories.  `formParseAux` and `List.mergeSort` are compiled by well-founded
  recursion, which the kernel does not unfold.  `stepK` / `runK` are `step` / `run` of
  `Upa/Proofs/Lockstep.lean` on the copies of `Upa/Proofs/ObjRepEval.lean` (`parseUK`, `setUK`, `spApplyUK`) and the twins
  `sortK`, `formParseK` of `Upa/Proofs/EvalFuel.lean`, and `runK_eq : runK = run`: an evaluated history
  is `by rw [← runK_eq]; decide +kernel`.
-/
namespace Upa.Proofs.C06
open Upa Upa.Impl Upa.Proofs.ObjRep Upa.Proofs.C15

def stepK (idna : Idna) (o : UrlObj) : Op → UrlObj
  | .parse e units base => (parseUK idna o e units base).1
  | .clear => o.clear
  | .set s e units => (setUK idna o s e units).1
  | .searchParams => searchParamsUK o
  | .append n v => spApplyUK o (·.append n v)
  | .spSet n v => spApplyUK o (·.set n v)
  | .del n => spApplyUK o (·.del n)
  | .del2 n v => spApplyUK o (·.del2 n v)
  | .remove n => spApplyUK o (·.del n) false
  | .remove2 n v => spApplyUK o (·.del2 n v) false
  | .sort => spApplyUK o sortK
  | .clearParams => spApplyUK o (·.clear)
  | .parseParams r bytes => spApplyUK o (fun _ => { list := formParseK r bytes, isSorted := false })
  | .assignParams l isS => spApplyUK o (fun _ => { list := l, isSorted := isS })

theorem stepK_eq (idna : Idna) (o : UrlObj) (op : Op) : stepK idna o op = step idna o op := by
  cases op <;> simp only [stepK, step, parseUK_eq, setUK_eq, searchParamsUK_eq, spApplyUK_eq]
  case sort => exact congrArg (o.spApply · true) (funext sortK_eq)
  case parseParams r bytes => simp only [Params.parse, formParse_eqK]

def runK (idna : Idna) (o : UrlObj) (ops : List Op) : UrlObj := ops.foldl (stepK idna) o

theorem runK_eq (idna : Idna) (o : UrlObj) (ops : List Op) : runK idna o ops = run idna o ops :=
  congrArg (fun f => List.foldl f o ops) (funext fun o => funext (stepK_eq idna o))

end Upa.Proofs.C06
