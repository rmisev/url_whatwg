import Upa.Impl.Api
import Upa.Impl.Own
import Upa.Proofs.Form
import Upa.Proofs.ParserRules
import Upa.Proofs.Utf
import Upa.Proofs.EvalFuel
/-
  C06 — a URL and its URLSearchParams object stay in lock-step, at value level (`UrlObj` of
  `Upa/Impl/Api.lean`): where the query of a parse result comes from; the invariant `LockS` and that every
  operation on one object (`Op`, `step`, `run`: for `Upa/Props/C06.lean`) or between two objects keeps it.
  The equations of the object operations stand here: `parseRes`, `update_eq`, `safeAssign_fresh` (used by
  `Proofs/OwnAbs.lean` and `Proofs/ObjRep.lean` as well) and `set_invalid / set_search / set_other` (used by
  `set_lockS` and `Proofs/ObjRep.lean`); `Proofs/OwnLock.lean` uses the `*_lockS` theorems and the list-edit
  lemmas (`pmut_all`, `pmut_keep`).
-/
namespace Upa.Proofs.C06
open Upa Upa.Impl

/-! ## 1. where the query of a parse result comes from

  `P` holds of the query being written, of the base URL's query and of every percent-encoder output;
  then it holds of the query of the result, whatever the outcome.  Used at `P := QB`: the query is a byte
  string (`parse_qbytes`).  (That the setters keep the query is `setValid_query`, from `C08.setValid_frame`.) -/

section Provenance
variable {P : Option (List Nat) → Prop}

theorem ite_q {c : Prop} [Decidable c] {a b : Res} (ha : P a.url.query) (hb : P b.url.query) :
    P (if c then a else b).url.query :=
  C08.ite_prop (P := fun r : Res => P r.url.query) ha hb

theorem fragmentState_query (u : Url) (p : List Nat) : (fragmentState u p).url.query = u.query := rfl

/-- the path loop writes only the path (`C08.parsePath_frame`) -/
theorem parsePath_query (u : Url) (s : List Nat) : (parsePath u s).query = u.query := by
  obtain ⟨_, h⟩ := C08.parsePath_frame u s
  rw [h]

/-! The two states that write a query: what they write is an output of the percent-encoder. -/

variable (hE : ∀ f s, P (some (percentEncode f s)))
include hE

theorem queryState_q (ov : Option Override) (u : Url) (p : List Nat) : P (queryState ov u p).url.query := by
  unfold queryState
  dsimp only
  split
  · exact hE _ _
  · exact hE _ _

theorem afterPath_q (ov : Option Override) (u : Url) (p : List Nat) (h : P u.query) :
    P (afterPath ov u p).url.query := by
  unfold afterPath
  cases p with
  | nil => exact h
  | cons c r => exact ite_q (queryState_q hE _ _ _) h

theorem opaquePathState_q (ov : Option Override) (u : Url) (p : List Nat) (h : P u.query) :
    P (opaquePathState ov u p).url.query := afterPath_q hE _ _ _ h

omit hE

/-! Every other state keeps the query, copies the base URL's, or goes on to one of the two above — and
    under a state override it does not even reach those: `hP` is asked for `ov = none` only. -/

variable {ov : Option Override} (hP : ov = none → ∀ f s, P (some (percentEncode f s)))
include hP

theorem pathState_q (u : Url) (p : List Nat) (h : P u.query) : P (pathState ov u p).url.query := by
  cases ov with
  | none => exact afterPath_q (hP rfl) _ _ _ (by rw [parsePath_query]; exact h)
  | some o =>
    show P (parsePath u p).query
    rw [parsePath_query]; exact h

theorem pathStartState_q (u : Url) (p : List Nat) (h : P u.query) : P (pathStartState ov u p).url.query :=
  C08.pathStartState_rule (G := fun r => P r.url.query) ov u p (fun q => pathState_q hP u q h)
    (fun _ ho _ => ⟨queryState_q (hP ho) _ _ _, h⟩) (fun _ _ _ => h) (fun _ _ => h)

theorem fileHostState_q (idna : Idna) (u : Url) (p : List Nat) (h : P u.query) :
    P (fileHostState idna ov u p).url.query :=
  C08.fileHostState_rule (G := fun r => P r.url.query) idna ov u p h (fun _ => pathState_q hP _ _ h)
    (fun _ _ _ => ite_q h (pathStartState_q hP _ _ h))

theorem portState_q (u : Url) (p : List Nat) (h : P u.query) : P (portState ov u p).url.query := by
  refine C08.portState_rule (G := fun r => P r.url.query) ov u p h fun u' hu' q => ?_
  have h' : P u'.query := by
    rcases hu' with rfl | rfl | ⟨n, -, -, rfl⟩ <;> exact h
  exact ite_q h' (pathStartState_q hP _ _ h')

theorem hostState_q (idna : Idna) (u : Url) (p : List Nat) (h : P u.query) :
    P (hostState idna ov u p).url.query :=
  C08.hostState_cases (G := fun r => P r.url.query) idna ov u p (fun _ _ => fileHostState_q hP _ _ _ h)
    (fun _ _ => h) (fun _ _ _ _ _ => ⟨ite_q h (pathStartState_q hP _ _ h), portState_q hP _ _ h⟩)

theorem authorityState_q (idna : Idna) (u : Url) (p : List Nat) (h : P u.query) :
    P (authorityState idna ov u p).url.query :=
  C08.authorityState_rule (G := fun r => P r.url.query) idna ov u p h (hostState_q hP _ _ _ h)
    (fun _ _ _ _ _ _ _ => hostState_q hP _ _ _ h)

omit hP

/-- a parser run from the start: the query of the result is null, the base URL's, or an output of the
    percent-encoder (the upper states are walked once, in `C08.urlParse_rule`) -/
theorem urlParse_start_q (hE : ∀ f s, P (some (percentEncode f s))) (h0 : P none) (idna : Idna)
    (base : Option Url) (hb : ∀ b, base = some b → P b.query) (p : List Nat) :
    P (urlParse idna base none {} p).url.query :=
  have hP : (none : Option Override) = none → ∀ f s, P (some (percentEncode f s)) := fun _ => hE
  C08.urlParse_rule (G := fun r => P r.url.query) idna base p h0
    (fun _ _ _ _ => authorityState_q hP _ _ _ h0)
    (fun _ _ _ _ => pathState_q hP _ _ h0)
    (fun _ _ _ _ _ _ => opaquePathState_q hE _ _ _ h0)
    (fun _ => ⟨fileHostState_q hP _ _ _ h0, pathState_q hP _ _ h0⟩)
    (fun b hb' _ => ⟨hb b hb', fun _ => ⟨queryState_q hE _ _ _, hb b hb'⟩, fun _ _ _ => pathState_q hP _ _ h0,
      fun _ _ _ _ _ _ => pathState_q hP _ _ h0⟩)
    (fun b hb' _ _ => ⟨hb b hb', fun _ => ⟨queryState_q hE _ _ _, hb b hb', pathState_q hP _ _ h0,
      pathState_q hP _ _ h0, authorityState_q hP _ _ _ h0⟩⟩)
    (fun b hb' _ _ => hb b hb')

end Provenance

/-! ## 2. well-formed stored strings -/

/-- a stored name or value that is well-formed UTF-8: bytes that `check_fix_utf8` leaves alone -/
def WFB (b : List Nat) : Prop := checkFixUtf8 b = b ∧ ∀ x ∈ b, x < 256

/-- a stored pair with a well-formed name and a well-formed value -/
def WFP (x : BPair) : Prop := WFB x.1 ∧ WFB x.2

theorem WFB_checkFix (b : List Nat) (hb : ∀ x ∈ b, x < 256) : WFB (checkFixUtf8 b) :=
  ⟨checkFix_idem b hb, checkFix_byte b⟩

theorem WFB_nil : WFB [] := ⟨rfl, by simp⟩

open Upa.Proofs.C15 in
theorem formParse_nil : formParse false [] = [] := by
  simp [formParse_false, formParseAux_nil, FormSt.flush]

open Upa.Proofs.C15 in
/-- every name and value that `do_parse` stores is well-formed -/
theorem formParse_wfp (bytes : List Nat) (hb : ∀ x ∈ bytes, x < 256) :
    ∀ x ∈ formParse false bytes, WFP x := by
  have e : formParse false bytes = (splitOnP (· == 0x26) bytes).flatMap pieceResult := by
    rw [formParse_false]
    conv => lhs; rw [← intercalate_split bytes]
    rw [parse_intercalate _ (split_noamp bytes), List.nil_append]
  intro x hx
  rw [e] at hx
  obtain ⟨p, hp, hx⟩ := List.mem_flatMap.1 hx
  have hpb : ∀ b ∈ p, b < 256 := fun b hb' => hb b (C17.splitOnP_mem _ bytes p hp b hb').1
  unfold pieceResult at hx
  split at hx
  · simp at hx
  · have hs := splitFirst_sub 0x3D p
    rw [List.mem_singleton] at hx
    subst hx
    exact ⟨WFB_checkFix _ (dec_lt _ fun x hx => hpb x (hs.1 x hx)),
      WFB_checkFix _ (dec_lt _ fun x hx => hpb x (hs.2 x hx))⟩

open Upa.Proofs.C15 in
theorem formParse_wfp' (r : Bool) (bytes : List Nat) (hb : ∀ x ∈ bytes, x < 256) :
    ∀ x ∈ formParse r bytes, WFP x := by
  cases r with
  | false => exact formParse_wfp bytes hb
  | true =>
    rw [formParse_true]
    apply formParse_wfp
    split
    · intro x hx; exact hb x (by simp [hx])
    · exact hb

open Upa.Proofs.C15 in
theorem formSerialize_byte (l : List BPair) (hl : ∀ x ∈ l, WFP x) : ∀ c ∈ formSerialize l, c < 256 :=
  fun c hc => Nat.lt_trans (isFormChar_lt c (serialize_alphabet l (fun p hp => ⟨(hl p hp).1.2, (hl p hp).2.2⟩) c hc))
    (by decide)

open Upa.Proofs.C15 in
/-- C15 round trip on a list of well-formed pairs: parsing the serialization returns the list -/
theorem roundtrip_wfp (l : List BPair) (hl : ∀ x ∈ l, WFP x) : formParse false (formSerialize l) = l := by
  rw [roundtrip_bytes l (fun p hp => ⟨(hl p hp).1.2, (hl p hp).2.2⟩)]
  conv => rhs; rw [← List.map_id l]
  apply List.map_congr_left
  intro p hp
  rw [(hl p hp).1.1, (hl p hp).2.1]
  rfl


/-! ## 3. the invariant -/

/-- the params object lists exactly the pairs of the URL's current query (null query ↦ empty list) -/
def Lock (o : UrlObj) : Prop :=
  ∀ u p, o.url = some u → o.sp = some p → p.list = formParse false (queryBytes (some u))

/-- lock-step fails on an object whose list is not the parse of its query -/
theorem not_lock {o : UrlObj} {u : Url} {p : Params} {q : List Nat} {l : List BPair}
    (ho : o = { url := some u, sp := some p }) (hq : u.query = some q) (hparse : formParse false q = l)
    (hne : p.list ≠ l) : ¬ Lock o := by
  intro hl
  have := hl u p (by rw [ho]) (by rw [ho])
  rw [show queryBytes (some u) = q by simp [queryBytes, hq], hparse] at this
  exact hne this

/-- the stored query consists of bytes -/
def QBytes (u : Option Url) : Prop := ∀ x ∈ queryBytes u, x < 256

def AllWFP (l : List BPair) : Prop := ∀ x ∈ l, WFP x

/-- the invariant that is preserved: `Lock`, the query is a byte string, and every stored name and
    value is well-formed UTF-8 (otherwise `update` followed by a re-parse repairs it: finding F3) -/
structure LockS (o : UrlObj) : Prop where
  lock : Lock o
  qbytes : QBytes o.url
  wf : ∀ p, o.sp = some p → AllWFP p.list

/-- the form of the byte condition that the provenance lemmas of section 1 speak about -/
def QB (q : Option (List Nat)) : Prop := ∀ l, q = some l → ∀ x ∈ l, x < 256

theorem QB_none : QB none := by intro l h; cases h
theorem QB_pe : ∀ f s, QB (some (percentEncode f s)) := by
  intro f s l h; cases h
  exact fun x hx => Nat.lt_trans (C14.percentEncode_lt f s x hx) (by decide)

theorem qbytes_iff (u : Url) : QBytes (some u) ↔ QB u.query := by
  unfold QBytes QB queryBytes
  cases hq : u.query with
  | none => simp [hq]
  | some q => simp [hq]

theorem QBytes_none : QBytes none := by simp [QBytes, queryBytes]

theorem qbytes_of_query_none {u : Url} (h : u.query = none) : QBytes (some u) := by
  rw [qbytes_iff, h]; exact QB_none

theorem parse_qbytes (idna : Idna) (e : Enc) (units : List Nat) (base : Option Url) (u : Url)
    (hb : QBytes base) (h : Impl.parse idna e units base = some u) : QBytes (some u) :=
  (qbytes_iff u).2 (C08.parse_of_good (A := fun u => QB u.query)
    (Or.inl (urlParse_start_q QB_pe QB_none idna base (fun b hb' => by subst hb'; exact (qbytes_iff b).1 hb) _)) h)

theorem AllWFP_nil : AllWFP [] := by intro x hx; cases hx

theorem lockS_invalid (sp : Option Params) (h : ∀ p, sp = some p → AllWFP p.list) :
    LockS { url := none, sp := sp } :=
  ⟨fun _ _ hu _ => (by cases hu), QBytes_none, h⟩

theorem wf_emptied {sp : Option Params} {g : Params → Params} (hg : ∀ q, (g q).list = []) :
    ∀ p, sp.map g = some p → AllWFP p.list := by
  intro p hp
  cases sp with
  | none => cases hp
  | some q => cases hp; rw [hg]; exact AllWFP_nil

theorem lockS_nosp (u : Option Url) (hq : QBytes u) : LockS { url := u, sp := none } :=
  ⟨fun _ _ _ hp => (by cases hp), hq, fun _ hp => (by cases hp)⟩

theorem lockS_fresh (u : Option Url) (hq : QBytes u) (isS : Bool) :
    LockS { url := u, sp := some { list := formParse false (queryBytes u), isSorted := isS } } := by
  refine ⟨?_, hq, ?_⟩
  · intro u' p hu hp
    cases hu; cases hp; rfl
  · intro p hp; cases hp
    exact formParse_wfp _ hq

theorem lockS_same {u u' : Url} {sp : Option Params} (h : LockS { url := some u, sp := sp })
    (hq : u'.query = u.query) : LockS { url := some u', sp := sp } := by
  have e : queryBytes (some u') = queryBytes (some u) := by simp [queryBytes, hq]
  refine ⟨fun u'' p hu hp => ?_, fun x hx => h.qbytes x (e ▸ hx), h.wf⟩
  cases hu
  rw [e]
  exact h.lock u p rfl hp

theorem lockS_emptied {u : Url} (hq : u.query = none) (isS : Bool) :
    LockS { url := some u, sp := some { list := [], isSorted := isS } } := by
  refine ⟨?_, qbytes_of_query_none hq, ?_⟩
  · intro u' p hu hp
    cases hu; cases hp
    simp [queryBytes, hq, formParse_nil]
  · intro p hp; cases hp; exact AllWFP_nil

theorem lockS_written (u : Url) (l : List BPair) (hl : AllWFP l) (isS : Bool) :
    LockS { url := some { u with query := some (formSerialize l) },
            sp := some { list := l, isSorted := isS } } := by
  refine ⟨?_, ?_, ?_⟩
  · intro u' p hu hp
    cases hu; cases hp
    simp only [queryBytes, Option.getD_some]
    exact (roundtrip_wfp l hl).symm
  · exact formSerialize_byte l hl
  · intro p hp; cases hp; exact hl

theorem stripTrailingSpaces_query (u : Url) : (stripTrailingSpaces u).query = u.query := by
  obtain ⟨_, h, _⟩ := C08.stripTrailingSpaces_frame u
  rw [h]

/-- `UrlObj.update` on an object with a params object (`Own.recUpdate`: what it does to the record) -/
theorem update_eq (r : Option Url) (p : Params) :
    UrlObj.update { url := r, sp := some p } = { url := Own.recUpdate r p.list, sp := some p } := by
  unfold UrlObj.update Own.recUpdate
  cases r with
  | none => rfl
  | some u => dsimp only; split <;> rfl

theorem reparse_lockS (u : Option Url) (sp : Option Params) (hq : QBytes u) :
    LockS (UrlObj.reparseParams { url := u, sp := sp }) := by
  unfold UrlObj.reparseParams
  cases sp with
  | none => exact lockS_nosp u hq
  | some p => exact lockS_fresh u hq false

theorem clearParams_wf (o : UrlObj) (h : ∀ p, o.sp = some p → AllWFP p.list) :
    ∀ p, o.clearParams.sp = some p → AllWFP p.list := by
  unfold UrlObj.clearParams
  split
  · intro p hp; cases hp; exact AllWFP_nil
  · exact h

theorem clearParams_url (o : UrlObj) : o.clearParams.url = o.url := by
  unfold UrlObj.clearParams; split <;> rfl

theorem clearParams_lockS_of_none {u : Url} (sp : Option Params) (hq : u.query = none) :
    LockS (UrlObj.clearParams { url := some u, sp := sp }) := by
  unfold UrlObj.clearParams
  cases sp with
  | none => exact lockS_nosp _ (qbytes_of_query_none hq)
  | some p => exact lockS_emptied hq true

theorem searchParams_lockS (o : UrlObj) (h : LockS o) : LockS o.searchParams := by
  unfold UrlObj.searchParams
  rcases o with ⟨u, sp⟩
  cases sp with
  | some p => exact h
  | none => exact lockS_fresh u h.qbytes false

theorem update_lockS (u : Option Url) (p : Params) (hq : QBytes u) (hl : AllWFP p.list) :
    LockS (UrlObj.update { url := u, sp := some p }) := by
  rw [update_eq]
  cases u with
  | none => exact lockS_invalid _ (fun p' hp => by cases hp; exact hl)
  | some u =>
    unfold Own.recUpdate
    dsimp only
    split
    · rename_i hnil
      rcases p with ⟨l, isS⟩
      cases hnil
      exact lockS_emptied (by rw [stripTrailingSpaces_query]) isS
    · rcases p with ⟨l, isS⟩
      exact lockS_written u l hl isS

/-- a params mutation through the URL.  `update` may be skipped (`a = false`: `remove`) when the length is
    unchanged, provided the mutation then changed nothing -/
theorem spApply_lockS_skip (o : UrlObj) (f : Params → Params) (a : Bool) (h : LockS o)
    (hf : ∀ p, AllWFP p.list → AllWFP (f p).list)
    (ha : a = false → ∀ p, (f p).list.length = p.list.length → f p = p) : LockS (o.spApply f a) := by
  have h1 := searchParams_lockS o h
  unfold UrlObj.spApply
  generalize o.searchParams = o1 at h1
  rcases o1 with ⟨u, sp⟩
  cases sp with
  | none => exact h1
  | some p =>
    dsimp only
    split
    · exact update_lockS u (f p) h1.qbytes (hf p (h1.wf p rfl))
    · rename_i hne
      simp only [Bool.or_eq_true, decide_eq_true_eq, not_or, Bool.not_eq_true, Decidable.not_not] at hne
      rw [ha hne.1 p hne.2]; exact h1

theorem spApply_lockS (o : UrlObj) (f : Params → Params) (h : LockS o)
    (hf : ∀ p, AllWFP p.list → AllWFP (f p).list) : LockS (o.spApply f) :=
  spApply_lockS_skip o f true h hf (fun h => nomatch h)

theorem filter_keep (q : BPair → Bool) (p : Params)
    (hl : ({ p with list := p.list.filter q } : Params).list.length = p.list.length) :
    ({ p with list := p.list.filter q } : Params) = p := by
  rcases p with ⟨l, s⟩
  exact congrArg (Params.mk · s) (List.filter_eq_self.2 (List.length_filter_eq_length_iff.1 hl))


/-! ## 4. the setters -/

/-- the eight setters other than `search` and `href` leave the query as it is, whether they succeed,
    fail or are ignored -/
theorem setValid_query (idna : Idna) (s : Setter) (e : Enc) (units : List Nat) (u : Url)
    (h1 : s ≠ .href) (h2 : s ≠ .search) : (setValid idna s e units u).1.query = u.query := by
  have := C08.setValid_frame idna s e units u h1
  generalize (setValid idna s e units u).1 = v at this
  cases this <;> first | rfl | exact stripTrailingSpaces_query _ | contradiction

/-- the `search` setter: the new query is null or a percent-encoder output -/
theorem setValid_search_qb (idna : Idna) (e : Enc) (units : List Nat) (u : Url) :
    QB (setValid idna .search e units u).1.query := by
  simp only [setValid]
  split
  · rw [stripTrailingSpaces_query]; exact QB_none
  · exact queryState_q QB_pe _ _ _

theorem setValid_search_nil (idna : Idna) (e : Enc) (u : Url) :
    (setValid idna .search e [] u).1.query = none := by
  simp only [setValid]
  rw [stripTrailingSpaces_query]

/-! the setters on the object, case by case (the `href` case is the definition: parse, then refill) -/

/-- `safe_assign` from a fresh object that was just parsed (the `href` setter at heap and representation
    level): the record is replaced and the list refilled -/
theorem safeAssign_fresh (o : UrlObj) (r : Url) :
    (safeAssign o ⟨some r, none⟩).1 = ({ o with url := some r } : UrlObj).reparseParams := by
  rcases o with ⟨u, _ | p⟩ <;> rfl

theorem set_invalid (idna : Idna) (sp : Option Params) (s : Setter) (e : Enc) (units : List Nat) (h : s ≠ .href) :
    UrlObj.set idna ⟨none, sp⟩ s e units = (⟨none, sp⟩, false) := by
  cases s <;> first | exact absurd rfl h | rfl

theorem set_search (idna : Idna) (e : Enc) (units : List Nat) (u : Url) (sp : Option Params) :
    UrlObj.set idna ⟨some u, sp⟩ .search e units =
      (if units = [] then (⟨some (setValid idna .search e units u).1, sp⟩ : UrlObj).clearParams
        else (⟨some (setValid idna .search e units u).1, sp⟩ : UrlObj).reparseParams,
       (setValid idna .search e units u).2) := rfl

theorem set_other (idna : Idna) (s : Setter) (e : Enc) (units : List Nat) (u : Url) (sp : Option Params)
    (h1 : s ≠ .href) (h2 : s ≠ .search) :
    UrlObj.set idna ⟨some u, sp⟩ s e units = (⟨some (setValid idna s e units u).1, sp⟩, (setValid idna s e units u).2) := by
  cases s <;> first | exact absurd rfl h1 | exact absurd rfl h2 | rfl

theorem set_lockS (idna : Idna) (o : UrlObj) (s : Setter) (e : Enc) (units : List Nat) (h : LockS o) :
    LockS (o.set idna s e units).1 := by
  rcases o with ⟨url, sp⟩
  by_cases hh : s = .href
  · subst hh
    simp only [UrlObj.set]
    cases hp : Impl.parse idna e units none with
    | none => exact h
    | some u' => exact reparse_lockS (some u') sp (parse_qbytes idna e units none u' QBytes_none hp)
  · cases url with
    | none => rw [set_invalid idna sp s e units hh]; exact h
    | some u =>
      by_cases hs : s = .search
      · subst hs
        rw [set_search]
        dsimp only
        split
        · rename_i hnil
          subst hnil
          exact clearParams_lockS_of_none sp (setValid_search_nil idna e u)
        · exact reparse_lockS _ sp ((qbytes_iff _).2 (setValid_search_qb idna e units u))
      · rw [set_other idna s e units u sp hh hs]
        exact lockS_same h (setValid_query idna s e units u hh hs)

/-- `UrlObj.parse` in terms of the parser's outcome `res` (`Own.parseResult`: `none` for a failure or an
    invalid base object): `new_url()` clears a valid object, then the record is written and the list
    re-parsed, or the object is left invalid -/
def parseRes (o : UrlObj) (res : Option Url) : UrlObj :=
  let o := if o.url.isSome then o.clearParams else o
  match res with
  | some r => ({ o with url := some r } : UrlObj).reparseParams
  | none => { o with url := none }

theorem parse_eq_parseRes (idna : Idna) (o : UrlObj) (e : Enc) (units : List Nat) (base : Option (Option Url)) :
    o.parse idna e units base =
      (parseRes o (Own.parseResult idna e units base), (Own.parseResult idna e units base).isSome) := by
  unfold UrlObj.parse parseRes Own.parseResult
  rcases base with _ | _ | b <;> dsimp only <;> split <;> simp_all

theorem parseRes_lockS (o : UrlObj) (res : Option Url) (hres : QBytes res) (h : LockS o) :
    LockS (parseRes o res) := by
  unfold parseRes
  have hw : ∀ p, (if o.url.isSome then o.clearParams else o).sp = some p → AllWFP p.list := by
    split
    · exact clearParams_wf o h.wf
    · exact h.wf
  generalize (if o.url.isSome then o.clearParams else o) = o1 at hw
  rcases o1 with ⟨u1, sp1⟩
  cases res with
  | none => exact lockS_invalid sp1 hw
  | some u' => exact reparse_lockS (some u') sp1 hres

theorem parseResult_qbytes (idna : Idna) (e : Enc) (units : List Nat) (base : Option (Option Url))
    (hb : ∀ b, base = some (some b) → QBytes (some b)) : QBytes (Own.parseResult idna e units base) := by
  have key : ∀ b : Option Url, QBytes b → QBytes (Impl.parse idna e units b) := fun b hq => by
    cases hp : Impl.parse idna e units b with
    | none => exact QBytes_none
    | some u => exact parse_qbytes idna e units b u hq hp
  unfold Own.parseResult
  rcases base with _ | _ | b
  · exact key _ QBytes_none
  · exact QBytes_none
  · exact key _ (hb b rfl)

theorem parse_lockS (idna : Idna) (o : UrlObj) (e : Enc) (units : List Nat) (base : Option (Option Url))
    (hb : ∀ b, base = some (some b) → QBytes (some b)) (h : LockS o) :
    LockS (o.parse idna e units base).1 := by
  rw [parse_eq_parseRes]
  exact parseRes_lockS _ _ (parseResult_qbytes idna e units base hb) h

theorem clear_lockS (o : UrlObj) (h : LockS o) : LockS o.clear := by
  unfold UrlObj.clear
  have := clearParams_wf { url := none, sp := o.sp } h.wf
  have hu := clearParams_url { url := none, sp := o.sp }
  generalize UrlObj.clearParams { url := none, sp := o.sp } = o1 at this hu
  rcases o1 with ⟨u1, sp1⟩
  cases hu
  exact lockS_invalid sp1 this

/-! ## 5. list edits keep a property of the stored pairs

  `Q` is any property of a pair — `WFP` here, "name and value are byte strings" in `Proofs/ObjRep.lean` —:
  what an edit leaves in the list was there, or is the pair handed in, or (`set`) an old name with the
  new value. -/

section ListEdits
variable {Q : BPair → Prop}

theorem append_all (n v : List Nat) (hnv : Q (n, v)) (p : Params) (h : ∀ x ∈ p.list, Q x) :
    ∀ x ∈ (p.append n v).list, Q x := by
  intro x hx
  simp only [Params.append, List.mem_append, List.mem_singleton] at hx
  rcases hx with hx | rfl
  · exact h x hx
  · exact hnv

theorem setLoop_all (n v : List Nat) (hv : ∀ x, Q x → Q (x.1, v)) : ∀ (l : List BPair) (m : Bool),
    (∀ x ∈ l, Q x) → ∀ x ∈ (setLoop n v l m).1, Q x
  | [], _, _ => fun _ hx => nomatch hx
  | x :: xs, m, h => by
    have hxs : ∀ y ∈ xs, Q y := fun y hy => h y (by simp [hy])
    have hx : Q x := h x (by simp)
    unfold setLoop
    split
    · split
      · exact setLoop_all n v hv xs true hxs
      · intro y hy
        rcases List.mem_cons.1 hy with rfl | hy
        · exact hv x hx
        · exact setLoop_all n v hv xs true hxs y hy
    · intro y hy
      rcases List.mem_cons.1 hy with rfl | hy
      · exact hx
      · exact setLoop_all n v hv xs m hxs y hy

theorem set_all (n v : List Nat) (hnv : Q (n, v)) (hv : ∀ x, Q x → Q (x.1, v)) (p : Params)
    (h : ∀ x ∈ p.list, Q x) : ∀ x ∈ (p.set n v).list, Q x := by
  unfold Params.set
  have := setLoop_all n v hv p.list false h
  generalize setLoop n v p.list false = r at this
  rcases r with ⟨l, m⟩
  dsimp only
  split
  · exact append_all n v hnv p h
  · exact this

theorem filter_all (q : BPair → Bool) (p : Params) (h : ∀ x ∈ p.list, Q x) :
    ∀ x ∈ ({ p with list := p.list.filter q } : Params).list, Q x :=
  fun x hx => h x (List.mem_filter.1 hx).1

theorem sort_all (p : Params) (h : ∀ x ∈ p.list, Q x) : ∀ x ∈ p.sort.list, Q x := by
  unfold Params.sort
  split
  · intro x hx; exact h x (List.mem_mergeSort.1 hx)
  · exact h

end ListEdits

/-- the new value under an old, well-formed name -/
theorem wfp_value {v : List Nat} (hv : WFB v) (x : BPair) (hx : WFP x) : WFP (x.1, v) := ⟨hx.1, hv⟩

/-- the nine list edits (`Own.PMut`) keep any property of pairs that the pair handed in has (`append`,
    `set`) and the pairs `parse` stores have -/
theorem pmut_all {Q : BPair → Prop} (m : Own.PMut)
    (hnv : ∀ n v, m = .append n v ∨ m = .set n v → Q (n, v) ∧ ∀ x, Q x → Q (x.1, v))
    (hparse : ∀ r b, m = .parse r b → ∀ x ∈ formParse r b, Q x)
    (p : Params) (h : ∀ x ∈ p.list, Q x) : ∀ x ∈ (m.fn p).list, Q x := by
  cases m with
  | append n v => exact append_all n v (hnv n v (Or.inl rfl)).1 p h
  | set n v => exact set_all n v (hnv n v (Or.inr rfl)).1 (hnv n v (Or.inr rfl)).2 p h
  | del n => exact filter_all _ p h
  | del2 n v => exact filter_all _ p h
  | remove n => exact filter_all _ p h
  | remove2 n v => exact filter_all _ p h
  | sort => exact sort_all p h
  | clear => exact fun _ hx => nomatch hx
  | parse r bytes => exact hparse r bytes rfl

/-- an edit that may skip `update()` (`remove`) and left the length as it was changed nothing -/
theorem pmut_keep (m : Own.PMut) (ha : m.always = false) (p : Params)
    (hl : (m.fn p).list.length = p.list.length) : m.fn p = p := by
  cases m with
  | remove n => exact filter_keep _ p hl
  | remove2 n v => exact filter_keep _ p hl
  | _ => cases ha

theorem pmut_lockS (o : UrlObj) (m : Own.PMut) (h : LockS o) (hf : ∀ p, AllWFP p.list → AllWFP (m.fn p).list) :
    LockS (o.spApply m.fn m.always) :=
  spApply_lockS_skip o _ _ h hf (pmut_keep m)

/-! ## 6. operations on one object -/

/-- everything a program can do to one `upa::url` object and, through it, to its params object -/
inductive Op where
  /-- `url.parse(str, base)`; `base = some none`: an invalid base object -/
  | parse (e : Enc) (units : List Nat) (base : Option (Option Url))
  | clear
  /-- the ten setters `href(…)` … `hash(…)` -/
  | set (s : Setter) (e : Enc) (units : List Nat)
  /-- first `url.search_params()` -/
  | searchParams
  /-- `url.search_params().append(n, v)` etc. -/
  | append (n v : List Nat)
  | spSet (n v : List Nat)
  | del (n : List Nat)
  | del2 (n v : List Nat)
  /-- `remove(n)` / `remove(n, v)`: like `del` but `update()` only when something was removed -/
  | remove (n : List Nat)
  | remove2 (n v : List Nat)
  | sort
  | clearParams
  /-- `url.search_params().parse(query)` (`remQmark = true`) -/
  | parseParams (remQmark : Bool) (bytes : List Nat)
  /-- `url.search_params() = other` / `safe_assign(std::move(other))` from a detached params object -/
  | assignParams (l : List BPair) (isSorted : Bool)

/-- side conditions: every name, value and list element handed in is well-formed UTF-8 (finding F3:
    `char`-typed arguments are stored as they are); a query string handed to `parse` and the query of
    a base URL are byte strings (true of every URL the parser produced: `parse_qbytes`) -/
def Op.WF : Op → Prop
  | .parse _ _ base => ∀ b, base = some (some b) → QBytes (some b)
  | .append n v => WFB n ∧ WFB v
  | .spSet n v => WFB n ∧ WFB v
  | .parseParams _ bytes => ∀ x ∈ bytes, x < 256
  | .assignParams l _ => AllWFP l
  | _ => True

def step (idna : Idna) (o : UrlObj) : Op → UrlObj
  | .parse e units base => (o.parse idna e units base).1
  | .clear => o.clear
  | .set s e units => (o.set idna s e units).1
  | .searchParams => o.searchParams
  | .append n v => o.spApply (·.append n v)
  | .spSet n v => o.spApply (·.set n v)
  | .del n => o.spApply (·.del n)
  | .del2 n v => o.spApply (·.del2 n v)
  | .remove n => o.spApply (·.del n) false
  | .remove2 n v => o.spApply (·.del2 n v) false
  | .sort => o.spApply (·.sort)
  | .clearParams => o.spApply (·.clear)
  | .parseParams r bytes => o.spApply (·.parse r bytes)
  | .assignParams l isS => o.spApply (fun _ => { list := l, isSorted := isS })

def run (idna : Idna) (o : UrlObj) (ops : List Op) : UrlObj := ops.foldl (step idna) o

theorem step_lockS (idna : Idna) (o : UrlObj) (op : Op) (h : LockS o) (hop : op.WF) :
    LockS (step idna o op) := by
  cases op with
  | parse e units base => exact parse_lockS idna o e units base hop h
  | clear => exact clear_lockS o h
  | set s e units => exact set_lockS idna o s e units h
  | searchParams => exact searchParams_lockS o h
  | append n v => exact spApply_lockS o _ h (append_all n v hop)
  | spSet n v => exact spApply_lockS o _ h (set_all n v hop (wfp_value hop.2))
  | del n => exact spApply_lockS o _ h (filter_all _)
  | del2 n v => exact spApply_lockS o _ h (filter_all _)
  | remove n => exact pmut_lockS o (.remove n) h (filter_all _)
  | remove2 n v => exact pmut_lockS o (.remove2 n v) h (filter_all _)
  | sort => exact spApply_lockS o _ h sort_all
  | clearParams => exact spApply_lockS o _ h (fun _ _ => AllWFP_nil)
  | parseParams r bytes => exact spApply_lockS o _ h (fun _ _ => formParse_wfp' r bytes hop)
  | assignParams l isS => exact spApply_lockS o _ h (fun _ _ => hop)

theorem run_lockS (idna : Idna) (ops : List Op) : ∀ (o : UrlObj), LockS o → (∀ op ∈ ops, op.WF) →
    LockS (run idna o ops) := by
  induction ops with
  | nil => intro o h _; exact h
  | cons op ops ih =>
    intro o h hw
    exact ih (step idna o op) (step_lockS idna o op h (hw op (by simp)))
      (fun op' h' => hw op' (by simp [h']))

theorem lockS_init : LockS {} := lockS_nosp none QBytes_none


/-! ## 7. what `update` writes -/

theorem update_query (u : Url) (p : Params) :
    ∃ u', (UrlObj.update { url := some u, sp := some p }).url = some u' ∧
      (UrlObj.update { url := some u, sp := some p }).sp = some p ∧
      u'.query = if p.list = [] then none else some (formSerialize p.list) := by
  rw [update_eq]
  unfold Own.recUpdate
  dsimp only
  by_cases h : p.list = []
  · rw [if_pos h, if_pos h]
    exact ⟨_, rfl, rfl, stripTrailingSpaces_query _⟩
  · rw [if_neg h, if_neg h]
    exact ⟨_, rfl, rfl, rfl⟩

theorem spApply_query (o : UrlObj) (f : Params → Params) (h : o.url.isSome) :
    ∃ u' p, o.searchParams.sp = some p ∧ (o.spApply f).sp = some (f p) ∧ (o.spApply f).url = some u' ∧
      u'.query = if (f p).list = [] then none else some (formSerialize (f p).list) := by
  rcases o with ⟨url, sp⟩
  cases url with
  | none => cases h
  | some u =>
    cases sp with
    | none =>
      obtain ⟨u', h1, h2, h3⟩ := update_query u (f { list := formParse false (queryBytes (some u)), isSorted := false })
      exact ⟨u', _, rfl, h2, h1, h3⟩
    | some p =>
      obtain ⟨u', h1, h2, h3⟩ := update_query u (f p)
      exact ⟨u', p, rfl, h2, h1, h3⟩

/-! ## 8. two objects -/

theorem copyAssign_lockS (dst src : UrlObj) (hs : LockS src) : LockS (copyAssign dst src) := by
  unfold copyAssign
  rcases src with ⟨su, ssp⟩
  rcases dst with ⟨du, dsp⟩
  cases dsp with
  | none => exact lockS_nosp su hs.qbytes
  | some dp =>
    cases ssp with
    | none => exact reparse_lockS su (some dp) hs.qbytes
    | some sp => exact hs

theorem copyConstruct_lockS (src : UrlObj) (hs : LockS src) : LockS (copyConstruct src) :=
  lockS_nosp src.url hs.qbytes

theorem moveAssign_lockS (src : UrlObj) (hs : LockS src) :
    LockS (moveAssign src).1 ∧ LockS (moveAssign src).2 :=
  ⟨hs, lockS_nosp none QBytes_none⟩

theorem safeAssign_lockS (dst src : UrlObj) (hs : LockS src) :
    LockS (safeAssign dst src).1 ∧ LockS (safeAssign dst src).2 := by
  unfold safeAssign
  rcases src with ⟨su, ssp⟩
  rcases dst with ⟨du, dsp⟩
  refine ⟨?_, ?_⟩
  · cases dsp with
    | none => exact lockS_nosp su hs.qbytes
    | some dp =>
      cases ssp with
      | none => exact lockS_fresh su hs.qbytes false
      | some sp => exact hs
  · exact lockS_invalid _ (wf_emptied fun _ => rfl)


/-! ## 9. deciding the side conditions; `step` on a parse

  The `Decidable` instances and `stubIdna` serve the concrete histories of `Upa/Props/C06.lean` (evaluated by
  the kernel on the interpreter of `Upa/Proofs/LockstepEval.lean`); `eval_parse_*` say what `step` does on a
  `parse` that succeeds. -/

instance (b : List Nat) : Decidable (WFB b) := inferInstanceAs (Decidable (_ ∧ _))
instance (x : BPair) : Decidable (WFP x) := inferInstanceAs (Decidable (_ ∧ _))
instance (l : List BPair) : Decidable (AllWFP l) := inferInstanceAs (Decidable (∀ x ∈ l, WFP x))
instance (u : Option Url) : Decidable (QBytes u) := inferInstanceAs (Decidable (∀ x ∈ queryBytes u, x < 256))

instance (op : Op) : Decidable op.WF := by
  cases op with
  | parse e units base =>
    match base with
    | some (some b) =>
      exact decidable_of_iff (QBytes (some b)) ⟨fun h _ hb => by cases hb; exact h, fun h => h b rfl⟩
    | some none | none => exact isTrue (fun _ h => nomatch h)
  | _ => unfold Op.WF; infer_instance

/-- the stub IDNA of the examples: lower-casing -/
def stubIdna : Idna := fun l => some (l.map toLower)

theorem run_nil (idna : Idna) (o : UrlObj) : run idna o [] = o := rfl

theorem eval_parse_fresh_base (idna : Idna) (e : Enc) (units : List Nat) (b u : Url)
    (hp : Impl.parse idna e units (some b) = some u) :
    step idna {} (.parse e units (some (some b))) = { url := some u, sp := none } := by
  simp [step, UrlObj.parse, hp, UrlObj.reparseParams]

open Upa.Proofs.C15 in
/-- `parse` on an object that already has a params object (valid base or none) -/
theorem eval_parse_sp (idna : Idna) (e : Enc) (units : List Nat) (base : Option (Option Url))
    (url : Option Url) (p : Params) (u : Url) (l : List BPair) (hb : base ≠ some none)
    (hp : Impl.parse idna e units (base.bind id) = some u)
    (hl : formParseK false (queryBytes (some u)) = l) :
    step idna { url := url, sp := some p } (.parse e units base) =
      { url := some u, sp := some { list := l, isSorted := false } } := by
  rw [← hl, ← formParse_eqK]
  cases url <;> cases base with
  | none => simp_all [step, UrlObj.parse, UrlObj.reparseParams, UrlObj.clearParams]
  | some b =>
    cases b with
    | none => exact absurd rfl hb
    | some b => simp_all [step, UrlObj.parse, UrlObj.reparseParams, UrlObj.clearParams]

end Upa.Proofs.C06
