import Upa.Proofs.ParseRepBase
/-
  What the file states read of a file base: `append_parts(base, HOST, …)` after `set_empty_host()`
  (`file_copy`) and the drive-letter test on `get_path_first_string(2)` (`base_firstString`).
-/

namespace Upa.Proofs.ParseRep
open Upa Upa.Impl Upa.Proofs.C05 Upa.Proofs.SetRep Upa.Proofs.SetRepApi Upa.Props

/-! ### `append_parts(base, HOST, t2)` after `set_empty_host()` -/

/-- after `set_empty_host()`: `start_part(HOST)` does nothing, the started parts are the five before HOST -/
theorem dest_file (r0 src : Rep) (sch : List Nat) (hs : sch ≠ []) (t1 t2 : Nat) :
    Dest ⟨mkRep r0 [sch, [0x3A, 0x2F, 0x2F], [], [], [], []], HOST⟩ src t1 t2 5
      (mkRep (copyFlags r0 src t1 t2) [sch, [0x3A, 0x2F, 0x2F], [], [], [], []])
      [sch, [0x3A, 0x2F, 0x2F], [], [], []] := by
  refine ⟨?_, rfl, by simp [mkRep], by simp [mkRep], ?_, ?_⟩
  · show serStartPart (copyFlags (mkRep r0 _) src t1 t2) HOST 5 = _
    rw [copyFlags_mkRep]
    exact start_same _ HOST (Or.inl rfl)
  · intro j hj hj10
    show ((sums 0 [sch, [0x3A, 0x2F, 0x2F], [], [], [], []]) ++ List.replicate (11 - 6) 0).drop (j + 1) = _
    rw [List.drop_append, List.drop_of_length_le (by simp; omega)]
    simp only [sums_length, List.length_cons, List.length_nil, List.drop_replicate, List.nil_append]
    congr 1; omega
  · simp [off]
    exact List.length_pos_iff.mpr hs

/-- the record after `append_parts(base, HOST, t2)`: host, path (t2 ≥ PATH), query (t2 ≥ QUERY) -/
def fileCopy (b : Url) (t2 : Nat) : Url :=
  { scheme := sFile, host := b.host,
    path := if PATH ≤ t2 then b.path else [], query := if QUERY ≤ t2 then b.query else none }

theorem file_copy {b : Url} (ok : BaseOk b) {B : List (List Nat)} (hB : Rp (segsOf b) B)
    (hfile : b.isFile = true) {s : Ser}
    (h : FileInv s { scheme := sFile, host := some emptyHost } emptyHost) (t2 : Nat)
    (ht2 : t2 = 5 ∨ t2 = 8 ∨ t2 = 9) :
    SerInv (s.appendParts (mkRep (layout b) B) HOST t2 none) (fileCopy b t2) ∧
      (s.appendParts (mkRep (layout b) B) HOST t2 none).lastPt ≤ t2 ∧
      (t2 = PATH → ∀ o, PathInv (s.appendParts (mkRep (layout b) B) HOST PATH (some o))
        { fileCopy b t2 with path := opList o b.isFile b.path }) := by
  have hsp : b.isSpecial = true := Proofs.C08.file_special hfile
  have ho : b.hasOpaquePath = false := ok.special_list hsp
  obtain ⟨hd, hh⟩ := Option.isSome_iff_exists.mp (ok.host_of_special hsp)
  have hport : b.port = none := ok.file_noport hfile
  have hif := apFirst_host (ok.repFor hB)
  simp only [ok.host_of_special hsp, if_true] at hif
  have hlo := hB.lo
  have hdest := dest_file (layout ({ scheme := sFile, host := some emptyHost } : Url)) (mkRep (layout b) B)
    sFile (by simp [sFile, asciiStr]) HOST t2
  have hs : s = ⟨mkRep (layout ({ scheme := sFile, host := some emptyHost } : Url))
      [sFile, [0x3A, 0x2F, 0x2F], [], [], [], []], HOST⟩ := h.eq
  rw [← hs] at hdest
  refine copy_list (u' := fileCopy b t2) hB ho (ok.noSlash ho) HOST t2 5 hif rfl (by omega) (by omega) (by omega)
    (by omega) (by omega) (by omega) hdest rfl ?_ ⟨by simp [fileCopy, sFile, asciiStr], fun hc => by simp [fileCopy, hh] at hc⟩
    rfl rfl (fun h8 => by subst h8; rfl) rfl ?_
  · rcases ht2 with rfl | rfl | rfl <;>
    simp [fileCopy, segsOf, sepSeg, userSeg, passSeg, atSeg, portSeg, prefixSeg, querySeg, fragSeg, credOn,
      Url.hostText, pathText, needsPathPrefix, Url.hasCredentials, hh, hport, ho, PATH, QUERY, List.replicate]
  · -- with `t2 = HOST` the port flag is not copied: a file base has no port
    have hp : (layout b).portNotNull = false := by show b.port.isSome = false; rw [hport]; rfl
    intro c A
    rcases ht2 with rfl | rfl | rfl
    · exact mkRep_congr rfl rfl rfl rfl rfl rfl rfl rfl rfl
    · exact mkRep_congr rfl hp rfl rfl ho rfl rfl rfl rfl
    · exact mkRep_congr rfl hp rfl rfl ho rfl rfl rfl rfl

/-! ### `get_path_first_string(2)` of the base (file_slash_state) -/

theorem base_firstString {rb : Rep} {b : Url} (ok : BaseOk b) (hrb : RepFor rb b)
    (ho : b.hasOpaquePath = false) :
    ((rb.getPathFirstString 2).length == 2 &&
      isNormalizedWindowsDrive ((rb.getPathFirstString 2).getD 0 0) ((rb.getPathFirstString 2).getD 1 0)) =
      headDrive b.path ∧
    (headDrive b.path = true → ∃ a c rest, b.path = [a, c] :: rest ∧ (rb.getPathFirstString 2).take 2 = [a, c]) := by
  have hv : rb.partView PATH = ptext b.path := by
    rw [partView_eq hrb PATH (by simp [PATH]) (by simp [PATH]), ← pathText_ptext ho]
    exact pathname_seg b
  have hop : rb.opaquePath = false := by rw [opaquePath_eq hrb, ho]
  have hns : NoSlash b.path := ok.noSlash ho
  have := firstString_ptext b.path hns
  unfold Rep.getPathFirstString
  rw [hv, hop]
  exact this

end Upa.Proofs.ParseRep
