import Upa.Proofs.Reparse
import Upa.Proofs.Canon
import Upa.Proofs.ParamsCmp
import Upa.Proofs.Host
import Upa.Proofs.Ipv4
import Upa.Proofs.Ipv6Round
import Upa.Proofs.RecInv
/-
  C02b: everything the parser produces is in the normal form `Upa.Props.Norm`, so that the reparse theorem
  `C02_reparse` applies to every parsed URL.  This file holds the leaves: the encode loops produce fixpoints
  (`keeps`) and never a dot segment; the host parser's output is stable (`HostStable`; hypothesis on the IDNA
  parameter: `IdnaStable`) and its text has no delimiter (`HostChars`, Upa/Proofs/Canon.lean); preprocessing never
  leaves a trailing space.  The walk
  over the parser and the setters is that of Upa/Proofs/RecInv.lean for the alphabet `normA idna st`
  (`norm_closed`); `All = Inv (normA idna st)` is tied to the normal form `NormP` of Upa/Proofs/Reparse.lean by
  `normPX_of_all` / `all_of_normPX`.
-/
namespace Upa.Proofs.C02b
open Upa Upa.Impl
open Upa.Proofs.C02 hiding schemeOk userinfoOk isLowerAlpha

/-! ## encoder output -/

/-- every element of the encode loop's output is kept by the same loop, when `%` and the upper-case
    hex digits are in the no-encode set -/
theorem keeps_of_enc (noEnc : Nat → Bool)
    (hpct : ∀ c, c < 128 → C08.isPctChar c = true → noEnc c = true) (s : List Nat) :
    (percentEncode noEnc s).all (keeps noEnc) = true :=
  C08.percentEncode_all noEnc _ s (fun c h1 h2 => keeps_iff.2 ⟨h1, hpct c h1 h2⟩)
    fun _ _ h1 h2 => keeps_iff.2 ⟨h1, h2⟩

/-- `%` and the upper-case hex digits are kept by every encoder, are no path delimiters, and are opaque
    path characters -/
theorem pct_keeps_tbl : ∀ c, c < 128 → C08.isPctChar c = true →
    userinfoNoEnc c = true ∧ fragmentNoEnc c = true ∧ queryNoEnc c = true ∧ specialQueryNoEnc c = true ∧
      (pathNoEnc c = true ∧ c ≠ 0x2F ∧ c ≠ 0x5C) ∧ opaqueCharOk c = true := by
  decide +kernel

theorem seg_chars (sp : Bool) (seg : List Nat) (h2f : ∀ c ∈ seg, c ≠ 0x2F)
    (h5c : sp = true → ∀ c ∈ seg, c ≠ 0x5C) :
    ∀ x ∈ percentEncode pathNoEnc seg, segCharOk sp x = true := by
  intro x hx
  simp only [segCharOk, keeps, Bool.and_eq_true, decide_eq_true_eq, bne_iff_ne, ne_eq,
    Bool.not_eq_true', Bool.and_eq_false_iff, beq_eq_false_iff_ne]
  rcases C08.percentEncode_chars pathNoEnc seg x hx with h | ⟨h1, h2, h3⟩
  · have hlt := isPctChar_lt h
    obtain ⟨a, b, c⟩ := (pct_keeps_tbl x hlt h).2.2.2.2.1
    exact ⟨⟨⟨by omega, a⟩, b⟩, Or.inr c⟩
  · refine ⟨⟨⟨h2, h3⟩, h2f x h1⟩, ?_⟩
    cases sp with
    | false => exact Or.inl rfl
    | true => exact Or.inr (h5c rfl x h1)

theorem enc_not_dot (seg : List Nat) (h1 : singleDot seg = false) (h2 : doubleDot seg = false) :
    singleDot (percentEncode pathNoEnc seg) = false ∧ doubleDot (percentEncode pathNoEnc seg) = false := by
  constructor
  · cases h : singleDot (percentEncode pathNoEnc seg) with
    | false => rfl
    | true =>
      have := enc_dotToks pathNoEnc rfl _ seg (singleDot_toks _ h) rfl
      rw [← this, h1] at h; exact absurd h (by simp)
  · cases h : doubleDot (percentEncode pathNoEnc seg) with
    | false => rfl
    | true =>
      have := enc_dotToks pathNoEnc rfl _ seg (doubleDot_toks _ h) rfl
      rw [← this, h2] at h; exact absurd h (by simp)

theorem segOk_enc_seg (sp : Bool) (seg : List Nat) (h2f : ∀ c ∈ seg, c ≠ 0x2F)
    (h5c : sp = true → ∀ c ∈ seg, c ≠ 0x5C) (h1 : singleDot seg = false) (h2 : doubleDot seg = false) :
    segOk sp (percentEncode pathNoEnc seg) = true := by
  obtain ⟨a, b⟩ := enc_not_dot seg h1 h2
  simp only [segOk, Bool.and_eq_true, List.all_eq_true, Bool.not_eq_true']
  exact ⟨⟨seg_chars sp seg h2f h5c, a⟩, b⟩

/-! ## host stability -/


/-- What the stability of parsed hosts needs of the IDNA parameter (`domain_to_ascii`, UTS #46 ToASCII
    through ICU): the shape of every output (`out_ascii`, word for word `C08.IdnaCanon.out_ascii`), and
    idempotence on the function's own outputs only (`idem`). -/
structure IdnaStable (idna : Idna) : Prop where
  /-- The output is not empty, pure ASCII and has no upper-case letter (the hypothesis of C08,
      `IdnaCanon`).  Such an output without `xn--` label is re-parsed by the host parser's fast path,
      which never calls the IDNA function: lower-case ASCII domain characters map to themselves, and
      the forbidden-domain check and the ends-in-a-number routing were done on the very same string in
      the first pass. -/
  out_ascii : ∀ s r, idna s = some r → r ≠ [] ∧ ∀ c ∈ r, c < 0x80 ∧ isUpperAlpha c = false
  /-- Idempotence on the function's own outputs, needed only where the host parser calls the function
      again on re-parsing and keeps the result as a domain: the output has a label starting with `xn--`
      (`util::has_xn_label`, so the fast path is not taken), contains no forbidden domain code point and
      does not end in a number (otherwise the first pass would have failed or produced an IPv4 address).
      UTS #46: an A-label that ToASCII produced is decoded, validated and re-encoded to itself. -/
  idem : ∀ s r, idna s = some r → (∀ c ∈ r, Spec.forbiddenDomain c = false) →
    endsInNumber r = false → hasXnLabel r = true → idna r = some r

theorem IdnaStable.canon {idna : Idna} (h : IdnaStable idna) : C08.IdnaCanon idna := ⟨h.out_ascii⟩

theorem map_toLower_id (t : List Nat) (h : ∀ c ∈ t, isUpperAlpha c = false) : t.map toLower = t := by
  induction t with
  | nil => rfl
  | cons a t ih =>
    have ha := h a List.mem_cons_self
    have : toLower a = a := by
      unfold toLower
      simp only [isUpperAlpha, Bool.and_eq_false_iff, decide_eq_false_iff_not] at ha
      split
      · omega
      · rfl
    rw [List.map_cons, this, ih (fun c hc => h c (List.mem_cons_of_mem _ hc))]

/-- lower-case ASCII domain characters without `xn--` label, not ending in a number: re-parsed by the
    fast path as the same domain -/
theorem stable_plain (idna : Idna) (t : List Nat) (hne : t ≠ [])
    (hall : ∀ c ∈ t, Spec.asciiDomainChar c = true) (hlow : ∀ c ∈ t, isUpperAlpha c = false)
    (hxn : hasXnLabel t = false) (hen : endsInNumber t = false) :
    parseHost idna t false = some { kind := .domain, text := t } := by
  rw [C08.parseHost_domain_all idna t hne hall, C08.fastPath_all t hall, hxn, hen]
  simp only [Bool.not_false, if_true, Bool.false_eq_true, if_false]
  rw [map_toLower_id t hlow]

theorem percentDecode_plain (t : List Nat) (h : ∀ c ∈ t, c < 0x80 ∧ c ≠ 0x25) : percentDecode t = t := by
  unfold percentDecode
  induction t with
  | nil => exact C14.aux_none_nil
  | cons c r ih =>
    have hc := h c List.mem_cons_self
    rw [C14.aux_none_cons, if_neg (fun h => hc.2 h.1), Impl.encodeUtf8Char_ascii c hc.1,
      ih (fun x hx => h x (List.mem_cons_of_mem _ hx))]
    rfl

/-- plain ASCII reaches ToASCII as it is: the buffer is the Standard's (`C07.implBuf_eq`), which copies it -/
theorem idnaInput_plain (t : List Nat) (h : ∀ c ∈ t, c < 0x80 ∧ c ≠ 0x25) :
    encodeUtf16 (decode .u8 (percentDecode t)) = t :=
  (C07.implBuf_eq t fun c hc => C14.ascii_scalar c (h c hc).1).trans (C07.specBuf_plain t h)

/-- an `xn--` output of the IDNA function is re-parsed through the IDNA function -/
theorem stable_xn (idna : Idna) (t : List Nat) (hne : t ≠ []) (hascii : ∀ c ∈ t, c < 0x80)
    (hforb : ∀ c ∈ t, Spec.forbiddenDomain c = false) (hxn : hasXnLabel t = true)
    (hen : endsInNumber t = false) (hid : idna t = some t) :
    parseHost idna t false = some { kind := .domain, text := t } := by
  have hall : ∀ c ∈ t, Spec.asciiDomainChar c = true :=
    fun c hc => (not_forbidden_ascii c (hascii c hc) (hforb c hc)).1
  rw [C08.parseHost_domain_all idna t hne hall, C08.fastPath_all t hall, hxn]
  simp only [Bool.not_true, Bool.false_eq_true, if_false]
  unfold C07.implFinish
  rw [idnaInput_plain t (fun c hc => ⟨hascii c hc, (not_forbidden_ascii c (hascii c hc) (hforb c hc)).2.1⟩), hid]
  have hany : t.any Spec.forbiddenDomain = false := by
    rw [List.any_eq_false]; intro c hc; simp [hforb c hc]
  simp only [hany, Bool.false_eq_true, if_false, hen]

/-! ### IPv4 -/

theorem hasXnAt_x {s : List Nat} (h : hasXnAt s = true) : ∃ c ∈ s, (c ||| 0x20) = 0x78 := by
  rcases s with _ | ⟨a, _ | ⟨b, _ | ⟨c, _ | ⟨d, r⟩⟩⟩⟩ <;> simp [hasXnAt] at h
  exact ⟨a, List.mem_cons_self, h.1.1.1⟩

theorem hasXnAfterDot_x {s : List Nat} (h : hasXnAfterDot s = true) : ∃ c ∈ s, (c ||| 0x20) = 0x78 := by
  induction s with
  | nil => simp [hasXnAfterDot] at h
  | cons c r ih =>
    simp only [hasXnAfterDot, Bool.or_eq_true, Bool.and_eq_true] at h
    rcases h with ⟨_, h⟩ | h
    · obtain ⟨x, hx, hx2⟩ := hasXnAt_x h
      exact ⟨x, List.mem_cons_of_mem _ hx, hx2⟩
    · obtain ⟨x, hx, hx2⟩ := ih h
      exact ⟨x, List.mem_cons_of_mem _ hx, hx2⟩

theorem hasXnLabel_x {s : List Nat} (h : hasXnLabel s = true) : ∃ c ∈ s, (c ||| 0x20) = 0x78 := by
  simp only [hasXnLabel, Bool.or_eq_true] at h
  rcases h with h | h
  · exact hasXnAt_x h
  · exact hasXnAfterDot_x h

theorem stable_ipv4 (idna : Idna) (n : Nat) (hn : n < 2 ^ 32) :
    parseHost idna (ipv4Serialize n) false = some { kind := .ipv4, text := ipv4Serialize n } := by
  have hch := Ipv4.ipv4Serialize_chars n
  have hall : ∀ c ∈ ipv4Serialize n, Spec.asciiDomainChar c = true :=
    fun c hc => (v4Char_tbl c (v4Char_lt (hch c hc)) (hch c hc)).1
  have hxn : hasXnLabel (ipv4Serialize n) = false := by
    cases h : hasXnLabel (ipv4Serialize n) with
    | false => rfl
    | true =>
      obtain ⟨c, hc, hx⟩ := hasXnLabel_x h
      exact absurd hx (v4Char_tbl c (v4Char_lt (hch c hc)) (hch c hc)).2.1
  have hen := Ipv4.endsInNumber_serialize n
  have hrt := Ipv4.roundtrip n hn
  rw [C08.parseHost_domain_all idna _ (Ipv4.ipv4Serialize_ne_nil n) hall, C08.fastPath_all _ hall, hxn, hen]
  simp only [Bool.not_false, if_true]
  unfold hostParseIpv4
  rw [hrt]
  rfl

/-! ### IPv6 -/

theorem stable_ipv6 (idna : Idna) (o : Bool) {s a : List Nat} (hp : ipv6Parse s = some a) :
    parseHost idna ([0x5B] ++ ipv6Serialize a ++ [0x5D]) o =
      some { kind := .ipv6, text := [0x5B] ++ ipv6Serialize a ++ [0x5D] } := by
  obtain ⟨h8, hx⟩ := V6.parse_good s a hp
  rw [C08.parseHost_brackets, hostParseIpv6, V6.roundtrip a h8 hx]
  rfl

/-! ### opaque host -/

theorem stable_opaque (idna : Idna) {s : List Nat} (hne : s ≠ [])
    (hs : ∀ c ∈ s, Spec.forbiddenHost c = false) :
    percentEncodeC0 s ≠ [] ∧ parseHost idna (percentEncodeC0 s) true =
      some { kind := if percentEncodeC0 s = [] then .empty else .opaque, text := percentEncodeC0 s } := by
  have hnet := (C08.hostOk_opaque hs).2 hne
  have hall := List.all_eq_true.1 (C08.opaqueHost_all s hs)
  have hfacts : ∀ c ∈ percentEncodeC0 s, Spec.forbiddenHost c = false ∧ c ≠ 0x5B :=
    fun c hc =>
      have h := opaqueHostChar_facts c (opaqueHostChar_lt (hall c hc)) (hall c hc)
      ⟨h.2.2.1, h.2.2.2.1⟩
  -- the C0 encoder changes nothing in its own output
  have hidem := C14.percentEncodeC0_idem s
  refine ⟨hnet, ?_⟩
  rw [if_neg hnet]
  generalize percentEncodeC0 s = t at hnet hfacts hidem ⊢
  cases t with
  | nil => exact absurd rfl hnet
  | cons t0 tr =>
    rw [C08.parseHost_opaque idna t0 tr (hfacts t0 List.mem_cons_self).2]
    exact C08.parseOpaqueHost_some.2 ⟨fun c hc => (hfacts c hc).1, by rw [hidem, if_neg hnet]⟩

/-! ### every host the host parser returns is stable -/

theorem hostStable_of {idna : Idna} {sp : Bool} {h : Host}
    (hs : h.text ≠ [] ∧ parseHost idna h.text (!sp) = some h) : HostStable idna sp h := by
  unfold HostStable
  rw [if_neg hs.1]; exact hs.2

theorem hostStable_empty (idna : Idna) (sp : Bool) : HostStable idna sp emptyHost := by
  unfold HostStable; rw [if_pos (show emptyHost.text = [] from rfl)]

theorem host_stable (idna : Idna) (hi : IdnaStable idna) (s : List Nat) (o : Bool) (h : Host)
    (hh : parseHost idna s o = some h) : HostStable idna (!o) h := by
  have st {o' : Bool} {h : Host} (ho : o = o') (hs : h.text ≠ [] ∧ parseHost idna h.text o' = some h) :
      HostStable idna (!o) h := hostStable_of (by rw [Bool.not_not, ho]; exact hs)
  refine C08.parseHost_rule (P := HostStable idna (!o)) hh (fun _ => hostStable_empty idna _)
    (fun _ a h6 => st rfl ⟨by simp, stable_ipv6 idna o h6⟩)
    (fun hne ho hs => st ho (stable_opaque idna hne hs))
    (fun ho x n h4 => st ho ⟨Ipv4.ipv4Serialize_ne_nil n, stable_ipv4 idna n (Ipv4.ipv4Parse_lt x n h4)⟩)
    (fun ho hne hall hxn hen => st ho ⟨by simpa using hne, ?_⟩) (fun ho a hid hforb hen => st ho ?_)
  · have hall' : ∀ c ∈ s.map toLower, Spec.asciiDomainChar c = true ∧ isUpperAlpha c = false := by
      intro c hc
      obtain ⟨d, hd, rfl⟩ := List.mem_map.1 hc
      exact (C08.toLower_domain d (C07.adc_plain d (hall d hd)).1 (hall d hd)).2
    exact stable_plain idna _ (by simpa using hne) (fun c hc => (hall' c hc).1) (fun c hc => (hall' c hc).2)
      (by rw [C07.hasXnLabel_map]; exact hxn) (by rw [C07.endsInNumber_map]; exact hen)
  · obtain ⟨hne, hasc⟩ := hi.out_ascii _ _ hid
    refine ⟨hne, ?_⟩
    cases hxn : hasXnLabel a with
    | true =>
      exact stable_xn idna a hne (fun c hc => (hasc c hc).1) hforb hxn hen (hi.idem _ _ hid hforb hen hxn)
    | false =>
      exact stable_plain idna a hne (fun c hc => (not_forbidden_ascii c (hasc c hc).1 (hforb c hc)).1)
        (fun c hc => (hasc c hc).2) hxn hen

/-- host text without the file-only clause of `hostTextOk` -/
def hostTextOk0 (sp : Bool) (t : List Nat) : Bool := t.all (hostCharOk sp) && hostColonOk t

theorem hostTextOk_eq (sp file : Bool) (t : List Nat) :
    hostTextOk sp file t = (hostTextOk0 sp t && (!file || hostFileOk t)) := rfl

theorem hostCharOk_weaken {sp : Bool} {c : Nat} (h : hostCharOk true c = true) : hostCharOk sp c = true := by
  cases sp
  · simp only [hostCharOk, Bool.and_eq_true, decide_eq_true_eq, bne_iff_ne, ne_eq, Bool.true_and,
      Bool.not_eq_true', beq_eq_false_iff_ne, Bool.false_and, Bool.not_false, and_true] at h ⊢
    exact h.1
  · exact h

theorem HostChars.textOk {t : List Nat} (h : HostChars t) (sp : Bool) : hostTextOk0 sp t = true := by
  simp only [hostTextOk0, Bool.and_eq_true, List.all_eq_true]
  exact ⟨fun c hc => hostCharOk_weaken (h.1 c hc).1, h.2⟩

theorem HostChars.not_drive {t : List Nat} (h : HostChars t) : C08.isDrive2 t = false := by
  rcases t with _ | ⟨a, _ | ⟨b, _ | ⟨c, r⟩⟩⟩ <;> try rfl
  show isWindowsDrive a b = false
  cases hd : isWindowsDrive a b with
  | false => rfl
  | true =>
    exfalso
    simp only [isWindowsDrive, Bool.and_eq_true, Bool.or_eq_true, beq_iff_eq] at hd
    obtain ⟨ha, hb⟩ := hd
    have h2 := h.2
    have : a ≠ 0x5B := by
      intro hh; subst hh; exact absurd ha (by decide)
    simp only [hostColonOk, if_neg this] at h2
    rcases hb with rfl | rfl
    · simp at h2
    · exact (h.1 0x7C (by simp)).2 rfl



/-! ## the normal form as an alphabet of `RecInv.Inv` -/

/-- host: text without delimiters, reproduced by the host parser -/
def HostN (idna : Idna) (sp : Bool) (h : Host) : Prop :=
  hostTextOk0 sp h.text = true ∧ HostStable idna sp h

/-- The authority part of the normal form as a structure (the walk uses `RecInv.AuthI (normA idna st)`):
    scheme, credentials, host, port.  `st` switches the file-only clause (host text is not
    `localhost` / a drive letter), which the protocol setter does not maintain. -/
structure AuthN (idna : Idna) (st : Bool) (u : Url) : Prop where
  scheme : C02.schemeOk u.scheme = true
  port : portOk u.scheme u.port = true
  spHost : u.isSpecial = true → u.isFile = false → ∃ h, u.host = some h ∧ h.text ≠ []
  noCred : (u.hostText = [] ∨ u.isFile = true) → u.username = [] ∧ u.password = [] ∧ u.port = none
  fileHost : u.isFile = true → ∃ h, u.host = some h
  user : C02.userinfoOk u.username = true
  pass : C02.userinfoOk u.password = true
  host : ∀ h, u.host = some h → HostN idna u.isSpecial h
  hostFile : st = true → u.isFile = true → ∀ h, u.host = some h → hostFileOk h.text = true

open Upa.Proofs.RecInv

/-- `st` switches the two file-only clauses, which the `protocol` setter does not maintain -/
def normA (idna : Idna) (st : Bool) : Alph where
  user s := C02.userinfoOk s = true
  host sp h := HostN idna sp h
  fhost h := st = true → hostFileOk h.text = true
  path sp file p := (∀ s ∈ p, segOk sp s = true) ∧ (st = true → file = true → driveOk p = true)
  opq l := (∀ c ∈ l, opaqueCharOk c = true) ∧ l.head? ≠ some 0x2F
  query sp q := queryOk sp q = true
  frag f := fragmentOk f = true
  strict := True

/-- the normal form as an invariant of the record, in two strengths (`st = true`: `NormP`) -/
def All (idna : Idna) (st : Bool) (u : Url) : Prop := Inv (normA idna st) u

variable {idna : Idna} {st : Bool}

theorem portOk_iff (s : List Nat) (po : Option Nat) :
    portOk s po = true ↔ ∀ p, po = some p → p ≤ 65535 ∧ defaultPort s ≠ some p := by
  cases po with
  | none => simp [portOk]
  | some n => simp [portOk]; omega

/-! ### `NormP` and `All` -/

/-- `NormP` with the two file-only clauses switched by `st` (`st = true`: `NormP`) -/
structure NormPX (idna : Idna) (st : Bool) (u : Url) : Prop where
  scheme : C02.schemeOk u.scheme = true
  shape : ShapeP u
  user : C02.userinfoOk u.username = true
  pass : C02.userinfoOk u.password = true
  host : ∀ h, u.host = some h →
    hostTextOk u.isSpecial (st && u.isFile) h.text = true ∧ HostStable idna u.isSpecial h
  port : portOk u.scheme u.port = true
  segs : ∀ seg ∈ u.path, segOk u.isSpecial seg = true
  drive : st = true → u.isFile = true → driveOk u.path = true
  opq : u.hasOpaquePath = true →
    opaqueOk u.opaquePath (u.query.isNone && u.fragment.isNone) = true
  query : qOk u.isSpecial u.query = true
  frag : fOk u.fragment = true

theorem NormPX.ofNormP {u : Url} (h : NormP idna u) : NormPX idna true u :=
  ⟨h.scheme, h.shape, h.user, h.pass, h.host, h.port, h.segs, fun _ => h.drive, h.opq, h.query, h.frag⟩

theorem NormPX.toNormP {u : Url} (h : NormPX idna true u) : NormP idna u :=
  ⟨h.scheme, h.shape, h.user, h.pass, h.host, h.port, h.segs, h.drive rfl, h.opq, h.query, h.frag⟩

theorem normPX_of_all {u : Url} (h : All idna st u) : NormPX idna st u := by
  obtain ⟨ha, hp, hq, hf⟩ := h
  refine ⟨by rw [schemeOk_eq]; exact ha.scheme, ⟨?_, ?_, ?_, ?_, ?_, ?_⟩, ha.user, ha.pass, ?_,
    (portOk_iff _ _).2 ha.port, ?_, ?_, ?_, ?_, ?_⟩
  · intro ho
    refine ⟨((hp.opq ho).2.2 trivial).1, (hp.opq ho).1, ?_⟩
    cases hs : u.isSpecial with
    | false => rfl
    | true => have := (hp.sp hs).1; rw [ho] at this; exact absurd this (by simp)
  · intro ho; exact (hp.lst ho).1
  · intro hs
    refine ⟨?_, (hp.sp hs).2⟩
    cases hf : u.isFile with
    | true => obtain ⟨h, hh⟩ := ha.fileHost hf; rw [hh]; simp
    | false => obtain ⟨h, hh, _⟩ := ha.spHost hs hf; rw [hh]; simp
  · intro hs hf
    obtain ⟨h, hh, hne⟩ := ha.spHost hs hf
    simpa [Url.hostText, hh] using hne
  · intro hc
    exact ha.noCred (by rcases hc with h | h; exact Or.inr h; exact Or.inl h)
  · intro hs hh ho
    exact (hp.lst ho).2.2 trivial hs hh
  · intro h hh
    obtain ⟨h1, h2⟩ : HostN idna u.isSpecial h := ha.host h hh
    refine ⟨?_, h2⟩
    rw [hostTextOk_eq, h1, Bool.true_and]
    cases hst : st with
    | false => rfl
    | true =>
      cases hf : u.isFile with
      | false => rfl
      | true => simpa using ha.hostFile hf h hh hst
  · intro seg hseg
    cases ho : u.hasOpaquePath with
    | true => rw [(hp.opq ho).1] at hseg; simp at hseg
    | false => exact (hp.lst ho).2.1.1 seg hseg
  · intro hst hfl
    cases ho : u.hasOpaquePath with
    | true => rw [(hp.opq ho).1]; rfl
    | false => exact (hp.lst ho).2.1.2 hst hfl
  · intro ho
    obtain ⟨_, ⟨h3, h4⟩, h5⟩ := hp.opq ho
    simp only [opaqueOk, Bool.and_eq_true, List.all_eq_true, bne_iff_ne, ne_eq, Bool.not_eq_true',
      Bool.and_eq_false_iff, beq_eq_false_iff_ne]
    refine ⟨⟨h3, h4⟩, ?_⟩
    cases hq' : u.query with
    | some q => left; left; rfl
    | none =>
      cases hf' : u.fragment with
      | some f => left; right; rfl
      | none => right; exact (h5 trivial).2 hq' hf'
  · cases hq' : u.query with
    | none => rfl
    | some q => exact hq q hq'
  · cases hf' : u.fragment with
    | none => rfl
    | some f => exact hf f hf'

theorem all_of_normPX {u : Url} (h : NormPX idna st u) : All idna st u := by
  obtain ⟨s1, s2, s3, s4, s5, s6⟩ := h.shape
  refine ⟨⟨by rw [← schemeOk_eq]; exact h.scheme, (portOk_iff _ _).1 h.port, ?_, ?_, ?_, h.user, h.pass, ?_, ?_⟩,
    ⟨?_, ?_, ?_⟩, ?_, ?_⟩
  · intro hs hf
    cases hh : u.host with
    | none => exact absurd hh (s3 hs).1
    | some x =>
      refine ⟨x, rfl, ?_⟩
      have := s4 hs hf
      simpa [Url.hostText, hh] using this
  · intro hc
    exact s5 (by rcases hc with h | h; exact Or.inr h; exact Or.inl h)
  · intro hf
    have hs : u.isSpecial = true := C08.file_special hf
    cases hh : u.host with
    | none => exact absurd hh (s3 hs).1
    | some x => exact ⟨x, rfl⟩
  · intro x hx
    obtain ⟨h1, h2⟩ := h.host x hx
    rw [hostTextOk_eq, Bool.and_eq_true] at h1
    exact (⟨h1.1, h2⟩ : HostN idna u.isSpecial x)
  · intro hf x hx hst
    obtain ⟨h1, _⟩ := h.host x hx
    rw [hostTextOk_eq, Bool.and_eq_true, hf, hst] at h1
    simpa using h1.2
  · intro hs
    refine ⟨?_, (s3 hs).2⟩
    cases ho : u.hasOpaquePath with
    | false => rfl
    | true => have := (s1 ho).2.2; rw [hs] at this; exact absurd this (by simp)
  · intro ho
    have := h.opq ho
    simp only [opaqueOk, Bool.and_eq_true, List.all_eq_true, bne_iff_ne, ne_eq, Bool.not_eq_true',
      Bool.and_eq_false_iff, beq_eq_false_iff_ne] at this
    refine ⟨(s1 ho).2.1, ⟨this.1.1, this.1.2⟩, fun _ => ⟨(s1 ho).1, fun hq hf => ?_⟩⟩
    rcases this.2 with (h | h) | h
    · rw [hq] at h; simp at h
    · rw [hf] at h; simp at h
    · exact h
  · intro ho
    exact ⟨s2 ho, ⟨h.segs, h.drive⟩, fun _ hs hh => s6 hs hh ho⟩
  · intro q hq'
    have := h.query
    rw [hq'] at this; exact this
  · intro f hf'
    have := h.frag
    rw [hf'] at this; exact this

theorem normP_of_all {u : Url} (h : All idna true u) : NormP idna u := (normPX_of_all h).toNormP
theorem all_of_normP {u : Url} (h : NormP idna u) : All idna true u := all_of_normPX (NormPX.ofNormP h)

/-! the C0-control encoder: alphabet (first and last element: `RecInv.c0_head`, `RecInv.c0_last`) -/

theorem c0_chars (s : List Nat) (hs : ∀ c ∈ s, isQorH c = false) :
    ∀ x ∈ percentEncodeC0 s, opaqueCharOk x = true := by
  intro x hx
  rcases C08.percentEncodeC0_chars s x hx with h | ⟨h1, h2, h3⟩
  · exact (pct_keeps_tbl x (isPctChar_lt h) h).2.2.2.2.2
  · simp only [opaqueCharOk, Bool.and_eq_true, decide_eq_true_eq, Bool.not_eq_true']
    exact ⟨⟨h2, h3⟩, hs x h1⟩
theorem driveOk_prefix {p' p : List (List Nat)} (h : p' <+: p) (hd : driveOk p = true) :
    driveOk p' = true := by
  cases p' with
  | nil => rfl
  | cons a t =>
    obtain ⟨r, hr⟩ := h
    rw [← hr, List.cons_append, driveOk_cons] at hd
    rw [driveOk_cons]; exact hd

theorem driveOk_append (p : List (List Nat)) (x : List Nat) (hne : p ≠ []) :
    driveOk (p ++ [x]) = driveOk p := by
  cases p with
  | nil => exact absurd rfl hne
  | cons a t => rw [List.cons_append, driveOk_cons, driveOk_cons a t]

/-- the path encoder produces `X|` only from `X|` -/
theorem enc_drive (seg : List Nat) (h : driveOk [percentEncode pathNoEnc seg] = false) :
    ∃ a, seg = [a, 0x7C] ∧ isAlpha a = true := by
  obtain ⟨a, rest, he, ha⟩ := (driveOk_false_iff _).1 h
  simp only [List.cons.injEq] at he
  obtain ⟨he, _⟩ := he
  have ha25 : a ≠ 0x25 := by intro hh; subst hh; exact absurd ha (by decide)
  cases seg with
  | nil => simp [percentEncode] at he
  | cons c cs =>
    obtain ⟨h1, h2⟩ := enc_head_other _ c cs a _ ha25 he
    cases cs with
    | nil => simp [percentEncode] at h2
    | cons c2 cs2 =>
      obtain ⟨h3, h4⟩ := enc_head_other _ c2 cs2 _ _ (by decide) h2
      rw [enc_eq_nil h4, h1, h3]
      exact ⟨a, rfl, ha⟩

theorem alpha_segChar (sp : Bool) (a : Nat) (h : isAlpha a = true) : segCharOk sp a = true := by
  have tbl : ∀ a, a < 128 → isAlpha a = true → segCharOk true a = true := by decide +kernel
  have hlt : a < 128 := isAlpha_lt a h
  have := tbl a hlt h
  cases sp
  · simp only [segCharOk, Bool.and_eq_true, Bool.true_and, Bool.false_and, Bool.not_false, and_true] at this ⊢
    exact this.1
  · exact this

theorem segOk_drive (sp : Bool) (a : Nat) (h : isAlpha a = true) : segOk sp [a, 0x3A] = true := by
  have h3a : segCharOk sp 0x3A = true := by cases sp <;> decide
  simp [segOk, alpha_segChar sp a h, h3a, singleDot, doubleDot]

theorem segOk_pathInv (sp file : Bool) :
    C08.PathLoopInv sp file
      (fun p => (∀ s ∈ p, segOk sp s = true) ∧ (st = true → file = true → driveOk p = true)) where
  pre hpre hp := ⟨fun s hs => hp.1 s (hpre.subset hs), fun a b => driveOk_prefix hpre (hp.2 a b)⟩
  snocNil {p} hp := by
    refine ⟨fun s hs => ?_, fun a b => ?_⟩
    · rcases List.mem_append.1 hs with h | h
      · exact hp.1 s h
      · rw [List.mem_singleton.1 h]; cases sp <;> rfl
    · cases p with
      | nil => rfl
      | cons x t => rw [driveOk_append _ _ (by simp)]; exact hp.2 a b
  drive ha _ := ⟨fun s hs => by rw [List.mem_singleton.1 hs]; exact segOk_drive _ _ ha, fun _ _ => by simp [driveOk]⟩
  enc {p seg} hp h2f h5c hsd hdd hno := by
    refine ⟨fun s hs => ?_, fun hst hf => ?_⟩
    · rcases List.mem_append.1 hs with h | h
      · exact hp.1 s h
      · rw [List.mem_singleton.1 h]; exact segOk_enc_seg sp seg h2f h5c hsd hdd
    · by_cases hpe : p = []
      · rw [hpe, List.nil_append]
        cases hdr : driveOk [percentEncode pathNoEnc seg] with
        | true => rfl
        | false =>
          obtain ⟨a, hs, ha⟩ := enc_drive seg hdr
          rw [hno hf hpe a hs] at ha
          exact absurd ha (by simp)
      · rw [driveOk_append _ _ hpe]; exact hp.2 hst hf

/-- the fields of `RecInv.HostBase` at `normA`.  Nothing uses this structure: the walk takes `RecInv.HostBase`. -/
structure HostBase (u : Url) : Prop where
  scheme : C02.schemeOk u.scheme = true
  port : portOk u.scheme u.port = true
  notFile : u.isFile = false
  user : C02.userinfoOk u.username = true
  pass : C02.userinfoOk u.password = true

theorem hostN_of_parse (hi : IdnaStable idna) {s : List Nat} {sp : Bool} {h : Host}
    (hh : parseHost idna s (!sp) = some h) : HostN idna sp h ∧ HostChars h.text ∧ (s ≠ [] → h.text ≠ []) := by
  have hk := C08.C08_host idna hi.canon _ _ _ hh
  have hch := hostChars_of_hostOk h hk.1
  refine ⟨⟨hch.textOk sp, ?_⟩, hch, hk.2⟩
  have := host_stable idna hi _ _ _ hh
  rwa [Bool.not_not] at this

theorem driveOk_normalized (a c : Nat) (h : isNormalizedWindowsDrive a c = true) :
    driveOk [[a, c]] = true := by
  simp only [isNormalizedWindowsDrive, Bool.and_eq_true, beq_iff_eq] at h
  rw [h.2]; simp [driveOk]


/-! ## preprocessing never leaves a trailing space -/

theorem doTrim_last (l : List Nat) : doTrim l = [] ∨ ∃ i z, doTrim l = i ++ [z] ∧ 0x20 < z := by
  unfold doTrim
  cases hx : ((l.dropWhile isTrimChar).reverse.dropWhile isTrimChar) with
  | nil => left; rfl
  | cons z x =>
    right
    refine ⟨x.reverse, z, by simp, ?_⟩
    have hne : ((l.dropWhile isTrimChar).reverse.dropWhile isTrimChar) ≠ [] := by rw [hx]; simp
    have := List.head_dropWhile_not isTrimChar hne
    simp only [hx, List.head_cons] at this
    simpa [isTrimChar] using this

theorem prep_last (e : Enc) (units : List Nat) : (prep e (doTrim units)).getLast? ≠ some 0x20 := by
  intro h
  unfold prep at h
  have h2 := C10b.decode_last e _ _ h (by decide)
  rcases doTrim_last units with h0 | ⟨i, z, h0, hz⟩
  · rw [h0] at h2; simp [removeWs] at h2
  · rw [h0] at h2
    have hk : isRemovable z = false := by simp [isRemovable]; omega
    have : removeWs (i ++ [z]) = removeWs i ++ [z] := by simp [removeWs, List.filter_append, hk]
    rw [this, List.getLast?_concat] at h2
    simp only [Option.some.injEq] at h2
    omega



/-! ## setters -/

theorem All.weaken {u : Url} (h : All idna st u) : All idna false u :=
  ⟨⟨h.1.scheme, h.1.port, h.1.spHost, h.1.noCred, h.1.fileHost, h.1.user, h.1.pass, h.1.host,
      fun _ _ _ hc => by simp at hc⟩,
    ⟨h.2.1.sp, h.2.1.opq, fun ho => ⟨(h.2.1.lst ho).1, ⟨(h.2.1.lst ho).2.1.1, fun hc => by simp at hc⟩,
      (h.2.1.lst ho).2.2⟩⟩, h.2.2.1, h.2.2.2⟩

theorem All.strengthen {u : Url} (h : All idna false u)
    (hx : u.isFile = true → hostFileOk u.hostText = true ∧ driveOk u.path = true) : All idna true u :=
  ⟨⟨h.1.scheme, h.1.port, h.1.spHost, h.1.noCred, h.1.fileHost, h.1.user, h.1.pass, h.1.host,
      fun hf x hxx _ => by
        have := (hx hf).1
        simpa [Url.hostText, hxx] using this⟩,
    ⟨h.2.1.sp, h.2.1.opq, fun ho => ⟨(h.2.1.lst ho).1, ⟨(h.2.1.lst ho).2.1.1, fun _ hf => (hx hf).2⟩,
      (h.2.1.lst ho).2.2⟩⟩, h.2.2.1, h.2.2.2⟩

theorem All.fileClauses {u : Url} (h : All idna true u) (hf : u.isFile = true) :
    hostFileOk u.hostText = true ∧ driveOk u.path = true := by
  obtain ⟨x, hx⟩ := h.1.fileHost hf
  refine ⟨?_, (h.2.1.lst (h.2.1.sp (C08.file_special hf)).1).2.1.2 rfl hf⟩
  have := h.1.hostFile hf x hx rfl
  simpa [Url.hostText, hx] using this

theorem form_keeps : ∀ c, c < 128 → C15.isFormChar c = true →
    specialQueryNoEnc c = true ∧ queryNoEnc c = true := by decide +kernel

/-! ## the parser and the setters keep the normal form -/

theorem normA_opq_prefix {l l' : List Nat} (hpre : l' <+: l) (h : (normA idna st).opq l) : (normA idna st).opq l' :=
  ⟨fun c hc => h.1 c (hpre.subset hc), fun hh => h.2 (by
    obtain ⟨r, rfl⟩ := hpre
    cases l' with
    | nil => simp at hh
    | cons a t => simpa using hh)⟩

theorem norm_closed (hi : IdnaStable idna) : Closed idna (normA idna st) where
  user_nil := rfl
  user_enc := keeps_of_enc _ fun c h1 h2 => (pct_keeps_tbl c h1 h2).1
  host_parse h := ⟨(hostN_of_parse hi h).1, (hostN_of_parse hi h).2.2⟩
  host_empty sp := ⟨by cases sp <;> rfl, hostStable_empty idna sp⟩
  fhost_parse hph hloc _ := by
    simp only [hostFileOk, Bool.and_eq_true, bne_iff_ne, ne_eq, Bool.not_eq_true']
    exact ⟨by simpa using hloc, (hostN_of_parse (sp := true) hi hph).2.1.not_drive⟩
  fhost_empty _ := by decide
  path_loop := segOk_pathInv
  path_nil _ _ := ⟨fun _ h => by simp at h, fun _ _ => rfl⟩
  path_drive {a c t} h hnd := ⟨fun seg hseg => by rw [List.mem_singleton.1 hseg]; exact h.1 _ List.mem_cons_self,
    fun _ _ => driveOk_normalized a c hnd⟩
  opq_enc s hs h0 := ⟨c0_chars s hs, fun h => h0 (c0_head _ h)⟩
  opq_prefix := normA_opq_prefix
  query_enc sp s := by
    cases sp
    · exact keeps_of_enc _ (fun c h1 h2 => (pct_keeps_tbl c h1 h2).2.2.1) s
    · exact keeps_of_enc _ (fun c h1 h2 => (pct_keeps_tbl c h1 h2).2.2.2.1) s
  frag_enc := keeps_of_enc _ fun c h1 h2 => (pct_keeps_tbl c h1 h2).2.1

theorem parse_all (hi : IdnaStable idna) (e : Enc) (units : List Nat) (base : Option Url)
    (hbase : ∀ b, base = some b → All idna st b) (u : Url)
    (h : parse idna e units base = some u) : All idna st u :=
  parse_inv (norm_closed hi) e units base hbase (fun _ => prep_last e units) u h

theorem set_all (hi : IdnaStable idna) (s : Setter) (e : Enc) (units : List Nat) (u : Url)
    (h : All idna st u) (hs : s = .protocol → st = false) : All idna st (setValid idna s e units u).1 :=
  (set_inv (norm_closed hi) s e units u h (fun _ => prep_last e units)
    (fun hp => by
      have := hs hp; subst this
      exact ⟨fun _ hc => by simp at hc, fun _ _ _ _ h => ⟨h.1, fun hc => by simp at hc⟩⟩))

theorem update_all (o : UrlObj) (hu : ∀ u, o.url = some u → All idna st u)
    (hsp : ∀ p, o.sp = some p → ∀ pr ∈ p.list, (∀ b ∈ pr.1, b < 256) ∧ (∀ b ∈ pr.2, b < 256)) :
    ∀ u', o.update.url = some u' → All idna st u' := by
  intro u' hu'
  refine update_inv normA_opq_prefix o hu (fun sp u p _ hop => ?_) u' hu' 
  show queryOk sp (formSerialize p.list) = true
  rw [queryOk, List.all_eq_true]
  intro c hc
  have hfc := C15.serialize_alphabet p.list (hsp p hop) c hc
  obtain ⟨a, b⟩ := form_keeps c (C15.isFormChar_lt c hfc) hfc
  refine keeps_iff.2 ⟨by have := C15.isFormChar_lt c hfc; omega, ?_⟩
  cases sp
  · exact b
  · exact a


theorem parse_norm (hi : IdnaStable idna) (e : Enc) (units : List Nat) (base : Option Url)
    (hbase : ∀ b, base = some b → NormP idna b) (u : Url)
    (h : parse idna e units base = some u) : NormP idna u :=
  normP_of_all (parse_all hi e units base (fun b hb => all_of_normP (hbase b hb)) u h)

/-! ## a sample IDNA function satisfying `IdnaStable` (for the non-vacuity examples) -/

/-- `C08.sampleIdna` (ASCII lower-casing, failure on empty or non-ASCII input) is stable -/
theorem sampleIdna_stable : IdnaStable C08.sampleIdna := by
  refine ⟨C08.sampleIdna_canon.out_ascii, ?_⟩
  intro s r h _ _ _
  obtain ⟨hne, hasc⟩ := C08.sampleIdna_canon.out_ascii s r h
  unfold C08.sampleIdna
  rw [if_neg hne, if_pos (by
    rw [List.all_eq_true]; intro c hc; simpa using (hasc c hc).1),
    map_toLower_id r (fun c hc => (hasc c hc).2)]

end Upa.Proofs.C02b
