import Upa.Impl.CanParse
import Upa.Proofs.ParserRules
/-
  `can_parse` (the `need_save() == false` run, `Impl.…NS`) against the saving run
  (`Impl.urlParse … none`), block by block, innermost first.  Every block of the saving run is an
  `if`-chain whose leaves are a failure, a callee, or a block of the tail (path start and later), and
  the `…NS` block is the same chain with the verdicts in place of the leaves.  So each block lemma
  pushes `isOk` through the chain (`apply_ite isOk`) and rewrites the leaves with the callees' lemmas;
  the tail cannot fail.  The `isOk_*` lemmas of the tail hold for every state override; the verdict chain
  of Upa/Proofs/BoundsUrlVerdict*.lean rewrites with them too.
-/
namespace Upa.Proofs.C09
open Upa Upa.Impl

/-- the saving run ended with `validation_errc::ok` -/
def isOk (r : Res) : Bool := r.out == .ok

theorem ok_of_isOk {r : Res} (h : isOk r = true) : r.out = .ok := by
  obtain ⟨o, u⟩ := r
  cases o
  · rfl
  all_goals cases h
@[simp] theorem isOk_failure (u : Url) : isOk ⟨.failure, u⟩ = false := rfl
@[simp] theorem isOk_ok (u : Url) : isOk ⟨.ok, u⟩ = true := rfl

/-! from the path start state on no block can fail, with or without a state override -/

@[simp] theorem isOk_fragment (u : Url) (p : List Nat) : isOk (fragmentState u p) = true := rfl

@[simp] theorem isOk_query (ov : Option Override) (u : Url) (p : List Nat) : isOk (queryState ov u p) = true := by
  unfold queryState
  simp only []
  split <;> rfl

@[simp] theorem isOk_afterPath (ov : Option Override) (u : Url) (p : List Nat) : isOk (afterPath ov u p) = true := by
  unfold afterPath
  cases p with
  | nil => rfl
  | cons c r => simp only [apply_ite isOk, isOk_query, isOk_fragment, ite_self]

@[simp] theorem isOk_opaquePath (ov : Option Override) (u : Url) (p : List Nat) :
    isOk (opaquePathState ov u p) = true :=
  isOk_afterPath _ _ _

@[simp] theorem isOk_path (ov : Option Override) (u : Url) (p : List Nat) : isOk (pathState ov u p) = true :=
  isOk_afterPath _ _ _

@[simp] theorem isOk_pathStart (ov : Option Override) (u : Url) (p : List Nat) :
    isOk (pathStartState ov u p) = true :=
  C08.pathStartState_rule (G := fun r => isOk r = true) ov u p (isOk_path ov u)
    (fun _ _ q => ⟨isOk_query ov u q, isOk_fragment u q⟩) (fun _ _ _ => rfl) (fun _ _ => rfl)

/-- a block that fails or hands a record to a continuation that cannot fail -/
theorem isOk_orFail (r : Option Url) (u : Url) (k : Url → Res) (hk : ∀ v, isOk (k v) = true) :
    isOk (match r with | none => ⟨.failure, u⟩ | some v => k v) = r.isSome := by
  cases r with
  | none => rfl
  | some v => exact hk v

theorem isSpecial_ite (c : Prop) [Decidable c] (u v : Url) (h : v.scheme = u.scheme) :
    (if c then v else u).isSpecial = u.isSpecial := by
  rw [apply_ite Url.isSpecial, Url.isSpecial, Url.isSpecial, h, ite_self]

theorem port_sim (u : Url) (p : List Nat) :
    isOk (portState none u p) = portStateNS u.isSpecial p := by
  unfold portState portStateNS
  simp only [Option.isSome_none, Bool.or_false, Bool.false_eq_true, if_false, apply_ite isOk,
    isOk_failure]
  -- same end-of-port test on both sides; under it the record is written exactly when the number fits
  congr 1
  refine (isOk_orFail _ u _ ?_).trans ?_
  · exact fun v => isOk_pathStart _ v _
  simp only [apply_ite Option.isSome, Option.isSome_none, Option.isSome_some, ite_self,
    Bool.if_true_right, Bool.or_false, ← decide_not, Nat.not_lt]

theorem fileHost_sim (idna : Idna) (u : Url) (p : List Nat) :
    isOk (fileHostState idna none u p) = fileHostStateNS idna u.isSpecial p := by
  unfold fileHostState fileHostStateNS parseHostNS
  simp only [Option.isSome_none, Option.isNone_none, Bool.true_and, Bool.false_eq_true, if_false,
    apply_ite isOk, isOk_pathStart, isOk_path]
  -- the two chains differ in their last branch only: the host parser's result against its verdict
  congr 2
  cases parseHost idna _ (!u.isSpecial) with
  | none => rfl
  | some h => exact isOk_pathStart _ _ _

theorem host_sim (idna : Idna) (u : Url) (p : List Nat) :
    isOk (hostState idna none u p) = hostStateNS idna u.isSpecial p := by
  unfold hostState hostStateNS parseHostNS
  simp only [Option.isSome_none, Bool.false_and, Bool.and_false, Bool.false_eq_true, if_false,
    reduceCtorEq, decide_false, apply_ite isOk, isOk_failure]
  congr 1
  cases parseHost idna _ (!u.isSpecial) with
  | none => rfl
  | some h =>
    cases (hostScan _ false).snd with
    | none => exact isOk_pathStart _ _ _
    | some pp => exact port_sim _ _

theorem authority_sim (idna : Idna) (u : Url) (p : List Nat) :
    isOk (authorityState idna none u p) = authorityStateNS idna u.isSpecial p := by
  unfold authorityState authorityStateNS
  simp only []
  cases splitLastAt _ with
  | none => exact host_sim idna u p
  | some ch =>
    simp only [apply_ite isOk, isOk_failure, host_sim]
    -- writing the credentials leaves the scheme alone
    rw [isSpecial_ite]
    rfl

theorem ignoreSlashes_sim (idna : Idna) (u : Url) (p : List Nat) :
    isOk (ignoreSlashesState idna none u p) = ignoreSlashesStateNS idna u.isSpecial p :=
  authority_sim idna u _

/-- a verdict passes through the "`//` or not" dispatch -/
theorem isOk_slashSlash (a : List Nat → Res) (b : Res) (a' : List Nat → Bool) (b' : Bool)
    (p : List Nat) (ha : ∀ r, isOk (a r) = a' r) (hb : isOk b = b') :
    isOk (match p with | 0x2F :: 0x2F :: r => a r | _ => b) =
      match p with | 0x2F :: 0x2F :: r => a' r | _ => b' := by
  split
  · exact ha _
  · exact hb

theorem specialAuthoritySlashes_sim (idna : Idna) (u : Url) (hsp : u.isSpecial = true) (p : List Nat) :
    isOk (specialAuthoritySlashesState idna none u p) = specialAuthoritySlashesStateNS idna p := by
  have h (q : List Nat) : isOk (ignoreSlashesState idna none u q) = ignoreSlashesStateNS idna true q :=
    hsp ▸ ignoreSlashes_sim idna u q
  exact isOk_slashSlash _ _ _ _ p h (h p)

theorem relativeSlash_sim (idna : Idna) (b u : Url) (p : List Nat) :
    isOk (relativeSlashState idna b none u p) = relativeSlashStateNS idna u.isSpecial p := by
  unfold relativeSlashState relativeSlashStateNS
  cases p with
  | nil => exact isOk_path _ _ _
  | cons c r => simp only [apply_ite isOk, ignoreSlashes_sim, authority_sim, isOk_path]

theorem relative_sim (idna : Idna) (b u : Url) (p : List Nat) :
    isOk (relativeState idna b none u p) = relativeStateNS idna b p := by
  unfold relativeState relativeStateNS
  cases p with
  | nil => rfl
  | cons c r =>
    simp only [apply_ite isOk, relativeSlash_sim, isOk_query, isOk_fragment, isOk_path]
    rfl

theorem fileSlash_sim (idna : Idna) (base : Option Url) (u : Url) (hsp : u.isSpecial = true) (p : List Nat) :
    isOk (fileSlashState idna base none u p) = fileSlashStateNS idna p := by
  unfold fileSlashState fileSlashStateNS fileSlashState.fileSlashDefault
  cases p with
  | nil => exact isOk_path _ _ _
  | cons c r => simp only [apply_ite isOk, fileHost_sim, hsp, isOk_path]

@[simp] theorem isOk_fileDefault (base : Option Url) (ov : Option Override) (u : Url) (p : List Nat) :
    isOk (fileState.fileDefault base ov u p) = true := by
  unfold fileState.fileDefault
  cases base with
  | none => exact isOk_path _ _ _
  | some b =>
    cases p with
    | nil => simp only [apply_ite isOk, isOk_ok, isOk_path, ite_self]
    | cons c r => simp only [apply_ite isOk, isOk_query, isOk_fragment, isOk_path, ite_self]

@[simp] theorem isOk_fileSlashDefault (base : Option Url) (ov : Option Override) (u : Url) (p : List Nat) :
    isOk (fileSlashState.fileSlashDefault base ov u p) = true :=
  isOk_path _ _ _

theorem file_sim (idna : Idna) (base : Option Url) (u : Url) (p : List Nat) :
    isOk (fileState idna base none u p) = fileStateNS idna p := by
  unfold fileState fileStateNS
  -- the record handed on has the scheme "file"
  generalize hv : (if (!u.isFile) = true then ({ u with scheme := sFile } : Url) else u) = v
  have hf : v.isFile = true := by
    subst hv
    cases h : u.isFile with
    | false => rfl
    | true => exact h
  cases p with
  | nil => exact isOk_fileDefault _ _ _ _
  | cons c r =>
    simp only [apply_ite isOk, isOk_fileDefault,
      fileSlash_sim idna base { v with host := some emptyHost } (C08.file_special hf)]

theorem noScheme_sim (idna : Idna) (base : Option Url) (u : Url) (p : List Nat) :
    isOk (noSchemeState idna base none u p) = noSchemeStateNS idna base p := by
  unfold noSchemeState noSchemeStateNS
  cases base with
  | none => rfl
  | some b =>
    simp only [apply_ite isOk, file_sim, relative_sim]
    -- what is left is the opaque-path base: only a fragment is accepted, on both sides
    congr 1
    split
    · rfl
    · rename_i h
      split
      · exact absurd rfl (h _)
      · rfl

theorem specialRelativeOrAuthority_sim (idna : Idna) (b u : Url) (hsp : u.isSpecial = true)
    (p : List Nat) :
    isOk (specialRelativeOrAuthorityState idna b none u p) =
      match p with
      | 0x2F :: 0x2F :: r => ignoreSlashesStateNS idna true r
      | _ => relativeStateNS idna b p :=
  isOk_slashSlash _ _ _ _ p (fun r => hsp ▸ ignoreSlashes_sim idna u r) (relative_sim idna b u p)

theorem nonSpecialTail_sim (idna : Idna) (u : Url) (hsp : u.isSpecial = false) (p : List Nat) :
    isOk (match p with
          | 0x2F :: r => pathOrAuthorityState idna none u r
          | _ => opaquePathState none { u with hasOpaquePath := true } p) =
      match p with
      | 0x2F :: 0x2F :: r => authorityStateNS idna false r
      | _ => true := by
  unfold pathOrAuthorityState
  -- `//…` goes to the authority on both sides; `/x…` and everything else end in the tail
  symm
  split
  · exact (hsp ▸ authority_sim idna u _).symm
  · rename_i h
    split
    · split
      · exact absurd rfl (h _)
      · exact (isOk_path _ _ _).symm
    · exact (isOk_opaquePath _ _ _).symm

theorem scheme_sim (idna : Idna) (base : Option Url) (u : Url) (p : List Nat) :
    isOk (schemeState idna base none u p) = schemeStateNS idna base p := by
  unfold schemeState schemeStateNS
  cases p with
  | nil => rfl
  | cons c0 r0 =>
    simp only [Option.isSome_none, Option.isNone_none, Bool.false_eq_true, if_false, if_true,
      apply_ite isOk, noScheme_sim, file_sim]
    generalize List.map _ (c0 :: _) = scheme
    generalize List.drop 1 _ = q
    -- same test for "a scheme was read" on both sides; under it, the dispatch on the scheme
    congr 1
    rw [show ({ u with scheme := scheme } : Url).isFile = isFileScheme scheme from rfl,
      show ({ u with scheme := scheme } : Url).isSpecial = isSpecialScheme scheme from rfl]
    by_cases hf : isFileScheme scheme = true
    · rw [if_pos hf, if_pos hf]
    · rw [if_neg hf, if_neg hf]
      by_cases hs : isSpecialScheme scheme = true
      · rw [if_pos hs, if_pos hs]
        cases base with
        | none => exact specialAuthoritySlashes_sim idna { u with scheme := scheme } hs q
        | some b =>
          simp only [apply_ite isOk, specialAuthoritySlashes_sim idna { u with scheme := scheme } hs,
            specialRelativeOrAuthority_sim idna b { u with scheme := scheme } hs]
          rfl
      · rw [if_neg hs, if_neg hs]
        exact nonSpecialTail_sim idna { u with scheme := scheme } (Bool.eq_false_iff.2 hs) q

theorem parse_isSome (idna : Idna) (e : Enc) (units : List Nat) (base : Option Url) :
    (parse idna e units base).isSome = isOk (urlParse idna base none {} (prep e (doTrim units))) := by
  -- both sides are `decide (out = .ok)`
  rw [C08.parse_eq, apply_ite Option.isSome]
  rfl

theorem canParse_eq (idna : Idna) (e : Enc) (units : List Nat) (base : Option Url) :
    canParse idna e units base = (parse idna e units base).isSome := by
  rw [parse_isSome]
  unfold canParse urlParse
  simp only []
  cases prep e (doTrim units) with
  | nil => exact (noScheme_sim idna base _ _).symm
  | cons c r => simp only [Option.isNone_none, if_true, apply_ite isOk, scheme_sim, noScheme_sim]

theorem reparseParams_url (o : UrlObj) : o.reparseParams.url = o.url := by
  unfold UrlObj.reparseParams
  split <;> rfl

theorem objParse_valid (idna : Idna) (o : UrlObj) (e : Enc) (units : List Nat) (base : Option Url) :
    (o.parse idna e units (base.map some)).2 = (parse idna e units base).isSome ∧
    (o.parse idna e units (base.map some)).1.url = parse idna e units base := by
  unfold UrlObj.parse
  cases base with
  | none =>
    simp only [Option.map_none, Option.bind_none]
    cases parse idna e units none with
    | none => exact ⟨rfl, rfl⟩
    | some v => exact ⟨rfl, reparseParams_url _⟩
  | some b =>
    simp only [Option.map_some, Option.bind_some, id]
    cases parse idna e units (some b) with
    | none => exact ⟨rfl, rfl⟩
    | some v => exact ⟨rfl, reparseParams_url _⟩

/-! `can_parse` reads only the scheme and the opaque-path flag of the base
    (what a `need_save() == false` run has written into the base object of the two-string overload
    `can_parse(str_url, str_base)`, url.h:250-256) -/

/-- the part of a base URL that `can_parse` looks at -/
def baseKey (b : Url) : Url := { scheme := b.scheme, hasOpaquePath := b.hasOpaquePath }

theorem relativeNS_baseKey (idna : Idna) (b : Url) (p : List Nat) :
    relativeStateNS idna (baseKey b) p = relativeStateNS idna b p := rfl

theorem noSchemeNS_baseKey (idna : Idna) (b : Url) (p : List Nat) :
    noSchemeStateNS idna (some (baseKey b)) p = noSchemeStateNS idna (some b) p := rfl

theorem schemeNS_baseKey (idna : Idna) (b : Url) (p : List Nat) :
    schemeStateNS idna (some (baseKey b)) p = schemeStateNS idna (some b) p := rfl

theorem canParse_baseKey (idna : Idna) (e : Enc) (units : List Nat) (b : Url) :
    canParse idna e units (some (baseKey b)) = canParse idna e units (some b) := by
  unfold canParse
  simp only [noSchemeNS_baseKey, schemeNS_baseKey]

end Upa.Proofs.C09
