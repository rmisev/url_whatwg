import Upa.Impl.Bounds
import Upa.Proofs.ListScan
/-
  A small Hoare logic for the `R` monad of `Upa/Impl/Bounds.lean`, on which every proof about a bounds-instrumented model
  rests, and the specifications of those functions of that file that need nothing else.
  `r.sat P` : `r` is `.ok v` (none of the four failures) and `P v`.
  The notions every specification is stated with are defined here too: `slice a f l` (the units of `[f, l)` as a list),
  `bytes` (the same through `unsigned char`), `span g i j` (`[g i, …, g (j-1)]`), `FirstAt` (where a scan stops).
  What a walk needs of them: `slice_nil / _cons / _succ / _snoc / _append / _length / _drop`, `mem_slice` (`slice_succ` is
  the one after `++p` in a loop that accumulates); `span_nil / _cons / _snoc / _length`, `mem_span`.
  Between an equation and a `sat`: `R.sat_of_eq_ok` (`r = .ok v` gives `sat True`), `R.sat_of_eq` (gives `sat (· = v)`),
  `R.eq_ok_of_sat` (the converse; an `X_agrees` that is an equation opens with it).

  Every function is walked once, and the theorem that does it is named by what its postcondition promises:
  * `X_spec`   — where the returned pointers lie AND that the value is the list model's on `slice a first last`;
  * `X_agrees` — the value (`X … = .ok (L (slice …))`, or a `sat` whose postcondition is that equation); where the value IS a
                 sub-range (`doTrimB_agrees`, `trimM_agrees`) its bounds stand beside it.  `compareByCodeUnits_bytes` is the
                 agreement on `bytes` for any units, `_agrees` its corollary for `ByteUnits`;
  * `X_eq`     — the result as an equation: a closed form in terms of the units for a block without a loop; for a loop its
                 value in the list model's terms (`dividerLoop_eq`); `X_eq_iter` only exhibits the `iter` inside `X` (by `rfl`);
  * `X_sat`    — that the function does not fail (what C04b–C04e state; `compareByCodeUnits_safe` is one) and, where it
                 returns a pointer, where that lies (`findCh_sat`, `readU8_sat`, `trimM_sat`, …); read off one of the above
                 with `R.sat.left`, `R.sat.true`, `R.sat_of_eq_ok`.  Two `_sat` give the value in closed form instead:
                 `charInSetM_sat`, `cpsetGetM_sat`;
  * `X_if`     — a guarded test in front of its two branches, as a step rule (`peekIsB_if`).
  A function without a loop may also be evaluated instead of walked: its reads rewritten with `rd_ok` under the case at hand
  (`allOf_agrees`, `v6AfterHex_eq`, `uncBadComponent_agrees`).
  Where the code looks at the units as `unsigned char` the list model is applied to `bytes a first last` and the
  specification needs no hypothesis on the units (`readU8_spec`); where only the value depends on the units being bytes
  (`ByteUnits`), that hypothesis stands inside the postcondition (`ipv4ParseNumber_spec`).
-/
namespace Upa.Impl.B

variable (a : Array Nat) (first last : Nat)

def R.sat {α : Type} (r : R α) (P : α → Prop) : Prop := ∃ v, r = .ok v ∧ P v

theorem R.sat_pure {α : Type} {v : α} {P : α → Prop} (h : P v) : (pure v : R α).sat P := ⟨v, rfl, h⟩

theorem R.sat_bind {α β : Type} {x : R α} {f : α → R β} {P : α → Prop} {Q : β → Prop}
    (hx : x.sat P) (hf : ∀ v, P v → (f v).sat Q) : (x >>= f).sat Q := by
  obtain ⟨v, rfl, hv⟩ := hx
  exact hf v hv

theorem R.sat_mono {α : Type} {r : R α} {P Q : α → Prop} (h : r.sat P) (hpq : ∀ v, P v → Q v) : r.sat Q := by
  obtain ⟨v, rfl, hv⟩ := h
  exact ⟨v, rfl, hpq v hv⟩

/-- A specification `r.sat (fun x => Ptr x ∧ (H → Val x))` is used through these. -/
theorem R.sat.left {α : Type} {r : R α} {P Q : α → Prop} (h : r.sat (fun x => P x ∧ Q x)) : r.sat P :=
  R.sat_mono h fun _ h => h.1
theorem R.sat.right {α : Type} {r : R α} {P Q : α → Prop} (h : r.sat (fun x => P x ∧ Q x)) : r.sat Q :=
  R.sat_mono h fun _ h => h.2
theorem R.sat.mp {α : Type} {r : R α} {H : Prop} {Q : α → Prop} (h : r.sat (fun x => H → Q x)) (hH : H) : r.sat Q :=
  R.sat_mono h fun _ h => h hH
theorem R.sat.true {α : Type} {r : R α} {P : α → Prop} (h : r.sat P) : r.sat (fun _ => True) :=
  R.sat_mono h fun _ _ => trivial

theorem R.sat_of_eq_ok {α : Type} {r : R α} {v : α} (h : r = .ok v) : r.sat (fun _ => True) := ⟨v, h, trivial⟩

theorem R.sat_of_eq {α : Type} {r : R α} {v : α} (h : r = .ok v) : r.sat (fun x => x = v) := ⟨v, h, rfl⟩

theorem R.eq_ok_of_sat {α : Type} {r : R α} {x : α} (h : r.sat (fun v => v = x)) : r = .ok x := by
  obtain ⟨v, hv, rfl⟩ := h
  exact hv

theorem R.sat_ne_oob {α : Type} {r : R α} {P : α → Prop} (h : r.sat P) : r ≠ .oob := by
  obtain ⟨v, rfl, _⟩ := h
  intro h; cases h
theorem R.sat_ne_hang {α : Type} {r : R α} {P : α → Prop} (h : r.sat P) : r ≠ .hang := by
  obtain ⟨v, rfl, _⟩ := h
  intro h; cases h
theorem R.sat_ne_abort {α : Type} {r : R α} {P : α → Prop} (h : r.sat P) : r ≠ .abort := by
  obtain ⟨v, rfl, _⟩ := h
  intro h; cases h
theorem R.sat_ne_badptr {α : Type} {r : R α} {P : α → Prop} (h : r.sat P) : r ≠ .badptr := by
  obtain ⟨v, rfl, _⟩ := h
  intro h; cases h

-- two spellings of one step: `simp` / `rw` match the left side syntactically, and programs hold both `.ok v` and `pure v`
@[simp] theorem R.ok_bind {α β : Type} (v : α) (f : α → R β) : (R.ok v >>= f) = f v := rfl
@[simp] theorem R.pure_bind' {α β : Type} (v : α) (f : α → R β) : ((pure v : R α) >>= f) = f v := rfl
theorem R.pure_eq {α : Type} (v : α) : (pure v : R α) = .ok v := rfl

theorem rd_ok {a : Array Nat} {first last i : Nat} (h1 : first ≤ i) (h2 : i < last) (h3 : last ≤ a.size) :
    rd a first last i = .ok a[i]! := by
  unfold rd; rw [if_pos]; omega

theorem rdPrev_ok {a : Array Nat} {first last p : Nat} (h1 : first < p) (h2 : p ≤ last) (h3 : last ≤ a.size) :
    rdPrev a first last p = .ok a[p - 1]! := by
  unfold rdPrev; rw [if_pos]; omega

theorem sub_ok {first last p e : Nat} (h1 : first ≤ p) (h2 : p ≤ e) (h3 : e ≤ last) :
    sub first last p e = .ok () := by
  unfold sub; rw [if_pos]; omega

theorem idx_ok {n i : Nat} (h : i < n) : idx n i = .ok () := by
  unfold idx; rw [if_pos h]

theorem mkptr_ok {first last p : Nat} (h1 : first ≤ p) (h2 : p ≤ last) : mkptr first last p = .ok p := by
  unfold mkptr; rw [if_pos ⟨h1, h2⟩]

theorem mkptrSub_ok {first last p k : Nat} (h1 : first + k ≤ p) (h2 : p - k ≤ last) :
    mkptrSub first last p k = .ok (p - k) := by
  unfold mkptrSub; rw [if_pos ⟨h1, h2⟩]

/-! A proof about a function of `Impl/Bounds.lean` walks down its body with the rules below: each consumes the
instruction at the head of the program (the `bind` or the `if` the goal starts with) and unifies with nothing else. -/

theorem R.sat_bind_ok {α β : Type} {x : R α} {v : α} {f : α → R β} {Q : β → Prop}
    (hx : x = .ok v) (hf : (f v).sat Q) : (x >>= f).sat Q := by
  rw [hx]; exact hf

/-- The same rule for each checked access. Its bounds are linear arithmetic over the hypotheses at hand:
    `omega` finds them unless they are given. -/
theorem R.sat_read {α : Type} {a : Array Nat} {f l i : Nat} {k : Nat → R α} {Q : α → Prop} (hl : l ≤ a.size)
    (hk : (k a[i]!).sat Q) (h1 : f ≤ i := by omega) (h2 : i < l := by omega) : (rd a f l i >>= k).sat Q :=
  R.sat_bind_ok (rd_ok h1 h2 hl) hk

theorem R.sat_readPrev {α : Type} {a : Array Nat} {f l p : Nat} {k : Nat → R α} {Q : α → Prop} (hl : l ≤ a.size)
    (hk : (k a[p - 1]!).sat Q) (h1 : f < p := by omega) (h2 : p ≤ l := by omega) : (rdPrev a f l p >>= k).sat Q :=
  R.sat_bind_ok (rdPrev_ok h1 h2 hl) hk

theorem R.sat_ptr {α : Type} {f l p : Nat} {k : Nat → R α} {Q : α → Prop}
    (hk : (k p).sat Q) (h1 : f ≤ p := by omega) (h2 : p ≤ l := by omega) : (mkptr f l p >>= k).sat Q :=
  R.sat_bind_ok (mkptr_ok h1 h2) hk

theorem R.sat_ptrSub {α : Type} {f l p n : Nat} {k : Nat → R α} {Q : α → Prop}
    (hk : (k (p - n)).sat Q) (h1 : f + n ≤ p := by omega) (h2 : p - n ≤ l := by omega) :
    (mkptrSub f l p n >>= k).sat Q :=
  R.sat_bind_ok (mkptrSub_ok h1 h2) hk

theorem R.sat_range {α : Type} {f l p e : Nat} {k : Unit → R α} {Q : α → Prop} (hk : (k ()).sat Q)
    (h1 : f ≤ p := by omega) (h2 : p ≤ e := by omega) (h3 : e ≤ l := by omega) : (sub f l p e >>= k).sat Q :=
  R.sat_bind_ok (sub_ok h1 h2 h3) hk

theorem R.sat_if {α : Type} {c : Prop} [Decidable c] {x y : R α} {Q : α → Prop}
    (h1 : c → x.sat Q) (h2 : ¬ c → y.sat Q) : (if c then x else y).sat Q := by
  split
  · exact h1 ‹c›
  · exact h2 ‹¬ c›

theorem R.sat_if' {β : Type} {Q : β → Prop} {c : Prop} [Decidable c] {x y : R β} (hx : x.sat Q) (hy : y.sat Q) :
    (if c then x else y).sat Q :=
  R.sat_if (fun _ => hx) (fun _ => hy)

/-- The program and what the list model has still to compute, `hT : (if c then u else v) = w`, branch on the same
    test: each branch of the program is walked with the model's. -/
theorem R.sat_if_eq {α γ : Type} {c : Prop} {d d' : Decidable c} {x y : R α} {Q : α → Prop} {u v w : γ}
    (hT : @ite γ c d' u v = w) (h1 : c → u = w → x.sat Q) (h2 : ¬ c → v = w → y.sat Q) :
    (@ite (R α) c d x y).sat Q := by
  by_cases h : c
  · rw [if_pos h] at hT ⊢
    exact h1 h hT
  · rw [if_neg h] at hT ⊢
    exact h2 h hT

theorem sat_rd {a : Array Nat} {first last i : Nat} (h1 : first ≤ i) (h2 : i < last) (h3 : last ≤ a.size) :
    (rd a first last i).sat (fun v => v = a[i]!) := ⟨_, rd_ok h1 h2 h3, rfl⟩

theorem Loc.rd_ok {l : Loc} {i : Nat} (h : i < l.size) : l.rd i = .ok (l.get i) := by
  unfold Loc.rd; rw [if_pos h]

/-- the local array after `name[i] = v` (what `Loc.wr` returns in range) -/
abbrev Loc.put (l : Loc) (i v : Nat) : Loc := ⟨l.size, fun j => if j = i then v else l.get j⟩

theorem Loc.wr_ok {l : Loc} {i v : Nat} (h : i < l.size) : l.wr i v = .ok (l.put i v) := by
  unfold Loc.wr; rw [if_pos h]

theorem Loc.get_wr_eq (l : Loc) (i v : Nat) : (l.put i v).get i = v := if_pos rfl

theorem Loc.get_wr_ne (l : Loc) {i k : Nat} (v : Nat) (h : k ≠ i) : (l.put i v).get k = l.get k := if_neg h

theorem Loc.toList_length (l : Loc) : l.toList.length = l.size := by simp [Loc.toList]

theorem Loc.toList_wr (l : Loc) (i v : Nat) : (l.put i v).toList = l.toList.set i v := by
  apply List.ext_getElem
  · simp [Loc.toList]
  · intro n h1 h2
    simp only [Loc.toList, List.getElem_map, List.getElem_range, List.getElem_set]
    by_cases hn : n = i
    · subst hn; simp
    · rw [if_neg hn, if_neg (fun hh => hn hh.symm)]

theorem Loc.toList_getD (l : Loc) (i : Nat) (h : i < l.size) : l.toList.getD i 0 = l.get i := by
  simp [Loc.toList, List.getD_eq_getElem?_getD, h]

/-- the postcondition `iter_sat` asks of one run of the loop body from state `s`, under a name: for a block of a loop
    body that is proved on its own (`FormInv.push_sat`, `BoundsDoParse.lean`).  `iter_sat` itself writes the `match`
    out, since `omega` at its users has to see `μ s' < μ s` -/
abbrev StepPost {σ β : Type} (I : σ → Prop) (μ : σ → Nat) (Q : β → Prop) (s : σ) : σ ⊕ β → Prop :=
  fun r => match r with
    | .inl s' => I s' ∧ μ s' < μ s
    | .inr b => Q b

theorem iter_sat {σ β : Type} (step : σ → R (σ ⊕ β)) (I : σ → Prop) (μ : σ → Nat) (Q : β → Prop)
    (h : ∀ s, I s → (step s).sat (fun r => match r with
                                   | .inl s' => I s' ∧ μ s' < μ s
                                   | .inr b => Q b)) :
    ∀ fuel s, I s → μ s < fuel → (iter step fuel s).sat Q := by
  intro fuel
  induction fuel with
  | zero => intro s _ hm; omega
  | succ n ih =>
    intro s hI hm
    obtain ⟨r, hr, hp⟩ := h s hI
    cases r with
    | inl s' =>
      simp only [iter, hr]
      exact ih s' hp.1 (by have := hp.2; omega)
    | inr b =>
      simp only [iter, hr]
      exact ⟨b, rfl, hp⟩

/-- `iter_sat` for a forward scan: `ptr s` moves forward inside `[first, last]` in every round, which is the measure;
    `A` is what the loop knows besides `first ≤ ptr s ≤ last`.  `first last` are the LOOP's bounds (where `ptr` starts and
    where it must stop), not necessarily the range `rd` checks: a loop entered at `p0` takes `first := p0`.

    A call reads `refine scan_sat _ ptr first last A _ ?_ _ _ h1 h2 hA hf`: `step`, `Q`, `fuel`, `s` come from the goal, `?_`
    is the loop body.  Named arguments work as well: `scan_sat (ptr := (·.1)) (first := p0) (last := last) (A := …) (h := ?_) …`.
    Spell `ptr` and `A` (for `iter_sat`: `I`, `μ`) with projections, `fun s => s.2 = … s.1 …`.  With `fun (p, n) => …` the
    hypotheses and the goal of the body arrive as a `match`, and `rw` finds no pattern before a `dsimp only`.

    THE LIST MODEL'S OWN FUEL.  Some list models are themselves loops with fuel (`Impl.X F l …`: `v6MainLoop`,
    `v6V4Loop`, `isUncPathAux`, `compareByCodeUnitsAux`, `ipv6SerLoop`).  The invariant of the instrumented loop (under this
    rule or under `iter_sat`) then reads `∃ f, last - ptr s < f ∧ Impl.X f (slice a (ptr s) last) … = Impl.X F (slice a p0 last) …`: what the list model has
    still to compute from here, with SOME fuel that exceeds what is left of the input, is what it computes from the
    start `p0` with the fuel `F` of the statement.  The fuel is existential because one round of the list model turns
    `f + 1` into `f` and nothing else is known about it; each round opens with `obtain ⟨f0, rfl⟩ : ∃ f0, f = f0 + 1`
    (possible since `f > last - ptr s ≥ 0`), rewrites with the defining equation of `Impl.X (f0 + 1)`, and hands `f0` on.
    So only the defining equation of the list model is used, never a lemma about how its result depends on the fuel. -/
theorem scan_sat {σ β : Type} (step : σ → R (σ ⊕ β)) (ptr : σ → Nat) (first last : Nat) (A : σ → Prop) (Q : β → Prop)
    (h : ∀ s, first ≤ ptr s → ptr s ≤ last → A s → (step s).sat (fun r => match r with
        | .inl s' => ptr s < ptr s' ∧ ptr s' ≤ last ∧ A s'
        | .inr b => Q b))
    (fuel : Nat) (s : σ) (h1 : first ≤ ptr s) (h2 : ptr s ≤ last) (hA : A s) (hf : last - ptr s < fuel) :
    (iter step fuel s).sat Q :=
  iter_sat step (fun s => first ≤ ptr s ∧ ptr s ≤ last ∧ A s) (fun s => last - ptr s) Q
    (fun s ⟨a1, a2, a3⟩ => R.sat_mono (h s a1 a2 a3) fun r hr => by
      cases r with
      | inl s' =>
        exact ⟨⟨Nat.le_trans a1 (Nat.le_of_lt hr.1), hr.2.1, hr.2.2⟩,
          Nat.sub_lt_sub_left (Nat.lt_of_lt_of_le hr.1 hr.2.1) hr.1⟩
      | inr b => exact hr) fuel s ⟨h1, h2, hA⟩ hf

/-- `g i, …, g (j-1)`.  The units of a range (`slice_eq_span`), the cells of a local array and of an output buffer are
    such lists; what holds of all of them is said here once. -/
def span {α : Type} (g : Nat → α) (i j : Nat) : List α := (List.range' i (j - i)).map g

theorem span_nil {α : Type} (g : Nat → α) (i j : Nat) (h : j ≤ i) : span g i j = [] := by
  rw [span, Nat.sub_eq_zero_of_le h]; rfl

theorem span_cons {α : Type} (g : Nat → α) (i j : Nat) (h : i < j) : span g i j = g i :: span g (i + 1) j := by
  rw [span, show j - i = (j - (i + 1)) + 1 by omega]; rfl

theorem span_length {α : Type} (g : Nat → α) (i j : Nat) : (span g i j).length = j - i := by simp [span]

theorem mem_span {α : Type} {g : Nat → α} {i j : Nat} {x : α} : x ∈ span g i j ↔ ∃ k, i ≤ k ∧ k < j ∧ x = g k := by
  simp only [span, List.mem_map, List.mem_range'_1]
  exact ⟨fun ⟨k, ⟨h1, h2⟩, e⟩ => ⟨k, h1, by omega, e.symm⟩, fun ⟨k, h1, h2, e⟩ => ⟨k, ⟨h1, by omega⟩, e.symm⟩⟩

theorem span_zero {α : Type} (g : Nat → α) (j : Nat) : span g 0 j = (List.range j).map g := by
  rw [span, List.range_eq_range']; rfl

theorem span_snoc {α : Type} (g : Nat → α) (j : Nat) : span g 0 (j + 1) = span g 0 j ++ [g j] := by
  rw [span_zero, span_zero, List.range_succ, List.map_append]; rfl

theorem span_congr {α : Type} (g g' : Nat → α) (i j : Nat) (h : ∀ t, i ≤ t → t < j → g t = g' t) :
    span g i j = span g' i j :=
  List.map_congr_left fun t ht => h t (List.mem_range'_1.1 ht).1 (by have := List.mem_range'_1.1 ht; omega)

theorem span_eq_map_range {α : Type} (g : Nat → α) (i j : Nat) :
    span g i j = (List.range (j - i)).map (fun t => g (i + t)) := by
  rw [span, List.range'_eq_map_range, List.map_map]; rfl

theorem span_write {α : Type} (g : Nat → α) (i j : Nat) (v : α) (h : i < j) :
    span (fun t => if t = i then v else g t) i j = v :: span g (i + 1) j := by
  rw [span_cons _ i j h, if_pos rfl]
  exact congrArg (v :: ·) (span_congr _ _ _ _ fun t ht _ => if_neg (by omega))

/-- the list the un-instrumented models work on -/
def slice (a : Array Nat) (first last : Nat) : List Nat := (a.extract first last).toList

-- `slice_nil`, `slice_eq_span`, `slice_cons`, `slice_length` take `a first last` explicitly and first (the `variable` at the
-- head of the file), as the lemmas after them do: `slice_cons a p last h hl`
theorem slice_nil (h : last ≤ first) : slice a first last = [] := by
  simp [slice]
  omega

theorem slice_eq_span (hl : last ≤ a.size) : slice a first last = span (fun i => a[i]!) first last := by
  apply List.ext_getElem
  · simp [slice, span]; omega
  · intro n h1 h2
    simp only [slice, Array.length_toList, Array.size_extract] at h1
    simp [slice, span, getElem!_pos a (first + n) (by omega)]

theorem slice_cons (h : first < last) (hl : last ≤ a.size) :
    slice a first last = a[first]! :: slice a (first + 1) last := by
  rw [slice_eq_span a first last hl, slice_eq_span a (first + 1) last hl, span_cons _ _ _ h]

theorem slice_length (hl : last ≤ a.size) :
    (slice a first last).length = last - first := by
  simp [slice]; omega

theorem slice_eq_nil_iff (a : Array Nat) (p q : Nat) (hl : q ≤ a.size) : slice a p q = [] ↔ q ≤ p := by
  constructor
  · intro he
    have := slice_length a p q hl
    rw [he] at this
    simp at this
    omega
  · intro h; exact slice_nil a p q h

theorem slice_eq_nil (a : Array Nat) (p last : Nat) (h : p ≤ last) (hl : last ≤ a.size) :
    slice a p last = [] ↔ p = last :=
  (slice_eq_nil_iff a p last hl).trans ⟨Nat.le_antisymm h, fun e => Nat.le_of_eq e.symm⟩

/-- a range of known length, unit by unit: with `h : last - first = 4` the right side evaluates to
    `[a[first]!, a[first + 1]!, a[first + 1 + 1]!, a[first + 1 + 1 + 1]!]` -/
theorem slice_eq_map_range (a : Array Nat) (last : Nat) (hl : last ≤ a.size) (n first : Nat) (h : last - first = n) :
    slice a first last = (List.range' first n).map (fun i => a[i]!) := by
  rw [slice_eq_span a first last hl, span, h]

theorem mem_slice (a : Array Nat) (p last x : Nat) (hl : last ≤ a.size) (hx : x ∈ slice a p last) :
    ∃ i, p ≤ i ∧ i < last ∧ x = a[i]! :=
  mem_span.1 (slice_eq_span a p last hl ▸ hx)

theorem slice_append (a : Array Nat) (first mid last : Nat) (h1 : first ≤ mid) (h2 : mid ≤ last) :
    slice a first mid ++ slice a mid last = slice a first last := by
  unfold slice
  rw [← Array.toList_append, Array.extract_append_extract, Nat.min_eq_left h1, Nat.max_eq_right h2]

theorem slice_snoc (a : Array Nat) (first last : Nat) (h : first < last) (hl : last ≤ a.size) :
    slice a first last = slice a first (last - 1) ++ [a[last - 1]!] := by
  have hpos : last - 1 + 1 = last := Nat.sub_add_cancel (Nat.lt_of_le_of_lt (Nat.zero_le _) h)
  have hlt : last - 1 < last := Nat.sub_lt (Nat.lt_of_le_of_lt (Nat.zero_le _) h) Nat.one_pos
  rw [← slice_append a first (last - 1) last (Nat.le_sub_one_of_lt h) (Nat.le_of_lt hlt),
    slice_cons a (last - 1) last hlt hl, slice_nil a (last - 1 + 1) last (Nat.le_of_eq hpos.symm)]

theorem slice_succ (a : Array Nat) (first p : Nat) (h : first ≤ p) (hl : p < a.size) :
    slice a first (p + 1) = slice a first p ++ [a[p]!] :=
  slice_snoc a first (p + 1) (Nat.lt_succ_of_le h) hl

theorem slice_drop (a : Array Nat) (last : Nat) (hl : last ≤ a.size) :
    ∀ k p, p + k ≤ last → (slice a p last).drop k = slice a (p + k) last := by
  intro k p h
  rw [← slice_append a p (p + k) last (Nat.le_add_right p k) h,
    List.drop_left' ((slice_length a p (p + k) (Nat.le_trans h hl)).trans (Nat.add_sub_cancel_left p k))]

theorem slice_scan (g : Nat → Bool) (a : Array Nat) (p q last : Nat) (h1 : p ≤ q) (h2 : q ≤ last) (hl : last ≤ a.size)
    (hpass : ∀ i, p ≤ i → i < q → g a[i]! = true) (hstop : q < last → g a[q]! = false) :
    (slice a p last).takeWhile g = slice a p q ∧ (slice a p last).dropWhile g = slice a q last := by
  rw [← slice_append a p q last h1 h2]
  refine scan_append (fun c hc => ?_) (fun c hc => ?_)
  · obtain ⟨i, hi1, hi2, rfl⟩ := mem_slice a p q c (Nat.le_trans h2 hl) hc
    exact hpass i hi1 hi2
  · rcases Nat.lt_or_ge q last with hq | hq
    · rw [slice_cons a q last hq hl] at hc
      cases hc
      exact hstop hq
    · rw [slice_nil a q last hq] at hc
      cases hc

theorem slice_mem_of_idx (a : Array Nat) (first last i : Nat) (h1 : first ≤ i) (h2 : i < last) (hl : last ≤ a.size) :
    a[i]! ∈ slice a first last :=
  slice_eq_span a first last hl ▸ mem_span.2 ⟨i, h1, h2, rfl⟩

theorem slice_sub_subset (a : Array Nat) (first p q last : Nat) (h1 : first ≤ p) (h3 : q ≤ last)
    (hl : last ≤ a.size) : ∀ x ∈ slice a p q, x ∈ slice a first last := by
  intro x hx
  obtain ⟨i, hi1, hi2, rfl⟩ := mem_slice a p q x (Nat.le_trans h3 hl) hx
  exact slice_mem_of_idx a first last i (Nat.le_trans h1 hi1) (Nat.lt_of_lt_of_le hi2 h3) hl

theorem slice_subset (a : Array Nat) (first p last : Nat) (h1 : first ≤ p) (hl : last ≤ a.size) :
    ∀ x ∈ slice a p last, x ∈ slice a first last :=
  slice_sub_subset a first p last last h1 (Nat.le_refl _) hl

theorem slice_sub_toList (a : Array Nat) (p q x : Nat) (hx : x ∈ slice a p q) : x ∈ a.toList := by
  simp only [slice, Array.toList_extract, List.extract_eq_take_drop] at hx
  exact List.mem_of_mem_drop (List.mem_of_mem_take hx)

theorem slice_ne_nil (a : Array Nat) (p q : Nat) (h : p < q) (hq : q ≤ a.size) : slice a p q ≠ [] := by
  rw [slice_cons a p q h hq]; exact List.cons_ne_nil _ _

theorem slice_ofList (l : List Nat) : slice l.toArray 0 l.length = l := by
  simp [slice]

theorem findCh_spec (ch : Nat) (hl : last ≤ a.size) :
    ∀ n p, first ≤ p → p + n ≤ last →
      (findCh a first last ch n p).sat (fun r => match r with
        | none => ∀ i, p ≤ i → i < p + n → a[i]! ≠ ch
        | some q => p ≤ q ∧ q < p + n ∧ a[q]! = ch ∧ ∀ i, p ≤ i → i < q → a[i]! ≠ ch) := by
  intro n
  induction n with
  | zero => intro p _ _; exact R.sat_pure (by intro i h1 h2; omega)
  | succ n ih =>
    intro p h1 h2
    simp only [findCh, rd_ok h1 (by omega : p < last) hl, R.ok_bind]
    split
    · rename_i hc
      exact R.sat_pure ⟨Nat.le_refl _, by omega, hc, by intro i h1 h2; omega⟩
    · rename_i hc
      refine R.sat_mono (ih (p + 1) (by omega) (by omega)) ?_
      intro r hr
      cases r with
      | none =>
        intro i hi1 hi2
        by_cases hip : i = p
        · subst hip; exact hc
        · exact hr i (by omega) (by omega)
      | some q =>
        obtain ⟨q1, q2, q3, q4⟩ := hr
        refine ⟨by omega, by omega, q3, ?_⟩
        intro i hi1 hi2
        by_cases hip : i = p
        · subst hip; exact hc
        · exact q4 i (by omega) hi2

theorem findCh_sat (ch : Nat) (hl : last ≤ a.size) :
    ∀ n p, first ≤ p → p + n ≤ last →
      (findCh a first last ch n p).sat (fun r => ∀ q, r = some q → p ≤ q ∧ q < p + n) := by
  intro n p h1 h2
  refine R.sat_mono (findCh_spec a first last ch hl n p h1 h2) fun r hr q hq => ?_
  subst hq
  exact ⟨hr.1, hr.2.1⟩

/-- `q` is where `std::find_if(p, e, pred)` stops: the first unit of `[p, e)` with `pred`, else `e` -/
def FirstAt (a : Array Nat) (pred : Nat → Bool) (p e q : Nat) : Prop :=
  p ≤ q ∧ q ≤ e ∧ (∀ i, p ≤ i → i < q → pred a[i]! = false) ∧ (q < e → pred a[q]! = true)

theorem findIf_spec (pred : Nat → Bool) (hl : last ≤ a.size) :
    ∀ n p, first ≤ p → p + n ≤ last → (findIf a first last pred n p).sat (FirstAt a pred p (p + n)) := by
  intro n
  induction n with
  | zero => intro p _ _; exact R.sat_pure ⟨Nat.le_refl _, Nat.le_refl _, by intro i h1 h2; omega, by intro h; omega⟩
  | succ n ih =>
    intro p h1 h2
    refine R.sat_read hl (R.sat_if (fun hc => ?_) (fun hc => ?_))
    · exact R.sat_pure ⟨Nat.le_refl _, by omega, by intro i h1 h2; omega, fun _ => hc⟩
    · refine R.sat_mono (ih (p + 1) (by omega) (by omega)) ?_
      intro q ⟨q1, q2, q3, q4⟩
      refine ⟨by omega, by omega, fun i hi1 hi2 => ?_, fun h => q4 (by omega)⟩
      by_cases hip : i = p
      · subst hip; simpa using hc
      · exact q3 i (by omega) hi2

/-- `std::find_if(p, last, pred)` -/
theorem findIf_toLast (pred : Nat → Bool) (hl : last ≤ a.size) (p : Nat) (h1 : first ≤ p) (h2 : p ≤ last) :
    (findIf a first last pred (last - p) p).sat (FirstAt a pred p last) := by
  have := findIf_spec a first last pred hl (last - p) p h1 (by omega)
  rwa [show p + (last - p) = last by omega] at this

theorem FirstAt.slice {a : Array Nat} {pred : Nat → Bool} {p e q : Nat} (h : FirstAt a pred p e q) (he : e ≤ a.size) :
    (slice a p e).takeWhile (fun x => !pred x) = slice a p q ∧
      (slice a p e).dropWhile (fun x => !pred x) = slice a q e :=
  slice_scan _ a p q e h.1 h.2.1 he (fun i h1 h2 => by rw [h.2.2.1 i h1 h2]; rfl) (fun hq => by rw [h.2.2.2 hq]; rfl)

theorem findIf_sat (pred : Nat → Bool) (hl : last ≤ a.size) :
    ∀ n p, first ≤ p → p + n ≤ last →
      (findIf a first last pred n p).sat (fun q => p ≤ q ∧ q ≤ p + n) :=
  fun n p h1 h2 => R.sat_mono (findIf_spec a first last pred hl n p h1 h2) fun _ h => ⟨h.1, h.2.1⟩

theorem allOf_agrees (a : Array Nat) (first last : Nat) (pred : Nat → Bool) (hl : last ≤ a.size) (e : Nat)
    (he : e ≤ last) :
    ∀ n p, first ≤ p → p + n = e → allOf a first last pred n p = .ok ((slice a p e).all pred) := by
  intro n
  induction n with
  | zero =>
    intro p _ h
    rw [slice_nil a p e (Nat.le_of_eq h.symm)]
    rfl
  | succ n ih =>
    intro p h1 h2
    have hpe : p < e := h2 ▸ Nat.lt_add_of_pos_right (Nat.succ_pos n)
    rw [slice_cons a p e hpe (Nat.le_trans he hl), List.all_cons, allOf, rd_ok h1 (Nat.lt_of_lt_of_le hpe he) hl,
      R.ok_bind]
    cases pred a[p]!
    · rfl
    · exact ih (p + 1) (Nat.le_succ_of_le h1) ((Nat.add_right_comm p 1 n).trans h2)

/-- what every `read_code_point` overload guarantees: it succeeds in range and advances the pointer
    by at least one unit without passing `last` -/
def ReadPost (first last : Nat) (r : Bool × Nat × Nat) : Prop := first < r.2.2 ∧ r.2.2 ≤ last

theorem and80_iff : ∀ b, b < 256 → ((b &&& 0x80 = 0) ↔ b < 0x80) := by decide +kernel

/-- the units of `[p, l)` as `unsigned char`: what `read_code_point(const char*&, …)` sees of them -/
def bytes (a : Array Nat) (p l : Nat) : List Nat := (slice a p l).map (· % 256)

theorem bytes_nil (a : Array Nat) (p l : Nat) (h : l ≤ p) : bytes a p l = [] := by
  rw [bytes, slice_nil a p l h]; rfl

theorem bytes_cons (a : Array Nat) (p l : Nat) (h : p < l) (hl : l ≤ a.size) :
    bytes a p l = a[p]! % 256 :: bytes a (p + 1) l := by
  rw [bytes, slice_cons a p l h hl]; rfl

theorem bytes_length (a : Array Nat) (p l : Nat) (hl : l ≤ a.size) : (bytes a p l).length = l - p := by
  rw [bytes, List.length_map, slice_length a p l hl]

/-- the units of `[p, l)` fit `unsigned char` (on lists: `UOk .u8 (slice a p l)`, `Proofs/AsciiHom.lean`) -/
abbrev ByteUnits (a : Array Nat) (p l : Nat) : Prop := ∀ i, p ≤ i → i < l → a[i]! < 256

theorem bytes_eq_slice (a : Array Nat) (p l : Nat) (hl : l ≤ a.size) (hb : ByteUnits a p l) :
    bytes a p l = slice a p l := by
  rw [bytes, List.map_congr_left (g := id), List.map_id]
  intro x hx
  obtain ⟨i, h1, h2, rfl⟩ := mem_slice a p l x hl hx
  exact Nat.mod_eq_of_lt (hb i h1 h2)

/-- from the list form: `h` is `UOk .u8 (slice a p l)` unfolded -/
theorem ByteUnits.of_slice {a : Array Nat} {p l : Nat} (hl : l ≤ a.size) (h : ∀ x ∈ slice a p l, x < 256) :
    ByteUnits a p l :=
  fun i h1 h2 => h _ (slice_mem_of_idx a p l i h1 h2 hl)

theorem ReadPost.intro {f l p c : Nat} {ok : Bool} (h1 : f < p := by omega) (h2 : p ≤ l := by omega) :
    ReadPost f l (ok, c, p) := ⟨h1, h2⟩

theorem u8LastTrail_spec (p c f0 : Nat) (hl : last ≤ a.size)
    (h1 : first ≤ p) (h2 : p < last) (h0 : f0 < p) :
    (u8LastTrail a first last p c).sat (fun r => ReadPost f0 last r ∧
      (if Impl.subByte80 (a[p]! % 256) ≤ 0x3F
        then (true, (c <<< 6) ||| Impl.subByte80 (a[p]! % 256), bytes a (p + 1) last)
        else (false, 0xFFFD, a[p]! % 256 :: bytes a (p + 1) last)) = (r.1, r.2.1, bytes a r.2.2 last)) := by
  unfold u8LastTrail
  refine R.sat_read hl ?_
  refine R.sat_if (c := Impl.subByte80 (a[p]! % 256) ≤ 0x3F) (fun hc => ?_) (fun hc => ?_)
  · refine R.sat_ptr ?_
    exact R.sat_pure ⟨ReadPost.intro, if_pos hc⟩
  · exact R.sat_pure ⟨ReadPost.intro, by simp only [if_neg hc, bytes_cons a p last h2 hl]⟩

/-- `L` is what the list model has still to compute when the instrumented code enters the block: its
    `match` on the rest of the input is given by its two cases -/
theorem u8SecondToLast_spec (p c tmp f0 : Nat) (L : Bool × Nat × List Nat)
    (hl : last ≤ a.size) (h1 : first ≤ p) (h2 : p < last) (h0 : f0 < p)
    (hnil : p + 1 = last → L = (false, 0xFFFD, []))
    (hcons : p + 1 < last → L =
      if Impl.subByte80 (a[p + 1]! % 256) ≤ 0x3F
        then (true, (((c <<< 6) ||| tmp) <<< 6) ||| Impl.subByte80 (a[p + 1]! % 256), bytes a (p + 1 + 1) last)
        else (false, 0xFFFD, a[p + 1]! % 256 :: bytes a (p + 1 + 1) last)) :
    (u8SecondToLast a first last p c tmp).sat (fun r => ReadPost f0 last r ∧ L = (r.1, r.2.1, bytes a r.2.2 last)) := by
  unfold u8SecondToLast
  refine R.sat_ptr ?_
  refine R.sat_if (fun hne => ?_) (fun he => ?_)
  · rw [hcons (by omega)]
    exact u8LastTrail_spec a first last (p + 1) _ f0 hl (by omega) (by omega) (by omega)
  · have he' : p + 1 = last := Decidable.of_not_not he
    exact R.sat_pure ⟨ReadPost.intro, by rw [hnil he', bytes_nil a (p + 1) last (by omega)]⟩

theorem readU8_spec (h : first < last) (hl : last ≤ a.size) :
    (readU8 a first last).sat (fun r => ReadPost first last r ∧
      Impl.readU8 (bytes a first last) = (r.1, r.2.1, bytes a r.2.2 last)) := by
  -- `L` is the list model's result; `hL` unfolds it in step with the code, branch by branch
  generalize hL : Impl.readU8 (bytes a first last) = L
  rw [bytes_cons a first last h hl, Impl.readU8.eq_def] at hL
  simp -zeta only [] at hL
  have hand := and80_iff (a[first]! % 256) (Nat.mod_lt _ (by decide))
  unfold readU8
  refine R.sat_read hl ?_
  refine R.sat_ptr ?_
  refine R.sat_if (fun hc => R.sat_pure ⟨ReadPost.intro, ((if_pos (hand.1 hc)).symm.trans hL).symm⟩) (fun hc => ?_)
  rw [if_neg (mt hand.2 hc)] at hL
  refine R.sat_if (fun he => ?_) (fun hne => ?_)
  · rw [bytes_nil a (first + 1) last (by omega)] at hL
    exact R.sat_pure ⟨ReadPost.intro, by rw [bytes_nil a (first + 1) last (by omega)]; exact hL.symm⟩
  have hp1 : first + 1 < last := by omega
  rw [bytes_cons a (first + 1) last hp1 hl] at hL
  simp -zeta only [] at hL
  -- a failure after the lead byte leaves the pointer behind it
  have hfail : (false, 0xFFFD, a[first + 1]! % 256 :: bytes a (first + 1 + 1) last) = L →
      (pure (false, 0xFFFD, first + 1) : R (Bool × Nat × Nat)).sat (fun r => ReadPost first last r ∧
        L = (r.1, r.2.1, bytes a r.2.2 last)) := fun e =>
    R.sat_pure ⟨ReadPost.intro, by rw [← e, bytes_cons a (first + 1) last hp1 hl]⟩
  have hb1 := rd_ok (a := a) (by omega : first ≤ first + 1) hp1 hl
  refine R.sat_if_eq hL (fun hE0 hL => ?_) (fun hE0 hL => ?_)
  · refine R.sat_if_eq hL (fun hF0 hL => ?_) (fun hF0 hL => ?_)
    · refine R.sat_bind_ok (idx_ok (Nat.lt_succ_of_le Nat.and_le_right)) ?_
      refine R.sat_bind_ok hb1 ?_
      refine R.sat_if_eq hL (fun ht hL => ?_) (fun ht hL => hfail hL)
      exact u8SecondToLast_spec a first last (first + 1) _ _ first L hl (by omega) hp1 (by omega)
        (fun e => by rw [bytes_nil a _ last (by omega)] at hL; exact hL.symm)
        (fun e => by rw [bytes_cons a _ last e hl] at hL; exact hL.symm)
    · refine R.sat_if (fun h4 => ?_) (fun h4 => ?_)
      · refine R.sat_bind_ok hb1 ?_
        refine R.sat_bind_ok (idx_ok (by rw [Nat.shiftRight_eq_div_pow]; omega)) ?_
        refine R.sat_if (fun ht => ?_) (fun ht => ?_)
        · rw [if_pos ⟨h4, ht⟩] at hL
          refine R.sat_ptr ?_
          refine R.sat_if (fun hne => ?_) (fun he => ?_)
          · have hp2 : first + 1 + 1 < last := by omega
            rw [bytes_cons a _ last hp2 hl] at hL
            refine R.sat_read hl ?_
            refine R.sat_if_eq (c := Impl.subByte80 (a[first + 1 + 1]! % 256) ≤ 0x3F) hL (fun ht2 hL => ?_)
              (fun ht2 hL => ?_)
            · exact u8SecondToLast_spec a first last (first + 1 + 1) _ _ first L hl (by omega) hp2 (by omega)
                (fun e => by rw [bytes_nil a _ last (by omega)] at hL; exact hL.symm)
                (fun e => by rw [bytes_cons a _ last e hl] at hL; exact hL.symm)
            · exact R.sat_pure ⟨ReadPost.intro, by rw [bytes_cons a (first + 1 + 1) last hp2 hl]; exact hL.symm⟩
          · have he' : first + 1 + 1 = last := Decidable.of_not_not he
            rw [bytes_nil a _ last (by omega)] at hL
            exact R.sat_pure ⟨ReadPost.intro, by rw [bytes_nil a (first + 1 + 1) last (by omega)]; exact hL.symm⟩
        · rw [if_neg (fun hh => ht hh.2)] at hL
          exact hfail hL
      · rw [if_neg (fun hh => h4 hh.1)] at hL
        exact hfail hL
  · refine R.sat_if_eq hL (fun hC2 hL => ?_) (fun hC2 hL => hfail hL)
    rw [← hL]
    exact u8LastTrail_spec a first last (first + 1) _ first hl (by omega) hp1 (by omega)

theorem readU8_sat (h : first < last) (hl : last ≤ a.size) :
    (readU8 a first last).sat (ReadPost first last) :=
  (readU8_spec a first last h hl).left

theorem readU8_agrees (h : first < last) (hl : last ≤ a.size) :
    (readU8 a first last).sat (fun r => ReadPost first last r ∧ (ByteUnits a first last →
      Impl.readU8 (slice a first last) = (r.1, r.2.1, slice a r.2.2 last))) := by
  refine R.sat_mono (readU8_spec a first last h hl) fun r hr => ⟨hr.1, fun hb => ?_⟩
  rw [← bytes_eq_slice a first last hl hb,
    ← bytes_eq_slice a r.2.2 last hl (fun i h1 h2 => hb i (Nat.le_trans (Nat.le_of_lt hr.1.1) h1) h2)]
  exact hr.2

theorem readU16_spec (h : first < last) (hl : last ≤ a.size) :
    (readU16 a first last).sat (fun r => ReadPost first last r ∧
      Impl.readU16 (slice a first last) = (r.1, r.2.1, slice a r.2.2 last)) := by
  generalize hL : Impl.readU16 (slice a first last) = L
  rw [slice_cons a first last h hl, Impl.readU16.eq_def] at hL
  simp only [] at hL
  unfold readU16
  refine R.sat_read hl ?_
  refine R.sat_ptr ?_
  refine R.sat_if_eq hL (fun hs hL => ?_) (fun hs hL => R.sat_pure ⟨ReadPost.intro, hL.symm⟩)
  refine R.sat_if (fun hc => ?_) (fun hc => R.sat_pure ⟨ReadPost.intro, ?_⟩)
  · have hp : first + 1 < last := by omega
    rw [if_pos hc.1, slice_cons a (first + 1) last hp hl] at hL
    refine R.sat_read hl ?_
    refine R.sat_if_eq hL (fun ht hL => ?_) (fun ht hL => R.sat_pure ⟨ReadPost.intro,
      by rw [slice_cons a (first + 1) last hp hl]; exact hL.symm⟩)
    refine R.sat_read hl ?_
    refine R.sat_ptr ?_
    exact R.sat_pure ⟨ReadPost.intro, hL.symm⟩
  · -- no lead surrogate, or one at the very end: both models stop behind the unit
    by_cases hlead : a[first]! &&& 0x400 = 0
    · have he : first + 1 = last := Decidable.of_not_not fun hne => hc ⟨hlead, hne⟩
      rw [if_pos hlead, slice_nil a (first + 1) last (by omega)] at hL
      rw [slice_nil a (first + 1) last (by omega)]
      exact hL.symm
    · rw [if_neg hlead] at hL
      exact hL.symm

theorem readU32_spec (h : first < last) (hl : last ≤ a.size) :
    (readU32 a first last).sat (fun r => ReadPost first last r ∧
      Impl.readU32 (slice a first last) = (r.1, r.2.1, slice a r.2.2 last)) := by
  unfold readU32
  refine R.sat_read hl ?_
  refine R.sat_ptr ?_
  exact R.sat_pure ⟨ReadPost.intro, by rw [slice_cons a first last h hl]; rfl⟩

theorem readChar_sat (e : Enc) (a : Array Nat) (first last : Nat) (h : first < last) (hl : last ≤ a.size) :
    (readChar e a first last).sat (ReadPost first last) := by
  cases e
  · exact readU8_sat a first last h hl
  · exact (readU16_spec a first last h hl).left
  · exact (readU32_spec a first last h hl).left

/-- `read_utf_char(it, last)` is `read_code_point` on `[it, last)` with U+FFFD in place of a failure: whatever `P` is known of
    the latter's result `x` is known of the `x` behind the result of the former -/
theorem readUtfChar_of {P : Bool × Nat × Nat → Prop} (e : Enc) (a : Array Nat) (first last it : Nat) (h1 : first ≤ it)
    (h2 : it ≤ last) (h : (readChar e a it last).sat P) :
    (readUtfChar e a first last it).sat (fun r => ∃ x, P x ∧ r = (if x.1 then x.2.1 else 0xFFFD, x.2.2)) := by
  unfold readUtfChar
  refine R.sat_range ?_ h1 h2 (Nat.le_refl _)
  exact R.sat_bind h fun x hx => R.sat_pure ⟨x, hx, rfl⟩

theorem readUtfChar_sat (e : Enc) (a : Array Nat) (first last it : Nat) (h1 : first ≤ it) (h : it < last)
    (hl : last ≤ a.size) : (readUtfChar e a first last it).sat (fun r => it < r.2 ∧ r.2 ≤ last) :=
  R.sat_mono (readUtfChar_of e a first last it h1 (Nat.le_of_lt h) (readChar_sat e a it last h hl))
    fun _ ⟨_, hx, e⟩ => e ▸ hx

theorem afterDot_short : ∀ s : List Nat, s.length ≤ 4 → Impl.hasXnAfterDot s = false := by
  intro s hs
  rcases s with _ | ⟨a, _ | ⟨b, _ | ⟨c, _ | ⟨d, _ | ⟨e, t⟩⟩⟩⟩⟩ <;>
    simp [Impl.hasXnAfterDot, Impl.hasXnAt] at hs ⊢

theorem xnAt_short : ∀ s : List Nat, s.length < 4 → Impl.hasXnAt s = false := by
  intro s hs
  rcases s with _ | ⟨a, _ | ⟨b, _ | ⟨c, _ | ⟨d, t⟩⟩⟩⟩ <;> simp [Impl.hasXnAt] at hs ⊢
  omega

theorem afterDot_skip (a : Array Nat) (last : Nat) (hl : last ≤ a.size) (p q : Nat) (h1 : p ≤ q) (h2 : q ≤ last)
    (h : ∀ i, p ≤ i → i < q → a[i]! ≠ 0x2E) :
    Impl.hasXnAfterDot (slice a p last) = Impl.hasXnAfterDot (slice a q last) := by
  have key : ∀ x t : List Nat, (∀ c ∈ x, c ≠ 0x2E) → Impl.hasXnAfterDot (x ++ t) = Impl.hasXnAfterDot t := by
    intro x t hx
    induction x with
    | nil => rfl
    | cons c r ih =>
      rw [List.cons_append, Impl.hasXnAfterDot, beq_false_of_ne (hx c List.mem_cons_self), Bool.false_and,
        Bool.false_or]
      exact ih fun d hd => hx d (List.mem_cons_of_mem c hd)
  rw [← slice_append a p q last h1 h2]
  refine key _ _ fun c hc => ?_
  obtain ⟨i, hi1, hi2, rfl⟩ := mem_slice a p q c (Nat.le_trans h2 hl) hc
  exact h i hi1 hi2

theorem hasXnLabel_agrees (h : first ≤ last) (hl : last ≤ a.size) :
    hasXnLabel a first last = .ok (Impl.hasXnLabel (slice a first last)) := by
  refine R.eq_ok_of_sat ?_
  unfold hasXnLabel
  refine R.sat_if (fun h4 => ?_) (fun h4 => R.sat_pure (by
    rw [Impl.hasXnLabel, xnAt_short _ (by rw [slice_length a _ _ hl]; omega),
      afterDot_short _ (by rw [slice_length a _ _ hl]; omega)]
    rfl))
  refine R.sat_ptrSub ?_
  -- invariant: `p` stands at the start of a label, and the list model resumed at `p` (an `xn--` right here, or one after a
  -- later dot) gives the answer for the whole input; `afterDot_skip` carries it over the dot-free stretch `findCh` skips
  refine scan_sat _ (fun p => p) first (last - 4) (fun p =>
      (Impl.hasXnAt (slice a p last) || Impl.hasXnAfterDot (slice a p last)) = Impl.hasXnLabel (slice a first last))
    _ (fun p hI1 hI2 hI3 => ?_) _ _ (Nat.le_refl _) (by omega) rfl (by omega)
  refine R.sat_read hl ?_
  refine R.sat_bind (P := fun b => b = Impl.hasXnAt (slice a p last)) ?_ fun hit hhit => ?_
  · rw [slice_cons a p last (by omega) hl, slice_cons a (p + 1) last (by omega) hl,
      slice_cons a (p + 1 + 1) last (by omega) hl, slice_cons a (p + 1 + 1 + 1) last (by omega) hl]
    refine R.sat_if (fun c0 => ?_) (fun c0 => R.sat_pure (by simp [Impl.hasXnAt, c0]))
    refine R.sat_read hl ?_
    refine R.sat_if (fun c1 => ?_) (fun c1 => R.sat_pure (by simp [Impl.hasXnAt, c1]))
    refine R.sat_read hl ?_
    refine R.sat_if (fun c2 => ?_) (fun c2 => R.sat_pure (by simp [Impl.hasXnAt, c2]))
    refine R.sat_read hl ?_
    exact R.sat_pure (by simp [Impl.hasXnAt, c0, c1, c2])
  refine R.sat_if (fun ht => R.sat_pure ?_) (fun hf => ?_)
  · show true = _
    rw [← hI3, ← hhit, ht]; rfl
  have hf' : hit = false := by simpa using hf
  rw [hf'] at hhit
  rw [← hhit, Bool.false_or] at hI3
  refine R.sat_bind (findCh_spec a first last 0x2E hl (last - 4 - p) p hI1 (by omega)) fun r hr => ?_
  cases r with
  | none =>
    refine R.sat_pure ?_
    have := afterDot_skip a last hl p (last - 4) hI2 (by omega)
      (fun i h1 h2 => hr i h1 (by omega))
    show false = _
    rw [← hI3, this, afterDot_short _ (by rw [slice_length a _ _ hl]; omega)]
  | some q =>
    obtain ⟨q1, q2, q3, q4⟩ := hr
    refine R.sat_ptr ?_
    refine R.sat_pure ⟨by omega, by omega, ?_⟩
    have := afterDot_skip a last hl p q q1 (by omega) q4
    rw [slice_cons a q last (by omega) hl] at this
    rw [← hI3, this, Impl.hasXnAfterDot, q3]
    rfl

theorem startsWithWindowsDrive_len {s : List Nat} (h : s.length < 2) : Impl.startsWithWindowsDrive s = false := by
  unfold Impl.startsWithWindowsDrive
  split
  · exact absurd h (by simp)
  · exact absurd h (by simp)
  · rfl

theorem startsWithWindowsDrive_agrees (h : first ≤ last) (hl : last ≤ a.size) :
    startsWithWindowsDrive a first last = .ok (Impl.startsWithWindowsDrive (slice a first last)) := by
  refine R.eq_ok_of_sat ?_
  have hlen := slice_length a first last hl
  unfold startsWithWindowsDrive
  by_cases h2 : last - first = 2
  · rw [slice_eq_map_range a last hl 2 first h2]
    refine R.sat_bind_ok (if_pos h2) ?_
    refine R.sat_if (fun _ => ?_) (fun hne => absurd rfl hne)
    refine R.sat_read hl ?_
    refine R.sat_read hl ?_
    exact R.sat_pure rfl
  by_cases h3 : last - first > 2
  · rw [slice_cons a first last (by omega) hl, slice_cons a (first + 1) last (by omega) hl,
      slice_cons a (first + 1 + 1) last (by omega) hl]
    refine R.sat_bind_ok (v := isSpecialAuthorityEnd a[first + 1 + 1]!) ?_ ?_
    · rw [if_neg h2, if_pos h3, rd_ok (by omega) (by omega) hl]; rfl
    refine R.sat_if (fun hs => ?_) (fun hs => R.sat_pure (by simp [Impl.startsWithWindowsDrive, hs]))
    refine R.sat_read hl ?_
    refine R.sat_read hl ?_
    exact R.sat_pure (by simp [Impl.startsWithWindowsDrive, hs])
  · refine R.sat_bind_ok (v := false) (by rw [if_neg h2, if_neg h3]; rfl) ?_
    refine R.sat_if (fun hf => absurd hf (by decide)) (fun _ => R.sat_pure ?_)
    exact (startsWithWindowsDrive_len (by omega)).symm

theorem pathnameHasWindowsDrive_len {s : List Nat} (h : s.length < 3) : Impl.pathnameHasWindowsDrive s = false := by
  unfold Impl.pathnameHasWindowsDrive
  split
  · exact absurd h (by simp)
  · exact absurd h (by simp)
  · rfl

theorem pathnameHasWindowsDrive_agrees (h : first ≤ last) (hl : last ≤ a.size) :
    pathnameHasWindowsDrive a first last = .ok (Impl.pathnameHasWindowsDrive (slice a first last)) := by
  refine R.eq_ok_of_sat ?_
  have hlen := slice_length a first last hl
  unfold pathnameHasWindowsDrive
  by_cases h3 : last - first = 3
  · rw [slice_eq_map_range a last hl 3 first h3]
    show R.sat _ (fun v => v = Impl.pathnameHasWindowsDrive [a[first]!, a[first + 1]!, a[first + 1 + 1]!])
    refine R.sat_bind_ok (if_pos h3) ?_
    refine R.sat_if (fun _ => ?_) (fun hne => absurd rfl hne)
    refine R.sat_read hl ?_
    refine R.sat_if (fun hs => ?_) (fun hs => R.sat_pure (by simp [Impl.pathnameHasWindowsDrive, hs]))
    refine R.sat_read hl ?_
    refine R.sat_bind_ok (v := a[first + 1 + 1]!) (rd_ok (by omega) (by omega) hl) ?_
    exact R.sat_pure (by simp [Impl.pathnameHasWindowsDrive, hs])
  by_cases h4 : last - first > 3
  · rw [slice_cons a first last (by omega) hl, slice_cons a (first + 1) last (by omega) hl,
      slice_cons a (first + 1 + 1) last (by omega) hl, slice_cons a (first + 1 + 1 + 1) last (by omega) hl]
    refine R.sat_bind_ok (v := Impl.isWindowsSlash a[first + 1 + 1 + 1]!) ?_ ?_
    · rw [if_neg h3, if_pos h4, rd_ok (by omega) (by omega) hl]; rfl
    refine R.sat_if (fun h3s => ?_) (fun h3s => R.sat_pure (by simp [Impl.pathnameHasWindowsDrive, h3s]))
    refine R.sat_read hl ?_
    refine R.sat_if (fun hs => ?_) (fun hs => R.sat_pure (by simp [Impl.pathnameHasWindowsDrive, hs]))
    refine R.sat_read hl ?_
    refine R.sat_bind_ok (v := a[first + 1 + 1]!) (rd_ok (by omega) (by omega) hl) ?_
    exact R.sat_pure (by simp [Impl.pathnameHasWindowsDrive, hs, h3s])
  · refine R.sat_bind_ok (v := false) (by rw [if_neg h3, if_neg h4]; rfl) ?_
    refine R.sat_if (fun hf => absurd hf (by decide)) (fun _ => R.sat_pure ?_)
    exact (pathnameHasWindowsDrive_len (by omega)).symm

theorem startsWithWindowsDrive_sat (h : first ≤ last) (hl : last ≤ a.size) :
    (startsWithWindowsDrive a first last).sat (fun _ => True) :=
  R.sat_of_eq_ok (startsWithWindowsDrive_agrees a first last h hl)

theorem isWindowsDriveAbsolutePath_len {s : List Nat} (h : s.length < 3) :
    Impl.isWindowsDriveAbsolutePath s = none := by
  unfold Impl.isWindowsDriveAbsolutePath
  split
  · exact absurd h (by simp)
  · rfl

/-- `some (pointer + 3)` of the C++ is the suffix the list model returns -/
theorem isWindowsDriveAbsolutePath_spec (h : first ≤ last) (hl : last ≤ a.size) :
    (isWindowsDriveAbsolutePath a first last).sat (fun o => (∀ p, o = some p → p ≤ last) ∧
      o.map (fun p => slice a p last) = Impl.isWindowsDriveAbsolutePath (slice a first last)) := by
  have hlen := slice_length a first last hl
  unfold isWindowsDriveAbsolutePath
  refine R.sat_if (fun h3 => ?_)
    (fun h3 => R.sat_pure ⟨nofun, (isWindowsDriveAbsolutePath_len (by omega)).symm⟩)
  rw [slice_cons a first last (by omega) hl, slice_cons a (first + 1) last (by omega) hl,
    slice_cons a (first + 1 + 1) last (by omega) hl]
  refine R.sat_read hl ?_
  refine R.sat_read hl ?_
  refine R.sat_if (fun hd => ?_) (fun hd => R.sat_pure ⟨nofun, by simp [Impl.isWindowsDriveAbsolutePath, hd]⟩)
  refine R.sat_read hl ?_
  refine R.sat_if (fun hs => ?_) (fun hs => R.sat_pure ⟨nofun, by simp [Impl.isWindowsDriveAbsolutePath, hs]⟩)
  refine R.sat_ptr ?_
  exact R.sat_pure ⟨fun p hp => by cases hp; omega, by simp [Impl.isWindowsDriveAbsolutePath, hd, hs]⟩

/-- the `prev` argument of the list model at pointer `p` -/
def prevOf (a : Array Nat) (first p : Nat) : Option Nat := if p = first then none else some a[p - 1]!

theorem prevOf_first (a : Array Nat) (first : Nat) : prevOf a first first = none := if_pos rfl
theorem prevOf_ne {a : Array Nat} {first p : Nat} (h : p ≠ first) : prevOf a first p = some a[p - 1]! := if_neg h

theorem hasDot_short (isSl : Nat → Bool) (prev : Option Nat) (l : List Nat) (h : l.length ≤ 1) :
    Impl.hasDotDotSegment isSl prev l = false := by
  rcases l with _ | ⟨x, _ | ⟨y, t⟩⟩ <;> simp [Impl.hasDotDotSegment] at h ⊢

theorem hasDot_cons2 (isSl : Nat → Bool) (prev : Option Nat) (c d : Nat) (r2 : List Nat) :
    Impl.hasDotDotSegment isSl prev (c :: d :: r2) =
      if c = 0x2E then
        if (d = 0x2E && (match prev with | none => true | some p => isSl p) &&
           (match r2 with | [] => true | x :: _ => isSl x)) = true then true
        else Impl.hasDotDotSegment isSl (some d) r2
      else Impl.hasDotDotSegment isSl (some c) (d :: r2) := by
  rw [Impl.hasDotDotSegment.eq_def]
  cases r2 <;> rfl

theorem hasDot_skip (isSl : Nat → Bool) (a : Array Nat) (first last : Nat) (hl : last ≤ a.size) :
    ∀ k p, first ≤ p → p + k ≤ last - 1 → (∀ i, p ≤ i → i < p + k → a[i]! ≠ 0x2E) →
      Impl.hasDotDotSegment isSl (prevOf a first p) (slice a p last) =
      Impl.hasDotDotSegment isSl (prevOf a first (p + k)) (slice a (p + k) last) := by
  intro k
  induction k with
  | zero => intro p _ _ _; rfl
  | succ k ih =>
    intro p h0 h1 h2
    rw [slice_cons a p last (by omega) hl, slice_cons a (p + 1) last (by omega) hl]
    have hp := h2 p (Nat.le_refl _) (by omega)
    rw [hasDot_cons2, if_neg hp]
    have := ih (p + 1) (by omega) (by omega) (by intro i hi1 hi2; exact h2 i (by omega) (by omega))
    rw [slice_cons a (p + 1) last (by omega) hl] at this
    have e : p + 1 + k = p + (k + 1) := by omega
    rw [e] at this
    rw [← this]
    rw [prevOf_ne (by omega : p + 1 ≠ first), Nat.add_sub_cancel]

theorem hasDotDotSegment_agrees (isSl : Nat → Bool) (a : Array Nat) (first last : Nat) (h : first ≤ last)
    (hl : last ≤ a.size) :
    hasDotDotSegment isSl a first last = .ok (Impl.hasDotDotSegment isSl none (slice a first last)) := by
  refine R.eq_ok_of_sat ?_
  unfold hasDotDotSegment
  refine R.sat_if (fun h2 => ?_) (fun h2 => R.sat_pure
    (hasDot_short isSl _ _ (by rw [slice_length a _ _ hl]; omega)).symm)
  refine R.sat_ptrSub ?_
  -- invariant: the list model resumed at `p`, with the unit before `p` as its `prev` argument, gives the answer for the
  -- whole input; `hasDot_skip` carries it over the dot-free stretch `findCh` skips
  refine scan_sat _ (fun p => p) first (last - 1) (fun p =>
      Impl.hasDotDotSegment isSl (prevOf a first p) (slice a p last) =
      Impl.hasDotDotSegment isSl none (slice a first last))
    _ (fun p hI1 hI2 hI3 => ?_) _ _ (Nat.le_refl _) (by omega) (by rw [prevOf_first]) (by omega)
  refine R.sat_bind (findCh_spec a first last 0x2E hl (last - 1 - p) p hI1 (by omega)) fun r hr => ?_
  cases r with
  | none =>
    refine R.sat_pure ?_
    have := hasDot_skip isSl a first last hl (last - 1 - p) p hI1 (by omega) hr
    show false = _
    rw [← hI3, this, hasDot_short isSl _ _ (by rw [slice_length a _ _ hl]; omega)]
  | some q =>
    obtain ⟨q1, q2, q3, q4⟩ := hr
    have hskip := hasDot_skip isSl a first last hl (q - p) p hI1 (by omega) (fun i h1 h2 => q4 i h1 (by omega))
    rw [show p + (q - p) = q by omega, slice_cons a q last (by omega) hl,
      slice_cons a (q + 1) last (by omega) hl, hasDot_cons2, if_pos q3, hI3] at hskip
    refine R.sat_read hl ?_
    refine R.sat_bind (P := fun b => b = (decide (a[q + 1]! = 0x2E) &&
        (match prevOf a first q with | none => true | some p => isSl p) &&
        (match slice a (q + 1 + 1) last with | [] => true | x :: _ => isSl x))) ?_ fun hit hhit => ?_
    · refine R.sat_if (fun hd => ?_) (fun hd => R.sat_pure (by simp [hd]))
      refine R.sat_bind (P := fun b => b = (match prevOf a first q with | none => true | some p => isSl p)) ?_
        fun left hleft => ?_
      · refine R.sat_if (fun hqf => R.sat_pure (by rw [hqf, prevOf_first])) (fun hqf => ?_)
        refine R.sat_readPrev hl ?_
        exact R.sat_pure (by rw [prevOf_ne hqf])
      rw [← hleft, hd]
      refine R.sat_if (fun hlt => ?_) (fun hlt => R.sat_pure (by simp [hlt]))
      rw [hlt]
      refine R.sat_if (fun h22 => R.sat_pure (by rw [slice_nil a (q + 1 + 1) last (by omega)]; rfl)) (fun h22 => ?_)
      refine R.sat_read hl ?_
      exact R.sat_pure (by rw [slice_cons a (q + 1 + 1) last (by omega) hl]; simp)
    subst hhit
    refine R.sat_if (fun ht => R.sat_pure (hskip.trans (if_pos ht)).symm) (fun hf => ?_)
    have hskip' := hskip.trans (if_neg hf)
    refine R.sat_ptr ?_
    refine R.sat_if (fun _ => R.sat_pure ?_) (fun _ => R.sat_pure ⟨by omega, by omega, ?_⟩)
    · show false = _
      rw [hskip', hasDot_short isSl _ _ (by rw [slice_length a _ _ hl]; omega)]
    · rw [hskip', prevOf_ne (by omega : q + 2 ≠ first)]
      rfl

theorem escapedDot_agrees (p : Nat) (hl : last ≤ a.size) (h1 : first ≤ p) (h2 : p + 3 ≤ last) :
    escapedDot a first last p = .ok (Impl.escapedDot [a[p]!, a[p + 1]!, a[p + 2]!]) := by
  refine R.eq_ok_of_sat ?_
  unfold escapedDot
  refine R.sat_read hl ?_
  refine R.sat_if (fun c0 => ?_) (fun c0 => R.sat_pure (by simp [Impl.escapedDot, c0]))
  refine R.sat_read hl ?_
  refine R.sat_if (fun c1 => ?_) (fun c1 => R.sat_pure (by simp [Impl.escapedDot, c1]))
  refine R.sat_read hl ?_
  exact R.sat_pure (by simp [Impl.escapedDot, c0, c1])

theorem singleDot_len {s : List Nat} (h1 : s.length ≠ 1) (h3 : s.length ≠ 3) : Impl.singleDot s = false := by
  unfold Impl.singleDot
  split
  · exact absurd rfl h1
  · exact absurd rfl h3
  · rfl

theorem singleDot_agrees (h : first ≤ last) (hl : last ≤ a.size) :
    singleDot a first last = .ok (Impl.singleDot (slice a first last)) := by
  refine R.eq_ok_of_sat ?_
  have hlen := slice_length a first last hl
  unfold singleDot
  refine R.sat_if (fun h1 => ?_) (fun h1 => R.sat_if (fun h3 => ?_) (fun h3 => R.sat_pure ?_))
  · rw [slice_eq_map_range a last hl 1 first h1]
    exact R.sat_bind_ok (rd_ok (Nat.le_refl _) (by omega) hl) (R.sat_pure rfl)
  · rw [slice_eq_map_range a last hl 3 first h3]
    exact ⟨_, escapedDot_agrees a first last first hl (Nat.le_refl _) (by omega), rfl⟩
  · exact (singleDot_len (by omega) (by omega)).symm

theorem doubleDot_len {s : List Nat} (h2 : s.length ≠ 2) (h4 : s.length ≠ 4) (h6 : s.length ≠ 6) :
    Impl.doubleDot s = false := by
  unfold Impl.doubleDot
  split
  · exact absurd rfl h2
  · exact absurd rfl h4
  · exact absurd rfl h6
  · rfl

theorem doubleDot_agrees (h : first ≤ last) (hl : last ≤ a.size) :
    doubleDot a first last = .ok (Impl.doubleDot (slice a first last)) := by
  refine R.eq_ok_of_sat ?_
  have hlen := slice_length a first last hl
  have hesc := fun p h1 h2 => escapedDot_agrees a first last p hl h1 h2
  unfold doubleDot
  refine R.sat_if (fun h2 => ?_) (fun h2 => R.sat_if (fun h4 => ?_) (fun h4 =>
    R.sat_if (fun h6 => ?_) (fun h6 => R.sat_pure (doubleDot_len (by omega) (by omega) (by omega)).symm)))
  · rw [slice_eq_map_range a last hl 2 first h2]
    show R.sat _ (fun v => v = (a[first]! == 0x2E && a[first + 1]! == 0x2E))
    refine R.sat_read hl ?_
    refine R.sat_if (fun c0 => ?_) (fun c0 => R.sat_pure (by simp [c0]))
    refine R.sat_read hl ?_
    exact R.sat_pure (by simp [c0])
  · rw [slice_eq_map_range a last hl 4 first h4]
    show R.sat _ (fun v => v = ((a[first]! == 0x2E && Impl.escapedDot [a[first + 1]!, a[first + 1 + 1]!, a[first + 1 + 2]!])
      || (Impl.escapedDot [a[first]!, a[first + 1]!, a[first + 2]!] && a[first + 3]! == 0x2E)))
    refine R.sat_read hl ?_
    refine R.sat_bind (P := fun l => l = (a[first]! == 0x2E &&
        Impl.escapedDot [a[first + 1]!, a[first + 1 + 1]!, a[first + 1 + 2]!])) ?_ fun l hl' => ?_
    · refine R.sat_if (fun c0 => ?_) (fun c0 => R.sat_pure (by simp [c0]))
      refine R.sat_ptr ?_
      exact ⟨_, hesc (first + 1) (by omega) (by omega), by simp [c0]⟩
    rw [← hl']
    refine R.sat_if (fun ht => R.sat_pure (by rw [ht]; rfl)) (fun hf => ?_)
    rw [Bool.eq_false_iff.2 hf, Bool.false_or]
    refine R.sat_bind_ok (hesc first (Nat.le_refl _) (by omega)) ?_
    refine R.sat_if (fun he => ?_) (fun he => R.sat_pure (by rw [Bool.eq_false_iff.2 he]; rfl))
    refine R.sat_read hl ?_
    exact R.sat_pure (by rw [he]; rfl)
  · rw [slice_eq_map_range a last hl 6 first h6]
    show R.sat _ (fun v => v = (Impl.escapedDot [a[first]!, a[first + 1]!, a[first + 2]!] &&
      Impl.escapedDot [a[first + 3]!, a[first + 3 + 1]!, a[first + 3 + 2]!]))
    refine R.sat_bind_ok (hesc first (Nat.le_refl _) (by omega)) ?_
    refine R.sat_if (fun he => ?_) (fun he => R.sat_pure (by rw [Bool.eq_false_iff.2 he]; rfl))
    refine R.sat_ptr ?_
    exact ⟨_, hesc (first + 3) (by omega) (by omega), by rw [he]; rfl⟩

theorem doubleDot_sat (h : first ≤ last) (hl : last ≤ a.size) :
    (doubleDot a first last).sat (fun _ => True) :=
  R.sat_of_eq_ok (doubleDot_agrees a first last h hl)

theorem singleDot_sat (h : first ≤ last) (hl : last ≤ a.size) :
    (singleDot a first last).sat (fun _ => True) :=
  R.sat_of_eq_ok (singleDot_agrees a first last h hl)

end Upa.Impl.B
