import Upa.Proofs.AsciiHom
import Upa.Impl.Api
import Upa.Impl.CanParse
/-
  The decoder theorems of `Upa/Proofs/Utf.lean` lifted to the API level (`Upa/Impl/Api.lean`): trimming and
  tab/newline removal commute with every encoder, so the parser sees the same scalar value string whatever the
  encoding; ill-formed input is parsed as the text obtained by the Standard's replacement, taken after
  tab/newline removal.  What commutes with both `Spec.encode e` and `Impl.decode e` does so through `AsciiHom`
  (`Upa/Proofs/AsciiHom.lean`, where the facts about `Impl.decode e` alone stand).  Props/C10b states the property.
-/
namespace Upa.Proofs.C10b
open Upa Upa.Impl

/-! ## trimming and tab/newline removal commute with every encoder -/

theorem isTrimChar_ascii : AsciiPred isTrimChar := by
  intro c h; simp [isTrimChar] at h; omega

theorem isRemovable_ascii : AsciiPred isRemovable := by
  intro c h; simp [isRemovable] at h; omega

theorem doTrim_encode (e : Enc) (s : List Nat) : doTrim (Spec.encode e s) = Spec.encode e (doTrim s) :=
  (encode_asciiHom e).trim isTrimChar_ascii s

/-- a filter goes inside the `flatMap`; one encoded character is kept whole or is the one removed unit -/
theorem removeWs_encode (e : Enc) (s : List Nat) : removeWs (Spec.encode e s) = Spec.encode e (removeWs s) := by
  unfold removeWs
  rw [encode_flatMap, encode_flatMap]
  induction s with
  | nil => rfl
  | cons c r ih =>
    rw [List.flatMap_cons, List.filter_append, ih]
    cases hr : isRemovable c
    · rw [List.filter_cons_of_pos (by simp [hr]), List.flatMap_cons]
      congr 1
      refine List.filter_eq_self.2 fun x hx => ?_
      by_cases hc : c < 0x80
      · rw [encChar_ascii e c hc, List.mem_singleton] at hx; simp [hx, hr]
      · have := (encChar_nonascii e c hc).2 x hx
        rw [Bool.not_eq_true', Bool.eq_false_iff]
        exact fun hx' => by have := isRemovable_ascii x hx'; omega
    · rw [List.filter_cons_of_neg (by simp [hr]), encChar_ascii e c (isRemovable_ascii c hr)]
      simp [hr]

/-! ### the raw-unit tests of the setters -/

theorem encode_cons_ascii (e : Enc) (c : Nat) (r : List Nat) (h : c < 0x80) :
    Spec.encode e (c :: r) = c :: Spec.encode e r := (encode_asciiHom e).cons h r

theorem encode_eq_nil_iff (e : Enc) (s : List Nat) : Spec.encode e s = [] ↔ s = [] :=
  (encode_asciiHom e).eq_nil_iff

/-! ## well-formed text: every API sees the same scalar value string -/

theorem Scalars.removeWs {s : List Nat} (h : Scalars s) : Scalars (removeWs s) :=
  fun c hc => h c (List.mem_filter.1 hc).1

theorem mem_doTrim {s : List Nat} {c : Nat} (hc : c ∈ doTrim s) : c ∈ s := by
  unfold doTrim at hc
  rw [List.mem_reverse] at hc
  have h1 := (List.dropWhile_sublist isTrimChar).subset hc
  rw [List.mem_reverse] at h1
  exact (List.dropWhile_sublist isTrimChar).subset h1

theorem Scalars.doTrim {s : List Nat} (h : Scalars s) : Scalars (doTrim s) :=
  fun c hc => h c (mem_doTrim hc)

theorem decode_u32_self {s : List Nat} (h : Scalars s) : decode .u32 s = s :=
  decode_encode .u32 s h

theorem prep_encode (e : Enc) (s : List Nat) (h : Scalars s) : prep e (Spec.encode e s) = removeWs s := by
  unfold prep
  rw [removeWs_encode, decode_encode e _ h.removeWs]

theorem prep_encode_u32 (e : Enc) (s : List Nat) (h : Scalars s) :
    prep e (Spec.encode e s) = prep .u32 s := by
  rw [prep_encode e s h]
  exact (prep_encode .u32 s h).symm

theorem prep_trim_encode (e : Enc) (s : List Nat) (h : Scalars s) :
    prep e (doTrim (Spec.encode e s)) = removeWs (doTrim s) := by
  rw [doTrim_encode, prep_encode e _ h.doTrim]

theorem prep_trim_encode_u32 (e : Enc) (s : List Nat) (h : Scalars s) :
    prep e (doTrim (Spec.encode e s)) = prep .u32 (doTrim s) := by
  rw [prep_trim_encode e s h]
  exact (prep_encode .u32 _ h.doTrim).symm

theorem parse_encode (idna : Idna) (e : Enc) (s : List Nat) (base : Option Url) (h : Scalars s) :
    parse idna e (Spec.encode e s) base = parse idna .u32 s base := by
  unfold parse
  rw [prep_trim_encode_u32 e s h]

theorem canParse_encode (idna : Idna) (e : Enc) (s : List Nat) (base : Option Url) (h : Scalars s) :
    canParse idna e (Spec.encode e s) base = canParse idna .u32 s base := by
  unfold canParse
  rw [prep_trim_encode_u32 e s h]

theorem Scalars.tail {c : Nat} {r : List Nat} (h : Scalars (c :: r)) : Scalars r :=
  fun x hx => h x (List.mem_cons_of_mem _ hx)

/-- the search / hash setters: the raw-unit test for one leading `?` / `#` -/
theorem strip_lead_encode {α : Type} (e : Enc) (a : Nat) (ha : a < 0x80) (F : List Nat → α) (nil : α)
    (s : List Nat) : Scalars s →
    (match Spec.encode e s with
     | [] => nil
     | c :: r => F (prep e (if c = a then r else Spec.encode e s))) =
    (match s with
     | [] => nil
     | c :: r => F (prep .u32 (if c = a then r else s))) := by
  intro h
  refine ((encode_asciiHom e).strip_lead a ha (fun x => F (prep e x)) nil s).trans ?_
  cases s with
  | nil => rfl
  | cons c r =>
    simp only []
    by_cases hc : c = a
    · rw [if_pos hc, if_pos hc, prep_encode_u32 e r h.tail]
    · rw [if_neg hc, if_neg hc, prep_encode_u32 e _ h]

theorem setValid_encode (idna : Idna) (st : Setter) (e : Enc) (s : List Nat) (u : Url) (h : Scalars s) :
    setValid idna st e (Spec.encode e s) u = setValid idna st .u32 s u := by
  have hp := prep_encode_u32 e s h
  have hd : decode e (Spec.encode e s) = decode .u32 s := by rw [decode_encode e s h, decode_u32_self h]
  cases st
  case search =>
    simp only [setValid]
    exact strip_lead_encode e 0x3F (by decide)
      (fun p => ((urlParse idna none (some .query) u p).url, (urlParse idna none (some .query) u p).out == Outcome.ok))
      _ s h
  case hash =>
    simp only [setValid]
    exact strip_lead_encode e 0x23 (by decide)
      (fun p => ((urlParse idna none (some .fragment) u p).url,
        (urlParse idna none (some .fragment) u p).out == Outcome.ok)) _ s h
  all_goals simp only [setValid, parse_encode idna e s none h, hp, hd, encode_eq_nil_iff]

theorem objParse_encode (idna : Idna) (o : UrlObj) (e : Enc) (s : List Nat) (base : Option (Option Url))
    (h : Scalars s) : UrlObj.parse idna o e (Spec.encode e s) base = UrlObj.parse idna o .u32 s base := by
  simp only [UrlObj.parse, parse_encode idna e s _ h]

theorem objSet_encode (idna : Idna) (o : UrlObj) (st : Setter) (e : Enc) (s : List Nat) (h : Scalars s) :
    UrlObj.set idna o st e (Spec.encode e s) = UrlObj.set idna o st .u32 s := by
  cases st <;>
    simp only [UrlObj.set, parse_encode idna e s none h, setValid_encode idna _ e s _ h, encode_eq_nil_iff]

theorem makeString_encode (e : Enc) (s : List Nat) (h : Scalars s) :
    makeString e (Spec.encode e s) = Spec.utf8Encode s := by
  cases e
  · rfl
  · simp only [makeString]; rw [decode_encode .u16 s h, encodeUtf8_eq s h]
  · simp only [makeString]; rw [decode_encode .u32 s h, encodeUtf8_eq s h]

/-! ## trimming is idempotent; no tab/newline comes out of the decoder -/

/-- the trimmed list is a prefix of the list without its leading trim characters: it starts as that does -/
theorem doTrim_idem (l : List Nat) : doTrim (doTrim l) = doTrim l := by
  unfold doTrim
  have h0 := fun c => head?_dropWhile (p := isTrimChar) (l := l) (c := c)
  generalize l.dropWhile isTrimChar = a at h0
  have h1 := fun c => head?_dropWhile (p := isTrimChar) (l := a.reverse) (c := c)
  obtain ⟨t, ht⟩ : (a.reverse.dropWhile isTrimChar).reverse <+: a := by
    have := List.reverse_prefix.2 (List.dropWhile_suffix (l := a.reverse) isTrimChar)
    rwa [List.reverse_reverse] at this
  generalize a.reverse.dropWhile isTrimChar = b at h1 ht
  rw [dropWhile_of_head (l := b.reverse) ?_, List.reverse_reverse, dropWhile_of_head h1]
  exact fun c hc => h0 c (by rw [← ht, List.head?_append, hc]; rfl)

theorem removeWs_cons_keep {c : Nat} (r : List Nat) (hc : isRemovable c = false) :
    removeWs (c :: r) = c :: removeWs r := by simp [removeWs, hc]

theorem UOk.removeWs {e : Enc} {l : List Nat} (h : UOk e l) : UOk e (removeWs l) :=
  h.subset (fun _ hx => (List.mem_filter.1 hx).1)

theorem UOk.doTrim {e : Enc} {l : List Nat} (h : UOk e l) : UOk e (doTrim l) :=
  h.subset (fun _ hx => mem_doTrim hx)

/-- no tab/newline survives: the decoder never produces an ASCII value that was not a unit -/
theorem removeWs_decode_self (e : Enc) (l : List Nat) :
    removeWs (decode e (removeWs l)) = decode e (removeWs l) := by
  refine List.filter_eq_self.2 (fun c hc => ?_)
  rw [Bool.not_eq_true', Bool.eq_false_iff]
  intro hr
  have := (List.mem_filter.1 (decode_ascii_mem e _ c hc (isRemovable_ascii c hr))).2
  rw [hr] at this; cases this

/-- what the parser-based setters see is a fixed point of the UTF-32 preprocessing -/
theorem prep_u32_prep (e : Enc) (units : List Nat) (hl : UOk e units) :
    prep .u32 (decode e (removeWs units)) = prep e units := by
  unfold prep
  rw [removeWs_decode_self e _]
  exact decode_u32_self (decode_scalars e _ hl.removeWs)

/-! ## trimming commutes with decoding (tab/newline removal does not: `E2 0A 82 AC`), so the decoded
  parser input needs no further preprocessing -/

theorem doTrim_decode (e : Enc) (m : List Nat) : doTrim (decode e m) = decode e (doTrim m) :=
  (decode_asciiHom e).trim isTrimChar_ascii m

/-- core's `List.dropWhile_filter` when everything the filter removes would be dropped anyway -/
theorem dropWhile_filter {p q : Nat → Bool} (hpq : ∀ x, q x = false → p x = true) (l : List Nat) :
    (l.filter q).dropWhile p = (l.dropWhile p).filter q := by
  rw [List.dropWhile_filter]
  congr 2
  funext x
  cases hq : q x
  · simp [hpq x hq]
  · simp

theorem doTrim_removeWs (l : List Nat) : doTrim (removeWs l) = removeWs (doTrim l) := by
  have hpq : ∀ x, (!isRemovable x) = false → isTrimChar x = true := by
    intro x hx
    simp [isRemovable] at hx; simp [isTrimChar]; omega
  unfold doTrim removeWs
  rw [dropWhile_filter hpq, ← List.filter_reverse, dropWhile_filter hpq, List.filter_reverse]

/-- the parser input is the trimmed Standard conversion of the untrimmed units -/
theorem prep_u32_parserInput (e : Enc) (units : List Nat) (hl : UOk e units) :
    prep .u32 (doTrim (decode e (removeWs units))) = prep e (doTrim units) := by
  rw [doTrim_decode e _, doTrim_removeWs]
  exact prep_u32_prep e _ hl.doTrim

/-- trimming the units first changes nothing more: what is decoded then needs no trimming -/
theorem doTrim_decoded (e : Enc) (units : List Nat) :
    doTrim (decode e (removeWs (doTrim units))) = decode e (removeWs (doTrim units)) := by
  rw [doTrim_decode e _, doTrim_removeWs, doTrim_idem]

/-- the parser input computed from ill-formed units is a fixed point of the whole preprocessing
    in the UTF-32 API -/
theorem prep_u32_decoded (e : Enc) (units : List Nat) (hl : UOk e units) :
    prep .u32 (doTrim (decode e (removeWs (doTrim units)))) = decode e (removeWs (doTrim units)) := by
  rw [doTrim_decoded e units]
  exact prep_u32_prep e _ hl.doTrim

theorem parse_illformed (idna : Idna) (e : Enc) (units : List Nat) (base : Option Url) (hl : UOk e units) :
    parse idna e units base = parse idna .u32 (decode e (removeWs (doTrim units))) base := by
  unfold parse
  rw [prep_u32_decoded e units hl]
  rfl

theorem canParse_illformed (idna : Idna) (e : Enc) (units : List Nat) (base : Option Url) (hl : UOk e units) :
    canParse idna e units base = canParse idna .u32 (decode e (removeWs (doTrim units))) base := by
  unfold canParse
  rw [prep_u32_decoded e units hl]
  rfl

theorem parse_parserInput (idna : Idna) (e : Enc) (units : List Nat) (base : Option Url) (hl : UOk e units) :
    parse idna e units base = parse idna .u32 (decode e (removeWs units)) base := by
  unfold parse
  rw [prep_u32_parserInput e units hl]

theorem canParse_parserInput (idna : Idna) (e : Enc) (units : List Nat) (base : Option Url)
    (hl : UOk e units) :
    canParse idna e units base = canParse idna .u32 (decode e (removeWs units)) base := by
  unfold canParse
  rw [prep_u32_parserInput e units hl]

/-! ## the setters on ill-formed input -/

/-- search / hash on ill-formed input whose first unit is not a tab/newline -/
theorem strip_lead_illformed {α : Type} (e : Enc) (a : Nat) (ha : a < 0x80) (F : List Nat → α) (nil : α)
    (units : List Nat) : UOk e units → (∀ c, units.head? = some c → isRemovable c = false) →
    (match units with
     | [] => nil
     | c :: r => F (prep e (if c = a then r else units))) =
    (match decode e (removeWs units) with
     | [] => nil
     | c :: r => F (prep .u32 (if c = a then r else decode e (removeWs units)))) := by
  intro hl hh
  refine Eq.symm (((decode_asciiHom e).strip_lead a ha (fun x => F (prep .u32 x)) nil _).trans ?_)
  cases units with
  | nil => rfl
  | cons c r =>
    rw [removeWs_cons_keep r (hh c rfl)]
    simp only []
    by_cases hc : c = a
    · rw [if_pos hc, if_pos hc, prep_u32_prep e r hl.tail]
    · rw [if_neg hc, if_neg hc, ← removeWs_cons_keep r (hh c rfl), prep_u32_prep e _ hl]

/-- every parser-based setter on ill-formed input: the value is the Standard's conversion taken after
    tab/newline removal, provided the raw-unit tests of `port` / `search` / `hash` (empty value, one leading
    `?` / `#`) are not preceded by a tab/newline unit -/
theorem setValid_illformed (idna : Idna) (st : Setter) (e : Enc) (units : List Nat) (u : Url)
    (hl : UOk e units) (hst : st ≠ .username ∧ st ≠ .password)
    (hh : (st = .port ∨ st = .search ∨ st = .hash) → ∀ c, units.head? = some c → isRemovable c = false) :
    setValid idna st e units u = setValid idna st .u32 (decode e (removeWs units)) u := by
  have hp := prep_u32_prep e units hl
  cases st
  case username => exact absurd rfl hst.1
  case password => exact absurd rfl hst.2
  case port =>
    have hnil : decode e (removeWs units) = [] ↔ units = [] := by
      constructor
      · intro h
        cases units with
        | nil => rfl
        | cons c r =>
          exact absurd h (decode_ne_nil e (by
            rw [removeWs_cons_keep r (hh (Or.inl rfl) c rfl)]; exact List.cons_ne_nil _ _))
      · intro h; subst h; rfl
    simp only [setValid, hp, hnil]
  case search =>
    simp only [setValid]
    exact strip_lead_illformed e 0x3F (by decide)
      (fun p => ((urlParse idna none (some .query) u p).url, (urlParse idna none (some .query) u p).out == Outcome.ok))
      _ units hl (hh (Or.inr (Or.inl rfl)))
  case hash =>
    simp only [setValid]
    exact strip_lead_illformed e 0x23 (by decide)
      (fun p => ((urlParse idna none (some .fragment) u p).url,
        (urlParse idna none (some .fragment) u p).out == Outcome.ok)) _ units hl (hh (Or.inr (Or.inr rfl)))
  all_goals simp only [setValid, parse_parserInput idna e units none hl, hp]

/-- protocol, host, hostname, pathname: the value is the Standard's conversion taken after
    tab/newline removal (`setValid_illformed` for the setters that test no raw unit) -/
theorem setValid_illformed_run (idna : Idna) (st : Setter) (e : Enc) (units : List Nat) (u : Url)
    (hl : UOk e units) (hst : st = .protocol ∨ st = .host ∨ st = .hostname ∨ st = .pathname) :
    setValid idna st e units u = setValid idna st .u32 (decode e (removeWs units)) u := by
  have hp := prep_u32_prep e units hl
  rcases hst with h | h | h | h <;> subst h <;> simp only [setValid, hp]

/-- username, password: the value is the plain conversion (tab/newline are kept and encoded) -/
theorem setValid_illformed_cred (idna : Idna) (st : Setter) (e : Enc) (units : List Nat) (u : Url)
    (hl : UOk e units) (hst : st = .username ∨ st = .password) :
    setValid idna st e units u = setValid idna st .u32 (decode e units) u := by
  have hd : decode .u32 (decode e units) = decode e units := decode_u32_self (decode_scalars e _ hl)
  rcases hst with h | h <;> subst h <;> simp only [setValid, hd]

end Upa.Proofs.C10b
