import Upa.Impl.Own
/-
  C06b: the association lists of `Upa/Impl/Own.lean` behave like finite maps, and what each
  heap primitive does to `getU` / `getP` / `next` / the key lists.
-/
namespace Upa.Proofs.Own
open Upa Upa.Impl Upa.Impl.Own

def keys {α : Type} (m : List (Nat × α)) : List Nat := m.map (·.1)

theorem mget_mdel {α : Type} (m : List (Nat × α)) (k k' : Nat) :
    mget (mdel m k) k' = if k' = k then none else mget m k' := by
  induction m with
  | nil => simp [mdel, mget]
  | cons kv r ih =>
    rcases kv with ⟨k0, v⟩
    unfold mdel at ih ⊢
    by_cases h0 : k0 = k
    · subst h0
      simp only [List.filter_cons, bne_self_eq_false, Bool.false_eq_true, if_false, ih, mget]
      by_cases h1 : k' = k0 <;> simp [h1]
    · have : (k0 != k) = true := by simp [h0]
      simp only [List.filter_cons, this, if_true, mget, ih]
      by_cases h1 : k' = k0
      · subst h1; simp [h0]
      · simp [h1]

theorem mget_mset {α : Type} (m : List (Nat × α)) (k k' : Nat) (v : α) :
    mget (mset m k v) k' = if k' = k then some v else mget m k' := by
  unfold mset
  simp only [mget, mget_mdel]
  by_cases h : k' = k <;> simp [h]

theorem mem_keys_mdel {α : Type} (m : List (Nat × α)) (k k' : Nat) :
    k' ∈ keys (mdel m k) ↔ (k' ∈ keys m ∧ k' ≠ k) := by
  unfold keys mdel
  simp only [List.mem_map, List.mem_filter, bne_iff_ne, ne_eq]
  constructor
  · rintro ⟨a, ⟨ha, hne⟩, rfl⟩; exact ⟨⟨a, ha, rfl⟩, hne⟩
  · rintro ⟨⟨a, ha, rfl⟩, hne⟩; exact ⟨a, ⟨ha, hne⟩, rfl⟩

theorem nodup_mdel {α : Type} (m : List (Nat × α)) (k : Nat) (h : (keys m).Nodup) : (keys (mdel m k)).Nodup := by
  unfold keys mdel at *
  exact (List.filter_sublist.map _).nodup h

theorem nodup_mset {α : Type} (m : List (Nat × α)) (k : Nat) (v : α) (h : (keys m).Nodup) :
    (keys (mset m k v)).Nodup := by
  have h1 := nodup_mdel m k h
  have h2 : k ∉ keys (mdel m k) := by rw [mem_keys_mdel]; simp
  unfold mset
  unfold keys at *
  simp only [List.map_cons, List.nodup_cons]
  exact ⟨h2, h1⟩

theorem mget_isSome_iff {α : Type} (m : List (Nat × α)) (k : Nat) : (mget m k).isSome ↔ k ∈ keys m := by
  induction m with
  | nil => simp [mget, keys]
  | cons kv r ih =>
    rcases kv with ⟨k0, v⟩
    unfold keys at *
    simp only [mget, List.map_cons, List.mem_cons]
    by_cases h : k = k0
    · simp [h]
    · simp [h, ih]

theorem mget_eq_some_iff {α : Type} (m : List (Nat × α)) (hn : (keys m).Nodup) (k : Nat) (v : α) :
    mget m k = some v ↔ (k, v) ∈ m := by
  induction m with
  | nil => simp [mget]
  | cons kv r ih =>
    rcases kv with ⟨k0, v0⟩
    unfold keys at *
    simp only [List.map_cons, List.nodup_cons] at hn
    simp only [mget, List.mem_cons, Prod.mk.injEq]
    by_cases h : k = k0
    · subst h
      simp only [if_true, Option.some.injEq, true_and]
      constructor
      · intro h; exact Or.inl h.symm
      · rintro (h | h)
        · exact h.symm
        · exact absurd (List.mem_map.2 ⟨(k, v), h, rfl⟩) hn.1
    · simp only [h, if_false, false_and, false_or]
      exact ih hn.2

section prims
variable (h : Heap)

@[simp] theorem getU_modU (u u' : Nat) (f : UCell → UCell) :
    (h.modU u f).getU u' = if u' = u then (h.getU u).map f else h.getU u' := by
  unfold Heap.modU
  cases hc : h.getU u with
  | none => by_cases hu : u' = u <;> simp [hu, hc]
  | some c => simp [Heap.getU, mget_mset]
@[simp] theorem getP_modU (u p : Nat) (f : UCell → UCell) : (h.modU u f).getP p = h.getP p := by
  unfold Heap.modU; split <;> rfl
@[simp] theorem next_modU (u : Nat) (f : UCell → UCell) : (h.modU u f).next = h.next := by
  unfold Heap.modU; split <;> rfl

@[simp] theorem getP_modP (p p' : Nat) (f : PCell → PCell) :
    (h.modP p f).getP p' = if p' = p then (h.getP p).map f else h.getP p' := by
  unfold Heap.modP
  cases hc : h.getP p with
  | none => by_cases hu : p' = p <;> simp [hu, hc]
  | some c => simp [Heap.getP, mget_mset]
@[simp] theorem getU_modP (p u : Nat) (f : PCell → PCell) : (h.modP p f).getU u = h.getU u := by
  unfold Heap.modP; split <;> rfl
@[simp] theorem next_modP (p : Nat) (f : PCell → PCell) : (h.modP p f).next = h.next := by
  unfold Heap.modP; split <;> rfl

@[simp] theorem getU_allocU (c : UCell) (u : Nat) :
    (h.allocU c).getU u = if u = h.next then some c else h.getU u := by
  simp [Heap.allocU, Heap.getU, mget_mset]
@[simp] theorem getP_allocU (c : UCell) (p : Nat) : (h.allocU c).getP p = h.getP p := rfl
@[simp] theorem next_allocU (c : UCell) : (h.allocU c).next = h.next + 1 := rfl

@[simp] theorem getP_allocP (c : PCell) (p : Nat) :
    (h.allocP c).getP p = if p = h.next then some c else h.getP p := by
  simp [Heap.allocP, Heap.getP, mget_mset]
@[simp] theorem getU_allocP (c : PCell) (u : Nat) : (h.allocP c).getU u = h.getU u := rfl
@[simp] theorem next_allocP (c : PCell) : (h.allocP c).next = h.next + 1 := rfl

@[simp] theorem getU_delU (u u' : Nat) : (h.delU u).getU u' = if u' = u then none else h.getU u' := by
  simp [Heap.delU, Heap.getU, mget_mdel]
@[simp] theorem getP_delU (u p : Nat) : (h.delU u).getP p = h.getP p := rfl
@[simp] theorem next_delU (u : Nat) : (h.delU u).next = h.next := rfl

@[simp] theorem getP_delP (p p' : Nat) : (h.delP p).getP p' = if p' = p then none else h.getP p' := by
  simp [Heap.delP, Heap.getP, mget_mdel]
@[simp] theorem getU_delP (p u : Nat) : (h.delP p).getU u = h.getU u := rfl
@[simp] theorem next_delP (p : Nat) : (h.delP p).next = h.next := rfl

def NodupK (h : Heap) : Prop := (keys h.urls).Nodup ∧ (keys h.params).Nodup

theorem NodupK.modU {h : Heap} (hn : NodupK h) (u : Nat) (f : UCell → UCell) : NodupK (h.modU u f) := by
  unfold Heap.modU; split
  · exact ⟨nodup_mset _ _ _ hn.1, hn.2⟩
  · exact hn
theorem NodupK.modP {h : Heap} (hn : NodupK h) (p : Nat) (f : PCell → PCell) : NodupK (h.modP p f) := by
  unfold Heap.modP; split
  · exact ⟨hn.1, nodup_mset _ _ _ hn.2⟩
  · exact hn
theorem NodupK.allocU {h : Heap} (hn : NodupK h) (c : UCell) : NodupK (h.allocU c) := ⟨nodup_mset _ _ _ hn.1, hn.2⟩
theorem NodupK.allocP {h : Heap} (hn : NodupK h) (c : PCell) : NodupK (h.allocP c) := ⟨hn.1, nodup_mset _ _ _ hn.2⟩
theorem NodupK.delU {h : Heap} (hn : NodupK h) (u : Nat) : NodupK (h.delU u) := ⟨nodup_mdel _ _ hn.1, hn.2⟩
theorem NodupK.delP {h : Heap} (hn : NodupK h) (p : Nat) : NodupK (h.delP p) := ⟨hn.1, nodup_mdel _ _ hn.2⟩

end prims

end Upa.Proofs.Own
