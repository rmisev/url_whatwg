import Upa.Proofs.C01Tail
import Upa.Proofs.Radix
import Upa.Proofs.Percent
import Upa.Proofs.Literal
import Upa.Proofs.ParserRules
/-
  C01 — the authority group of states of the basic URL parser: port, host / hostname, authority, special
  authority ignore slashes, special authority slashes, path or authority, for an arbitrary state
  override, and the file host state under an override (the host state of a file URL jumps there).  The
  tail states come from C01Tail.lean; the host parser equality `hHost` is the only hypothesis.

  FINDING: the authority state is not a full simulation.  On "cred@" followed by the end of the
  authority (e.g. "http://a@", "http://a:b@/x") the Standard has already appended the credentials to
  url's username/password when it returns failure (host missing); the code (Impl, and the C++
  url.h:1942-1948) returns before it writes anything.  Both fail; only the second component of
  `Spec.run` (the URL left behind) differs, which without a state override neither the Standard nor the
  API uses, and the authority state is never entered with an override.  See the evaluated `example` at
  the end of this file.  Hence `ResAgree r e := r = e ∨ (r.1 = none ∧ e.1 = none)` and the weak
  simulations `SimAtW` (= `SimR ResAgree`) of the authority state and of the states leading into it.
  `AuthPre` asks for empty username/password: the Standard APPENDS to them, the code OVERWRITES them;
  true wherever the authority state is reached (fresh URL with only the scheme set).

  Fuel `a = 2` from the authority state on: at the end of the authority the Standard rewinds the pointer
  by |buffer|+1 and scans the host part again in the host state.

  The code blocks are taken in the shape ParserRules.lean gives them: `C08.portState_eq`, `C08.hostState_eq`
  (`sim_port`, `Auth.sim_host_gen` rewrite with these), `C08.hostScan_cons_go`, `C08.authEnd`.
  port: the digits are scanned (`run_scan_then`, C01Run.lean), then `Auth.run_port_end` against `Auth.portFin`,
  which is the right-hand side of `C08.portState_eq` with the Standard's value `Auth.portVal` for the code's
  `C08.portResult`; `Auth.portVal_eq` (the two are equal on digits) rests on `C08.strip_long_big` (more than 5
  significant digits ⇒ > 65535) and `C08.decimalValue_strip`.
  host: `Auth.run_host` (buffer and insideBrackets generalised) against `Impl.hostScan` on the authority
  slice; `Auth.hostFin` is the right-hand side of `C08.hostState_eq` as a function of the scanned host
  string, the port part and the input after the authority (`run_host_end`, `run_host_colon`, `run_host`
  are stated with it).
  authority: `Auth.authScan` = the Standard's buffer/atSignSeen bookkeeping, `Auth.credStep` = one
  iteration of the credential loop (`Auth.loop_eq`), `Auth.credStep_pct40` ("%40" through the loop = '@'
  through the loop), `Auth.authScan_eq` (the pieces concatenate to the prefix up to the LAST '@': `Auth.authScan`
  in terms of `Impl.splitLastAt`, by its recursion equation `Auth.splitLastAt_cons`; the code block is taken
  as `C08.authorityState_none` / `_some`), `Auth.fold_cred_false` (first ':' splits username / password); the exact value of
  `Spec.run` from the authority state is `Auth.run_authority` (`Auth.authFin`).
-/
namespace Upa.Proofs.C01
open Upa.Spec (State Cfg StepResult step run)

/-- agreement of two `Spec.run`-shaped results: equal, or both failure (the URL left behind by a
    failing run without state override has no meaning in the Standard; the authority state of the
    Standard writes the credentials before it detects the missing host, the code does not) -/
def ResAgree (r e : Option Url × Url) : Prop := r = e ∨ (r.1 = none ∧ e.1 = none)

theorem ResAgree.rfl' {r : Option Url × Url} : ResAgree r r := Or.inl rfl
theorem ResAgree.fst {r e : Option Url × Url} (h : ResAgree r e) : r.1 = e.1 := by
  rcases h with h | ⟨h1, h2⟩
  · rw [h]
  · rw [h1, h2]
theorem ResAgree.snd {r e : Option Url × Url} (h : ResAgree r e) (hne : r.1 ≠ none) : r.2 = e.2 := by
  rcases h with h | ⟨h1, _⟩
  · rw [h]
  · exact absurd h1 hne

/-- `SimAt` with `ResAgree` as conclusion: the results agree, and so do the URLs left behind unless
    the result is failure.  The suffix `_partial` on `sim_authority_partial`,
    `sim_ignoreSlashes_partial`, `sim_specialAuthoritySlashes_partial`, `sim_pathOrAuthority_partial` says
    that the simulation is this weak one. -/
def SimAtW (idna : Idna) (base : Option Url) (ov : Option Override) (S : State) (a c : Nat)
    (Pre : Cfg → Prop) (B : Url → List Nat → Res) : Prop :=
  ∀ (inp : Array Nat) (k : Cfg) (i fuel : Nat),
    k.state = S → k.buffer = [] → k.p = (i : Int) → Pre k → i ≤ inp.size →
    (∀ x ∈ inp.toList, Spec.isScalar x = true) → fuel ≥ a * (inp.size - i) + c →
    ResAgree (run idna inp base (ov.map ovState) fuel k) (resOf ov (B k.url (inp.toList.drop i)))

theorem SimAt.toW {idna : Idna} {base : Option Url} {ov : Option Override} {S : State} {a c : Nat}
    {Pre : Cfg → Prop} {B : Url → List Nat → Res} (h : SimAt idna base ov S a c Pre B) :
    SimAtW idna base ov S a c Pre B :=
  fun inp k i fuel hs hb hp hP hi hsc hf => Or.inl (h inp k i fuel hs hb hp hP hi hsc hf)

/-- entry condition of the authority state: flags as initialised by the basic URL parser, and no
    credentials written yet (the Standard appends to username/password, the code overwrites them) -/
def AuthPre (k : Cfg) : Prop :=
  k.atSignSeen = false ∧ k.passwordTokenSeen = false ∧ k.insideBrackets = false ∧
    k.url.username = [] ∧ k.url.password = []

namespace Auth

/-- port state, step 2.1.1–2.1.3: the value written for the digit string `digits` -/
def portVal (u : Url) (digits : List Nat) : Option Url :=
  if digits ≠ [] then
    if decimalValue digits > 65535 then none
    else some (if Impl.defaultPort u.scheme = some (decimalValue digits) then { u with port := none }
               else { u with port := some (decimalValue digits) })
  else some u

/-- the Standard's port state after the digits (`digits` = buffer, `rest` = input from the first
    non-digit on), result in the shape of the code block -/
def portFin (ov : Option Override) (u : Url) (digits rest : List Nat) : Res :=
  if C08.portIsEnd u rest || ov.isSome then
    match portVal u digits with
    | none => ⟨.failure, u⟩
    | some u' => if ov.isSome then ⟨.ok, u'⟩ else Impl.pathStartState ov u' rest
  else ⟨.failure, u⟩

/-- the code strips leading zeros and rejects more than five digits before it compares with 65535 -/
theorem portVal_eq (u : Url) (digits : List Nat) (hd : ∀ c ∈ digits, isDigit c = true) :
    C08.portResult u digits = portVal u digits := by
  unfold C08.portResult portVal
  by_cases hne : digits ≠ []
  · simp only [if_pos hne]
    by_cases hlen : (Impl.stripLeadingZeros digits).length > 5
    · rw [if_pos hlen, if_pos (C08.strip_long_big _ hd hlen)]
    · rw [if_neg hlen, C08.decimalValue_strip]
      split
      · rfl
      · split <;> rfl
  · simp only [if_neg hne]

/-- "c is the EOF code point, U+002F (/), U+003F (?), or U+0023 (#), or url is special and c is U+005C (\)" -/
abbrev AtEnd (u : Url) (c : Option Nat) : Prop :=
  c.isNone = true ∨ (c == some 0x2F) = true ∨ (c == some 0x3F) = true ∨ (c == some 0x23) = true ∨
    (Spec.isSpecial u = true ∧ (c == some 0x5C) = true)

section
variable (idna : Idna) (base : Option Url) (inp : Array Nat) (ov : Option State)

theorem step_port {k : Cfg} {i : Nat} (hs : k.state = .port) (hp : k.p = (i : Int)) :
    step idna inp base ov k =
      if (match inp[i]? with | some ch => isDigit ch | none => false) = true then
        .continue { k with buffer := k.buffer ++ inp[i]?.toList }
      else if inp[i]?.isNone = true ∨ (inp[i]? == some 0x2F) = true ∨ (inp[i]? == some 0x3F) = true ∨
          (inp[i]? == some 0x23) = true ∨ (Spec.isSpecial k.url = true ∧ (inp[i]? == some 0x5C) = true) ∨
          ov.isSome = true then
        match portVal k.url k.buffer with
        | none => .failure k.url
        | some url =>
          if ov.isSome = true then .done url
          else .continue { k with url := url, buffer := [], state := .pathStart, p := k.p - 1 }
      else .failure k.url := by
  unfold step portVal
  simp only [hs, hp, Int.toNat_natCast, ptr_neg, if_false]
  rfl
end

section
variable {idna : Idna} {base : Option Url} {ov : Option Override}

theorem port_end_iff (c : Nat) (u : Url) (o : Option Override) :
    ((some c).isNone = true ∨ (some c == some 0x2F) = true ∨ (some c == some 0x3F) = true ∨
      (some c == some 0x23) = true ∨ (Spec.isSpecial u = true ∧ (some c == some 0x5C) = true) ∨
      (o.map ovState).isSome = true) ↔
    ((Impl.isAuthorityEnd c || (c == 0x5C && u.isSpecial)) || o.isSome) = true := by
  simp only [isSpecial_eq, Impl.isAuthorityEnd, Option.isNone_some, Bool.false_eq_true, false_or,
    Option.isSome_map, Bool.or_eq_true, Bool.and_eq_true, beq_iff_eq, Option.some.injEq, Bool.or_assoc]
  constructor
  · rintro (h | h | h | ⟨h1, h2⟩ | h) <;> simp [*]
  · rintro (h | h | h | ⟨h1, h2⟩ | h) <;> simp [*]

theorem run_port_end
    {inp : Array Nat} (hsc : ∀ x ∈ inp.toList, Spec.isScalar x = true) {k : Cfg} {i fuel : Nat}
    (hs : k.state = .port) (hp : k.p = (i : Int)) (hi : i ≤ inp.size)
    (hnd : ¬ (match inp[i]? with | some ch => isDigit ch | none => false) = true)
    (hf : fuel ≥ (inp.size - i) + 3) :
    run idna inp base (ov.map ovState) fuel k = resOf ov (portFin ov k.url k.buffer (inp.toList.drop i)) := by
  have hst := step_port idna base inp (ov.map ovState) hs hp
  rw [if_neg hnd] at hst
  obtain ⟨f, rfl, hf'⟩ := fuel_succ (n := inp.size - i + 2) hf
  have hend : (inp[i]?.isNone = true ∨ (inp[i]? == some 0x2F) = true ∨ (inp[i]? == some 0x3F) = true ∨
        (inp[i]? == some 0x23) = true ∨ (Spec.isSpecial k.url = true ∧ (inp[i]? == some 0x5C) = true) ∨
        (ov.map ovState).isSome = true) ↔
      (C08.portIsEnd k.url (inp.toList.drop i) || ov.isSome) = true := by
    rw [getElem?_of_drop rfl]
    cases inp.toList.drop i with
    | nil => simp [C08.portIsEnd]
    | cons c r => exact port_end_iff c k.url ov
  unfold portFin
  by_cases he : (C08.portIsEnd k.url (inp.toList.drop i) || ov.isSome) = true
  · rw [if_pos (hend.2 he)] at hst
    rw [if_pos he]
    cases hv : portVal k.url k.buffer with
    | none =>
      rw [hv] at hst; simp only at hst ⊢
      rw [run_failure f hst]; rfl
    | some u' =>
      rw [hv] at hst; simp only at hst ⊢
      cases ov with
      | some o =>
        simp only [Option.map_some, Option.isSome_some, if_true] at hst ⊢
        rw [run_done f hst]; rfl
      | none =>
        simp only [Option.map_none, Option.isSome_none, Bool.false_eq_true, if_false] at hst ⊢
        -- `( … :)` here and below: elaborated without the goal, since unifying with it before `hst`
        -- fixes the next configuration would unfold the code block
        exact (SimR.after_step (R := Eq) (j := i) (sim_pathStart idna base none) (fuel := f + 1) hst rfl rfl
          (by simp [hp]) trivial hi hsc (by omega) :)
  · rw [if_neg (mt hend.1 he)] at hst
    rw [if_neg he, run_failure f hst]; rfl

theorem step_port_digit {inp : Array Nat} {ov : Option State} {u : Url} {f1 f2 f3 : Bool}
    (buf : List Nat) (i c : Nat) (hc : inp[i]? = some c) (h : isDigit c = true) :
    step idna inp base ov ⟨u, .port, buf, f1, f2, f3, (i : Int)⟩ =
      .continue ⟨u, .port, buf ++ [id c], f1, f2, f3, (i : Int)⟩ :=
  (step_port idna base inp ov rfl rfl).trans (by simp only [hc, h, if_true]; rfl)

theorem _root_.Upa.Proofs.C01.sim_port (ov : Option Override) :
    SimAt idna base ov .port 1 3 (fun _ => True) (Impl.portState ov) := by
  refine SimR.of_cfg (R := Eq) fun inp u f1 f2 f3 i fuel _ hi hsc hf => ?_
  generalize hr : inp.toList.drop i = p
  rw [C08.portState_eq, portVal_eq u _ fun _ h => (mem_takeWhile h).1]
  refine run_scan_then (P := (· = _)) (q := isDigit) (f := id) step_port_digit hr hi [] (Nat.le_refl 1) hf
    fun j g _ hrest hj hg hend => ?_
  rw [List.map_id, List.nil_append, ← hrest]
  exact run_port_end hsc rfl rfl hj
    (by cases hc : inp[j]? with | none => simp | some c => simp [hend c hc]) (by omega)
end

/-! ### file host state under a state override (the host state of a file URL jumps there): it ends in done or
failure -/

section
variable {idna : Idna} {inp : Array Nat} {base : Option Url} {ov : Option State}
variable {u : Url} {buf : List Nat} {f1 f2 f3 : Bool} {i : Nat}

theorem step_fileHost_other {c : Nat} (hc : inp[i]? = some c) (h : (!Impl.isSpecialAuthorityEnd c) = true) :
    step idna inp base ov ⟨u, .fileHost, buf, f1, f2, f3, (i : Int)⟩ =
      .continue ⟨u, .fileHost, buf ++ [c], f1, f2, f3, (i : Int)⟩ := by
  unfold step
  simp only [Int.toNat_natCast, ptr_neg, if_false, hc]
  simp [Impl.isSpecialAuthorityEnd] at h
  simp [h]

/-- the file host state's test for the end of the host, as the Standard spells it -/
theorem specialEnd_cond {c : Option Nat} (h : ∀ x, c = some x → Impl.isSpecialAuthorityEnd x = true) :
    c.isNone = true ∨ (c == some 0x2F) = true ∨ (c == some 0x5C) = true ∨ (c == some 0x3F) = true ∨
      (c == some 0x23) = true := by
  cases c with
  | none => exact Or.inl rfl
  | some x =>
    have := h x rfl
    simp only [Impl.isSpecialAuthorityEnd, Bool.or_eq_true, beq_iff_eq] at this
    simp only [beq_iff_eq, Option.some.injEq]
    omega

/-- the run on the code point that ends the host string; `hp`: the host parser equality on the buffer -/
theorem step_fileHost_end (idna : Idna) (inp : Array Nat) (base : Option Url) (ov : Option State) (u : Url) (buf : List Nat)
    (f1 f2 f3 : Bool) (i : Nat)
    (hend : ∀ c, inp[i]? = some c → Impl.isSpecialAuthorityEnd c = true)
    (hp : Impl.parseHost idna buf (!u.isSpecial) = Spec.hostParse idna buf (!Spec.isSpecial u)) :
    step idna inp base ov ⟨u, .fileHost, buf, f1, f2, f3, (i : Int)⟩ =
      if ov.isNone ∧ Spec.isWindowsDriveLetter buf then
        .continue ⟨u, .path, buf, f1, f2, f3, (i : Int) - 1⟩
      else if buf = [] then
        if ov.isSome then .done { u with host := some Spec.emptyHost }
        else .continue ⟨{ u with host := some Spec.emptyHost }, .pathStart, [], f1, f2, f3, (i : Int) - 1⟩
      else match Impl.parseHost idna buf (!u.isSpecial) with
        | none => .failure u
        | some h =>
          if ov.isSome then
            .done { u with host := some (if h.text = asciiStr "localhost" then Spec.emptyHost else h) }
          else .continue ⟨{ u with host := some (if h.text = asciiStr "localhost" then Spec.emptyHost else h) },
                 .pathStart, [], f1, f2, f3, (i : Int) - 1⟩ := by
  rw [hp]
  unfold step
  simp only [Int.toNat_natCast, ptr_neg, if_false, if_pos (specialEnd_cond hend)]
  refine ite_congr rfl (fun _ => rfl) fun _ => ite_congr rfl (fun h => ?_) fun _ => rfl
  subst h; rfl

end

/-- the host string of the file host state: up to EOF or one of `/ \ ? #` -/
abbrev fhKeep (c : Nat) : Bool := !Impl.isSpecialAuthorityEnd c

theorem _root_.Upa.Proofs.C01.sim_fileHost_isSome {idna : Idna} {base : Option Url}
    (hHost : HostOk idna) (ov : Option Override) (h : ov.isSome = true) :
    SimAt idna base ov .fileHost 1 1 (fun _ => True) (Impl.fileHostState idna ov) := by
  refine SimR.of_cfg (R := Eq) fun inp u f1 f2 f3 i fuel _ hi hsc hf => ?_
  generalize hr : inp.toList.drop i = p
  have hn : ov.isNone = false := by cases ov with | none => cases h | some o => rfl
  refine run_scan_then (P := (· = _)) (q := fhKeep) (f := id) (fun _ _ _ hc h => step_fileHost_other hc h) hr hi []
    (Nat.le_refl 1) hf fun j g _ _ _ hg hend => ?_
  rw [List.map_id, List.nil_append]
  obtain ⟨f, rfl, -⟩ := fuel_succ (fuel := g) (n := 0) (by omega)
  have hst := step_fileHost_end idna inp base (ov.map ovState) u (p.takeWhile fhKeep) f1 f2 f3 j
    (fun c hc => by simpa using hend c hc)
    (hHost _ _ fun c hc => drop_scalar hsc hr c (List.takeWhile_subset _ hc))
  simp only [Option.isSome_map, Option.isNone_map, h, hn, Bool.false_eq_true, false_and, if_false, if_true] at hst
  -- the branches of `Impl.fileHostState`: empty host string with / without override; drive letter (no override only);
  -- host parser fails; host parsed with / without override
  fun_cases Impl.fileHostState idna ov u p
  · rw [run_done f (hst.trans (if_pos (by assumption)))]; rfl
  · exact absurd h (by assumption)
  · next hd => rw [hn] at hd; cases hd
  · rw [if_neg (by assumption)] at hst; erw [‹Impl.parseHost _ _ _ = none›] at hst
    rw [run_failure f hst]; rfl
  · rw [if_neg (by assumption)] at hst; erw [‹Impl.parseHost _ _ _ = some _›] at hst
    rw [run_done f hst]
    simp (config := { zetaDelta := true }) only [resOf_ok, beq_iff_eq]; rfl
  · exact absurd h (by assumption)

theorem _root_.Upa.Proofs.C01.sim_fileHost_ov {idna : Idna} {base : Option Url} (hHost : HostOk idna) (o : Override) :
    SimAt idna base (some o) .fileHost 1 1 (fun _ => True) (Impl.fileHostState idna (some o)) :=
  sim_fileHost_isSome hHost (some o) rfl

section
variable (idna : Idna) (base : Option Url) (inp : Array Nat) (ov : Option State)

theorem step_host {k : Cfg} {i : Nat} (hs : k.state = .host ∨ k.state = .hostname) (hp : k.p = (i : Int)) :
    step idna inp base ov k =
      if ov.isSome = true ∧ k.url.scheme = Impl.sFile then .continue { k with p := k.p - 1, state := .fileHost }
      else if (inp[i]? == some 0x3A) = true ∧ k.insideBrackets = false then
        if k.buffer = [] then .failure k.url
        else if ov = some .hostname then .done k.url
        else match Spec.hostParse idna k.buffer (!Spec.isSpecial k.url) with
          | none => .failure k.url
          | some h => .continue { k with url := { k.url with host := some h }, buffer := [], state := .port }
      else if AtEnd k.url inp[i]? then
        if Spec.isSpecial k.url = true ∧ k.buffer = [] then .failure k.url
        else if ov.isSome = true ∧ k.buffer = [] ∧
            (Spec.includesCredentials k.url || k.url.port.isSome) = true then .done k.url
        else match Spec.hostParse idna k.buffer (!Spec.isSpecial k.url) with
          | none => .failure k.url
          | some h =>
            if ov.isSome = true then .done { k.url with host := some h }
            else .continue { k with url := { k.url with host := some h }, buffer := [], state := .pathStart,
                                    p := k.p - 1 }
      else .continue { k with
        insideBrackets := (if (inp[i]? == some 0x5B) = true then true
                           else if (inp[i]? == some 0x5D) = true then false else k.insideBrackets),
        buffer := k.buffer ++ inp[i]?.toList } := by
  rcases hs with hs | hs <;> (unfold step; simp only [hs, hp, Int.toNat_natCast, ptr_neg, if_false]) <;> rfl
end

theorem end_iff (c : Nat) (u : Url) :
    AtEnd u (some c) ↔
    C08.authEnd u.isSpecial c = true := by
  rw [C08.authEnd_iff, AtEnd, isSpecial_eq]
  simp

theorem authEnd_colon (sp : Bool) : C08.authEnd sp 0x3A = false := by cases sp <;> rfl
theorem authEnd_at (sp : Bool) : C08.authEnd sp 0x40 = false := by cases sp <;> rfl

/-- what the host state does once the host string `buf` is delimited: by a port colon
    (`portPart = some` rest of the authority) or by the end of the authority -/
def hostFin (idna : Idna) (ov : Option Override) (u : Url) (buf : List Nat) (portPart : Option (List Nat))
    (afterAuth : List Nat) : Res :=
  if buf = [] && (portPart.isSome || u.isSpecial) then ⟨.failure, u⟩
  else if buf = [] && ov.isSome && (u.hasCredentials || u.port.isSome) then ⟨.ignored, u⟩
  else if portPart.isSome && ov = some .hostname then ⟨.ignored, u⟩
  else
    match Impl.parseHost idna buf (!u.isSpecial) with
    | none => ⟨.failure, u⟩
    | some h =>
      match portPart with
      | some pp => Impl.portState ov { u with host := some h } (pp ++ afterAuth)
      | none => if ov.isSome then ⟨.ok, { u with host := some h }⟩
                else Impl.pathStartState ov { u with host := some h } afterAuth

section
variable {idna : Idna} {base : Option Url} {ov : Option Override}

variable (hHost : HostOk idna)

theorem ov_hostname_iff (ov : Option Override) : ov.map ovState = some State.hostname ↔ ov = some .hostname := by
  cases ov with
  | none => simp
  | some o => cases o <;> simp [ovState]

theorem includesCredentials_eq (u : Url) : Spec.includesCredentials u = u.hasCredentials := rfl

include hHost in
theorem run_host_end
    {inp : Array Nat} (hsc : ∀ x ∈ inp.toList, Spec.isScalar x = true) {k : Cfg} {i fuel : Nat}
    (hs : k.state = .host ∨ k.state = .hostname) (hp : k.p = (i : Int)) (hi : i ≤ inp.size)
    (hnf : ¬ (ov.isSome = true ∧ k.url.scheme = Impl.sFile))
    (hbsc : ∀ c ∈ k.buffer, Spec.isScalar c = true)
    (hncolon : ¬ ((inp[i]? == some 0x3A) = true ∧ k.insideBrackets = false))
    (hend : AtEnd k.url inp[i]?)
    (hf : fuel ≥ (inp.size - i) + 3) :
    run idna inp base (ov.map ovState) fuel k =
      resOf ov (hostFin idna ov k.url k.buffer none (inp.toList.drop i)) := by
  have hst := step_host idna base inp (ov.map ovState) hs hp
  rw [if_neg (by simpa using hnf), if_neg hncolon, if_pos hend] at hst
  obtain ⟨f, rfl, hf'⟩ := fuel_succ (n := inp.size - i + 2) hf
  unfold hostFin
  simp only [isSpecial_eq, includesCredentials_eq, Option.isSome_map] at hst
  simp only [Option.isSome_none, Bool.false_or, Bool.false_and, Bool.false_eq_true, if_false]
  by_cases h1 : k.url.isSpecial = true ∧ k.buffer = []
  · rw [if_pos h1] at hst
    rw [if_pos (by simp [h1.1, h1.2]), run_failure f hst]; rfl
  · rw [if_neg h1] at hst
    rw [if_neg (by simpa [and_comm] using h1)]
    by_cases h2 : ov.isSome = true ∧ k.buffer = [] ∧ (k.url.hasCredentials || k.url.port.isSome) = true
    · rw [if_pos h2] at hst
      rw [if_pos (by simp [h2.1, h2.2.1, h2.2.2]), run_done f hst]
      obtain ⟨o, rfl⟩ := Option.isSome_iff_exists.1 h2.1
      rfl
    · rw [if_neg h2] at hst
      rw [if_neg (by
        intro h; apply h2; simp only [Bool.and_eq_true, decide_eq_true_eq] at h
        exact ⟨h.1.2, h.1.1, h.2⟩)]
      rw [← hHost _ _ hbsc] at hst
      cases hh : Impl.parseHost idna k.buffer (!k.url.isSpecial) with
      | none =>
        rw [hh] at hst; simp only at hst ⊢
        rw [run_failure f hst]; rfl
      | some h =>
        rw [hh] at hst; simp only at hst ⊢
        cases hov : ov with
        | some o =>
          subst hov
          simp only [Option.isSome_some, if_true] at hst ⊢
          rw [run_done f hst]; rfl
        | none =>
          subst hov
          simp only [Option.isSome_none, Bool.false_eq_true, if_false] at hst ⊢
          exact (SimR.after_step (R := Eq) (j := i) (sim_pathStart idna base none) (fuel := f + 1) hst rfl rfl
            (by simp [hp]) trivial hi hsc (by omega) :)

include hHost in
theorem run_host_colon
    {inp : Array Nat} (hsc : ∀ x ∈ inp.toList, Spec.isScalar x = true) {k : Cfg} {i fuel : Nat}
    (hs : k.state = .host ∨ k.state = .hostname) (hp : k.p = (i : Int)) (hi : i < inp.size)
    (hnf : ¬ (ov.isSome = true ∧ k.url.scheme = Impl.sFile))
    (hbsc : ∀ c ∈ k.buffer, Spec.isScalar c = true)
    (hc : inp[i]? = some 0x3A) (hib : k.insideBrackets = false)
    (pp aa : List Nat) (hpp : inp.toList.drop (i + 1) = pp ++ aa)
    (hf : fuel ≥ (inp.size - i) + 3) :
    run idna inp base (ov.map ovState) fuel k =
      resOf ov (hostFin idna ov k.url k.buffer (some pp) aa) := by
  have hst := step_host idna base inp (ov.map ovState) hs hp
  rw [if_neg (by simpa using hnf), if_pos (by simp [hc, hib])] at hst
  obtain ⟨f, rfl, hf'⟩ := fuel_succ (n := inp.size - i + 2) hf
  unfold hostFin
  simp only [isSpecial_eq, ov_hostname_iff] at hst
  simp only [Option.isSome_some, Bool.true_or, Bool.and_true, Bool.true_and]
  by_cases h1 : k.buffer = []
  · rw [if_pos h1] at hst
    rw [if_pos (by simp [h1]), run_failure f hst]; rfl
  · rw [if_neg h1] at hst
    rw [if_neg (by simp [h1]), if_neg (by simp [h1])]
    by_cases h2 : ov = some .hostname
    · rw [if_pos h2] at hst
      rw [if_pos (by simp [h2]), run_done f hst, h2]
      rfl
    · rw [if_neg h2] at hst
      rw [if_neg (by simpa using h2)]
      rw [← hHost _ _ hbsc] at hst
      cases hh : Impl.parseHost idna k.buffer (!k.url.isSpecial) with
      | none =>
        rw [hh] at hst; simp only at hst ⊢
        rw [run_failure f hst]; rfl
      | some h =>
        rw [hh] at hst; simp only at hst ⊢
        rw [← hpp]
        exact (SimR.after_step (R := Eq) (j := i + 1) (sim_port ov) (fuel := f + 1) hst rfl rfl
          (by simp [hp]) trivial (by omega) hsc (by omega) :)
include hHost in
theorem run_host
    (inp : Array Nat) (hsc : ∀ x ∈ inp.toList, Spec.isScalar x = true) :
    ∀ (rest : List Nat) (k : Cfg) (i fuel : Nat), inp.toList.drop i = rest →
      (k.state = .host ∨ k.state = .hostname) → k.p = (i : Int) → i ≤ inp.size →
      ¬ (ov.isSome = true ∧ k.url.scheme = Impl.sFile) →
      (∀ c ∈ k.buffer, Spec.isScalar c = true) → fuel ≥ rest.length + 3 →
      run idna inp base (ov.map ovState) fuel k =
        resOf ov (hostFin idna ov k.url
          (k.buffer ++ (Impl.hostScan (rest.takeWhile (fun c => !C08.authEnd k.url.isSpecial c)) k.insideBrackets).1)
          (Impl.hostScan (rest.takeWhile (fun c => !C08.authEnd k.url.isSpecial c)) k.insideBrackets).2
          (rest.dropWhile (fun c => !C08.authEnd k.url.isSpecial c))) := by
  intro rest
  induction rest with
  | nil =>
    intro k i fuel hd hs hp hi hnf hbsc hf
    obtain ⟨hnone, hsize⟩ := getElem?_of_drop_nil hd
    have := run_host_end (base := base) hHost hsc hs hp hi hnf hbsc (by simp [hnone]) (Or.inl (by rw [hnone]; rfl))
      (fuel := fuel) (by simp at hf; omega)
    rw [this, hd]
    simp [Impl.hostScan]
  | cons c r ih =>
    intro k i fuel hd hs hp hi hnf hbsc hf
    obtain ⟨hget, hlt, hd'⟩ := getElem?_of_drop_cons hd
    have hlen := drop_length hd
    simp only [List.length_cons] at hlen hf
    by_cases hend : C08.authEnd k.url.isSpecial c = true
    · have hne : c ≠ 0x3A := by
        intro h; rw [h, authEnd_colon] at hend; cases hend
      have := run_host_end (base := base) hHost hsc hs hp hi hnf hbsc (by simp [hget, hne])
        (by rw [hget]; exact (end_iff c k.url).2 hend) (fuel := fuel) (by omega)
      rw [this, hd, List.takeWhile_cons_of_neg (by simp [hend]), List.dropWhile_cons_of_neg (by simp [hend])]
      simp [Impl.hostScan]
    · have hend' : (!C08.authEnd k.url.isSpecial c) = true := by simpa using hend
      rw [List.takeWhile_cons_of_pos (p := fun c => !C08.authEnd k.url.isSpecial c) hend',
        List.dropWhile_cons_of_pos (p := fun c => !C08.authEnd k.url.isSpecial c) hend']
      by_cases hcol : c = 0x3A ∧ k.insideBrackets = false
      · obtain ⟨rfl, hib⟩ := hcol
        rw [hib, C08.hostScan_colon]
        have := run_host_colon (base := base) hHost hsc hs hp hlt hnf hbsc hget hib
          (r.takeWhile (fun c => !C08.authEnd k.url.isSpecial c)) (r.dropWhile (fun c => !C08.authEnd k.url.isSpecial c))
          (by rw [hd', List.takeWhile_append_dropWhile]) (fuel := fuel) (by omega)
        rw [this]; simp
      · have hst := step_host idna base inp (ov.map ovState) hs hp
        rw [if_neg (by simpa using hnf), if_neg (by simpa [hget] using hcol),
          if_neg (by rw [hget, end_iff]; exact hend)] at hst
        obtain ⟨f, rfl, hf'⟩ := fuel_succ (n := r.length + 3) hf
        rw [run_continue' (j := i + 1) f hst (by simp [hp]) (by omega)]
        refine (ih _ (i + 1) f hd' ?_ ?_ (by omega) ?_ ?_ hf').trans ?_
        · exact hs
        · rfl
        · exact hnf
        · intro x hx
          simp only [hget, Option.toList_some, List.mem_append, List.mem_singleton] at hx
          rcases hx with hx | rfl
          · exact hbsc x hx
          · exact hsc x (by rw [← List.take_append_drop i inp.toList, hd]; simp)
        · rw [C08.hostScan_cons_go c _ _ hcol]
          by_cases e : c = 0x3A
          · subst e; simp [hget]
          · simp [hget, e]

include hHost in
theorem sim_host_gen (S : State) (hS : S = .host ∨ S = .hostname) :
    SimAt idna base ov S 1 3 (fun k => k.insideBrackets = false) (Impl.hostState idna ov) := by
  intro inp k i fuel hs hb hp hib hi hsc hf
  have hs' : k.state = .host ∨ k.state = .hostname := by rw [hs]; exact hS
  by_cases hfile : ov.isSome = true ∧ k.url.scheme = Impl.sFile
  · have hst := step_host idna base inp (ov.map ovState) hs' hp
    rw [if_pos (by simpa using hfile)] at hst
    have := SimR.after_step (R := Eq) (j := i) (sim_fileHost_isSome hHost ov hfile.1) (fuel := fuel) hst rfl hb
      (by simp [hp]) trivial hi hsc (by omega)
    rw [this]
    unfold Impl.hostState
    rw [if_pos (by simp [hfile.1, Url.isFile, Impl.isFileScheme, hfile.2])]
  · have hf : (ov.isSome && k.url.isFile) = false := by
      simp only [Url.isFile, Impl.isFileScheme]
      cases ho : ov.isSome <;> simp_all
    rw [C08.hostState_eq idna ov k.url _ _ _ _ _ hf rfl rfl rfl,
      run_host hHost inp hsc _ k i fuel rfl hs' hp hi hfile (by simp [hb]) (by simp; omega),
      hb, hib]
    rfl

theorem _root_.Upa.Proofs.C01.sim_host (ov : Option Override) (hHost : HostOk idna) :
    SimAt idna base ov .host 1 3 (fun k => k.insideBrackets = false) (Impl.hostState idna ov) :=
  sim_host_gen hHost .host (Or.inl rfl)

/-- hostname state (only entered as a state override) -/
theorem _root_.Upa.Proofs.C01.sim_hostname (ov : Option Override) (hHost : HostOk idna) :
    SimAt idna base ov .hostname 1 3 (fun k => k.insideBrackets = false) (Impl.hostState idna ov) :=
  sim_host_gen hHost .hostname (Or.inr rfl)
end

/-- `Impl.splitLastAt` by recursion on the list -/
theorem splitLastAt_cons (c : Nat) (r : List Nat) :
    Impl.splitLastAt (c :: r) =
      match Impl.splitLastAt r with
      | some (a, b) => some (c :: a, b)
      | none => if c = 0x40 then some ([], r) else none := by
  unfold Impl.splitLastAt
  simp only [List.reverse_cons]
  rw [List.dropWhile_append, List.takeWhile_append]
  have hsplit := List.takeWhile_append_dropWhile (p := (· != 0x40)) (l := r.reverse)
  cases h : List.dropWhile (· != 0x40) r.reverse with
  | nil =>
    rw [h, List.append_nil] at hsplit
    rw [hsplit]
    by_cases hc : c = 0x40
    · subst hc; simp
    · simp [hc]
  | cons x before =>
    have hlen := congrArg List.length hsplit
    rw [h] at hlen
    simp only [List.length_append, List.length_cons] at hlen
    have h1 : ¬ (List.takeWhile (· != 0x40) r.reverse).length = r.reverse.length := by omega
    simp only [List.isEmpty_cons, Bool.false_eq_true, if_false, if_neg h1]
    simp

/-- the authority state's buffer / atSignSeen bookkeeping on the authority slice (no end code point in
    it): returns (atSignSeen, the code points fed to the credential loop with '@' for each "%40",
    buffer) at the end of the authority -/
def authScan : List Nat → List Nat → Bool → Bool × List Nat × List Nat
  | [], buf, seen => (seen, [], buf)
  | c :: r, buf, seen =>
    if c = 0x40 then
      ((authScan r [] true).1, (if seen then 0x40 :: buf else buf) ++ (authScan r [] true).2.1,
        (authScan r [] true).2.2)
    else authScan r (buf ++ [c]) seen

theorem authScan_eq (a : List Nat) : ∀ (buf : List Nat) (seen : Bool),
    authScan a buf seen =
      match Impl.splitLastAt a with
      | none => (seen, [], buf ++ a)
      | some (cred, hp) => (true, (if seen then 0x40 :: (buf ++ cred) else buf ++ cred), hp) := by
  induction a with
  | nil => intro buf seen; simp [authScan, Impl.splitLastAt]
  | cons c r ih =>
    intro buf seen
    rw [authScan, splitLastAt_cons]
    by_cases hc : c = 0x40
    · subst hc
      rw [if_pos rfl, ih]
      cases Impl.splitLastAt r with
      | none => cases seen <;> simp
      | some ab => cases seen <;> simp
    · rw [if_neg hc, ih]
      cases Impl.splitLastAt r with
      | none => simp [hc]
      | some ab => cases seen <;> simp

/-- one iteration of "for each codePoint in buffer" of the authority state on
    (passwordTokenSeen, username, password) -/
def credStep (st : Bool × List Nat × List Nat) (cp : Nat) : Bool × List Nat × List Nat :=
  if cp = 0x3A ∧ st.1 = false then (true, st.2.1, st.2.2)
  else if st.1 = true then (st.1, st.2.1, st.2.2 ++ Spec.utf8PercentEncodeChar Spec.userinfoSet cp)
  else (st.1, st.2.1 ++ Spec.utf8PercentEncodeChar Spec.userinfoSet cp, st.2.2)

theorem loop_eq (s : List Nat) : ∀ (pw : Bool) (user pass : List Nat),
    Spec.step.loop s pw user pass = s.foldl credStep (pw, user, pass) := by
  induction s with
  | nil => intro pw user pass; simp [Spec.step.loop]
  | cons c r ih =>
    intro pw user pass
    rw [Spec.step.loop, List.foldl_cons]
    by_cases h : c = 0x3A ∧ pw = false
    · rw [if_pos h, ih]; simp only [credStep, h, and_self, if_true]
    · rw [if_neg h]
      cases pw
      · have hc : c ≠ 0x3A := by simpa using h
        simp [ih, credStep, hc]
      · simp [ih, credStep]

theorem credStep_pct40 (st : Bool × List Nat × List Nat) (b : List Nat) :
    (asciiStr "%40" ++ b).foldl credStep st = (0x40 :: b).foldl credStep st := by
  have e : asciiStr "%40" = [0x25, 0x34, 0x30] := by decide
  rw [e]
  simp only [List.cons_append, List.nil_append, List.foldl_cons]
  congr 1
  obtain ⟨pw, user, pass⟩ := st
  have e1 : Spec.utf8PercentEncodeChar Spec.userinfoSet 0x25 = [0x25] := by decide
  have e2 : Spec.utf8PercentEncodeChar Spec.userinfoSet 0x34 = [0x34] := by decide
  have e3 : Spec.utf8PercentEncodeChar Spec.userinfoSet 0x30 = [0x30] := by decide
  have e4 : Spec.utf8PercentEncodeChar Spec.userinfoSet 0x40 = [0x25, 0x34, 0x30] := by decide
  cases pw <;> simp [credStep, e1, e2, e3, e4]

theorem fold_cred_true (s : List Nat) : ∀ (user pass : List Nat),
    s.foldl credStep (true, user, pass) = (true, user, pass ++ Spec.utf8PercentEncode Spec.userinfoSet s) := by
  induction s with
  | nil => intro user pass; simp [Spec.utf8PercentEncode]
  | cons c r ih =>
    intro user pass
    rw [List.foldl_cons]
    simp only [credStep, Bool.true_eq_false, and_false, if_false, if_true]
    rw [ih]; simp [Spec.utf8PercentEncode]

theorem fold_cred_false (s : List Nat) : ∀ (user pass : List Nat),
    (s.foldl credStep (false, user, pass)).2 =
      (user ++ Spec.utf8PercentEncode Spec.userinfoSet (s.takeWhile (· != 0x3A)),
       pass ++ Spec.utf8PercentEncode Spec.userinfoSet ((s.dropWhile (· != 0x3A)).drop 1)) := by
  induction s with
  | nil => intro user pass; simp [Spec.utf8PercentEncode]
  | cons c r ih =>
    intro user pass
    rw [List.foldl_cons]
    by_cases hc : c = 0x3A
    · subst hc
      simp [credStep, fold_cred_true, Spec.utf8PercentEncode]
    · simp only [credStep, hc, false_and, if_false, Bool.false_eq_true]
      rw [ih]
      simp [hc, Spec.utf8PercentEncode]


theorem loop_at (seen : Bool) (buf : List Nat) (pw : Bool) (user pass : List Nat) :
    Spec.step.loop (if seen = true then asciiStr "%40" ++ buf else buf) pw user pass =
      (if seen = true then 0x40 :: buf else buf).foldl credStep (pw, user, pass) := by
  rw [loop_eq]
  cases seen
  · rfl
  · simp only [if_true]; exact credStep_pct40 _ _

section
variable (idna : Idna) (base : Option Url) (inp : Array Nat) (ov : Option State)

theorem step_authority {k : Cfg} {i : Nat} (hs : k.state = .authority) (hp : k.p = (i : Int)) :
    step idna inp base ov k =
      if (inp[i]? == some 0x40) = true then
        .continue { k with
          url := { k.url with
            username := ((if k.atSignSeen = true then 0x40 :: k.buffer else k.buffer).foldl credStep
              (k.passwordTokenSeen, k.url.username, k.url.password)).2.1,
            password := ((if k.atSignSeen = true then 0x40 :: k.buffer else k.buffer).foldl credStep
              (k.passwordTokenSeen, k.url.username, k.url.password)).2.2 },
          atSignSeen := true,
          passwordTokenSeen := ((if k.atSignSeen = true then 0x40 :: k.buffer else k.buffer).foldl credStep
              (k.passwordTokenSeen, k.url.username, k.url.password)).1,
          buffer := [] }
      else if AtEnd k.url inp[i]? then
        if k.atSignSeen = true ∧ k.buffer = [] then .failure k.url
        else .continue { k with p := k.p - (k.buffer.length + 1), buffer := [], state := .host }
      else .continue { k with buffer := k.buffer ++ inp[i]?.toList } := by
  unfold step
  simp only [hs, hp, Int.toNat_natCast, ptr_neg, if_false, loop_at]
end

/-- result of the authority state given the bookkeeping `scan` = (atSignSeen, code points fed to the credential
    loop, buffer) of `authScan` at the end of the authority (`Spec.run`'s pair: on "host missing" the Standard has
    already written the credentials) -/
def authFin (idna : Idna) (ov : Option Override) (u : Url) (pw : Bool) (scan : Bool × List Nat × List Nat)
    (after : List Nat) : Option Url × Url :=
  if scan.1 = true ∧ scan.2.2 = [] then
    (none, { u with username := (scan.2.1.foldl credStep (pw, u.username, u.password)).2.1,
                    password := (scan.2.1.foldl credStep (pw, u.username, u.password)).2.2 })
  else resOf ov (Impl.hostState idna ov
    { u with username := (scan.2.1.foldl credStep (pw, u.username, u.password)).2.1,
             password := (scan.2.1.foldl credStep (pw, u.username, u.password)).2.2 } (scan.2.2 ++ after))

section
variable {idna : Idna} {base : Option Url} {ov : Option Override}

theorem run_authority_end
    (sim_host : SimAt idna base ov .host 1 3 (fun k => k.insideBrackets = false) (Impl.hostState idna ov))
    {inp : Array Nat} (hsc : ∀ x ∈ inp.toList, Spec.isScalar x = true) {k : Cfg} {i fuel : Nat}
    (hs : k.state = .authority) (hp : k.p = (i : Int)) (hi : i ≤ inp.size) (hib : k.insideBrackets = false)
    (hm : ∃ m, m + k.buffer.length = i ∧ inp.toList.drop m = k.buffer ++ inp.toList.drop i)
    (hnat : ¬ (inp[i]? == some 0x40) = true)
    (hend : AtEnd k.url inp[i]?)
    (hf : fuel ≥ (inp.size - i) + k.buffer.length + 4) :
    run idna inp base (ov.map ovState) fuel k =
      authFin idna ov k.url k.passwordTokenSeen (k.atSignSeen, [], k.buffer) (inp.toList.drop i) := by
  have hst := step_authority idna base inp (ov.map ovState) hs hp
  rw [if_neg hnat, if_pos hend] at hst
  obtain ⟨f, rfl, hf'⟩ := fuel_succ (n := inp.size - i + k.buffer.length + 3) hf
  unfold authFin
  simp only [List.foldl_nil]
  by_cases h1 : k.atSignSeen = true ∧ k.buffer = []
  · rw [if_pos h1] at hst
    rw [if_pos h1, run_failure f hst]
  · rw [if_neg h1] at hst
    rw [if_neg h1]
    obtain ⟨m, hm1, hm2⟩ := hm
    have := SimR.after_step (R := Eq) (j := m) sim_host (fuel := f + 1) hst rfl rfl
      (by simp only [hp]; omega) hib (by omega) hsc (by omega)
    rw [this, hm2]
/-- The invariant `∃ m, m + k.buffer.length = i ∧ inp.toList.drop m = k.buffer ++ rest`: the buffer is the slice of the
    input right before the pointer, so the rewind by `|buffer| + 1` at the end of the authority puts the host state
    on the start of that slice (`run_authority_end`). -/
theorem run_authority
    (sim_host : SimAt idna base ov .host 1 3 (fun k => k.insideBrackets = false) (Impl.hostState idna ov))
    (inp : Array Nat) (hsc : ∀ x ∈ inp.toList, Spec.isScalar x = true) :
    ∀ (rest : List Nat) (k : Cfg) (i fuel : Nat), inp.toList.drop i = rest →
      k.state = .authority → k.p = (i : Int) → i ≤ inp.size → k.insideBrackets = false →
      (∃ m, m + k.buffer.length = i ∧ inp.toList.drop m = k.buffer ++ rest) →
      fuel ≥ 2 * rest.length + k.buffer.length + 4 →
      run idna inp base (ov.map ovState) fuel k =
        authFin idna ov k.url k.passwordTokenSeen
          (authScan (rest.takeWhile (fun c => !C08.authEnd k.url.isSpecial c)) k.buffer k.atSignSeen)
          (rest.dropWhile (fun c => !C08.authEnd k.url.isSpecial c)) := by
  intro rest
  induction rest with
  | nil =>
    intro k i fuel hd hs hp hi hib hm hf
    obtain ⟨hnone, hsize⟩ := getElem?_of_drop_nil hd
    have := run_authority_end sim_host hsc hs hp hi hib (by rw [hd]; exact hm) (by simp [hnone])
      (Or.inl (by rw [hnone]; rfl)) (fuel := fuel) (by simp at hf; omega)
    rw [this, hd]
    simp [authScan]
  | cons c r ih =>
    intro k i fuel hd hs hp hi hib hm hf
    obtain ⟨hget, hlt, hd'⟩ := getElem?_of_drop_cons hd
    have hlen := drop_length hd
    simp only [List.length_cons] at hlen hf
    by_cases hend : C08.authEnd k.url.isSpecial c = true
    · have hne : c ≠ 0x40 := by
        intro h; rw [h, authEnd_at] at hend; cases hend
      have := run_authority_end sim_host hsc hs hp hi hib (by rw [hd]; exact hm) (by simp [hget, hne])
        (by rw [hget]; exact (end_iff c k.url).2 hend) (fuel := fuel) (by omega)
      rw [this, hd, List.takeWhile_cons_of_neg (by simp [hend]), List.dropWhile_cons_of_neg (by simp [hend])]
      simp [authScan]
    · have hend' : (!C08.authEnd k.url.isSpecial c) = true := by simpa using hend
      rw [List.takeWhile_cons_of_pos (p := fun c => !C08.authEnd k.url.isSpecial c) hend',
        List.dropWhile_cons_of_pos (p := fun c => !C08.authEnd k.url.isSpecial c) hend']
      have hst := step_authority idna base inp (ov.map ovState) hs hp
      obtain ⟨f, rfl, hf'⟩ := fuel_succ (n := 2 * r.length + k.buffer.length + 5)
        (show fuel ≥ 2 * r.length + k.buffer.length + 5 + 1 by omega)
      by_cases hat : c = 0x40
      · subst hat
        rw [if_pos (by simp [hget])] at hst
        rw [run_continue' (j := i + 1) f hst (by simp [hp]) (by omega)]
        refine (ih _ (i + 1) f hd' ?_ ?_ (by omega) ?_ ?_ ?_).trans ?_
        · exact hs
        · rfl
        · exact hib
        · exact ⟨i + 1, by simp, by simp [hd']⟩
        · simp only [List.length_nil]; omega
        · rw [authScan, if_pos rfl]
          unfold authFin
          simp only [List.foldl_append]
          rfl
      · rw [if_neg (by simp [hget, hat]), if_neg (by rw [hget, end_iff]; exact hend)] at hst
        rw [run_continue' (j := i + 1) f hst (by simp [hp]) (by omega)]
        refine (ih _ (i + 1) f hd' ?_ ?_ (by omega) ?_ ?_ ?_).trans ?_
        · exact hs
        · rfl
        · exact hib
        · obtain ⟨m, hm1, hm2⟩ := hm
          refine ⟨m, ?_, ?_⟩
          · simp only [hget, Option.toList_some, List.length_append, List.length_singleton]; omega
          · simp only [hget, Option.toList_some, List.append_assoc, List.singleton_append]; exact hm2
        · simp only [hget, Option.toList_some, List.length_append, List.length_singleton]; omega
        · rw [authScan, if_neg hat]
          simp [hget]
end

theorem cred_url_eq (u : Url) (hu : u.username = []) (hpw : u.password = []) (user pw : List Nat)
    (E : List Nat → List Nat) (h0 : E [] = []) :
    ({ u with username := E user, password := E pw } : Url) =
      if (pw ≠ [] || user ≠ []) = true then
        { u with username := E user, password := if pw ≠ [] then E pw else u.password }
      else u := by
  by_cases h1 : pw = []
  · by_cases h2 : user = []
    · subst h1; subst h2
      cases u
      simp_all
    · subst h1
      simp [h2, h0, hpw]
  · simp [h1]

theorem authorityState_agree (idna : Idna) (ov : Option Override) (u : Url) (p : List Nat)
    (hu : u.username = []) (hpw : u.password = []) (hp : ∀ c ∈ p, Spec.isScalar c = true) :
    ResAgree
      (authFin idna ov u false (authScan (p.takeWhile (fun c => !C08.authEnd u.isSpecial c)) [] false)
        (p.dropWhile (fun c => !C08.authEnd u.isSpecial c)))
      (resOf ov (Impl.authorityState idna ov u p)) := by
  have hauth : ∀ c ∈ p.takeWhile (fun c => !C08.authEnd u.isSpecial c), Spec.isScalar c = true :=
    fun c hc => hp c (mem_takeWhile hc).2
  rw [authScan_eq]
  cases hl : Impl.splitLastAt (p.takeWhile (fun c => !C08.authEnd u.isSpecial c)) with
  | none =>
    left
    rw [C08.authorityState_none idna ov u p hl]
    simp only [authFin, List.foldl_nil, Bool.false_eq_true, false_and, if_false, List.nil_append,
      List.takeWhile_append_dropWhile]
  | some ab =>
    obtain ⟨cred, hostport⟩ := ab
    rw [C08.authorityState_some idna ov u p cred hostport hl]
    simp only [Bool.false_eq_true, if_false, List.nil_append]
    unfold authFin C08.withCred
    simp only [true_and]
    by_cases hh : hostport = []
    · right
      rw [if_pos hh, if_pos hh]
      exact ⟨rfl, rfl⟩
    · left
      rw [if_neg hh, if_neg hh, fold_cred_false]
      have hcred : ∀ c ∈ cred, Spec.isScalar c = true := by
        intro c hc; apply hauth; rw [(C08.splitLastAt_eq_some hl).1]; simp [hc]
      have e1 : Impl.percentEncode Impl.userinfoNoEnc (cred.takeWhile (· != 0x3A)) =
          Spec.utf8PercentEncode Spec.userinfoSet (cred.takeWhile (· != 0x3A)) :=
        C14.percentEncode_eq_spec _ C14.userinfo_hi _
          (fun c hc => hcred c (mem_takeWhile hc).2)
      have e2 : Impl.percentEncode Impl.userinfoNoEnc ((cred.dropWhile (· != 0x3A)).drop 1) =
          Spec.utf8PercentEncode Spec.userinfoSet ((cred.dropWhile (· != 0x3A)).drop 1) :=
        C14.percentEncode_eq_spec _ C14.userinfo_hi _
          (fun c hc => hcred c ((List.dropWhile_suffix _).sublist.subset (List.mem_of_mem_drop hc)))
      rw [e1, e2]
      rw [← cred_url_eq u hu hpw _ _ (Spec.utf8PercentEncode Spec.userinfoSet) rfl, hu, hpw]
      simp only [List.nil_append]

section
variable {idna : Idna} {base : Option Url} {inp : Array Nat} {ov : Option State}
variable {u : Url} {buf : List Nat} {f1 f2 f3 : Bool} {i : Nat} {x? y? : Option Nat}

theorem step_ignoreSlashes (hx : inp[i]? = x?) :
    step idna inp base ov ⟨u, .specialAuthorityIgnoreSlashes, buf, f1, f2, f3, (i : Int)⟩ =
      if ¬ x? = some 0x2F ∧ ¬ x? = some 0x5C then .continue ⟨u, .authority, buf, f1, f2, f3, (i : Int) - 1⟩
      else .continue ⟨u, .specialAuthorityIgnoreSlashes, buf, f1, f2, f3, (i : Int)⟩ := by
  unfold step
  simp only [Int.toNat_natCast, ptr_neg, if_false, hx, beq_iff_eq]

theorem step_specialAuthoritySlashes (hx : inp[i]? = x?) (hy : inp[i + 1]? = y?) :
    step idna inp base ov ⟨u, .specialAuthoritySlashes, buf, f1, f2, f3, (i : Int)⟩ =
      if x? = some 0x2F ∧ y? = some 0x2F then
        .continue ⟨u, .specialAuthorityIgnoreSlashes, buf, f1, f2, f3, (i : Int) + 1⟩
      else .continue ⟨u, .specialAuthorityIgnoreSlashes, buf, f1, f2, f3, (i : Int) - 1⟩ := by
  unfold step
  simp only [Int.toNat_natCast, Int.toNat_natCast_add_one, ptr_neg, ptr_neg1, if_false, hx, hy, beq_iff_eq]

theorem step_pathOrAuthority (hx : inp[i]? = x?) :
    step idna inp base ov ⟨u, .pathOrAuthority, buf, f1, f2, f3, (i : Int)⟩ =
      if x? = some 0x2F then .continue ⟨u, .authority, buf, f1, f2, f3, (i : Int)⟩
      else .continue ⟨u, .path, buf, f1, f2, f3, (i : Int) - 1⟩ := by
  unfold step
  simp only [Int.toNat_natCast, ptr_neg, if_false, hx, beq_iff_eq]
end

section
variable {idna : Idna} {base : Option Url} {ov : Option Override} (hHost : HostOk idna)
include hHost

theorem _root_.Upa.Proofs.C01.sim_authority_partial :
    SimAtW idna base ov .authority 2 4 AuthPre (Impl.authorityState idna ov) := by
  intro inp k i fuel hs hb hp hpre hi hsc hf
  obtain ⟨hseen, hpw, hib, hu, hpass⟩ := hpre
  rw [run_authority (sim_host ov hHost) inp hsc _ k i fuel rfl hs hp hi hib ⟨i, by simp [hb], by simp [hb]⟩
    (by simp [hb]; omega), hb, hseen, hpw]
  exact authorityState_agree idna ov k.url _ hu hpass (drop_scalar hsc rfl)

theorem _root_.Upa.Proofs.C01.sim_ignoreSlashes_partial :
    SimAtW idna base ov .specialAuthorityIgnoreSlashes 2 5 AuthPre (Impl.ignoreSlashesState idna ov) := by
  have sim_authority := sim_authority_partial (base := base) (ov := ov) hHost
  refine SimR.of_cfg (R := ResAgree) fun inp u f1 f2 f3 i fuel hpre hi hsc hf => ?_
  -- one run per slash skipped, then the authority state on the same code point
  generalize hr : inp.toList.drop i = rest
  induction rest generalizing i fuel with
  | nil =>
    have hst := step_ignoreSlashes (idna := idna) (base := base) (ov := ov.map ovState) (u := u) (buf := [])
      (f1 := f1) (f2 := f2) (f3 := f3) (getElem?_of_drop_nil hr).1
    exact SimR.same (R := ResAgree) sim_authority hr hst hpre hi hsc hf
  | cons c r ih =>
    obtain ⟨hc, hsz, hr'⟩ := getElem?_of_drop_cons hr
    have hst := step_ignoreSlashes (idna := idna) (base := base) (ov := ov.map ovState) (u := u) (buf := [])
      (f1 := f1) (f2 := f2) (f3 := f3) hc
    unfold Impl.ignoreSlashesState
    by_cases hsl : Impl.isSlash c = true
    · rw [List.dropWhile_cons_of_pos hsl]
      rw [isSlash_iff] at hsl
      rw [if_neg (by simp only [Option.some.injEq]; omega)] at hst
      obtain ⟨f, rfl, hf'⟩ := fuel_succ (fuel := fuel) (n := 2 * (inp.size - (i + 1)) + 5) (by omega)
      rw [run_continue' (j := i + 1) f hst (by simp) hsz]
      exact ih (i + 1) f hpre hsz hf' hr'
    · rw [List.dropWhile_cons_of_neg hsl]
      rw [isSlash_iff, not_or] at hsl
      rw [if_pos (by simpa only [Option.some.injEq] using hsl)] at hst
      exact SimR.same (R := ResAgree) sim_authority hr hst hpre hi hsc hf

theorem _root_.Upa.Proofs.C01.sim_specialAuthoritySlashes_partial :
    SimAtW idna base ov .specialAuthoritySlashes 2 6 AuthPre (Impl.specialAuthoritySlashesState idna ov) := by
  refine SimR.of_cfg (R := ResAgree) fun inp u f1 f2 f3 i fuel hpre hi hsc hf => ?_
  generalize hr : inp.toList.drop i = p
  have hst := step_specialAuthoritySlashes (idna := idna) (base := base) (ov := ov.map ovState) (u := u) (buf := [])
    (f1 := f1) (f2 := f2) (f3 := f3) (getElem?_of_drop hr) (getElem?_succ_of_drop hr)
  have hsim := sim_ignoreSlashes_partial (base := base) (ov := ov) hHost
  fun_cases Impl.specialAuthoritySlashesState idna ov u p
  · exact SimR.next2 (R := ResAgree) hsim hr hst hpre hsc hf
  · next hne =>
    rw [if_neg fun h => (eq_cons_cons_of_head? h.1 h.2).elim hne] at hst
    exact SimR.same (R := ResAgree) hsim hr hst hpre hi hsc hf

theorem _root_.Upa.Proofs.C01.sim_pathOrAuthority_partial :
    SimAtW idna base ov .pathOrAuthority 2 3 AuthPre (Impl.pathOrAuthorityState idna ov) := by
  refine SimR.of_cfg (R := ResAgree) fun inp u f1 f2 f3 i fuel hpre hi hsc hf => ?_
  generalize hr : inp.toList.drop i = p
  have hst := step_pathOrAuthority (idna := idna) (base := base) (ov := ov.map ovState) (u := u) (buf := [])
    (f1 := f1) (f2 := f2) (f3 := f3) (getElem?_of_drop hr)
  fun_cases Impl.pathOrAuthorityState idna ov u p
  · exact SimR.next (R := ResAgree) (sim_authority_partial hHost) hr hst hpre hsc hf
  · next hne =>
    rw [if_neg fun h => (List.head?_eq_some_iff.1 h).elim hne] at hst
    exact SimR.same (R := ResAgree) (sim_path idna base ov).toW hr hst trivial hi hsc hf
end

end Auth

section
variable {idna : Idna} {base : Option Url}
variable (hHost : ∀ s o, (∀ c ∈ s, Spec.isScalar c = true) → Impl.parseHost idna s o = Spec.hostParse idna s o)
include hHost

theorem authority_basic (inp : Array Nat) (i : Nat) (u : Url) (fuel : Nat)
    (hu : u.username = []) (hp : u.password = [])
    (hi : i ≤ inp.size) (hsc : ∀ x ∈ inp.toList, Spec.isScalar x = true)
    (hf : fuel ≥ 4 * (inp.size - i) + 16) :
    (run idna inp base none fuel { url := u, state := .authority, p := (i : Int) }).1
      = okUrl (Impl.authorityState idna none u (inp.toList.drop i)) :=
  (SimR.basic (R := ResAgree) (sim_authority_partial hHost) (by decide) (by decide) inp i u fuel
    ⟨rfl, rfl, rfl, hu, hp⟩ hi hsc hf).fst.trans (resOf_fst_none _)
end

section
/-- stub IDNA (ASCII lower-casing) for the evaluated instances -/
private def stub : Idna := fun l => some (l.map toLower)

/-- THE DISAGREEMENT: authority state, scheme http, input "a@".  The Standard has written the username
    when it detects the missing host; the code (as the C++, url.h:1947) fails before writing anything.
    Both fail: only the URL left behind differs. -/
example :
    Spec.run stub #[0x61, 0x40] none none 20 { url := { scheme := asciiStr "http" }, state := .authority }
      = (none, { scheme := asciiStr "http", username := [0x61] }) ∧
    resOf none (Impl.authorityState stub none { scheme := asciiStr "http" } [0x61, 0x40])
      = (none, { scheme := asciiStr "http" }) := by decide_ascii

/-- an agreeing non-trivial instance: "a@b@c:d:e@Host:0080/p" from the authority state (non-special
    scheme: opaque host) -/
example :
    Spec.run stub (asciiStr "a@b@c:d:e@Host:0080/p").toArray none none 50
        { url := { scheme := asciiStr "foo" }, state := .authority }
      = resOf none (Impl.authorityState stub none { scheme := asciiStr "foo" } (asciiStr "a@b@c:d:e@Host:0080/p")) ∧
    (Impl.authorityState stub none { scheme := asciiStr "foo" } (asciiStr "a@b@c:d:e@Host:0080/p")).url
      = { scheme := asciiStr "foo", username := asciiStr "a%40b%40c", password := asciiStr "d%3Ae",
          host := some { kind := .opaque, text := asciiStr "Host" }, port := some 80, path := [asciiStr "p"] } := by
  decide_ascii
end

#print axioms sim_fileHost_ov
#print axioms sim_port
#print axioms sim_host
#print axioms sim_hostname
#print axioms sim_authority_partial
#print axioms sim_ignoreSlashes_partial
#print axioms sim_specialAuthoritySlashes_partial
#print axioms sim_pathOrAuthority_partial
#print axioms authority_basic

end Upa.Proofs.C01
