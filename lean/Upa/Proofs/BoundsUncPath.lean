import Upa.Proofs.Bounds
import Upa.Proofs.FilePathScan
/-
  C04b / C04h: `isUncPath` of `Upa/Impl/Bounds.lean` (url.h:3099-3157) computes `Impl.isUncPath` on `slice a first last`;
  the pointer it returns stands for the suffix of the input from there.
-/
namespace Upa.Impl.B
open Upa.Proofs.C17 (uncBad notWinSlash uncAux_succ)

theorem uncL_nil (f n : Nat) (share : Option (List Nat)) : Impl.isUncPathAux (f + 1) [] n share = share := by
  simp [Impl.isUncPathAux]

theorem uncL_zero (s : List Nat) (n : Nat) (share : Option (List Nat)) : Impl.isUncPathAux 0 s n share = none := by
  simp [Impl.isUncPathAux]

theorem uncBadComponent_agrees (a : Array Nat) (first last start pcend count : Nat) (hl : last ≤ a.size)
    (h1 : first ≤ start) (h2 : start < pcend) (h3 : pcend ≤ last) :
    uncBadComponent a first last start pcend count = .ok (uncBad count (slice a start pcend)) := by
  have hs := slice_cons a start pcend h2 (by omega)
  have r0 := rd_ok h1 (by omega : start < last) hl
  unfold uncBadComponent uncBad
  by_cases d1 : pcend - start = 1
  · rw [hs, slice_nil a (start + 1) pcend (by omega)]
    simp only [d1, if_true, r0, R.ok_bind]
    by_cases k1 : count = 1
    · simp only [if_pos k1]; rfl
    · by_cases k2 : count = 2
      · simp only [if_neg k1, if_pos k2]; rfl
      · simp only [if_neg k1, if_neg k2]; rfl
  have hs1 := slice_cons a (start + 1) pcend (by omega) (by omega)
  have r1 := rd_ok (by omega : first ≤ start + 1) (by omega : start + 1 < last) hl
  by_cases d2 : pcend - start = 2
  · rw [hs, hs1, slice_nil a (start + 1 + 1) pcend (by omega)]
    simp only [d2, if_true, r0, r1, R.ok_bind, (by decide : ¬ (2 = 1)), if_false]
    by_cases k1 : count = 1
    · simp only [if_pos k1]; rfl
    · by_cases k2 : count = 2
      · simp only [if_neg k1, if_pos k2]
        by_cases c0 : a[start]! = 0x2E
        · simp only [c0]; rfl
        · simp only [if_neg c0, beq_false_of_ne c0, Bool.false_and]; rfl
      · simp only [if_neg k1, if_neg k2]; rfl
  · rw [hs, hs1, slice_cons a (start + 1 + 1) pcend (by omega) (by omega)]
    simp only [if_neg d1, if_neg d2]
    by_cases k1 : count = 1
    · simp only [if_pos k1]; rfl
    · by_cases k2 : count = 2
      · simp only [if_neg k1, if_pos k2]; rfl
      · simp only [if_neg k1, if_neg k2]; rfl
theorem isUncPath_agrees (a : Array Nat) (first last : Nat) (h : first ≤ last) (hl : last ≤ a.size) :
    (isUncPath a first last).sat (fun o => o.map (fun p => slice a p last) = Impl.isUncPath (slice a first last)) := by
  unfold isUncPath Impl.isUncPath
  rw [slice_length a first last hl]
  -- `∃ f, …`: the list model's own fuel, see the note at `scan_sat` (`Bounds.lean`)
  refine scan_sat _ (·.1) first last (fun s => ∃ f, last - s.1 < f ∧
      Impl.isUncPathAux f (slice a s.1 last) s.2.1 (s.2.2.map (fun p => slice a p last)) =
        Impl.isUncPathAux (last - first + 1) (slice a first last) 0 none)
    _ ?_ _ _ (Nat.le_refl _) h ⟨last - first + 1, by omega, rfl⟩ (Nat.lt_succ_self _)
  intro ⟨start, count, eos⟩ i1 i2 ⟨f, hf, hT⟩
  simp only at i1 i2 hf hT ⊢
  obtain ⟨f0, rfl⟩ : ∃ f0, f = f0 + 1 := ⟨f - 1, by omega⟩
  refine R.sat_if (fun hsl => ?_) (fun hsl => ?_)
  · refine R.sat_pure ?_
    simp only []
    rw [hsl, slice_nil a last last (Nat.le_refl _), uncL_nil] at hT
    exact hT
  have hlt : start < last := Nat.lt_of_le_of_ne i2 hsl
  refine R.sat_range ?_ i1 (Nat.le_of_lt hlt) (Nat.le_refl _)
  refine R.sat_bind (findIf_toLast a first last Impl.isWindowsSlash hl start i1 i2) ?_
  intro pcend hpc
  obtain ⟨hcomp, hrest⟩ : (slice a start last).takeWhile notWinSlash = slice a start pcend ∧
      (slice a start last).dropWhile notWinSlash = slice a pcend last := hpc.slice hl
  obtain ⟨p1, hp2, -, -⟩ := hpc
  have hne : slice a start last ≠ [] := by rw [slice_cons a start last hlt hl]; simp
  -- one iteration of the list model
  have hstep : Impl.isUncPathAux (f0 + 1) (slice a start last) count (eos.map (fun p => slice a p last)) =
      (if slice a start pcend = [] then none
       else if (slice a start pcend).any (· == 0) = true then none
       else if uncBad (count + 1) (slice a start pcend) = true then none
       else match slice a pcend last with
         | [] => (if count + 1 = 2 then some (slice a pcend last) else eos.map (fun p => slice a p last))
         | _ :: r => Impl.isUncPathAux f0 r (count + 1)
             (if count + 1 = 2 then some (slice a pcend last) else eos.map (fun p => slice a p last))) := by
    rw [uncAux_succ _ _ _ _ hne, hcomp, hrest]
    cases slice a pcend last <;> rfl
  rw [hstep] at hT
  refine R.sat_if (fun hsp => ?_) (fun hsp => ?_)
  · rw [if_pos ((slice_eq_nil_iff a start pcend (by omega)).2 (by omega))] at hT
    exact R.sat_pure hT
  have hsp' : start < pcend := Nat.lt_of_le_of_ne p1 hsp
  rw [if_neg (fun hh => by have := (slice_eq_nil_iff a start pcend (by omega)).1 hh; omega)] at hT
  refine R.sat_range ?_ i1 p1 hp2
  refine R.sat_bind (findCh_spec a first last 0 hl (pcend - start) start i1 (by omega)) ?_
  intro r hr
  cases r with
  | some q =>
    obtain ⟨q1, q2, q3, _⟩ := hr
    have hany : (slice a start pcend).any (· == 0) = true := by
      rw [List.any_eq_true]
      exact ⟨a[q]!, slice_mem_of_idx a start pcend q q1 (by omega) (by omega), by simp [q3]⟩
    rw [if_pos hany] at hT
    exact R.sat_pure hT
  | none =>
    simp only [] at hr
    have hany : ¬ ((slice a start pcend).any (· == 0) = true) := by
      intro hh
      rw [List.any_eq_true] at hh
      obtain ⟨x, hx, hx0⟩ := hh
      obtain ⟨i, hi1, hi2, rfl⟩ := mem_slice a start pcend x (by omega) hx
      exact hr i hi1 (by omega) (by simpa using hx0)
    rw [if_neg hany] at hT
    simp only []
    refine R.sat_bind_ok (uncBadComponent_agrees a first last start pcend (count + 1) hl i1 hsp' hp2) ?_
    refine R.sat_if_eq hT (fun hb hT => R.sat_pure hT) (fun hb hT => ?_)
    have hshare : (if count + 1 = 2 then some (slice a pcend last) else eos.map (fun p => slice a p last)) =
        (if count + 1 = 2 then some pcend else eos).map (fun p => slice a p last) := by
      split <;> rfl
    rw [hshare] at hT
    refine R.sat_if (fun hpe => ?_) (fun hpe => ?_)
    · rw [Nat.add_zero] at hpe
      rw [hpe, slice_nil a last last (Nat.le_refl _)] at hT
      refine R.sat_pure ?_
      simp only [] at hT ⊢
      rw [hpe]
      exact hT
    · rw [Nat.add_zero] at hpe
      have hpl : pcend < last := Nat.lt_of_le_of_ne hp2 hpe
      rw [slice_cons a pcend last hpl hl] at hT
      simp only [] at hT
      have hfp : first ≤ pcend + 1 := Nat.le_succ_of_le (Nat.le_trans i1 p1)
      refine R.sat_ptr ?_ hfp hpl
      have hpp : start < pcend + 1 := Nat.lt_succ_of_le p1
      refine R.sat_pure ⟨hpp, hpl, f0, Nat.lt_of_lt_of_le (Nat.sub_lt_sub_left hlt hpp) (Nat.le_of_lt_succ hf), ?_⟩
      simp only []
      exact hT

end Upa.Impl.B
