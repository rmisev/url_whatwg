import Upa.Spec.UrlParser
import Upa.Proofs.ParserRules
/-
  C01 — what the per-state simulation proofs share (the blocks of `Impl.urlParse` against the Standard's
  state machine `Spec.step` / `Spec.run`).

  `SimR R idna base ov S a c Pre B`: start the machine in state `S` at pointer `i` with an EMPTY buffer,
  in any configuration `k` satisfying `Pre k` (flags, fields of the URL record), with at least
  `a * (inp.size - i) + c` fuel; then the pair `Spec.run` returns is `R`-related to
  `resOf ov (B k.url (inp.toList.drop i))`, what the code block `B` returns on the rest of the input.
  Both components are related: the second is the URL as it was left behind, which the setters need.
  `resOf ov r = (outUrl ov r, r.url)`; under an override `.ignored` also maps to `some` (the Standard's
  early `return`s).  `SimAt` is a definition of its own that unfolds to `SimR Eq`, and `SimAtW` (C01Auth) to
  `SimR ResAgree`, which lets the URLs left behind by two failures differ: proofs pass from one to the other by
  definitional unfolding (`SimR.of_cfg (R := Eq)` proves a `SimAt`).  `SimR FstEq` relates the results only.

  Fuel: `a` machine runs per remaining code point plus `c`; `Spec.basicParse` provides `4 * n + 16`
  (`SimR.basicParse` needs `a ≤ 4`, `c ≤ 16`).  The tail states have `a = 1`; the authority state rewinds
  the pointer to re-scan the host (`a = 2`); the scheme state restarts at pointer 0 without ':' (`a = 4`).

  The Standard sets `query := some []` / `fragment := some []` ON the transition into the query /
  fragment state; the code blocks receive the URL before the field is set and overwrite it
  (`queryState_setQuery`, `fragmentState_setFragment`: they do not depend on the old field).
-/
namespace Upa.Proofs.C01
open Upa.Spec (State Cfg StepResult step run)

def okUrl (r : Res) : Option Url := if r.out = .ok then some r.url else none

def ovState : Override → State
  | .schemeStart => .schemeStart
  | .host => .host
  | .hostname => .hostname
  | .port => .port
  | .pathStart => .pathStart
  | .query => .query
  | .fragment => .fragment

/-- first component of `Spec.run`'s result for a code result: `ok` ↦ the URL, `failure` ↦ none,
    `ignored` (only produced under a state override: the Standard's early `return`) ↦ the URL when
    there is an override -/
def outUrl (ov : Option Override) (r : Res) : Option Url :=
  match r.out with
  | .ok => some r.url
  | .failure => none
  | .ignored => if ov.isSome then some r.url else none

def resOf (ov : Option Override) (r : Res) : Option Url × Url := (outUrl ov r, r.url)


@[simp] theorem resOf_ok (ov : Option Override) (u : Url) : resOf ov ⟨.ok, u⟩ = (some u, u) := rfl
@[simp] theorem resOf_failure (ov : Option Override) (u : Url) : resOf ov ⟨.failure, u⟩ = (none, u) := rfl
theorem resOf_ignored (o : Override) (u : Url) : resOf (some o) ⟨.ignored, u⟩ = (some u, u) := rfl
theorem resOf_fst_none (r : Res) : (resOf none r).1 = okUrl r := by
  unfold resOf outUrl okUrl; cases r.out <;> simp

/-! The code blocks test `ov.isNone ∧ c = '?'` where the Standard tests "state override is not given
    and c is '?'" on the mapped override. -/

theorem map_ovState_none {ov : Option Override} (h : ov.isNone = true) : ov.map ovState = none := by
  rw [Option.isNone_iff_eq_none.1 h]; rfl

theorem isSome_or_of_not {ov : Option Override} {P : Prop} (h : ¬ (ov.isNone = true ∧ P)) :
    (ov.map ovState).isSome = true ∨ ¬ P := by
  cases ov with
  | none => exact Or.inr fun hp => h ⟨rfl, hp⟩
  | some o => exact Or.inl rfl

section run
variable {idna : Idna} {inp : Array Nat} {base : Option Url} {ov : Option State}

theorem run_continue {k k' : Cfg} (fuel : Nat) (h : step idna inp base ov k = .continue k')
    (hp : k'.p < (inp.size : Int)) :
    run idna inp base ov (fuel + 1) k = run idna inp base ov fuel { k' with p := k'.p + 1 } := by
  rw [run, h]; simp only; rw [if_neg (by omega)]

theorem run_continue' {k k' : Cfg} {j : Nat} (fuel : Nat) (h : step idna inp base ov k = .continue k')
    (hp : k'.p + 1 = (j : Int)) (hj : j ≤ inp.size) :
    run idna inp base ov (fuel + 1) k = run idna inp base ov fuel { k' with p := (j : Int) } := by
  rw [run_continue fuel h (by omega), hp]

theorem run_stop {k k' : Cfg} (fuel : Nat) (h : step idna inp base ov k = .continue k')
    (hp : k'.p ≥ (inp.size : Int)) :
    run idna inp base ov (fuel + 1) k = (some k'.url, k'.url) := by
  rw [run, h]; simp only; rw [if_pos hp]

theorem fuel_succ {fuel n : Nat} (h : fuel ≥ n + 1) : ∃ f, fuel = f + 1 ∧ f ≥ n :=
  ⟨fuel - 1, by omega, by omega⟩

/-- at the end of the input, a run that keeps the pointer is the last one -/
theorem run_eof {k : Cfg} {u' : Url} {S' : State} {buf' : List Nat} {f1 f2 f3 : Bool} {i fuel : Nat}
    (h : step idna inp base ov k = .continue ⟨u', S', buf', f1, f2, f3, (i : Int)⟩) (hsz : inp.size ≤ i)
    (hf : fuel ≥ 1) : run idna inp base ov fuel k = (some u', u') := by
  obtain ⟨f, rfl, _⟩ := fuel_succ (n := 0) hf
  exact run_stop f h (by simp only; omega)

theorem run_done {k : Cfg} {u : Url} (fuel : Nat) (h : step idna inp base ov k = .done u) :
    run idna inp base ov (fuel + 1) k = (some u, u) := by
  rw [run, h]

theorem run_failure {k : Cfg} {u : Url} (fuel : Nat) (h : step idna inp base ov k = .failure u) :
    run idna inp base ov (fuel + 1) k = (none, u) := by
  rw [run, h]

end run

/-- for `simp only [Int.toNat_natCast, ptr_neg, if_false]` after `unfold step` -/
theorem ptr_neg (i : Nat) : ((i : Int) < 0) = False := by simp
theorem ptr_neg1 (i : Nat) : ((i : Int) + 1 < 0) = False := by
  simp; omega

theorem getElem?_of_drop_cons {inp : Array Nat} {i c : Nat} {r : List Nat}
    (h : inp.toList.drop i = c :: r) :
    inp[i]? = some c ∧ i < inp.size ∧ inp.toList.drop (i + 1) = r := by
  have hlt : i < inp.toList.length := by
    apply Classical.byContradiction; intro hn
    rw [List.drop_eq_nil_of_le (by omega)] at h; cases h
  have h2 := List.drop_eq_getElem_cons hlt
  rw [h2] at h
  injection h with h3 h4
  refine ⟨?_, by simpa using hlt, h4⟩
  rw [← h3]; simp [Array.getElem?_eq_getElem (by simpa using hlt)]

theorem getElem?_of_drop_nil {inp : Array Nat} {i : Nat} (h : inp.toList.drop i = []) :
    inp[i]? = none ∧ inp.size ≤ i := by
  have : inp.toList.length ≤ i := List.drop_eq_nil_iff.1 h
  have h2 : inp.size ≤ i := by simpa using this
  exact ⟨Array.getElem?_eq_none h2, h2⟩

theorem drop_length {inp : Array Nat} {i : Nat} {r : List Nat} (h : inp.toList.drop i = r) :
    r.length = inp.size - i := by
  subst h; simp

theorem drop_scalar {inp : Array Nat} {i : Nat} {r : List Nat}
    (hsc : ∀ c ∈ inp.toList, Spec.isScalar c = true) (h : inp.toList.drop i = r) :
    ∀ c ∈ r, Spec.isScalar c = true := by
  intro c hc; subst h; exact hsc c (List.mem_of_mem_drop hc)

theorem head?_drop (inp : Array Nat) (i : Nat) : (inp.toList.drop i).head? = inp[i]? := by
  rw [List.head?_drop, Array.getElem?_toList]

theorem getElem?_of_drop {inp : Array Nat} {i : Nat} {p : List Nat} (hr : inp.toList.drop i = p) :
    inp[i]? = p.head? := hr ▸ (head?_drop inp i).symm

theorem getElem?_succ_of_drop {inp : Array Nat} {i : Nat} {p : List Nat} (hr : inp.toList.drop i = p) :
    inp[i + 1]? = p.tail.head? := by rw [← hr, List.tail_drop, head?_drop]

theorem eq_cons_cons_of_head? {p : List Nat} {a b : Nat} (h1 : p.head? = some a) (h2 : p.tail.head? = some b) :
    ∃ r, p = a :: b :: r := by
  obtain ⟨t, rfl⟩ := List.head?_eq_some_iff.1 h1
  obtain ⟨r, hr⟩ := List.head?_eq_some_iff.1 h2
  exact ⟨r, congrArg _ hr⟩

theorem run_scan {idna : Idna} {inp : Array Nat} {base : Option Url} {ov : Option State} {S : State}
    {u : Url} {f1 f2 f3 : Bool} {p : Nat → Bool} {f : Nat → Nat}
    (hstep : ∀ (buf : List Nat) (i c : Nat), inp[i]? = some c → p c = true →
      step idna inp base ov ⟨u, S, buf, f1, f2, f3, (i : Int)⟩ =
        .continue ⟨u, S, buf ++ [f c], f1, f2, f3, (i : Int)⟩) :
    ∀ (s r : List Nat) (i : Nat) (buf : List Nat) (fuel : Nat),
    inp.toList.drop i = s ++ r → (∀ c ∈ s, p c = true) →
    run idna inp base ov (fuel + s.length) ⟨u, S, buf, f1, f2, f3, (i : Int)⟩ =
      run idna inp base ov fuel ⟨u, S, buf ++ s.map f, f1, f2, f3, ((i + s.length : Nat) : Int)⟩ := by
  intro s
  induction s with
  | nil => intro r i buf fuel _ _; simp
  | cons c cs ih =>
    intro r i buf fuel hr hs
    obtain ⟨hc, hsz, hr'⟩ := getElem?_of_drop_cons (r := cs ++ r) hr
    rw [List.length_cons, ← Nat.add_assoc,
      run_continue' (j := i + 1) _ (hstep buf i c hc (hs c List.mem_cons_self)) (by simp) hsz,
      ih r (i + 1) (buf ++ [f c]) fuel hr' (fun x hx => hs x (List.mem_cons_of_mem _ hx))]
    simp [Nat.add_assoc, Nat.add_comm 1]

/-- A state that scans: after the runs over the longest stretch on which `q` holds the machine stands at `j` on
    `p.dropWhile q` with the stretch in the buffer, and what is left of the fuel `a * n + c` of the state is the
    same shape for the rest; whatever holds of the run from there holds of the run from `i`. -/
theorem run_scan_then {idna : Idna} {inp : Array Nat} {base : Option Url} {ov : Option State} {S : State}
    {u : Url} {f1 f2 f3 : Bool} {q : Nat → Bool} {f : Nat → Nat}
    (hstep : ∀ (buf : List Nat) (i c : Nat), inp[i]? = some c → q c = true →
      step idna inp base ov ⟨u, S, buf, f1, f2, f3, (i : Int)⟩ =
        .continue ⟨u, S, buf ++ [f c], f1, f2, f3, (i : Int)⟩)
    {i fuel : Nat} {p : List Nat} (hr : inp.toList.drop i = p) (hi : i ≤ inp.size) (buf : List Nat) {a c : Nat}
    (ha : 1 ≤ a) (hf : fuel ≥ a * (inp.size - i) + c) {P : Option Url × Url → Prop}
    (k : ∀ j g, i + (p.takeWhile q).length = j → inp.toList.drop j = p.dropWhile q → j ≤ inp.size →
      g ≥ a * (inp.size - j) + c →
      (∀ x, inp[j]? = some x → q x = false) →
      P (run idna inp base ov g ⟨u, S, buf ++ (p.takeWhile q).map f, f1, f2, f3, (j : Int)⟩)) :
    P (run idna inp base ov fuel ⟨u, S, buf, f1, f2, f3, (i : Int)⟩) := by
  have hsplit := List.takeWhile_append_dropWhile (p := q) (l := p)
  have hlen := congrArg List.length hsplit
  rw [List.length_append, drop_length hr] at hlen
  have hmul := Nat.mul_le_mul_right (inp.size - i) ha
  have hle : a * (inp.size - (i + (p.takeWhile q).length)) + a * (p.takeWhile q).length ≤ a * (inp.size - i) := by
    rw [← Nat.mul_add]; exact Nat.mul_le_mul_left a (by omega)
  have hmul' := Nat.mul_le_mul_right (p.takeWhile q).length ha
  have hd : inp.toList.drop (i + (p.takeWhile q).length) = p.dropWhile q := by
    rw [← List.drop_drop, hr]
    exact (List.drop_left' (l₂ := p.dropWhile q) rfl).symm ▸ congrArg _ hsplit.symm
  obtain ⟨g, rfl⟩ : ∃ g, fuel = g + (p.takeWhile q).length := ⟨fuel - (p.takeWhile q).length, by omega⟩
  rw [run_scan hstep (p.takeWhile q) (p.dropWhile q) i buf g (by rw [hr, hsplit])
    (fun _ hc => (mem_takeWhile hc).1)]
  exact k _ g rfl hd (by omega) (by omega) fun x hx => head?_dropWhile (by rw [← hd, head?_drop, hx])

def SimAt (idna : Idna) (base : Option Url) (ov : Option Override) (S : State) (a c : Nat)
    (Pre : Cfg → Prop) (B : Url → List Nat → Res) : Prop :=
  ∀ (inp : Array Nat) (k : Cfg) (i fuel : Nat),
    k.state = S → k.buffer = [] → k.p = (i : Int) → Pre k → i ≤ inp.size →
    (∀ x ∈ inp.toList, Spec.isScalar x = true) → fuel ≥ a * (inp.size - i) + c →
    run idna inp base (ov.map ovState) fuel k = resOf ov (B k.url (inp.toList.drop i))

def SimR (R : Option Url × Url → Option Url × Url → Prop)
    (idna : Idna) (base : Option Url) (ov : Option Override) (S : State) (a c : Nat)
    (Pre : Cfg → Prop) (B : Url → List Nat → Res) : Prop :=
  ∀ (inp : Array Nat) (k : Cfg) (i fuel : Nat),
    k.state = S → k.buffer = [] → k.p = (i : Int) → Pre k → i ≤ inp.size →
    (∀ x ∈ inp.toList, Spec.isScalar x = true) → fuel ≥ a * (inp.size - i) + c →
    R (run idna inp base (ov.map ovState) fuel k) (resOf ov (B k.url (inp.toList.drop i)))

def FstEq (r e : Option Url × Url) : Prop := r.1 = e.1

/-- the code's host parser is the Standard's (C07 proves it under its IDNA hypotheses) -/
abbrev HostOk (idna : Idna) : Prop :=
  ∀ s o, (∀ c ∈ s, Spec.isScalar c = true) → Impl.parseHost idna s o = Spec.hostParse idna s o

section simr
variable {R : Option Url × Url → Option Url × Url → Prop}
variable {idna : Idna} {base : Option Url} {ov : Option Override} {S : State} {a c : Nat}
variable {Pre : Cfg → Prop} {B : Url → List Nat → Res}

theorem SimR.of_cfg
    (h : ∀ (inp : Array Nat) (u : Url) (f1 f2 f3 : Bool) (i fuel : Nat),
      Pre ⟨u, S, [], f1, f2, f3, (i : Int)⟩ → i ≤ inp.size → (∀ x ∈ inp.toList, Spec.isScalar x = true) →
      fuel ≥ a * (inp.size - i) + c →
      R (run idna inp base (ov.map ovState) fuel ⟨u, S, [], f1, f2, f3, (i : Int)⟩)
        (resOf ov (B u (inp.toList.drop i)))) : SimR R idna base ov S a c Pre B := by
  intro inp k i fuel hs hb hp hpre hi hsc hf
  obtain ⟨u, st, buf, f1, f2, f3, p⟩ := k
  simp only at hs hb hp
  subst hs hb hp
  exact h inp u f1 f2 f3 i fuel hpre hi hsc hf

theorem SimAt.toR (hR : ∀ x, R x x) (h : SimAt idna base ov S a c Pre B) : SimR R idna base ov S a c Pre B := by
  intro inp k i fuel hs hb hp hP hi hsc hf
  rw [h inp k i fuel hs hb hp hP hi hsc hf]; exact hR _

theorem SimR.imp {R' : Option Url × Url → Option Url × Url → Prop} (hRR : ∀ x y, R x y → R' x y)
    (h : SimR R idna base ov S a c Pre B) : SimR R' idna base ov S a c Pre B :=
  fun inp k i fuel hs hb hp hP hi hsc hf => hRR _ _ (h inp k i fuel hs hb hp hP hi hsc hf)

theorem SimR.mono {a' c' : Nat} {Pre' : Cfg → Prop}
    (h : SimR R idna base ov S a c Pre B) (ha : a ≤ a') (hc : c ≤ c') (hpre : ∀ k, Pre' k → Pre k) :
    SimR R idna base ov S a' c' Pre' B := by
  intro inp k i fuel hs hb hp hP hi hsc hf
  refine h inp k i fuel hs hb hp (hpre k hP) hi hsc ?_
  have := Nat.mul_le_mul_right (inp.size - i) ha
  omega

/-- one machine run from `k` into state `S` (empty buffer, pointer `j` after the loop's increment),
    then the simulation of `S` -/
theorem SimR.after_step (hsim : SimR R idna base ov S a c Pre B)
    {inp : Array Nat} {k k' : Cfg} {j fuel : Nat}
    (hstep : step idna inp base (ov.map ovState) k = .continue k')
    (hs : k'.state = S) (hb : k'.buffer = []) (hp : k'.p + 1 = (j : Int))
    (hpre : Pre { k' with p := k'.p + 1 }) (hj : j ≤ inp.size)
    (hsc : ∀ x ∈ inp.toList, Spec.isScalar x = true) (hf : fuel ≥ a * (inp.size - j) + c + 1) :
    R (run idna inp base (ov.map ovState) fuel k) (resOf ov (B k'.url (inp.toList.drop j))) := by
  obtain ⟨f, rfl, hf'⟩ := fuel_succ hf
  rw [run_continue f hstep (by omega)]
  exact hsim inp { k' with p := k'.p + 1 } j f hs hb hp hpre hj hsc hf'

/-- `after_step` with the target configuration spelled out: the elaborator unifies it field by field
    instead of unfolding a structure update -/
theorem SimR.step_to (hsim : SimR R idna base ov S a c Pre B)
    {inp : Array Nat} {k : Cfg} {u' : Url} {f1 f2 f3 : Bool} {p' : Int} {j fuel : Nat}
    (hstep : step idna inp base (ov.map ovState) k = .continue ⟨u', S, [], f1, f2, f3, p'⟩)
    (hp : p' + 1 = (j : Int))
    (hpre : Pre ⟨u', S, [], f1, f2, f3, p' + 1⟩) (hj : j ≤ inp.size)
    (hsc : ∀ x ∈ inp.toList, Spec.isScalar x = true) (hf : fuel ≥ a * (inp.size - j) + c + 1) :
    R (run idna inp base (ov.map ovState) fuel k) (resOf ov (B u' (inp.toList.drop j))) :=
  hsim.after_step hstep rfl rfl hp hpre hj hsc hf

/-- The usual transitions, with the rest of the input as a list, as the code blocks see it, and the fuel of the
    current state (`a'`, `c'`) checked against that of the next (`a`, `c`) on the constants alone.  `next`: the
    run consumes the head `x`; `next2`: and the code point after it; `same`: the run decreases the pointer, so
    `S` starts on the same rest. -/
theorem SimR.next (hsim : SimR R idna base ov S a c Pre B) {a' c' : Nat}
    {inp : Array Nat} {k : Cfg} {u' : Url} {f1 f2 f3 : Bool} {i fuel x : Nat} {r : List Nat}
    (hr : inp.toList.drop i = x :: r)
    (hstep : step idna inp base (ov.map ovState) k = .continue ⟨u', S, [], f1, f2, f3, (i : Int)⟩)
    (hpre : Pre ⟨u', S, [], f1, f2, f3, ((i + 1 : Nat) : Int)⟩)
    (hsc : ∀ x ∈ inp.toList, Spec.isScalar x = true)
    (hf : fuel ≥ a' * (inp.size - i) + c') (ha : a ≤ a' := by decide) (hc : c + 1 ≤ c' + a := by decide) :
    R (run idna inp base (ov.map ovState) fuel k) (resOf ov (B u' r)) := by
  obtain ⟨_, hsz, hr'⟩ := getElem?_of_drop_cons hr
  have := Nat.mul_le_mul_right (inp.size - i) ha
  have e : a * (inp.size - i) = a * (inp.size - (i + 1)) + a := by
    rw [← Nat.mul_succ]; congr 1; omega
  obtain ⟨f, rfl, hf'⟩ := fuel_succ (fuel := fuel) (n := a * (inp.size - (i + 1)) + c) (by omega)
  rw [run_continue' (j := i + 1) f hstep (by simp) hsz]
  exact hr' ▸ hsim inp _ (i + 1) f rfl rfl rfl hpre hsz hsc hf'

theorem SimR.next2 (hsim : SimR R idna base ov S a c Pre B) {a' c' : Nat}
    {inp : Array Nat} {k : Cfg} {u' : Url} {f1 f2 f3 : Bool} {i fuel x y : Nat} {r : List Nat}
    (hr : inp.toList.drop i = x :: y :: r)
    (hstep : step idna inp base (ov.map ovState) k = .continue ⟨u', S, [], f1, f2, f3, (i : Int) + 1⟩)
    (hpre : Pre ⟨u', S, [], f1, f2, f3, (i : Int) + 1 + 1⟩)
    (hsc : ∀ x ∈ inp.toList, Spec.isScalar x = true)
    (hf : fuel ≥ a' * (inp.size - i) + c') (ha : a ≤ a' := by decide) (hc : c + 1 ≤ c' := by decide) :
    R (run idna inp base (ov.map ovState) fuel k) (resOf ov (B u' r)) := by
  obtain ⟨_, _, hr1⟩ := getElem?_of_drop_cons hr
  obtain ⟨_, hsz, hr2⟩ := getElem?_of_drop_cons hr1
  have := Nat.mul_le_mul_right (inp.size - i) ha
  have := Nat.mul_le_mul_left a (show inp.size - (i + 1 + 1) ≤ inp.size - i by omega)
  exact hr2 ▸ hsim.step_to (j := i + 1 + 1) hstep (by simp) hpre hsz hsc (by omega)

theorem SimR.same (hsim : SimR R idna base ov S a c Pre B) {a' c' : Nat}
    {inp : Array Nat} {k : Cfg} {u' : Url} {f1 f2 f3 : Bool} {i fuel : Nat} {p : List Nat}
    (hr : inp.toList.drop i = p)
    (hstep : step idna inp base (ov.map ovState) k = .continue ⟨u', S, [], f1, f2, f3, (i : Int) - 1⟩)
    (hpre : Pre ⟨u', S, [], f1, f2, f3, (i : Int)⟩) (hi : i ≤ inp.size)
    (hsc : ∀ x ∈ inp.toList, Spec.isScalar x = true)
    (hf : fuel ≥ a' * (inp.size - i) + c') (ha : a ≤ a' := by decide) (hc : c + 1 ≤ c' := by decide) :
    R (run idna inp base (ov.map ovState) fuel k) (resOf ov (B u' p)) := by
  have := Nat.mul_le_mul_right (inp.size - i) ha
  obtain ⟨f, rfl, hf'⟩ := fuel_succ (fuel := fuel) (n := a * (inp.size - i) + c) (by omega)
  rw [run_continue' (j := i) f hstep (by simp) hi]
  exact hr ▸ hsim inp _ i f rfl rfl rfl hpre hi hsc hf'

theorem SimR.basic (h : SimR R idna base ov S a c Pre B)
    (ha : a ≤ 4) (hc : c ≤ 16) (inp : Array Nat) (i : Nat) (u : Url) (fuel : Nat)
    (hpre : Pre { url := u, state := S, p := (i : Int) })
    (hi : i ≤ inp.size) (hsc : ∀ x ∈ inp.toList, Spec.isScalar x = true)
    (hf : fuel ≥ 4 * (inp.size - i) + 16) :
    R (run idna inp base (ov.map ovState) fuel { url := u, state := S, p := (i : Int) })
      (resOf ov (B u (inp.toList.drop i))) :=
  (h.mono ha hc (fun _ hk => hk)) inp { url := u, state := S, p := (i : Int) } i fuel rfl rfl rfl hpre hi hsc hf

theorem SimR.basicParse (h : SimR R idna base ov S a c Pre B)
    (hS : (ov.map ovState).getD .schemeStart = S) (ha : a ≤ 4) (hc : c ≤ 16) (inp : List Nat) (u : Url)
    (hpre : Pre { url := u, state := S })
    (hsc : ∀ x ∈ inp, Spec.isScalar x = true) :
    R (Spec.basicParse idna inp base u (ov.map ovState)) (resOf ov (B u inp)) := by
  unfold Spec.basicParse
  rw [hS]
  have := h.basic ha hc inp.toArray 0 u (4 * inp.length + 16) hpre (Nat.zero_le _) (by simpa using hsc) (by simp)
  simpa using this

end simr

theorem SimAt.basic {idna : Idna} {base : Option Url} {S : State} {a c : Nat}
    {Pre : Cfg → Prop} {B : Url → List Nat → Res} (h : SimAt idna base none S a c Pre B)
    (ha : a ≤ 4) (hc : c ≤ 16) (inp : Array Nat) (i : Nat) (u : Url) (fuel : Nat)
    (hpre : Pre { url := u, state := S, p := (i : Int) })
    (hi : i ≤ inp.size) (hsc : ∀ x ∈ inp.toList, Spec.isScalar x = true)
    (hf : fuel ≥ 4 * (inp.size - i) + 16) :
    (run idna inp base none fuel { url := u, state := S, p := (i : Int) }).1
      = okUrl (B u (inp.toList.drop i)) :=
  (congrArg Prod.fst (SimR.basic (R := Eq) h ha hc inp i u fuel hpre hi hsc hf)).trans (resOf_fst_none _)

theorem SimAt.basicParse {idna : Idna} {base : Option Url} {a c : Nat}
    {Pre : Cfg → Prop} {B : Url → List Nat → Res} (h : SimAt idna base none .schemeStart a c Pre B)
    (ha : a ≤ 4) (hc : c ≤ 16) (inp : List Nat) (u : Url)
    (hpre : Pre { url := u, state := .schemeStart })
    (hsc : ∀ x ∈ inp, Spec.isScalar x = true) :
    Spec.basicParse idna inp base u none = resOf none (B u inp) :=
  SimR.basicParse (R := Eq) h rfl ha hc inp u hpre hsc

/-! The Standard resets fields (`query := none`, `path := []`) that are known to be unset where the code
leaves them alone. -/

theorem Url.setQuery_self {u : Url} {q : Option (List Nat)} (h : u.query = q) : { u with query := q } = u := by
  cases h; rfl
theorem Url.setOpaquePath_self {u : Url} {p : List Nat} (h : u.opaquePath = p) : { u with opaquePath := p } = u := by
  cases h; rfl

theorem isSpecial_eq (u : Url) : Spec.isSpecial u = u.isSpecial := rfl

theorem isFile_iff (u : Url) : u.isFile = true ↔ u.scheme = Impl.sFile := C08.isFileScheme_iff u.scheme

theorem isSlash_iff (c : Nat) : Impl.isSlash c = true ↔ (c = 0x2F ∨ c = 0x5C) := by
  simp [Impl.isSlash]


theorem fragmentState_setFragment (u : Url) (f : Option (List Nat)) (p : List Nat) :
    Impl.fragmentState { u with fragment := f } p = Impl.fragmentState u p := rfl

theorem queryState_setQuery (ov : Option Override) (u : Url) (q : Option (List Nat)) (p : List Nat) :
    Impl.queryState ov { u with query := q } p = Impl.queryState ov u p := by
  unfold Impl.queryState
  simp only [Url.isSpecial]
  split <;> rfl

end Upa.Proofs.C01
