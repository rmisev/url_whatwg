import Upa.Proofs.FilePath
/-
  C17b — the Windows-format round trip path_from_file_url(url_from_file_path(p)) and its fixed point,
  drive-absolute paths: the path state on a raw-encoded text by its components (`parsePath_segs`, used for UNC
  pointers too), the URL of the pointer `X:\…` (`parsePath_drive`), the way back (`drive_back`), the forward lemma
  `accept_drive` (url_from_file_path accepts `X:\…`), the explicit normal form `driveNorm` and its acceptance
  (`fixed_drive_core`).
-/
namespace Upa.Proofs.C17
open Upa.Proofs.C14

theorem raw_sub_path : ∀ c, c < 128 → Impl.rawPathNoEnc c = true → Impl.pathNoEnc c = true := by
  decide +kernel

theorem isSlash_eq_win (c : Nat) : Impl.isSlash c = Impl.isWindowsSlash c := by
  simp only [Impl.isSlash, Impl.isWindowsSlash, Bool.or_comm]

theorem split_encR (s : List Nat) :
    splitOnP Impl.isSlash (encR s) = (splitOnP Impl.isWindowsSlash s).map encR := by
  rw [splitOnP_enc Impl.rawPathNoEnc Impl.isSlash ?_ (fun x hx => pct_not_slash x (C02b.isPctChar_lt hx) hx) s,
    splitOnP_congr Impl.isSlash Impl.isWindowsSlash s (fun c _ => isSlash_eq_win c)]
  intro c hc
  simp only [Impl.isSlash, Bool.or_eq_true, beq_iff_eq] at hc
  rcases hc with rfl | rfl <;> exact ⟨by omega, by decide⟩

def swSlash (c : Nat) : Nat := if c = 0x2F then 0x5C else c

theorem map_sw_utf8 (s : List Nat) : (Spec.utf8Encode s).map swSlash = Spec.utf8Encode (s.map swSlash) := by
  induction s with
  | nil => rfl
  | cons c cs ih =>
    rw [List.map_cons, utf8Encode_cons, utf8Encode_cons, List.map_append, ih]
    congr 1
    by_cases hc : c < 0x80
    · have : swSlash c < 0x80 := by unfold swSlash; split <;> omega
      rw [utf8EncodeChar_ascii c hc, utf8EncodeChar_ascii _ this]; rfl
    · -- a non-ASCII element and its bytes (all ≥ 0x80) are left alone
      have hsw : ∀ x, 0x80 ≤ x → swSlash x = x := fun x hx => by unfold swSlash; rw [if_neg (by omega)]
      rw [hsw c (by omega)]
      exact (List.map_congr_left fun x hx => hsw x ((C10b.encChar_nonascii .u8 c hc).2 x hx)).trans (List.map_id' _)

theorem map_sw_join (segs : List (List Nat)) (h : ∀ t ∈ segs, 0x2F ∉ t) :
    (segs.flatMap (fun seg => 0x2F :: seg)).map swSlash = segs.flatMap (fun seg => 0x5C :: seg) := by
  induction segs with
  | nil => rfl
  | cons t rest ih =>
    rw [List.flatMap_cons, List.flatMap_cons, List.map_append, ih (fun x hx => h x (List.mem_cons_of_mem _ hx))]
    congr 1
    rw [List.map_cons]
    congr 1
    refine (List.map_congr_left fun x hx => ?_).trans (List.map_id' _)
    unfold swSlash
    rw [if_neg]
    intro e; subst e; exact h t List.mem_cons_self hx

theorem utf8Encode_ascii_cons (c : Nat) (hc : c < 0x80) (r : List Nat) :
    Spec.utf8Encode (c :: r) = c :: Spec.utf8Encode r := (C10b.encode_asciiHom .u8).cons hc r

theorem pathSegment_driveLetter (u : Url) (a b : Nat) (isLast : Bool) (hf : u.isFile = true) (hp : u.path = [])
    (hd : Impl.isWindowsDrive a b = true) :
    Impl.pathSegment u [a, b] isLast = { u with path := [[a, 0x3A]] } := by
  have ha := ((isWindowsDrive_iff a b).1 hd).1
  have ha2 := (alpha_facts a ha).2.2.2.2.1
  have h2 : Impl.doubleDot [a, b] = false := by simp [Impl.doubleDot, ha2]
  have h1 : Impl.singleDot [a, b] = false := by simp [Impl.singleDot]
  rw [C08.pathSegment_eq, h2, h1]
  simp [hf, hp, hd, C08.isDrive2_pair]

theorem encR_drive (a b : Nat) (hd : Impl.isWindowsDrive a b = true) : encR [a, b] = [a, b] := by
  obtain ⟨ha, hb⟩ := (isWindowsDrive_iff a b).1 hd
  obtain ⟨ha1, ha2, -⟩ := alpha_facts a ha
  obtain ⟨hb1, hb2, -⟩ := driveSep_facts b hb
  unfold encR
  rw [percentEncode_ascii_noenc _ _ _ ha1 ha2, percentEncode_ascii_noenc _ _ _ hb1 hb2]
  rfl

/-- a drive-like share name is rewritten by the path state (`C|` → `C:`): the Windows drive letter quirk of
    url_parser::parse_path (url.h:2449-2459) on the FIRST segment of a `file:` URL whose path is still empty
    (`Impl.pathSegment`).  It is why the normal form of a UNC path shows `C:` for a share name `C|`. -/
def fixShare (share : List Nat) : List Nat :=
  match share with
  | [a, b] => if Impl.isWindowsDrive a b then [a, 0x3A] else share
  | _ => share

theorem fixShare_cases (share : List Nat) :
    (C08.isDrive2 share = false ∧ fixShare share = share) ∨
      ∃ a b, share = [a, b] ∧ Impl.isWindowsDrive a b = true ∧ fixShare share = [a, 0x3A] := by
  unfold fixShare
  split
  · rename_i a b
    cases hd : Impl.isWindowsDrive a b with
    | true => right; exact ⟨a, b, rfl, hd, by simp⟩
    | false => left; exact ⟨hd, by simp⟩
  · rename_i hno
    left; exact ⟨C08.isDrive2_other _ hno, rfl⟩

theorem pathSegment_share (u : Url) (share : List Nat) (isLast : Bool) (hf : u.isFile = true)
    (hp : u.path = []) (h1 : share ≠ [0x2E]) (h2 : share ≠ dd) :
    Impl.pathSegment u (encR share) isLast = { u with path := [encR (fixShare share)] } := by
  rcases fixShare_cases share with ⟨hnd, h⟩ | ⟨a, b, rfl, hd, h⟩
  · rw [h, pathSegment_enc _ (by decide) (by decide) raw_sub_path u share isLast h2
      (Or.inr (isDrive2_enc hnd)), hp, if_neg h1]
    rfl
  · rw [h, encR_drive a b hd, pathSegment_driveLetter u a b isLast hf hp hd,
      encR_drive a 0x3A ((isWindowsDrive_iff a 0x3A).2 ⟨((isWindowsDrive_iff a b).1 hd).1, Or.inl rfl⟩)]

theorem split_share (share r : List Nat) (hc : ∀ c ∈ share, Impl.isWindowsSlash c = false)
    (hr : C02.StopsAt notWinSlash r) :
    splitOnP Impl.isWindowsSlash (share ++ r) = share :: uncRest r := by
  rw [splitOnP_append_nosep _ _ _ hc]
  rcases stopsAt_sep hr with rfl | ⟨x, r', rfl, hx⟩
  · simp [splitOnP, uncRest]
  · rw [splitOnP_cons_sep _ _ _ hx]
    simp [uncRest]

/-- the path state on a raw-encoded text, by the components of the text: "." is dropped, a drive-like first
    component is normalised (`fixShare`) -/
theorem parsePath_segs (U : Url) (hsp : U.isSpecial = true) (hf : U.isFile = true) (hp : U.path = [])
    (x share : List Nat) (rest : List (List Nat))
    (hsplit : splitOnP Impl.isWindowsSlash x = share :: rest) (h1 : share ≠ [0x2E])
    (hdd : dd ∉ share :: rest) :
    Impl.parsePath U (encR x) = { U with path := (fixShare share :: winSegs rest).map encR } := by
  have h2 : share ≠ dd := fun e => hdd (e ▸ List.mem_cons_self)
  rw [C08.parsePath_eq, hsp, C08.pathSep_true, split_encR, hsplit, List.map_cons]
  cases rest with
  | nil =>
    simp only [List.map_nil, Impl.pathSegments, winSegs]
    rw [pathSegment_share U share true hf hp h1 h2]
    simp
  | cons t0 R' =>
    rw [List.map_cons, C08.pathSegments_more _ _ _ (List.cons_ne_nil _ _), ← List.map_cons, pathSegment_share U share false hf hp h1 h2,
      pathSegments_enc _ (by decide) (by decide) raw_sub_path _ _ (fun hm => hdd (List.mem_cons_of_mem _ hm)) (Or.inl (by simp))]
    simp

theorem parsePath_drive (a b c : Nat) (chk : List Nat)
    (hd : Impl.isWindowsDrive a b = true) (hc : Impl.isWindowsSlash c = true)
    (hdd : dd ∉ splitOnP Impl.isWindowsSlash chk) :
    Impl.parsePath C08.fileBase (encR (a :: b :: c :: chk)) =
      { C08.fileBase with path := [a, 0x3A] :: (winSegs (splitOnP Impl.isWindowsSlash chk)).map encR } := by
  obtain ⟨ha, hb⟩ := (isWindowsDrive_iff a b).1 hd
  obtain ⟨-, -, ha3, -, ha2, -⟩ := alpha_facts a ha
  obtain ⟨-, -, hb3⟩ := driveSep_facts b hb
  have hsplit : splitOnP Impl.isWindowsSlash (a :: b :: c :: chk) = [a, b] :: splitOnP Impl.isWindowsSlash chk := by
    rw [splitOnP_cons_other _ _ _ ha3, splitOnP_cons_other _ _ _ hb3, splitOnP_cons_sep _ _ _ hc]; rfl
  rw [parsePath_segs C08.fileBase (by decide) (by decide) rfl _ _ _ hsplit (by simp)
      (by simp only [List.mem_cons, not_or]; exact ⟨fun e => ha2 (List.cons.inj e).1.symm, hdd⟩)]
  have hf : fixShare [a, b] = [a, 0x3A] := by simp [fixShare, hd]
  rw [hf, List.map_cons, encR_drive a 0x3A ((isWindowsDrive_iff a 0x3A).2 ⟨ha, Or.inl rfl⟩)]

theorem pathFromFileUrl_drive (u : Url) (hf : u.isFile = true) (hh : u.hostText = []) (a : Nat)
    (r : List Nat) (ha : isAlpha a = true) (hb : winBody u = 0x5C :: a :: 0x3A :: 0x5C :: r)
    (h0 : 0 ∉ r) :
    Impl.pathFromFileUrl u .windows = some (a :: 0x3A :: 0x5C :: r) := by
  have hd : Impl.pathnameHasWindowsDrive (0x5C :: a :: 0x3A :: 0x5C :: r) = true := by
    simp [Impl.pathnameHasWindowsDrive, Impl.isWindowsSlash, Impl.isNormalizedWindowsDrive, ha]
  have ha0 := (alpha_facts a ha).2.2.2.1
  have hany : ((a :: 0x3A :: 0x5C :: r).any (· == 0)) = false := by
    apply any_zero_false
    simp only [List.mem_cons, not_or]
    exact ⟨fun e => ha0 e.symm, by omega, by omega, h0⟩
  rw [pathFromFileUrl_windows_eq u hf, hh, if_neg (fun hc => hc rfl), hb, if_pos hd, List.drop_succ_cons,
    List.drop_zero, if_neg (by simp)]
  simp only [hany, Bool.false_eq_true, if_false]

def joinBs (L : List (List Nat)) : List Nat := L.flatMap (fun seg => 0x5C :: seg)

theorem joinBs_cons (t : List Nat) (L : List (List Nat)) : joinBs (t :: L) = 0x5C :: (t ++ joinBs L) := rfl

/-- segments without a separator, joined by `\`, are found again by splitting -/
theorem split_joinBs (L : List (List Nat)) (h : ∀ t ∈ L, ∀ c ∈ t, Impl.isWindowsSlash c = false) :
    splitOnP Impl.isWindowsSlash (joinBs L) = [] :: L :=
  split_join _ 0x5C (by decide) L h

/-- path_from_file_url's view of a URL whose path consists of raw-encoded segments without '/': the
    pathname percent-decoded with '/' turned into '\\' is the UTF-8 of the segments joined by '\\' -/
theorem winBody_segs (u : Url) (S : List (List Nat)) (ho : u.hasOpaquePath = false) (hp : u.path = S.map encR)
    (hS : ∀ t ∈ S, ∀ c ∈ t, Spec.isScalar c = true ∧ c ≠ 0x2F) :
    winBody u = Spec.utf8Encode (joinBs S) := by
  have hJs : ∀ x ∈ S.flatMap (fun seg => 0x2F :: seg), Spec.isScalar x = true :=
    join_all _ (by decide) S (fun t ht x hxt => (hS t ht x hxt).1)
  have htext : Impl.pathText u = encR (S.flatMap (fun seg => 0x2F :: seg)) := by
    unfold Impl.pathText
    rw [ho, hp]
    exact flatMap_enc _ 0x2F (by omega) (by decide) S
  unfold winBody
  rw [htext, percentDecode_percentEncode _ _ hJs (by decide)]
  show (Spec.utf8Encode _).map swSlash = _
  rw [map_sw_utf8, map_sw_join S (fun t ht hm => (hS t ht _ hm).2 rfl)]
  rfl

theorem utf8_join_no_nul (S : List (List Nat)) (hS : ∀ t ∈ S, 0 ∉ t) : 0 ∉ Spec.utf8Encode (joinBs S) :=
  utf8Encode_no_nul _ fun hx =>
    join_all (P := fun x => x ≠ 0) _ (by omega) S (fun t ht x hxt e => hS t ht (e ▸ hxt)) 0 hx rfl

/-- path_from_file_url on the URL `file:///a:/w1/w2/…` with raw-encoded segments -/
theorem drive_back (a : Nat) (W : List (List Nat)) (ha : isAlpha a = true) (hne : W ≠ [])
    (hW : ∀ t ∈ W, ∀ c ∈ t, Spec.isScalar c = true ∧ c ≠ 0x2F ∧ c ≠ 0) :
    Impl.pathFromFileUrl { C08.fileBase with path := [a, 0x3A] :: W.map encR } .windows =
      some (Spec.utf8Encode (a :: 0x3A :: joinBs W)) := by
  obtain ⟨ha1, -, -, -, -, ha3⟩ := alpha_facts a ha
  have hd : Impl.isWindowsDrive a 0x3A = true := (isWindowsDrive_iff a 0x3A).2 ⟨ha, Or.inl rfl⟩
  have hbody := winBody_segs { C08.fileBase with path := [a, 0x3A] :: W.map encR } ([a, 0x3A] :: W) rfl
    (by rw [List.map_cons, encR_drive a 0x3A hd]) (fun t ht c hc => by
      rcases List.mem_cons.1 ht with rfl | ht
      · simp only [List.mem_cons, List.not_mem_nil, or_false] at hc
        rcases hc with rfl | rfl
        · exact ⟨ascii_scalar _ ha1, ha3⟩
        · exact ⟨by decide, by omega⟩
      · exact ⟨(hW t ht c hc).1, (hW t ht c hc).2.1⟩)
  cases W with
  | nil => exact absurd rfl hne
  | cons w0 W' =>
    have hnul := utf8_join_no_nul (w0 :: W') (fun t ht hm => (hW t ht 0 hm).2.2 rfl)
    rw [joinBs_cons, utf8Encode_ascii_cons _ (by omega)] at hnul
    rw [joinBs_cons, joinBs_cons] at hbody
    rw [joinBs_cons]
    simp only [List.cons_append, List.nil_append] at hbody
    rw [utf8Encode_ascii_cons _ (by omega), utf8Encode_ascii_cons _ ha1, utf8Encode_ascii_cons _ (by omega),
      utf8Encode_ascii_cons _ (by omega)] at hbody
    rw [utf8Encode_ascii_cons _ ha1, utf8Encode_ascii_cons _ (by omega), utf8Encode_ascii_cons _ (by omega)]
    exact pathFromFileUrl_drive _ rfl rfl a _ ha hbody (fun h => hnul (List.mem_cons_of_mem _ h))

theorem winSegs_split_facts (chk : List Nat) (hs : ∀ x ∈ chk, Spec.isScalar x = true) (h0 : 0 ∉ chk) :
    ∀ t ∈ winSegs (splitOnP Impl.isWindowsSlash chk), ∀ c ∈ t,
      Spec.isScalar c = true ∧ c ≠ 0x2F ∧ c ≠ 0 := by
  intro t ht c hc
  rcases winSegs_mem _ t ht with h | ⟨h, -⟩
  · subst h; simp at hc
  · obtain ⟨hm, hn⟩ := splitOnP_mem _ _ t h c hc
    refine ⟨hs c hm, ?_, ?_⟩
    · intro e; subst e; simp [Impl.isWindowsSlash] at hn
    · intro e; subst e; exact h0 hm

def driveNorm (a : Nat) (chk : List Nat) : List Nat :=
  a :: 0x3A :: joinBs (winSegs (splitOnP Impl.isWindowsSlash chk))

theorem roundtrip_drive_core (a b c : Nat) (chk : List Nat)
    (hs : ∀ x ∈ chk, Spec.isScalar x = true)
    (hd : Impl.isWindowsDrive a b = true) (hc : Impl.isWindowsSlash c = true)
    (hdd : dd ∉ splitOnP Impl.isWindowsSlash chk) (h0 : 0 ∉ chk) :
    Impl.pathFromFileUrl (Impl.parsePath C08.fileBase (encR (a :: b :: c :: chk))) .windows =
      some (Spec.utf8Encode (driveNorm a chk)) := by
  rw [parsePath_drive a b c chk hd hc hdd]
  exact drive_back a _ ((isWindowsDrive_iff a b).1 hd).1 (winSegs_ne_nil _ (splitOnP_ne_nil _ chk))
    (winSegs_split_facts chk hs h0)

/-- a text that does not begin with a separator is its own pointer.  For a drive letter `a` the premise is the third
    conjunct of `alpha_facts` (FilePathScan.lean): `(alpha_facts a ((isWindowsDrive_iff a b).1 hd).1).2.2.1` -/
theorem winClassify_noslash (a : Nat) (r : List Nat) (ha : Impl.isWindowsSlash a = false) :
    winClassify (a :: r) = (a :: r, false) :=
  winClassify_plain _ fun a' b' r' e => by rw [← (List.cons.inj e).1, ha]; rfl

theorem winClassify_colon (a : Nat) (r : List Nat) :
    winClassify (a :: 0x3A :: r) = (a :: 0x3A :: r, false) :=
  winClassify_plain _ fun a' b' r' e => by rw [← (List.cons.inj (List.cons.inj e).2).1]; exact Bool.and_false _

theorem driveNorm_shape (a : Nat) (chk : List Nat) :
    ∃ chk', driveNorm a chk = a :: 0x3A :: 0x5C :: chk' ∧
      splitOnP Impl.isWindowsSlash chk' = winSegs (splitOnP Impl.isWindowsSlash chk) := by
  have hne := winSegs_ne_nil _ (splitOnP_ne_nil Impl.isWindowsSlash chk)
  have hsp := split_joinBs (winSegs (splitOnP Impl.isWindowsSlash chk)) (fun t ht c hc => by
      rcases winSegs_mem _ t ht with h | ⟨h, -⟩
      · subst h; simp at hc
      · exact (splitOnP_mem _ _ t h c hc).2)
  unfold driveNorm
  generalize winSegs (splitOnP Impl.isWindowsSlash chk) = W at hne hsp ⊢
  cases W with
  | nil => exact absurd rfl hne
  | cons w0 W' =>
    refine ⟨w0 ++ joinBs W', rfl, ?_⟩
    rw [joinBs_cons, splitOnP_cons_sep _ _ _ (by decide)] at hsp
    simpa using hsp

theorem driveNorm_idem (a : Nat) (chk : List Nat) :
    ∃ chk', driveNorm a chk = a :: 0x3A :: 0x5C :: chk' ∧ driveNorm a chk' = driveNorm a chk := by
  obtain ⟨chk', h1, h2⟩ := driveNorm_shape a chk
  refine ⟨chk', h1, ?_⟩
  unfold driveNorm
  rw [h2, winSegs_idem]

theorem mem_driveNorm (a : Nat) (chk : List Nat) (x : Nat) (hx : x ∈ driveNorm a chk) :
    x = a ∨ x = 0x3A ∨ x = 0x5C ∨ x ∈ chk := by
  unfold driveNorm at hx
  simp only [List.mem_cons] at hx
  rcases hx with h | h | h
  · exact Or.inl h
  · exact Or.inr (Or.inl h)
  · rcases mem_join _ _ _ h with h | ⟨t, ht, hxt⟩
    · exact Or.inr (Or.inr (Or.inl h))
    · rcases winSegs_mem _ t ht with e | ⟨hm, -⟩
      · subst e; simp at hxt
      · exact Or.inr (Or.inr (Or.inr (splitOnP_mem _ _ t hm x hxt).1))

/-- the forward lemma for drive paths: url_from_file_path accepts `X:\chk` without a ".." component and without NUL,
    and the URL is the path state on the raw-encoded text.  The Windows format has no closed form in one equation:
    the record is `parsePath_drive` (above), which takes the same three hypotheses `hd hc hdd`, so
    `rw [accept_drive …, parsePath_drive …]`. -/
theorem accept_drive (idna : Idna) (a b c : Nat) (chk : List Nat)
    (hd : Impl.isWindowsDrive a b = true) (hc : Impl.isWindowsSlash c = true)
    (hdd : dd ∉ splitOnP Impl.isWindowsSlash chk) (h0 : 0 ∉ chk) :
    Impl.urlFromFilePath idna (a :: b :: c :: chk) .windows =
      some (Impl.parsePath C08.fileBase (encR (a :: b :: c :: chk))) := by
  have ha3 := (alpha_facts a ((isWindowsDrive_iff a b).1 hd).1).2.2.1
  have hdr : Impl.isWindowsDriveAbsolutePath (a :: b :: c :: chk) = some chk := by
    simp [Impl.isWindowsDriveAbsolutePath, hd, hc]
  rw [urlFromFilePath_windows, if_neg (by simp), winClassify_noslash a _ ha3]
  simp only [Bool.false_eq_true, if_false, hdr]
  rw [if_neg (by simp [hdd, h0]), List.append_assoc, List.singleton_append,
    parse_file_url idna _ (raw_plain _),
    rejectDotHost_of_ne (by rw [hostText_parsePath]; simp)]

/-- `Props.c17rt` (Props/C17b.lean) is this function under the name the theorems state; the two meet by `rfl` -/
def rtWin (idna : Idna) (p : List Nat) : Option (List Nat) :=
  (Impl.urlFromFilePath idna p .windows).bind (fun u => Impl.pathFromFileUrl u .windows)

theorem utf8Encode_ascii (s : List Nat) (h : ∀ c ∈ s, c < 0x80) : Spec.utf8Encode s = s :=
  (C10b.encode_asciiHom .u8).of_ascii s h

theorem fixed_drive_core (idna : Idna) (a b : Nat) (chk : List Nat)
    (hs : ∀ x ∈ chk, Spec.isScalar x = true)
    (hd : Impl.isWindowsDrive a b = true)
    (hdd : dd ∉ splitOnP Impl.isWindowsSlash chk) (h0 : 0 ∉ chk) :
    rtWin idna (driveNorm a chk) = some (Spec.utf8Encode (driveNorm a chk)) ∧
      (∀ x ∈ driveNorm a chk, Spec.isScalar x = true) := by
  obtain ⟨ha, -⟩ := (isWindowsDrive_iff a b).1 hd
  obtain ⟨ha1, -, -, ha0, -, -⟩ := alpha_facts a ha
  have hmem := mem_driveNorm a chk
  have hsc : ∀ x ∈ driveNorm a chk, Spec.isScalar x = true := by
    intro x hx
    rcases hmem x hx with rfl | rfl | rfl | h
    · exact ascii_scalar _ ha1
    · decide
    · decide
    · exact hs x h
  refine ⟨?_, hsc⟩
  -- the normal form is `a:\` ++ `chk''`, and `chk''` splits into the kept segments: it is its own normal form
  obtain ⟨chk'', h1, hsplit⟩ := driveNorm_shape a chk
  have h2 : driveNorm a chk'' = driveNorm a chk := by
    unfold driveNorm
    rw [hsplit, winSegs_idem]
  have hsub : ∀ x ∈ chk'', x ∈ driveNorm a chk := by
    intro x hx; rw [h1]; simp [hx]
  have hs' : ∀ x ∈ chk'', Spec.isScalar x = true := fun x hx => hsc x (hsub x hx)
  have h0' : 0 ∉ chk'' := by
    intro hx
    rcases hmem 0 (hsub 0 hx) with h | h | h | h
    · exact ha0 h.symm
    · omega
    · omega
    · exact h0 h
  have hdd' : dd ∉ splitOnP Impl.isWindowsSlash chk'' := by
    rw [hsplit]
    exact dd_not_winSegs _ hdd
  have hd' : Impl.isWindowsDrive a 0x3A = true := (isWindowsDrive_iff a 0x3A).2 ⟨ha, Or.inl rfl⟩
  unfold rtWin
  rw [h1, accept_drive idna a 0x3A 0x5C chk'' hd' (by decide) hdd' h0']
  simp only [Option.bind_some]
  rw [roundtrip_drive_core a 0x3A 0x5C chk'' hs' hd' (by decide) hdd' h0', h2, h1]

end Upa.Proofs.C17
