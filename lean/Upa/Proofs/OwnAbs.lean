import Upa.Proofs.OwnInv
import Upa.Proofs.Lockstep
/-
  C06b: refinement.  `abs h u` is the `UrlObj` (value model of `Upa/Impl/Api.lean`) that the
  url at `u` stands for.  Every url operation has ONE statement, `Sim h h' F L`: the ownership graph of
  the result is well formed, its urls stand for `F` (the corresponding `UrlObj` operation on the urls
  involved, `abs h` on every other: frame) and are alive where `L` says, and its FREE params objects are
  those of `h`, untouched.  Compositions (`swap`, the `href` setter) are `Sim.trans`.  The operations on
  params objects follow: what they do to `abs`.
-/
namespace Upa.Proofs.Own
open Upa Upa.Impl Upa.Impl.Own
open Upa.Proofs.C06 (parseRes update_eq safeAssign_fresh)

theorem abs_eq (h : Heap) (u : Nat) : abs h u = { url := h.recOf u, sp := (sp h u).join.bind (cont h) } := by
  unfold abs Heap.recOf sp cont
  cases h.getU u with
  | none => rfl
  | some c => cases c.spPtr <;> rfl

theorem abs_congr {h h' : Heap} {u : Nat} (h1 : sp h' u = sp h u) (h2 : h'.recOf u = h.recOf u)
    (h3 : ∀ p, sp h u = some (some p) → cont h' p = cont h p) : abs h' u = abs h u := by
  rw [abs_eq, abs_eq, h1, h2]
  rcases hs : sp h u with _ | _ | p
  · rfl
  · rfl
  · simp [h3 p hs]

theorem abs_url (h : Heap) (u : Nat) : (abs h u).url = h.recOf u := by rw [abs_eq]

theorem live_of_valid {h : Heap} {u : Nat} (hv : ¬(h.recOf u).isNone = true) : (sp h u).isSome = true := by
  rcases hs : sp h u with _ | o
  · rw [recOf_dead h u hs] at hv; exact absurd rfl hv
  · rfl

theorem abs_fresh {h : Heap} (hi : OwnG h) : abs h h.next = {} := by
  have := hi.freshU _ (Nat.le_refl _)
  rw [abs_eq, this, recOf_dead h _ this]; rfl

/-! ## the statement of a url operation -/

def FreeKeep (h h' : Heap) : Prop := ∀ p, up h' p = some none → up h p = some none ∧ cont h' p = cont h p

theorem FreeKeep.refl (h : Heap) : FreeKeep h h := fun _ hp => ⟨hp, rfl⟩
theorem FreeKeep.trans {h h' h'' : Heap} (a : FreeKeep h h') (b : FreeKeep h' h'') : FreeKeep h h'' :=
  fun p hp => ⟨(a p (b p hp).1).1, (b p hp).2.trans (a p (b p hp).1).2⟩

/-- `h'` is `h` after a url operation: the ownership graph of `h'` is well formed, its urls stand for
    `F` and are alive where `L` says, and its FREE params objects are those of `h`, unchanged -/
structure Sim (h h' : Heap) (F : Nat → UrlObj) (L : Nat → Bool) : Prop where
  own : OwnG h'
  absEq : ∀ u, abs h' u = F u
  liveEq : ∀ u, h'.liveU u = L u
  free : FreeKeep h h'

theorem Sim.refl {h : Heap} (hi : OwnG h) : Sim h h (abs h) h.liveU := ⟨hi, fun _ => rfl, fun _ => rfl, FreeKeep.refl h⟩

/-- sequencing: the second statement is read in the result of the first -/
theorem Sim.trans {h h' h'' : Heap} {F F' : Nat → UrlObj} {L L' : Nat → Bool} (a : Sim h h' F L)
    (b : Sim h' h'' F' L') : Sim h h'' F' L' := ⟨b.own, b.absEq, b.liveEq, a.free.trans b.free⟩

theorem Sim.congr {h h' : Heap} {F F' : Nat → UrlObj} {L L' : Nat → Bool} (a : Sim h h' F L)
    (hF : ∀ u, F u = F' u) (hL : ∀ u, L u = L' u) : Sim h h' F' L' :=
  ⟨a.own, fun u => (a.absEq u).trans (hF u), fun u => (a.liveEq u).trans (hL u), a.free⟩

/-- an operation that writes no pointer, rewrites the record of one url and edits the content of that
    url's own cell.  The cell of another url is another cell (`inj`), and a FREE cell is not the cell
    of any url (`fwd`): both are left alone. -/
theorem Sim.of_own_edit {h h' : Heap} (hi : OwnG h) {u : Nat} {r' : Option Url} {g : Params → Params}
    (hg : SameG h h') (hrec : ∀ v, h'.recOf v = if v = u then r' else h.recOf v)
    (hcont : ∀ p, cont h' p = if some p = (sp h u).join then (cont h p).map g else cont h p) :
    Sim h h' (fun u' => if u' = u then { url := r', sp := (abs h u).sp.map g } else abs h u') h.liveU := by
  refine ⟨hg.ownG hi, fun u' => ?_, fun v => by rw [liveU_eq, liveU_eq, hg.1], fun p hp => ?_⟩
  · split
    · subst_vars
      simp only [abs_eq, hg.1, hrec, if_true]
      rcases hj : (sp h u').join with _ | p
      · rfl
      · simp [hcont, hj]
    · rename_i hne
      exact abs_congr (hg.1 u') (by rw [hrec, if_neg hne]) fun p hp => by
        rw [hcont, if_neg fun he => hne (hi.inj hp (Option.join_eq_some_iff.1 he.symm))]
  · rw [hg.2.1] at hp
    refine ⟨hp, ?_⟩
    rw [hcont, if_neg]
    intro he
    rw [hi.fwd u p (Option.join_eq_some_iff.1 he.symm)] at hp
    cases hp

/-! ## creation and destruction -/

/-- a new url without a params object (`url()`, the copy constructor) -/
theorem allocU_sim (h : Heap) (hi : OwnG h) (c : UCell) (hc : c.spPtr = none) :
    Sim h (h.allocU c) (fun v => if v = h.next then { url := c.url, sp := none } else abs h v)
      (fun v => decide (v = h.next) || h.liveU v) := by
  refine ⟨hi.allocU_none c hc, fun v => ?_, fun v => ?_, fun p hp => ⟨hp, rfl⟩⟩
  · split
    · subst_vars; simp [abs_eq, hc]
    · apply abs_congr <;> simp [*]
  · simp only [liveU_eq, sp_allocU]; split <;> simp [*]

theorem newUrl_abs (h : Heap) (hi : OwnG h) (u' : Nat) : abs (newUrl h).1 u' = abs h u' := by
  rw [newUrl, (allocU_sim h hi {} rfl).absEq]
  split
  · subst_vars; rw [abs_fresh hi]
  · rfl

theorem urlCopyConstruct_sim (h : Heap) (hi : OwnG h) (s : Nat) :
    Sim h (urlCopyConstruct h s).1 (fun u' => if u' = h.next then copyConstruct (abs h s) else abs h u')
      (fun v => decide (v = h.next) || h.liveU v) :=
  (allocU_sim h hi { url := h.recOf s, spPtr := none } rfl).congr
    (fun u' => by simp only [copyConstruct, abs_url]) (fun _ => rfl)

/-- `search_params() &` is `UrlObj.searchParams`; the object it creates is OWNED -/
theorem urlSearchParams_sim (h : Heap) (hi : OwnG h) (u : Nat) (hu : h.liveU u = true) :
    Sim h (urlSearchParams h u) (fun u' => if u' = u then (abs h u).searchParams else abs h u') h.liveU := by
  obtain ⟨o, ho⟩ := sp_of_liveU hu
  rw [urlSearchParams_eq]
  split
  · rename_i hsu
    have hf := hi.freshP h.next (Nat.le_refl _)
    refine ⟨hi.link hsu (fun v => by simp [hsu]) (fun p => by simp) (by simp), fun u' => ?_, fun v => ?_,
      fun p hp => ?_⟩
    · split
      · subst_vars; simp [abs_eq, hsu, UrlObj.searchParams]
      · apply abs_congr <;> simp [*]
        intro p hp he
        subst he; rw [hi.fwd u' _ hp] at hf; cases hf
    · simp only [liveU_eq, sp_setSpPtr, sp_allocP]; split <;> simp [*]
    · simp only [up_setSpPtr, up_allocP, cont_setSpPtr, cont_allocP] at hp ⊢
      split at hp
      · cases hp
      · exact ⟨hp, if_neg ‹_›⟩
  · refine (Sim.refl hi).congr (fun u' => ?_) (fun _ => rfl)
    split
    · subst_vars
      rcases o with _ | p
      · exact absurd ho ‹_›
      · obtain ⟨c, hc⟩ := cont_live (hi.fwd _ _ ho)
        simp [abs_eq, ho, hc, UrlObj.searchParams]
    · rfl

/-- `~url()`: the url and what it held are gone; every other link survives (`OwnG.drop`) -/
theorem destroyUrl_sim (h : Heap) (hi : OwnG h) (u : Nat) :
    Sim h (destroyUrl h u) (fun v => if v = u then {} else abs h v) (fun v => !decide (v = u) && h.liveU v) := by
  obtain ⟨h1, h2, h3, h4, h5⟩ := destroyUrl_views h u
  refine ⟨hi.drop rfl h1 h2 h3, fun v => ?_, fun v => by rw [liveU_eq, liveU_eq, h1]; split <;> simp [*],
    fun p hp => ?_⟩
  · split
    · subst_vars; simp [abs_eq, h1, h5]
    · rename_i hne
      exact abs_congr (by rw [h1, if_neg hne]) (by rw [h5, if_neg hne]) fun p hp => destroyUrl_keep h u hi hne hp
  · rw [h2] at hp
    split at hp
    · cases hp
    · exact ⟨hp, by rw [h4, if_neg ‹_›]⟩

/-! ## copy, move, `safe_assign`, `swap` -/

theorem urlCopyAssign_sim (h : Heap) (hi : OwnG h) (d s : Nat) (hd : h.liveU d = true) (hs : h.liveU s = true) :
    Sim h (urlCopyAssign h d s) (fun u => if u = d then copyAssign (abs h d) (abs h s) else abs h u) h.liveU := by
  obtain ⟨od, hod⟩ := sp_of_liveU hd
  obtain ⟨os, hos⟩ := sp_of_liveU hs
  obtain ⟨h1, h2⟩ := urlCopyAssign_views h d s hi hod hos
  refine (Sim.of_own_edit hi (sameG_urlCopyAssign h d s) h1 h2).congr (fun u => ?_) (fun _ => rfl)
  split
  · simp only [abs_eq, hod, hos, copyAssign, UrlObj.reparseParams]
    rcases od with _ | pd
    · rfl
    · obtain ⟨cd, hcd⟩ := cont_live (hi.fwd d pd hod)
      by_cases hds : d = s
      · subst hds
        rw [hod] at hos; cases hos
        simp [hcd, copySrc]
      · rcases os with _ | ps
        · simp [hcd, hds, copySrc, hos]
        · obtain ⟨cs, hcs⟩ := cont_live (hi.fwd s ps hos)
          simp [hcd, hcs, hds, listOf_eq, sortedOf_eq, copySrc, hos]
  · rfl

/-- the move constructor is `moveAssign` (new object, source): the new url takes over what the source
    held (`OwnG.take` with nothing given up) -/
theorem urlMoveConstruct_sim (h : Heap) (hi : OwnG h) (s : Nat) (hs : h.liveU s = true) :
    Sim h (urlMoveConstruct h s).1
      (fun u => if u = h.next then (moveAssign (abs h s)).1 else if u = s then (moveAssign (abs h s)).2 else abs h u)
      (fun u => decide (u = h.next) || h.liveU u) := by
  obtain ⟨os, hos⟩ := sp_of_liveU hs
  obtain ⟨h1, h2, h3, h4, h5⟩ := urlMoveConstruct_views h s hi hos
  refine ⟨?_, fun u => ?_, fun u => ?_, fun p hp => ?_⟩
  · exact hi.take (d := h.next) (od := none) (Nat.ne_of_lt (hi.live_lt hos)).symm
      (by rw [hi.freshU h.next (Nat.le_refl _)]; rfl) hos h1 (fun p => by rw [h2]; simp) (by omega) (by omega)
  · simp only [abs_eq, h1, funext h4, h5, moveAssign]
    split
    · rw [hos]
    · split <;> rfl
  · rw [liveU_eq, liveU_eq, h1]
    split
    · simp [*]
    · split
      · subst_vars; simp [*]
      · simp [*]
  · rw [h2] at hp
    split at hp
    · cases hp
    · exact ⟨hp, h4 p⟩

/-- move assignment is `moveAssign`; the params object the destination held is destroyed, every other
    one keeps its content -/
theorem urlMoveAssign_sim (h : Heap) (hi : OwnG h) (d s : Nat) (hd : h.liveU d = true) (hs : h.liveU s = true)
    (hds : d ≠ s) :
    Sim h (urlMoveAssign h d s)
      (fun u => if u = d then (moveAssign (abs h s)).1 else if u = s then (moveAssign (abs h s)).2 else abs h u)
      h.liveU := by
  obtain ⟨od, hod⟩ := sp_of_liveU hd
  obtain ⟨os, hos⟩ := sp_of_liveU hs
  obtain ⟨h1, h2, h3, h4, h5⟩ := urlMoveAssign_views h d s hi hds hod hos
  have keep := @urlMoveAssign_keep h d s hi hds _ _ hod hos
  refine ⟨hi.take hds (by rw [hod]; rfl) hos h1 h2 (Nat.le_of_eq h3.symm) (h3 ▸ hi.live_lt hod), fun u => ?_,
    fun u => ?_, fun p hp => ?_⟩
  · by_cases hud : u = d
    · simp only [abs_eq, h1, h5, moveAssign, hud, if_true]
      rcases os with _ | ps
      · simp [hos]
      · simp [hos, keep (Ne.symm hds) hos]
    · rw [if_neg hud]
      by_cases hus : u = s
      · simp [abs_eq, h1, h5, moveAssign, hus, Ne.symm hds]
      · rw [if_neg hus]
        exact abs_congr (by rw [h1, if_neg hud, if_neg hus]) (by rw [h5, if_neg hud, if_neg hus])
          fun p hp => keep hud hp
  · rw [liveU_eq, liveU_eq, h1]
    split
    · subst_vars; rw [hod]; rfl
    · split
      · subst_vars; rw [hos]; rfl
      · rfl
  · rw [h2] at hp
    split at hp
    · cases hp
    · split at hp
      · cases hp
      · exact ⟨hp, by rw [h4, if_neg ‹_›]⟩

/-- what `url::safe_assign` leaves in the SOURCE: an invalid url; its params object (if it has one) is
    emptied when the destination had a params object to receive the list, and is left AS IT IS (stale
    list) when the destination had none (url.h:1124-1126) -/
def safeAssignSrc (dst src : UrlObj) : UrlObj :=
  { url := none
    sp := if dst.sp.isSome then src.sp.map (fun p => { list := [], isSorted := p.isSorted }) else src.sp }

theorem live_urlSafeAssign (h : Heap) (d s x : Nat) :
    (sp (urlSafeAssign h d s) x).isSome = (sp h x).isSome := by
  unfold urlSafeAssign
  split
  · rfl
  · split
    · split <;> simp
    · simp

/-- `safe_assign` is `safeAssign` on the destination; it writes no pointer -/
theorem urlSafeAssign_sim (h : Heap) (hi : OwnG h) (d s : Nat) (hd : h.liveU d = true) (hs : h.liveU s = true)
    (hds : d ≠ s) :
    Sim h (urlSafeAssign h d s)
      (fun u => if u = d then (safeAssign (abs h d) (abs h s)).1
        else if u = s then safeAssignSrc (abs h d) (abs h s) else abs h u) h.liveU := by
  obtain ⟨od, hod⟩ := sp_of_liveU hd
  obtain ⟨os, hos⟩ := sp_of_liveU hs
  obtain ⟨h2, h3⟩ := urlSafeAssign_views h d s hi hds hod hos
  have hg := sameG_urlSafeAssign h d s hi
  -- the cells of the two urls, and that every other cell keeps its content
  have hcd : ∀ pd, od = some pd → ∃ c, cont h pd = some c := fun pd he => cont_live (hi.fwd d pd (he ▸ hod))
  have hcs : ∀ ps, os = some ps → ∃ c, cont h ps = some c := fun ps he => cont_live (hi.fwd s ps (he ▸ hos))
  have keep := urlSafeAssign_keep h d s hi hds hod hos
  refine ⟨hg.ownG hi, fun u' => ?_, fun v => by rw [liveU_eq, liveU_eq, live_urlSafeAssign], fun p hp => ?_⟩
  · by_cases hud : u' = d
    · subst hud
      simp only [abs_eq, hg.1, h3, if_true, hod, hos, safeAssign]
      rcases od with _ | pd
      · rfl
      · obtain ⟨cd, hcd⟩ := hcd pd rfl
        rcases os with _ | ps
        · simp [h2, hcd]
        · obtain ⟨cs, hcs⟩ := hcs ps rfl
          have hpp : pd ≠ ps := fun he => hds (hi.inj hod (he ▸ hos))
          simp [h2, hcd, hcs, hpp, listOf_eq, sortedOf_eq]
    · rw [if_neg hud]
      by_cases hus : u' = s
      · subst hus
        simp only [abs_eq, hg.1, h3, if_neg hud, if_true, hod, hos, safeAssignSrc]
        rcases os with _ | ps
        · simp
        · obtain ⟨cs, hcs⟩ := hcs ps rfl
          rcases od with _ | pd
          · simp [h2]
          · obtain ⟨cd, hcd⟩ := hcd pd rfl
            simp [h2, hcd, hcs]
      · rw [if_neg hus]
        exact abs_congr (hg.1 u') (by rw [h3, if_neg hud, if_neg hus]) fun p hp =>
          keep p (fun he => hud (hi.inj hp (he ▸ hod))) (fun he => hus (hi.inj hp (he ▸ hos)))
  · rw [hg.2.1] at hp
    -- a FREE object is neither the destination's cell nor the source's
    exact ⟨hp, keep p (fun he => by rw [hi.fwd d p (he ▸ hod)] at hp; cases hp)
      (fun he => by rw [hi.fwd s p (he ▸ hos)] at hp; cases hp)⟩

/-- `swap` exchanges what the two urls stand for — each keeps its own identity, the params objects
    change hands and their back pointers follow: three moves through a temporary url, which is then
    destroyed -/
theorem urlSwap_sim (h : Heap) (hi : OwnG h) (a b : Nat) (ha : h.liveU a = true) (hb : h.liveU b = true) :
    Sim h (urlSwap h a b) (fun u => if u = a then abs h b else if u = b then abs h a else abs h u) h.liveU := by
  have hat : a < h.next := hi.live_lt (sp_of_liveU ha).choose_spec
  have hbt : b < h.next := hi.live_lt (sp_of_liveU hb).choose_spec
  have hdead := abs_fresh hi
  have hdl : h.liveU h.next = false := by rw [liveU_eq, hi.freshU _ (Nat.le_refl _)]; rfl
  unfold urlSwap
  simp only [ha, hb, Bool.and_self, Bool.not_true, Bool.false_eq_true, if_false]
  rw [show (urlMoveConstruct h a).2 = h.next from rfl]
  have s1 := urlMoveConstruct_sim h hi a ha
  generalize (urlMoveConstruct h a).1 = h1 at s1
  by_cases hab : a = b
  · subst hab
    rw [show urlMoveAssign h1 a a = h1 from by unfold urlMoveAssign; simp]
    have s3 := s1.trans (urlMoveAssign_sim h1 s1.own a h.next (by simp [s1.liveEq, ha]) (by simp [s1.liveEq]) (by omega))
    refine (s3.trans (destroyUrl_sim _ s3.own h.next)).congr (fun u => ?_) (fun u => ?_)
    · simp only [s3.absEq, s1.absEq, moveAssign]; grind
    · simp only [s3.liveEq, s1.liveEq]; grind
  · have s2 := s1.trans (urlMoveAssign_sim h1 s1.own a b (by simp [s1.liveEq, ha]) (by simp [s1.liveEq, hb]) hab)
    generalize urlMoveAssign h1 a b = h2 at s2
    have s3 := s2.trans (urlMoveAssign_sim h2 s2.own b h.next (by simp [s2.liveEq, s1.liveEq, hb])
      (by simp [s2.liveEq, s1.liveEq]) (by omega))
    refine (s3.trans (destroyUrl_sim _ s3.own h.next)).congr (fun u => ?_) (fun u => ?_)
    · simp only [s3.absEq, s2.absEq, s1.absEq, moveAssign]; grind
    · simp only [s3.liveEq, s2.liveEq, s1.liveEq]; grind

/-! ## clear, parse -/

theorem urlClear_sim (h : Heap) (hi : OwnG h) (u : Nat) :
    Sim h (urlClear h u) (fun v => if v = u then (abs h u).clear else abs h v) h.liveU := by
  refine (Sim.of_own_edit (u := u) (r' := none) (g := fun _ => { list := [], isSorted := true }) hi
    (sameG_urlClear h u) (fun v => by unfold urlClear; simp) (fun p => by unfold urlClear; simp)).congr
    (fun v => ?_) (fun _ => rfl)
  congr 1
  rw [abs_eq]
  unfold UrlObj.clear UrlObj.clearParams
  cases (sp h u).join.bind (cont h) <;> rfl

theorem urlDoParse_sim (h : Heap) (hi : OwnG h) (u : Nat) (res : Option Url) (hu : h.liveU u = true) :
    Sim h (urlDoParse h u res) (fun u' => if u' = u then parseRes (abs h u) res else abs h u') h.liveU := by
  unfold urlDoParse; dsimp only
  -- `new_url()`: a valid object is cleared first
  have s1 : Sim h (if (h.recOf u).isSome then urlClear h u else h)
      (fun v => if v = u then (if (h.recOf u).isSome then (abs h u).clear else abs h u) else abs h v) h.liveU := by
    split
    · exact urlClear_sim h hi u
    · exact (Sim.refl hi).congr (fun v => by split <;> simp_all) (fun _ => rfl)
  generalize (if (h.recOf u).isSome then urlClear h u else h) = h1 at s1
  have hl1 : (sp h1 u).isSome = true := by rw [← liveU_eq, s1.liveEq]; exact hu
  -- then the record is written and, on success, the list re-parsed
  refine (s1.trans (Sim.of_own_edit (u := u) (r' := res)
    (g := fun c => match res with
      | some r => { list := formParse false (queryBytes (some r)), isSorted := false }
      | none => c) s1.own
    (by rcases res with _ | r <;> simp [SameG])
    (fun v => by rcases res with _ | r <;> simp [hl1])
    (fun p => by rcases res with _ | r <;> simp [hl1]))).congr (fun u' => ?_) (fun v => ?_)
  · simp only [s1.absEq, if_true]
    split
    · rw [← abs_url]
      generalize abs h u = o
      rcases o with ⟨ou, osp⟩
      unfold parseRes UrlObj.clear UrlObj.clearParams UrlObj.reparseParams
      rcases res with _ | r <;> cases ou <;> cases osp <;> rfl
    · rfl
  · exact s1.liveEq v

/-! ## setters -/

theorem urlSetOther_sim (h : Heap) (hi : OwnG h) (u : Nat) (r : Url) (hv : ¬(h.recOf u).isNone = true) :
    Sim h (urlSetOther h u r) (fun u' => if u' = u then { abs h u with url := some r } else abs h u') h.liveU := by
  have hl := live_of_valid hv
  refine (Sim.of_own_edit (u := u) (r' := some r) (g := id) hi (sameG_urlSetOther h u r)
    (fun v => by unfold urlSetOther; simp [hv, hl]) (fun p => by unfold urlSetOther; simp [hv])).congr
    (fun u' => ?_) (fun _ => rfl)
  simp

theorem urlSetSearch_sim (h : Heap) (hi : OwnG h) (u : Nat) (r : Url) (e : Bool) (hv : ¬(h.recOf u).isNone = true) :
    Sim h (urlSetSearch h u r e)
      (fun u' => if u' = u then
        (if e then ({ abs h u with url := some r } : UrlObj).clearParams
         else ({ abs h u with url := some r } : UrlObj).reparseParams) else abs h u') h.liveU := by
  have hl := live_of_valid hv
  refine (Sim.of_own_edit (u := u) (r' := some r)
    (g := fun _ => if e then { list := [], isSorted := true }
      else { list := formParse false (queryBytes (some r)), isSorted := false }) hi (sameG_urlSetSearch h u r e)
    (fun v => by unfold urlSetSearch; cases e <;> simp [hv, hl])
    (fun p => by unfold urlSetSearch; cases e <;> simp [hv, hl])).congr (fun u' => ?_) (fun _ => rfl)
  congr 1
  rw [abs_eq]
  unfold UrlObj.clearParams UrlObj.reparseParams
  cases e <;> cases (sp h u).join.bind (cont h) <;> rfl

/-- the `href` setter: parse into a temporary url, `safe_assign` it, destroy it -/
theorem urlSetHref_sim (h : Heap) (hi : OwnG h) (u : Nat) (r : Url) (hu : h.liveU u = true) :
    Sim h (urlSetHref h u (some r))
      (fun u' => if u' = u then ({ abs h u with url := some r } : UrlObj).reparseParams else abs h u') h.liveU := by
  have hut : u < h.next := hi.live_lt (sp_of_liveU hu).choose_spec
  have hdead := abs_fresh hi
  have hdl : h.liveU h.next = false := by rw [liveU_eq, hi.freshU _ (Nat.le_refl _)]; rfl
  unfold urlSetHref
  simp only [hu, Bool.not_true, Bool.false_eq_true, if_false]
  rw [show (newUrl h).2 = h.next from rfl]
  -- the temporary url `h.next` with the record `r`
  have s0 := allocU_sim h hi {} rfl
  have s1 : Sim h ((newUrl h).1.setRec h.next (some r))
      (fun x => if x = h.next then { url := some r, sp := none } else abs h x)
      (fun x => decide (x = h.next) || h.liveU x) :=
    (s0.trans (Sim.of_own_edit (u := h.next) (r' := some r) (g := id) s0.own (by simp [SameG, newUrl])
      (fun v => by simp [newUrl]) (fun p => by simp [newUrl]))).congr
      (fun x => by simp only [s0.absEq]; split <;> simp) s0.liveEq
  generalize (newUrl h).1.setRec h.next (some r) = h1 at s1
  have s2 := s1.trans (urlSafeAssign_sim h1 s1.own u h.next (by simp [s1.liveEq, hu]) (by simp [s1.liveEq]) (by omega))
  refine (s2.trans (destroyUrl_sim _ s2.own h.next)).congr (fun x => ?_) (fun x => ?_)
  · simp only [s2.absEq, s1.absEq]
    have hne : u ≠ h.next := by omega
    by_cases h1' : x = h.next
    · subst h1'; simp [hdead, Ne.symm hne]
    · simp only [h1', if_false, hne, if_true]
      split
      · exact safeAssign_fresh _ r
      · rfl
  · simp only [s2.liveEq, s1.liveEq]
    by_cases hx : x = h.next
    · subst hx; simp [hdl]
    · simp [hx]

theorem urlSet_sim (idna : Idna) (h : Heap) (hi : OwnG h) (u : Nat) (s : Setter) (e : Enc) (units : List Nat)
    (hu : h.liveU u = true) :
    Sim h (urlSet idna h u s e units) (fun u' => if u' = u then ((abs h u).set idna s e units).1 else abs h u')
      h.liveU := by
  have same : ∀ o : UrlObj, o = abs h u → Sim h h (fun u' => if u' = u then o else abs h u') h.liveU :=
    fun o ho => (Sim.refl hi).congr (fun u' => by split <;> simp_all) (fun _ => rfl)
  unfold urlSet UrlObj.set
  rw [abs_url]
  split
  · cases hr : Impl.parse idna e units none with
    | none =>
      rw [show urlSetHref h u none = h from by unfold urlSetHref; split <;> rfl]
      exact same _ (by simp)
    | some r => exact (urlSetHref_sim h hi u r hu).congr (fun u' => by simp) (fun _ => rfl)
  · rename_i hn
    rw [hn]
    exact same _ (by split <;> simp_all)
  · rename_i r hr
    have hv : ¬(h.recOf u).isNone = true := by simp [hr]
    exact (urlSetSearch_sim h hi u _ _ hv).congr (fun u' => by simp [hr]) (fun _ => rfl)
  · rename_i s' r hne1 hne2 hr
    have hv : ¬(h.recOf u).isNone = true := by simp [hr]
    exact (urlSetOther_sim h hi u _ hv).congr (fun u' => by cases s' <;> simp_all) (fun _ => rfl)

/-! ## params objects: what an operation on them does to `abs` -/

theorem update_abs (h : Heap) (hi : OwnG h) (p : Nat) (u' : Nat) :
    abs (update h p) u' = if h.urlPtrOf p = some u' then (abs h u').update else abs h u' := by
  simp only [abs_eq, sp_update, funext (cont_update h p), recOf_update, ← urlPtrOf_eq]
  split
  · rename_i hu
    have hup := urlPtrOf_eq_some.1 hu
    obtain ⟨c, hc⟩ := cont_live hup
    simp [hi.back p u' hup, hc, update_eq, listOf_eq]
  · rfl

theorem abs_setContent (h : Heap) (p : Nat) (l : List BPair) (s : Bool) (u' : Nat) :
    abs (h.setContent p l s) u' =
      if (sp h u').join = some p then { abs h u' with sp := (abs h u').sp.map fun _ => { list := l, isSorted := s } }
      else abs h u' := by
  simp only [abs_eq, sp_setContent, recOf_setContent]
  rcases (sp h u').join with _ | q
  · rfl
  · by_cases hq : q = p <;> simp [hq]

theorem paramsMutate_abs (h : Heap) (hi : OwnG h) (p : Nat) (f : Params → Params) (a : Bool) 
    (hp : h.liveP p = true) (u' : Nat) :
    abs (paramsMutate h p f a) u' = if h.urlPtrOf p = some u' then (abs h u').spApply f a else abs h u' := by
  obtain ⟨o, ho⟩ := Option.isSome_iff_exists.1 ((liveP_eq h p).symm.trans hp)
  obtain ⟨⟨cl, cs⟩, hc⟩ := cont_live ho
  have hown : h.urlPtrOf p = some u' ↔ (sp h u').join = some p := by
    rw [urlPtrOf_eq_some, Option.join_eq_some_iff]; exact ⟨hi.back p u', hi.fwd u' p⟩
  rw [paramsMutate_live h p f a hp]
  simp only [listOf_eq, sortedOf_eq, hc, Option.map_some, Option.getD_some]
  have habs : (sp h u').join = some p → abs h u' = { url := h.recOf u', sp := some ⟨cl, cs⟩ } := fun hj => by
    rw [abs_eq, hj]; simp [hc]
  split
  · rename_i hrun
    rw [update_abs _ (hi.setContent _ _ _) p, abs_setContent]
    simp only [urlPtrOf_eq, up_setContent]
    simp only [← urlPtrOf_eq, hown]
    split
    · rename_i hj
      rw [habs hj]
      simp only [UrlObj.spApply, UrlObj.searchParams]
      generalize f ⟨cl, cs⟩ = n at hrun ⊢
      simp_all
    · rfl
  · rename_i hrun
    rw [abs_setContent]
    simp only [hown]
    split
    · rename_i hj
      rw [habs hj]
      simp only [UrlObj.spApply, UrlObj.searchParams]
      generalize f ⟨cl, cs⟩ = n at hrun ⊢
      simp_all
    · rfl

theorem paramsCopyAssign_eq (h : Heap) (d s : Nat) (hds : d ≠ s) (hd : h.liveP d = true) (hs : h.liveP s = true) :
    paramsCopyAssign h d s = paramsMutate h d (fun _ => { list := h.listOf s, isSorted := h.sortedOf s }) true := by
  rw [paramsMutate_live _ _ _ _ hd]
  simp [paramsCopyAssign, hds, hd, hs]

/-- `safe_assign` from a FREE source: the same edit on the destination's url -/
theorem paramsSafeAssign_abs (h : Heap) (hi : OwnG h) (d s : Nat) (hds : d ≠ s) (hd : h.liveP d = true)
    (hs' : h.liveP s = true) (hfs : h.urlPtrOf s = none) (u' : Nat) :
    abs (paramsSafeAssign h d s) u' =
      if h.urlPtrOf d = some u' then
        (abs h u').spApply (fun _ => { list := h.listOf s, isSorted := h.sortedOf s }) true
      else abs h u' := by
  rw [← paramsMutate_abs h hi d _ true hd]
  obtain ⟨fw, b, fu, fp⟩ := hi
  rw [paramsMutate_live _ _ _ _ hd]
  unfold paramsSafeAssign moveParams
  simp only [hds, hd, hs', Bool.and_self, Bool.not_true, Bool.false_eq_true, or_self, if_false, Bool.true_or, if_true]
  apply abs_congr
  · simp
  · simp [recOf_update, listOf_eq, hds]
  · intro q hq
    have : q ≠ s := by
      intro he; subst he
      exact not_owned hfs _ (fw _ _ (by simpa using hq))
    simp [this]

/-! ## operations that leave every `abs` as it is -/

theorem allocP_free_abs (h : Heap) (hi : OwnG h) (c : PCell) (u' : Nat) : abs (h.allocP c) u' = abs h u' :=
  abs_congr rfl rfl fun p hp => by
    rw [cont_allocP, if_neg (Nat.ne_of_lt (hi.liveP_lt (hi.fwd u' p hp)))]

theorem newParams_abs (h : Heap) (hi : OwnG h) (l : List BPair) (u' : Nat) : abs (newParams h l).1 u' = abs h u' :=
  allocP_free_abs h hi _ u'
theorem paramsCopyConstruct_abs (h : Heap) (hi : OwnG h) (p : Nat) (u' : Nat) :
    abs (paramsCopyConstruct h p).1 u' = abs h u' := allocP_free_abs h hi _ u'

theorem unheld {h : Heap} (hi : OwnG h) {p : Nat} (hp : h.urlPtrOf p = none) (u : Nat) : (sp h u).join ≠ some p :=
  fun hj => not_owned hp u (hi.fwd u p (Option.join_eq_some_iff.1 hj))

theorem setContent_free_abs (h : Heap) (p : Nat) (l : List BPair) (s : Bool)
    (hp : ∀ u, (sp h u).join ≠ some p) (u' : Nat) : abs (h.setContent p l s) u' = abs h u' := by
  rw [abs_setContent, if_neg (hp u')]

theorem paramsMoveConstruct_abs (h : Heap) (hi : OwnG h) (p : Nat) (hp : h.urlPtrOf p = none) (u' : Nat) :
    abs (paramsMoveConstruct h p).1 u' = abs h u' := by
  unfold paramsMoveConstruct
  rw [setContent_free_abs _ _ _ _ (by simpa using unheld hi hp), allocP_free_abs _ hi _]

theorem paramsMoveAssign_abs (h : Heap) (hi : OwnG h) (d s : Nat) (hd : h.urlPtrOf d = none)
    (hs : h.urlPtrOf s = none) (u' : Nat) : abs (paramsMoveAssign h d s) u' = abs h u' := by
  unfold paramsMoveAssign moveParams
  split
  · rfl
  · rw [setContent_free_abs _ _ _ _ (by simpa using unheld hi hs), setContent_free_abs _ _ _ _ (unheld hi hd)]

theorem paramsSwap_abs (h : Heap) (hi : OwnG h) (a b : Nat) (ha : h.urlPtrOf a = none)
    (hb : h.urlPtrOf b = none) (u' : Nat) : abs (paramsSwap h a b) u' = abs h u' := by
  unfold paramsSwap
  split
  · rfl
  · rw [setContent_free_abs _ _ _ _ (by simpa using unheld hi hb), setContent_free_abs _ _ _ _ (unheld hi ha)]

theorem destroyParams_abs (h : Heap) (hi : OwnG h) (p : Nat) (hp : h.urlPtrOf p = none) (u' : Nat) :
    abs (destroyParams h p) u' = abs h u' := by
  refine abs_congr rfl rfl fun q hq => ?_
  rw [destroyParams, cont_delP, if_neg]
  rintro rfl
  exact unheld hi hp u' (by rw [hq]; rfl)

theorem urlSearchParamsRvalue_abs (h : Heap) (hi : OwnG h) (u : Nat) (hu : h.spOf u = none) (u' : Nat) :
    abs (urlSearchParamsRvalue h u).1 u' = abs h u' := by
  unfold urlSearchParamsRvalue
  rw [hu]
  exact newParams_abs h hi _ u'

end Upa.Proofs.Own
