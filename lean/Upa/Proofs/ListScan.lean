import Upa.Basic
/-
  Scanning a list.  `takeWhile` / `dropWhile` with any test over any element type: what the two parts
  consist of, when the second is empty, and the scan of `x ++ t` when `x` passes the test and `t` begins
  with an element that fails it (`scan_append`; `C02.StopsAt p t` names that condition on `t`).  Reading and
  writing a position with a default (`getD`, `set`), a non-empty list as `init ++ [last]`.  Then `splitOnP`
  ("strictly split" of the Standard): how it goes through a separator, a non-separator, a separator-free
  prefix, what its pieces consist of, and how it undoes joining pieces behind a separator.
-/
namespace Upa
variable {α : Type _} {p : α → Bool}

theorem mem_takeWhile {c : α} {l : List α} (h : c ∈ l.takeWhile p) : p c = true ∧ c ∈ l :=
  ⟨List.all_eq_true.1 List.all_takeWhile c h, (List.takeWhile_sublist p).subset h⟩

theorem head?_dropWhile {c : α} {l : List α} (h : (l.dropWhile p).head? = some c) : p c = false := by
  have := List.head?_dropWhile_not p l
  rw [h] at this
  exact this

theorem dropWhile_eq_nil_iff {l : List α} : l.dropWhile p = [] ↔ ∀ c ∈ l, p c = true := by
  induction l with
  | nil => simp
  | cons a l ih =>
    cases ha : p a with
    | true => rw [List.dropWhile_cons_of_pos ha, ih]; simp [ha]
    | false => rw [List.dropWhile_cons_of_neg (by simp [ha])]; simp [ha]

theorem takeWhile_of_dropWhile_nil {l : List α} (h : l.dropWhile p = []) : l.takeWhile p = l := by
  have := List.takeWhile_append_dropWhile (p := p) (l := l)
  rwa [h, List.append_nil] at this

/-- the scan passes `x` and stops at the head of `t` -/
theorem scan_append {x t : List α} (hx : ∀ c ∈ x, p c = true) (ht : ∀ c, t.head? = some c → p c = false) :
    (x ++ t).takeWhile p = x ∧ (x ++ t).dropWhile p = t := by
  rw [List.takeWhile_append_of_pos hx, List.dropWhile_append_of_pos hx]
  cases t with
  | nil => simp
  | cons c r =>
    have hc : ¬ p c = true := by simp [ht c rfl]
    rw [List.takeWhile_cons_of_neg hc, List.dropWhile_cons_of_neg hc, List.append_nil]
    exact ⟨rfl, rfl⟩

theorem dropWhile_of_head {l : List α} (h : ∀ c, l.head? = some c → p c = false) : l.dropWhile p = l :=
  (scan_append (x := []) (fun _ h => nomatch h) h).2

theorem getD_append_left {l₁ l₂ : List α} {d : α} {i : Nat} (h : i < l₁.length) :
    (l₁ ++ l₂).getD i d = l₁.getD i d := by
  rw [List.getD_eq_getElem?_getD, List.getD_eq_getElem?_getD, List.getElem?_append_left h]

theorem getD_append_right {l₁ l₂ : List α} {d : α} {i : Nat} (h : l₁.length ≤ i) :
    (l₁ ++ l₂).getD i d = l₂.getD (i - l₁.length) d := by
  rw [List.getD_eq_getElem?_getD, List.getD_eq_getElem?_getD, List.getElem?_append_right h]

theorem getD_at_length (L R : List α) (x d : α) : (L ++ x :: R).getD L.length d = x := by
  rw [getD_append_right (Nat.le_refl _), Nat.sub_self]; rfl

theorem set_getD_self (l : List α) (d : α) (i : Nat) : l.set i (l.getD i d) = l := by
  by_cases h : i < l.length
  · rw [← List.getElem_eq_getD (h := h), List.set_getElem_self]
  · rw [List.set_eq_of_length_le (Nat.le_of_not_lt h)]

theorem getD_set {d : α} (l : List α) (i j : Nat) (v : α) :
    (l.set i v).getD j d = if i = j ∧ j < l.length then v else l.getD j d := by
  simp only [List.getD_eq_getElem?_getD, List.getElem?_set]
  by_cases h : i = j
  · subst h
    by_cases h2 : i < l.length <;> simp [h2]
  · simp [h]

theorem getD_of_length_le {l : List α} {d : α} {i : Nat} (h : l.length ≤ i) : l.getD i d = d := by
  rw [List.getD_eq_getElem?_getD, List.getElem?_eq_none h]; rfl

/-- what holds of the elements and of the default holds of what is read -/
theorem getD_forall {P : α → Prop} {l : List α} {d : α} (h : ∀ x ∈ l, P x) (hd : P d) (j : Nat) : P (l.getD j d) := by
  by_cases hj : j < l.length
  · rw [← List.getElem_eq_getD (h := hj)]; exact h _ (List.getElem_mem hj)
  · rw [getD_of_length_le (Nat.le_of_not_lt hj)]; exact hd

theorem set_at_length (L R : List α) (x y : α) : (L ++ x :: R).set L.length y = L ++ y :: R := by
  rw [List.set_append_right _ _ (Nat.le_refl _), Nat.sub_self]; rfl

theorem snoc_cases {α} (L : List α) (hL : L ≠ []) : ∃ init last, L = init ++ [last] :=
  ⟨L.dropLast, L.getLast hL, (List.dropLast_concat_getLast hL).symm⟩

end Upa

namespace Upa.Proofs.C02

/-- the scan with `p` stops at the beginning of `t` -/
def StopsAt (p : Nat → Bool) : List Nat → Prop
  | [] => True
  | c :: _ => p c = false

theorem StopsAt.head {p : Nat → Bool} {t : List Nat} (h : StopsAt p t) : ∀ c, t.head? = some c → p c = false := by
  cases t with
  | nil => intro c hc; cases hc
  | cons a r => intro c hc; cases hc; exact h

theorem takeWhile_scan (p : Nat → Bool) (x t : List Nat) (hx : ∀ c ∈ x, p c = true)
    (ht : StopsAt p t) : (x ++ t).takeWhile p = x :=
  (scan_append hx ht.head).1

theorem dropWhile_scan (p : Nat → Bool) (x t : List Nat) (hx : ∀ c ∈ x, p c = true)
    (ht : StopsAt p t) : (x ++ t).dropWhile p = t :=
  (scan_append hx ht.head).2

theorem StopsAt.append {p : Nat → Bool} {x y : List Nat} (hx : ∀ c ∈ x, p c = false)
    (hy : x = [] → StopsAt p y) : StopsAt p (x ++ y) := by
  cases x with
  | nil => exact hy rfl
  | cons a x => exact hx a List.mem_cons_self

end Upa.Proofs.C02

/-! ## `splitOnP`

  The lemmas carry the namespace of the file-path property (C17), under which the property files and the other
  modules name them; a user writes `open Upa.Proofs.C17 (splitOnP_… )`.  Besides the steps of `splitOnP`: what its
  pieces consist of (`splitOnP_mem`), a change of the test or of the characters (`splitOnP_congr`, `splitOnP_map`),
  and pieces joined behind a separator (`splitOnP_join`, `split_join`, `join_split`, `mem_join`, `join_all`). -/

namespace Upa.Proofs.C17

theorem splitOnP_ne_nil (p : Nat → Bool) (s : List Nat) : splitOnP p s ≠ [] := by
  induction s with
  | nil => simp [splitOnP]
  | cons c cs ih =>
    unfold splitOnP
    split
    · simp
    · split <;> simp

theorem splitOnP_cons_sep (p : Nat → Bool) (c : Nat) (cs : List Nat) (h : p c = true) :
    splitOnP p (c :: cs) = [] :: splitOnP p cs := by
  rw [splitOnP]
  simp only [h, if_true]

theorem splitOnP_cons_other (p : Nat → Bool) (c : Nat) (cs : List Nat) (h : p c = false) :
    splitOnP p (c :: cs) = (c :: (splitOnP p cs).headD []) :: (splitOnP p cs).tail := by
  have hne := splitOnP_ne_nil p cs
  rw [splitOnP]
  simp only [h, Bool.false_eq_true, if_false]
  cases hs : splitOnP p cs with
  | nil => exact absurd hs hne
  | cons a t => simp

theorem splitOnP_nil (p : Nat → Bool) : splitOnP p [] = [[]] := rfl

theorem splitOnP_headD_nil (p : Nat → Bool) (l : List Nat) :
    (splitOnP p l).headD [] = [] ↔ l = [] ∨ ∃ x r, l = x :: r ∧ p x = true := by
  cases l with
  | nil => simp [splitOnP]
  | cons x r =>
    cases hx : p x with
    | true => simp [splitOnP_cons_sep p x r hx, hx]
    | false => simp [splitOnP_cons_other p x r hx, hx]

theorem splitOnP_congr (p q : Nat → Bool) (l : List Nat) (h : ∀ c ∈ l, p c = q c) :
    splitOnP p l = splitOnP q l := by
  induction l with
  | nil => rfl
  | cons c cs ih =>
    have ih' := ih (fun x hx => h x (List.mem_cons_of_mem _ hx))
    have hc := h c List.mem_cons_self
    cases hq : q c with
    | true => rw [splitOnP_cons_sep p c cs (by rw [hc, hq]), splitOnP_cons_sep q c cs hq, ih']
    | false => rw [splitOnP_cons_other p c cs (by rw [hc, hq]), splitOnP_cons_other q c cs hq, ih']

theorem splitOnP_map (p : Nat → Bool) (f : Nat → Nat) (hp : ∀ c, p (f c) = p c) :
    ∀ s : List Nat, splitOnP p (s.map f) = (splitOnP p s).map (List.map f) := by
  intro s
  induction s with
  | nil => rfl
  | cons c cs ih =>
    rw [List.map_cons]
    cases h : p c with
    | true => rw [splitOnP_cons_sep p _ _ ((hp c).trans h), splitOnP_cons_sep p c cs h, ih]; rfl
    | false =>
      rw [splitOnP_cons_other p _ _ ((hp c).trans h), splitOnP_cons_other p c cs h, ih]
      cases splitOnP p cs <;> rfl

theorem splitOnP_append_nosep (p : Nat → Bool) (a l : List Nat) (ha : ∀ c ∈ a, p c = false) :
    splitOnP p (a ++ l) = (a ++ (splitOnP p l).headD []) :: (splitOnP p l).tail := by
  induction a with
  | nil =>
    cases h : splitOnP p l with
    | nil => exact absurd h (splitOnP_ne_nil p l)
    | cons x t => simp [h]
  | cons c cs ih =>
    rw [List.cons_append, splitOnP_cons_other p c _ (ha c List.mem_cons_self),
      ih (fun x hx => ha x (List.mem_cons_of_mem _ hx))]
    simp

theorem splitOnP_nosep (p : Nat → Bool) (t : List Nat) (h : ∀ c ∈ t, p c = false) : splitOnP p t = [t] := by
  have := splitOnP_append_nosep p t [] h
  simpa [splitOnP] using this

/-- a separator ends the last piece of what stands before it -/
theorem splitOnP_append_sep (p : Nat → Bool) (a : List Nat) (sep : Nat) (b : List Nat) (hsep : p sep = true) :
    splitOnP p (a ++ sep :: b) = splitOnP p a ++ splitOnP p b := by
  induction a with
  | nil => exact splitOnP_cons_sep p sep b hsep
  | cons c cs ih =>
    rw [List.cons_append]
    cases hc : p c with
    | true => rw [splitOnP_cons_sep _ _ _ hc, splitOnP_cons_sep _ _ _ hc, ih]; rfl
    | false =>
      rw [splitOnP_cons_other _ _ _ hc, splitOnP_cons_other _ _ _ hc, ih]
      cases hs : splitOnP p cs with
      | nil => exact absurd hs (splitOnP_ne_nil p cs)
      | cons x t => rfl

/-- separator-free pieces joined by a separator `d` split back into the pieces -/
theorem splitOnP_join (p : Nat → Bool) (d : Nat) (hd : p d = true) :
    ∀ (rest : List (List Nat)) (seg0 : List Nat), (∀ c ∈ seg0, p c = false) →
      (∀ seg ∈ rest, ∀ c ∈ seg, p c = false) →
      splitOnP p (seg0 ++ rest.flatMap (fun s => d :: s)) = seg0 :: rest := by
  intro rest
  induction rest with
  | nil =>
    intro s hs _
    rw [List.flatMap_nil, List.append_nil]
    exact splitOnP_nosep p s hs
  | cons s2 t2 ih =>
    intro s hs ht
    simp only [List.flatMap_cons, List.cons_append]
    rw [splitOnP_append_sep p s d _ hd, splitOnP_nosep p s hs,
      ih s2 (ht s2 List.mem_cons_self) (fun seg hseg => ht seg (List.mem_cons_of_mem _ hseg))]
    rfl

theorem split_join (p : Nat → Bool) (d : Nat) (hp : p d = true) (L : List (List Nat))
    (h : ∀ t ∈ L, ∀ c ∈ t, p c = false) :
    splitOnP p (L.flatMap (fun seg => d :: seg)) = [] :: L :=
  splitOnP_join p d hp L [] (fun _ hc => nomatch hc) h

/-- the pieces of a text, each behind a separator, are the text behind a separator -/
theorem join_split (sep : Nat) (l : List Nat) :
    (splitOnP (· == sep) l).flatMap (fun seg => sep :: seg) = sep :: l := by
  induction l with
  | nil => rfl
  | cons c cs ih =>
    by_cases hc : c = sep
    · subst hc
      rw [splitOnP_cons_sep _ _ _ (by simp), List.flatMap_cons, ih]
      rfl
    · rw [splitOnP_cons_other _ c cs (by simpa using hc)]
      cases hs : splitOnP (· == sep) cs with
      | nil => exact absurd hs (splitOnP_ne_nil _ cs)
      | cons h t =>
        rw [hs] at ih
        simp only [List.flatMap_cons, List.cons_append, List.cons.injEq, true_and] at ih
        simp only [List.headD_cons, List.tail_cons, List.flatMap_cons, List.cons_append, ih]

theorem mem_join (sep : Nat) (L : List (List Nat)) (x : Nat)
    (h : x ∈ L.flatMap (fun seg => sep :: seg)) : x = sep ∨ ∃ t ∈ L, x ∈ t := by
  rw [List.mem_flatMap] at h
  obtain ⟨t, ht, hx⟩ := h
  rcases List.mem_cons.1 hx with h | h
  · left; exact h
  · right; exact ⟨t, ht, h⟩

theorem join_all {P : Nat → Prop} (sep : Nat) (hsep : P sep) (L : List (List Nat))
    (h : ∀ t ∈ L, ∀ c ∈ t, P c) : ∀ x ∈ L.flatMap (fun seg => sep :: seg), P x := by
  intro x hx
  rcases mem_join _ _ _ hx with rfl | ⟨t, ht, hxt⟩
  · exact hsep
  · exact h t ht x hxt

theorem splitOnP_mem (p : Nat → Bool) (l : List Nat) :
    ∀ t ∈ splitOnP p l, ∀ c ∈ t, c ∈ l ∧ p c = false := by
  induction l with
  | nil => intro t ht c hc; simp [splitOnP] at ht; subst ht; simp at hc
  | cons a l ih =>
    intro t ht c hc
    cases hp : p a with
    | true =>
      rw [splitOnP_cons_sep p a l hp] at ht
      rcases List.mem_cons.1 ht with rfl | ht
      · simp at hc
      · exact (ih t ht c hc).imp (List.mem_cons_of_mem _) id
    | false =>
      rw [splitOnP_cons_other p a l hp] at ht
      rcases List.mem_cons.1 ht with rfl | ht
      · rcases List.mem_cons.1 hc with rfl | hc
        · exact ⟨List.mem_cons_self, hp⟩
        · cases hs : splitOnP p l with
          | nil => exact absurd hs (splitOnP_ne_nil p l)
          | cons x r =>
            rw [hs] at hc
            exact (ih x (by rw [hs]; exact List.mem_cons_self) c hc).imp (List.mem_cons_of_mem _) id
      · exact (ih t (List.mem_of_mem_tail ht) c hc).imp (List.mem_cons_of_mem _) id

end Upa.Proofs.C17
