import Upa.Proofs.C01Auth
import Upa.Props.C01
import Upa.Proofs.Host
import Upa.Proofs.EncIndep
import Upa.Proofs.C01Seg
import Upa.Proofs.ParserRules
import Upa.Proofs.CharClass
/-
  C01 — the head states of the basic URL parser (file host, file slash, file, relative slash, relative,
  special relative or authority, no scheme, scheme, scheme start) and the parse theorem.  The simulations of the tail states (C01Tail.lean) and of the authority states
  (C01Auth.lean) come as ONE hypothesis, the bundle `Below R idna base ov`, supplied at the end of the file
  (`sim_urlParse_closed`; `C01_parse_conforms_closed` discharges the host parser equality with C07's
  `parseHost_eq` under the two IDNA hypotheses of `Upa.Props.IdnaOk`).
  How a dispatching state is simulated: see `sim_pathStart` in C01Tail.lean.

  Every lemma is parametric in the relation `R` of `SimR` (C01Run.lean), of which `Below` asks reflexivity only:
  the authority states come as `SimR ResAgree`, and `Impl.parse = Spec.apiParse` needs `SimR FstEq`.

  `Fresh k`: the three flags are unset and `k.url = { scheme := k.url.scheme }` — what holds in the
  no-override parser until a tail / authority state is entered (the API starts from `{}`).  It implies
  C01Auth's `AuthPre`.  It is NEEDED: with an arbitrary URL record the code blocks `fileState`,
  `relativeState` keep the old `query` (and `fileState` the old `path`) where the Standard resets them,
  and `schemeState` keeps the old `opaquePath`; unreachable through the API.

  Fuel: the simulations of the bundle are taken with `3 13`; file host 3 18, file slash 3 16, file / relative slash /
  relative 3 14, special relative or authority / no scheme 3 15, scheme start 4 16 = the `4 * n + 16` of
  `Spec.basicParse` (the scheme state scans `s ≤ n` code points and, without ':', restarts at pointer 0:
  `n + 1 + (3 n + 15)`).  The constants are a budget handed down from `4 * n + 16`, not what the states need (the
  authority states need `2 6` at most, C01Auth.lean): `a = 3` so that the restart fits, and one unit of `c` per run
  that does not consume a code point on the way scheme → no scheme → relative → a state of the bundle.  File host
  has 18 = 13 + 3 * 2 - 1: on a Windows drive letter the path state is re-entered two code points back
  (`sim_fileHost_none`).

  `Head.schemeOf c0 r0` (the lower-cased scheme string of an input `c0 :: r0`) is defined in ParserRules.lean.

  The Windows drive letter quirk of the file host state (the Standard keeps the buffer for the path
  state, the code passes the whole rest to `pathState`) needs no generalised path simulation: the
  configuration (path state, buffer `[a, b]`, pointer `i`) is what the path state reaches from the
  start of the buffer (pointer `i - 2`, empty buffer) after two runs, so `sim_path` is applied there.
-/
namespace Upa.Proofs.C01
open Upa.Spec (State Cfg StepResult step run)

theorem FstEq.refl (x : Option Url × Url) : FstEq x x := rfl

theorem simAt_iff_simR_eq {idna : Idna} {base : Option Url} {ov : Option Override} {S : State} {a c : Nat}
    {Pre : Cfg → Prop} {B : Url → List Nat → Res} :
    SimAt idna base ov S a c Pre B ↔ SimR Eq idna base ov S a c Pre B := Iff.rfl

/-- the configuration the no-override parser has before the authority / path states are entered:
    flags unset and nothing but the scheme written to the URL -/
def Fresh (k : Cfg) : Prop :=
  k.atSignSeen = false ∧ k.insideBrackets = false ∧ k.passwordTokenSeen = false ∧
  k.url = { scheme := k.url.scheme }

/-- What every head state's simulation rests on: the relation is reflexive, the host parser is the Standard's, and
    the tail states and the authority states are simulated, with the fuel the head states leave them. -/
structure Below (R : Option Url × Url → Option Url × Url → Prop) (idna : Idna) (base : Option Url)
    (ov : Option Override) : Prop where
  refl : ∀ x, R x x
  hostOk : HostOk idna
  fragment : SimR R idna base ov .fragment 3 13 (fun k => k.url.fragment = some []) Impl.fragmentState
  query : SimR R idna base ov .query 3 13 (fun k => k.url.query.getD [] = []) (Impl.queryState ov)
  opaquePath : SimR R idna base ov .opaquePath 3 13 (fun _ => True) (Impl.opaquePathState ov)
  path : SimR R idna base ov .path 3 13 (fun _ => True) (Impl.pathState ov)
  pathStart : SimR R idna base ov .pathStart 3 13 (fun _ => True) (Impl.pathStartState ov)
  authority : SimR R idna base ov .authority 3 13 Fresh (Impl.authorityState idna ov)
  ignoreSlashes : SimR R idna base ov .specialAuthorityIgnoreSlashes 3 13 Fresh (Impl.ignoreSlashesState idna ov)
  specialAuthoritySlashes : SimR R idna base ov .specialAuthoritySlashes 3 13 Fresh
    (Impl.specialAuthoritySlashesState idna ov)
  pathOrAuthority : SimR R idna base ov .pathOrAuthority 3 13 Fresh (Impl.pathOrAuthorityState idna ov)

namespace Head

theorem fromP_eq (inp : Array Nat) (i : Nat) : (inp.extract i inp.size).toList = inp.toList.drop i := by
  simp [List.take_of_length_le]

theorem swd_eq (s : List Nat) : Spec.startsWithWindowsDriveLetter s = Impl.startsWithWindowsDrive s := by
  unfold Spec.startsWithWindowsDriveLetter Impl.startsWithWindowsDrive
  match s with
  | [] => rfl
  | [_] => rfl
  | [a, b] => simp [Spec.isWindowsDriveLetter, Impl.isWindowsDrive]
  | a :: b :: c :: r =>
    -- the same conjunction, with the two tests and the four delimiters in another order
    simp only [Spec.isWindowsDriveLetter, Impl.isWindowsDrive, Impl.isSpecialAuthorityEnd, List.length_cons,
      List.take_succ_cons, List.take_zero, List.getElem?_cons_succ, List.getElem?_cons_zero]
    rw [Bool.and_comm]
    simp [Bool.or_comm, Bool.or_left_comm, Bool.or_assoc]

section steps
variable {idna : Idna} {inp : Array Nat} {base : Option Url} {ov : Option State}
variable {u : Url} {buf : List Nat} {f1 f2 f3 : Bool} {i : Nat}

/-- `C01.step_path_other` (C01Tail) at a code point that does not end a special authority -/
theorem step_path_noAuthEnd {c : Nat} (hc : inp[i]? = some c) (h : (!Impl.isSpecialAuthorityEnd c) = true) :
    step idna inp base ov ⟨u, .path, buf, f1, f2, f3, (i : Int)⟩ =
      .continue ⟨u, .path, buf ++ Spec.utf8PercentEncodeChar Spec.pathSet c, f1, f2, f3, (i : Int)⟩ := by
  simp only [Impl.isSpecialAuthorityEnd, Bool.not_eq_true', Bool.or_eq_false_iff, beq_eq_false_iff_ne] at h
  exact _root_.Upa.Proofs.C01.step_path_other hc (by simp [pathSep, h.1.1.1, h.2]) (Or.inr h.1.1.2) (Or.inr h.1.2)

end steps

theorem wdl_cases (buf : List Nat) (h : Spec.isWindowsDriveLetter buf = true) :
    ∃ a b, buf = [a, b] ∧ isAlpha a = true ∧ (b = 0x3A ∨ b = 0x7C) := by
  unfold Spec.isWindowsDriveLetter at h
  split at h
  · next a b => exact ⟨a, b, rfl, by simpa using h⟩
  · simp at h


end Head

section
variable {R : Option Url × Url → Option Url × Url → Prop} (hR : ∀ x, R x x)
variable {idna : Idna} {base : Option Url}
variable (hHost : ∀ s o, (∀ c ∈ s, Spec.isScalar c = true) → Impl.parseHost idna s o = Spec.hostParse idna s o)

include hR hHost in
theorem sim_fileHost_none (ov : Option Override) (h : ov.isSome = false)
    (sim_path : SimR R idna base ov .path 3 13 (fun _ => True) (Impl.pathState ov))
    (sim_pathStart : SimR R idna base ov .pathStart 3 13 (fun _ => True) (Impl.pathStartState ov)) :
    SimR R idna base ov .fileHost 3 18 (fun _ => True) (Impl.fileHostState idna ov) := by
  refine SimR.of_cfg fun inp u f1 f2 f3 i fuel _ hi hsc hf => ?_
  generalize hr : inp.toList.drop i = p
  have hn : ov.isNone = true := by cases ov with | none => rfl | some o => cases h
  have hps := hHost _ (!u.isSpecial) fun c hc => drop_scalar hsc hr c (List.takeWhile_subset Auth.fhKeep hc)
  refine run_scan_then (P := fun x => R x _) (q := Auth.fhKeep) (f := id)
    (fun _ _ _ hc h => Auth.step_fileHost_other hc h) hr hi [] (by decide : 1 ≤ 3) hf fun j g hj hrest hji hgf hend' => ?_
  rw [List.map_id, List.nil_append]
  have hend : ∀ c, inp[j]? = some c → Impl.isSpecialAuthorityEnd c = true := fun c hc => by simpa using hend' c hc
  have hst := Auth.step_fileHost_end idna inp base (ov.map ovState) u (p.takeWhile Auth.fhKeep) f1 f2 f3 j hend hps
  simp only [Option.isSome_map, Option.isNone_map, h, hn, Bool.false_eq_true, true_and, if_false] at hst
  -- the branches of `Impl.fileHostState`: empty host string with / without override; drive letter; host parser fails;
  -- host parsed with / without override
  fun_cases Impl.fileHostState idna ov u p
  · exact absurd ‹ov.isSome = true› (by rw [h]; exact Bool.false_ne_true)
  · have hb : p.takeWhile Auth.fhKeep = [] := by assumption
    rw [hb] at hst ⊢
    rw [if_neg (by decide), if_pos rfl] at hst
    exact sim_pathStart.same hrest hst trivial hji hsc hgf
  · next hd =>
    rw [hn] at hd
    have hd' : Spec.isWindowsDriveLetter (p.takeWhile Auth.fhKeep) = true := hd
    -- the Standard keeps the buffer `[a, b]` for the path state, the code hands the path block the whole rest:
    -- the configuration reached is the one the path state reaches from the start of the buffer in two runs
    obtain ⟨a, b, hab, ha, hb'⟩ := Head.wdl_cases _ hd'
    have hk : ∀ c ∈ [a, b], Auth.fhKeep c = true := hab ▸ fun _ hc => (mem_takeWhile hc).1
    have hp := (List.takeWhile_append_dropWhile (p := Auth.fhKeep) (l := p)).symm
    rw [if_pos hd'] at hst
    rw [hab] at hst hp hj ⊢
    obtain ⟨hca, hia, hr1⟩ := getElem?_of_drop_cons (hr.trans hp)
    obtain ⟨hcb, hib, -⟩ := getElem?_of_drop_cons hr1
    obtain ⟨f, rfl, -⟩ := fuel_succ (fuel := g) (n := 0) (by omega)
    have hbe : ∀ c, c = 0x3A ∨ c = 0x7C → Spec.utf8PercentEncodeChar Spec.pathSet c = [c] := by
      intro c hc; rcases hc with rfl | rfl <;> decide
    have e' : run idna inp base (ov.map ovState) (f + 2) ⟨u, .path, [], f1, f2, f3, (i : Int)⟩ =
        run idna inp base (ov.map ovState) f ⟨u, .path, [a, b], f1, f2, f3, (j : Int)⟩ := by
      rw [run_continue' (j := i + 1) (f + 1) (Head.step_path_noAuthEnd hca (hk a (by simp))) (by simp) hia,
        run_continue' (j := i + 1 + 1) f (Head.step_path_noAuthEnd hcb (hk b (by simp))) (by simp) hib,
        show Spec.utf8PercentEncodeChar Spec.pathSet a = [a] from encPc_of_not_pathSet (pathSet_alpha ha), hbe b hb',
        ← hj]
      rfl
    rw [run_continue' (j := j) f hst (by simp) hji, ← e', ← hr]
    exact sim_path inp _ i (f + 2) rfl rfl rfl trivial hi hsc (by simp only [List.length_cons, List.length_nil] at hj; omega)
  · have hd := ‹¬(ov.isNone && _) = true›
    rw [hn] at hd
    have hd' : ¬ Spec.isWindowsDriveLetter (p.takeWhile Auth.fhKeep) = true := hd
    rw [if_neg hd', if_neg (by assumption)] at hst
    erw [‹Impl.parseHost _ _ _ = none›] at hst
    obtain ⟨f, rfl, -⟩ := fuel_succ (fuel := g) (n := 0) (by omega)
    rw [run_failure f hst]; exact hR _
  · exact absurd ‹ov.isSome = true› (by rw [h]; exact Bool.false_ne_true)
  · have hd := ‹¬(ov.isNone && _) = true›
    rw [hn] at hd
    have hd' : ¬ Spec.isWindowsDriveLetter (p.takeWhile Auth.fhKeep) = true := hd
    rw [if_neg hd', if_neg (by assumption)] at hst
    erw [‹Impl.parseHost _ _ _ = some _›] at hst
    simp (config := { zetaDelta := true }) only [beq_iff_eq]
    exact sim_pathStart.same hrest hst trivial hji hsc hgf

include hR hHost in
theorem sim_fileHost_gen (ov : Option Override)
    (sim_path : SimR R idna base ov .path 3 13 (fun _ => True) (Impl.pathState ov))
    (sim_pathStart : SimR R idna base ov .pathStart 3 13 (fun _ => True) (Impl.pathStartState ov)) :
    SimR R idna base ov .fileHost 3 18 (fun _ => True) (Impl.fileHostState idna ov) := by
  cases h : ov.isSome with
  | false => exact sim_fileHost_none hR hHost ov h sim_path sim_pathStart
  | true => exact ((sim_fileHost_isSome hHost ov h).toR hR).mono (by decide) (by decide) (fun _ h => h)

end
namespace Head

section steps
variable {idna : Idna} {inp : Array Nat} {base : Option Url} {ov : Option State}
variable {u : Url} {buf : List Nat} {f1 f2 f3 : Bool} {i : Nat}

theorem step_fileSlash_slash {c : Nat} (hc : inp[i]? = some c) (h : Impl.isSlash c = true) :
    step idna inp base ov ⟨u, .fileSlash, buf, f1, f2, f3, (i : Int)⟩ =
      .continue ⟨u, .fileHost, buf, f1, f2, f3, (i : Int)⟩ := by
  unfold step
  simp only [Int.toNat_natCast, ptr_neg, if_false, hc]
  rw [isSlash_iff] at h
  rcases h with rfl | rfl <;> simp

end steps

theorem not_slash_opt {inp : Array Nat} {i : Nat} (hns : ∀ c, inp[i]? = some c → Impl.isSlash c = false) :
    ¬ ((inp[i]? == some 47) = true ∨ (inp[i]? == some 92) = true) := by
  cases hc : inp[i]? with
  | none => simp
  | some c => have := hns c hc; simp [Impl.isSlash] at this; simp [this]

/-- the file slash state's "otherwise" branch: one run into the path state, and the code's URL -/
theorem step_fileSlash_default (idna : Idna) (inp : Array Nat) (base : Option Url) (ov : Option Override)
    (u : Url) (buf : List Nat) (f1 f2 f3 : Bool) (i : Nat)
    (hns : ∀ c, inp[i]? = some c → Impl.isSlash c = false) :
    ∃ u', step idna inp base (ov.map ovState) ⟨u, .fileSlash, buf, f1, f2, f3, (i : Int)⟩ =
        .continue ⟨u', .path, buf, f1, f2, f3, (i : Int) - 1⟩ ∧
      Impl.fileSlashState.fileSlashDefault base ov u (inp.toList.drop i) =
        Impl.pathState ov u' (inp.toList.drop i) := by
  unfold step Impl.fileSlashState.fileSlashDefault
  simp only [Int.toNat_natCast, ptr_neg, if_false, fromP_eq, swd_eq, if_neg (not_slash_opt hns)]
  cases base with
  | none => exact ⟨u, rfl, rfl⟩
  | some b =>
    simp only [isFile_iff]
    by_cases hb : b.scheme = Impl.sFile
    · simp only [if_pos hb]
      refine ⟨_, rfl, ?_⟩
      congr 1
      by_cases hw : (!Impl.startsWithWindowsDrive (List.drop i inp.toList)) = true
      · simp only [hw, if_true, true_and]
        rcases hbp : b.path with _ | ⟨seg, t⟩
        · simp
        · match seg with
          | [a, c] => simp [Spec.isNormalizedWindowsDriveLetter, Impl.isNormalizedWindowsDrive, List.head!]
          | [] => simp [Spec.isNormalizedWindowsDriveLetter]
          | [_] => simp [Spec.isNormalizedWindowsDriveLetter]
          | _ :: _ :: _ :: _ => simp [Spec.isNormalizedWindowsDriveLetter]
      · simp [hw]
    · simp only [if_neg hb]
      exact ⟨u, rfl, rfl⟩

end Head

section fileSlash
variable {R : Option Url × Url → Option Url × Url → Prop}
variable {idna : Idna} {base : Option Url} {ov : Option Override}

theorem sim_fileSlash (hB : Below R idna base ov) :
    SimR R idna base ov .fileSlash 3 16 (fun _ => True) (Impl.fileSlashState idna base ov) := by
  refine SimR.of_cfg fun inp u f1 f2 f3 i fuel _ hi hsc hf => ?_
  have hdef : (∀ c, inp[i]? = some c → Impl.isSlash c = false) →
      R (run idna inp base (ov.map ovState) fuel ⟨u, .fileSlash, [], f1, f2, f3, (i : Int)⟩)
        (resOf ov (Impl.fileSlashState.fileSlashDefault base ov u (inp.toList.drop i))) := fun hns => by
    obtain ⟨u', hst, himpl⟩ := Head.step_fileSlash_default idna inp base ov u [] f1 f2 f3 i hns
    exact himpl ▸ hB.path.same rfl hst trivial hi hsc hf
  generalize hr : inp.toList.drop i = p at hdef
  fun_cases Impl.fileSlashState idna base ov u p
  · next c r hsl =>
    exact (sim_fileHost_gen hB.refl hB.hostOk ov hB.path hB.pathStart).next hr (Head.step_fileSlash_slash (getElem?_of_drop_cons hr).1 hsl) trivial hsc hf
  · next c r hsl =>
    exact hdef fun c' hc' => by rw [(getElem?_of_drop_cons hr).1] at hc'; cases hc'; simpa using hsl
  · exact hdef fun c' hc' => by rw [(getElem?_of_drop_nil hr).1] at hc'; cases hc'

end fileSlash
namespace Head

/-- the URL after the first two assignments of the file state -/
def fileUrl (u : Url) : Url := { u with scheme := Impl.sFile, host := some Spec.emptyHost }

theorem fileUrl_eq (u : Url) :
    { (if !u.isFile then { u with scheme := Impl.sFile } else u) with host := some Impl.emptyHost } = fileUrl u := by
  by_cases h : u.isFile = true
  · have := (isFile_iff u).1 h
    obtain ⟨sc, un, pw, ho, po, hop, op, pa, q, f⟩ := u
    simp only at this
    subst this
    simp [h, fileUrl, Impl.emptyHost, Spec.emptyHost]
  · simp [h, fileUrl, Impl.emptyHost, Spec.emptyHost]

theorem step_file {idna : Idna} {inp : Array Nat} {base : Option Url} {ov : Option State}
    {u : Url} {buf : List Nat} {f1 f2 f3 : Bool} {i : Nat} {x? : Option Nat} (hx : inp[i]? = x?) :
    step idna inp base ov ⟨u, .file, buf, f1, f2, f3, (i : Int)⟩ =
      if x? = some 0x2F ∨ x? = some 0x5C then .continue ⟨fileUrl u, .fileSlash, buf, f1, f2, f3, (i : Int)⟩
      else match base with
        | some b =>
          if b.scheme = Impl.sFile then
            if x? = some 0x3F then
              .continue ⟨{ fileUrl u with host := b.host, path := b.path, query := some [] }, .query, buf, f1, f2, f3, (i : Int)⟩
            else if x? = some 0x23 then
              .continue ⟨{ fileUrl u with host := b.host, path := b.path, query := b.query, fragment := some [] },
                .fragment, buf, f1, f2, f3, (i : Int)⟩
            else if x?.isSome = true then
              .continue ⟨if (!Impl.startsWithWindowsDrive (inp.toList.drop i)) = true then
                    Impl.shortenPath { fileUrl u with host := b.host, path := b.path, query := none }
                  else { fileUrl u with host := b.host, path := [], query := none },
                .path, buf, f1, f2, f3, (i : Int) - 1⟩
            else .continue ⟨{ fileUrl u with host := b.host, path := b.path, query := b.query }, .file, buf, f1, f2, f3, (i : Int)⟩
          else .continue ⟨fileUrl u, .path, buf, f1, f2, f3, (i : Int) - 1⟩
        | none => .continue ⟨fileUrl u, .path, buf, f1, f2, f3, (i : Int) - 1⟩ := by
  unfold step
  simp only [Int.toNat_natCast, ptr_neg, if_false, hx, beq_iff_eq, fromP_eq, swd_eq, shorten_eq]
  rfl

theorem fileState_eq (idna : Idna) (base : Option Url) (ov : Option Override) (u : Url) (p : List Nat) :
    Impl.fileState idna base ov u p =
      match p with
      | c :: r => if Impl.isSlash c then Impl.fileSlashState idna base ov (fileUrl u) r
                  else Impl.fileState.fileDefault base ov (fileUrl u) p
      | [] => Impl.fileState.fileDefault base ov (fileUrl u) p := by
  unfold Impl.fileState
  simp only [fileUrl_eq]
  cases p <;> rfl

end Head

section file
variable {R : Option Url × Url → Option Url × Url → Prop}
variable {idna : Idna} {base : Option Url} {ov : Option Override}

open Head in
theorem sim_file (hB : Below R idna base ov) :
    SimR R idna base ov .file 3 14 (fun k => k.url.path = [] ∧ k.url.query = none)
      (Impl.fileState idna base ov) := by
  refine SimR.of_cfg fun inp u f1 f2 f3 i fuel hpre hi hsc hf => ?_
  have hpath : (fileUrl u).path = [] := hpre.1
  have hquery : (fileUrl u).query = none := hpre.2
  generalize hr : inp.toList.drop i = p
  have hst := step_file (idna := idna) (base := base) (ov := ov.map ovState) (u := u) (buf := [])
    (f1 := f1) (f2 := f2) (f3 := f3) (getElem?_of_drop hr)
  rw [hr] at hst
  rw [fileState_eq]
  have hdef : (∀ c r, p = c :: r → Impl.isSlash c = false) →
      R (run idna inp base (ov.map ovState) fuel ⟨u, .file, [], f1, f2, f3, (i : Int)⟩)
        (resOf ov (Impl.fileState.fileDefault base ov (fileUrl u) p)) := by
    intro hns
    rw [if_neg (by
      rintro (h | h) <;> obtain ⟨r, rfl⟩ := List.head?_eq_some_iff.1 h <;> exact absurd (hns _ _ rfl) (by decide))] at hst
    fun_cases Impl.fileState.fileDefault base ov (fileUrl u) p <;>
      simp only [← isFile_iff, List.head?_cons, List.head?_nil, Option.some.injEq, reduceCtorEq, Option.isSome_some,
        Option.isSome_none, Bool.false_eq_true, if_true, if_false, *] at hst ⊢
    · rw [run_eof hst (getElem?_of_drop_nil hr).2 (by omega)]; exact hB.refl _
    · next b _ r =>
      exact queryState_setQuery ov { fileUrl u with host := b.host, path := b.path } (some []) r ▸
        hB.query.next hr hst rfl hsc hf
    · exact (hB.fragment.next hr hst rfl hsc hf :)
    all_goals exact hB.path.same hr hst trivial hi hsc hf
  cases p with
  | nil => exact hdef nofun
  | cons c r =>
    simp only
    split
    · next hsl =>
      rw [if_pos (by simpa [Impl.isSlash] using hsl)] at hst
      exact (sim_fileSlash hB).next hr hst trivial hsc hf
    · next hsl => exact hdef fun _ _ h => by cases h; simpa using hsl

end file
namespace Head

section steps
variable {idna : Idna} {inp : Array Nat} {b : Url} {ov : Option State}
variable {u : Url} {buf : List Nat} {f1 f2 f3 : Bool} {i : Nat}

theorem step_relativeSlash {x? : Option Nat} (hx : inp[i]? = x?) :
    step idna inp (some b) ov ⟨u, .relativeSlash, buf, f1, f2, f3, (i : Int)⟩ =
      if u.isSpecial = true ∧ (x? = some 0x2F ∨ x? = some 0x5C) then
        .continue ⟨u, .specialAuthorityIgnoreSlashes, buf, f1, f2, f3, (i : Int)⟩
      else if x? = some 0x2F then .continue ⟨u, .authority, buf, f1, f2, f3, (i : Int)⟩
      else .continue ⟨Impl.copyAuthority u b, .path, buf, f1, f2, f3, (i : Int) - 1⟩ := by
  unfold step
  simp only [Int.toNat_natCast, ptr_neg, if_false, hx, isSpecial_eq, beq_iff_eq]
  rfl

/-- everything the relative state copies from the base URL -/
def relCopy (u b : Url) : Url :=
  { Impl.copyPath (Impl.copyAuthority { u with scheme := b.scheme } b) b with query := b.query }

theorem step_relative {x? : Option Nat} (hx : inp[i]? = x?) :
    step idna inp (some b) ov ⟨u, .relative, buf, f1, f2, f3, (i : Int)⟩ =
      if x? = some 0x2F then .continue ⟨{ u with scheme := b.scheme }, .relativeSlash, buf, f1, f2, f3, (i : Int)⟩
      else if Impl.isSpecialScheme b.scheme = true ∧ x? = some 0x5C then
        .continue ⟨{ u with scheme := b.scheme }, .relativeSlash, buf, f1, f2, f3, (i : Int)⟩
      else if x? = some 0x3F then
        .continue ⟨{ relCopy u b with query := some [] }, .query, buf, f1, f2, f3, (i : Int)⟩
      else if x? = some 0x23 then
        .continue ⟨{ relCopy u b with fragment := some [] }, .fragment, buf, f1, f2, f3, (i : Int)⟩
      else if x?.isSome = true then
        .continue ⟨Spec.shorten { relCopy u b with query := none }, .path, buf, f1, f2, f3, (i : Int) - 1⟩
      else .continue ⟨relCopy u b, .relative, buf, f1, f2, f3, (i : Int)⟩ := by
  unfold step
  simp only [Int.toNat_natCast, ptr_neg, if_false, hx, beq_iff_eq]
  rfl

end steps

theorem shorten_nonfile (u : Url) (h : u.scheme ≠ Impl.sFile) : Spec.shorten u = Impl.removeLastSegment u := by
  unfold Spec.shorten Impl.removeLastSegment
  rw [if_neg (by intro hh; exact h hh.1)]

end Head

section relative
variable {R : Option Url × Url → Option Url × Url → Prop}
variable {idna : Idna} {base : Option Url} {ov : Option Override}

theorem sim_relativeSlash (hB : Below R idna base ov) (b : Url) (hbase : base = some b) :
    SimR R idna base ov .relativeSlash 3 14 Fresh (Impl.relativeSlashState idna b ov) := by
  subst hbase
  refine SimR.of_cfg fun inp u f1 f2 f3 i fuel hpre hi hsc hf => ?_
  generalize hr : inp.toList.drop i = p
  have hst := Head.step_relativeSlash (idna := idna) (b := b) (ov := ov.map ovState) (u := u) (buf := [])
    (f1 := f1) (f2 := f2) (f3 := f3) (getElem?_of_drop hr)
  fun_cases Impl.relativeSlashState idna b ov u p <;> simp only [List.head?_cons, List.head?_nil, Option.some.injEq, reduceCtorEq, or_self, and_false, if_false] at hst
  · next hs => exact hB.ignoreSlashes.next hr (hst.trans (if_pos ⟨hs, .inl trivial⟩)) hpre hsc hf
  · next hs => exact hB.authority.next hr (hst.trans ((if_neg fun h => hs h.1).trans (if_pos trivial))) hpre hsc hf
  · next h1 h2 =>
    rw [Bool.and_eq_true, decide_eq_true_eq] at h2
    exact hB.ignoreSlashes.next hr (hst.trans (if_pos ⟨h2.2, .inr h2.1⟩)) hpre hsc hf
  · next h1 h2 =>
    rw [Bool.and_eq_true, decide_eq_true_eq] at h2
    exact hB.path.same hr (hst.trans ((if_neg fun h => h.2.elim h1 fun h' => h2 ⟨h', h.1⟩).trans (if_neg h1))) trivial hi hsc hf
  · exact hB.path.same hr hst trivial hi hsc hf


theorem Fresh.query {k : Cfg} (h : Fresh k) : k.url.query = none := by
  rw [h.2.2.2]
theorem Fresh.path {k : Cfg} (h : Fresh k) : k.url.path = [] := by
  rw [h.2.2.2]
theorem Fresh.opaquePath {k : Cfg} (h : Fresh k) : k.url.opaquePath = [] := by
  rw [h.2.2.2]

theorem Fresh.setScheme {u : Url} {S S' : State} {buf buf' : List Nat} {f1 f2 f3 : Bool} {p p' : Int}
    (h : Fresh ⟨u, S, buf, f1, f2, f3, p⟩) (s : List Nat) :
    Fresh ⟨{ u with scheme := s }, S', buf', f1, f2, f3, p'⟩ := by
  obtain ⟨h1, h2, h3, h4⟩ := h
  refine ⟨h1, h2, h3, ?_⟩
  simp only at h4 ⊢
  rw [h4]

theorem sim_relative (hB : Below R idna base ov) (b : Url) (hbase : base = some b) (hnf : b.scheme ≠ Impl.sFile) :
    SimR R idna base ov .relative 3 14 Fresh (Impl.relativeState idna b ov) := by
  have sim_relativeSlash := sim_relativeSlash hB b hbase
  subst hbase
  refine SimR.of_cfg fun inp u f1 f2 f3 i fuel hpre hi hsc hf => ?_
  generalize hr : inp.toList.drop i = p
  have hst := Head.step_relative (idna := idna) (b := b) (ov := ov.map ovState) (u := u) (buf := [])
    (f1 := f1) (f2 := f2) (f3 := f3) (getElem?_of_drop hr)
  fun_cases Impl.relativeState idna b ov u p <;>
    simp only [List.head?_cons, List.head?_nil, Option.some.injEq, reduceCtorEq, Nat.reduceEqDiff, Option.isSome_some,
      Option.isSome_none, Bool.false_eq_true, and_false, if_true, if_false, *] at hst
  · rw [run_eof hst (getElem?_of_drop_nil hr).2 (by omega)]; exact hB.refl _
  · exact sim_relativeSlash.next hr hst (hpre.setScheme _) hsc hf
  · exact queryState_setQuery ov (Impl.copyPath (Impl.copyAuthority { u with scheme := b.scheme } b) b) (some []) _ ▸
      hB.query.next hr hst rfl hsc hf
  · exact (hB.fragment.next hr hst rfl hsc hf :)
  · next h =>
    rw [Bool.and_eq_true, decide_eq_true_eq] at h
    rw [if_pos ⟨h.2, h.1⟩] at hst
    exact sim_relativeSlash.next hr hst (hpre.setScheme _) hsc hf
  · next h =>
    -- the Standard's `query := none` is what the fresh record has; not a file URL, so "shorten" drops the last segment
    rw [if_neg fun h' => h (by rw [Bool.and_eq_true, decide_eq_true_eq]; exact ⟨h'.2, h'.1⟩),
      show ({ Head.relCopy u b with query := none } : Url) =
        Impl.copyPath (Impl.copyAuthority { u with scheme := b.scheme } b) b from
        Url.setQuery_self (u := Impl.copyPath (Impl.copyAuthority { u with scheme := b.scheme } b) b) hpre.query,
      Head.shorten_nonfile (Impl.copyPath (Impl.copyAuthority { u with scheme := b.scheme } b) b) hnf] at hst
    exact hB.path.same hr hst trivial hi hsc hf

end relative
namespace Head

section steps
variable {idna : Idna} {inp : Array Nat} {base : Option Url} {ov : Option State}
variable {u : Url} {buf : List Nat} {f1 f2 f3 : Bool} {i : Nat}

theorem step_sroa {x? y? : Option Nat} (hx : inp[i]? = x?) (hy : inp[i + 1]? = y?) :
    step idna inp base ov ⟨u, .specialRelativeOrAuthority, buf, f1, f2, f3, (i : Int)⟩ =
      if x? = some 0x2F ∧ y? = some 0x2F then
        .continue ⟨u, .specialAuthorityIgnoreSlashes, buf, f1, f2, f3, (i : Int) + 1⟩
      else .continue ⟨u, .relative, buf, f1, f2, f3, (i : Int) - 1⟩ := by
  unfold step
  simp only [Int.toNat_natCast, Int.toNat_natCast_add_one, ptr_neg, ptr_neg1, if_false, hx, hy, beq_iff_eq]

theorem step_noScheme {x? : Option Nat} (hx : inp[i]? = x?) :
    step idna inp base ov ⟨u, .noScheme, buf, f1, f2, f3, (i : Int)⟩ =
      match base with
      | none => .failure u
      | some b =>
        if b.hasOpaquePath = true ∧ ¬ x? = some 0x23 then .failure u
        else if b.hasOpaquePath = true then
          .continue ⟨{ u with scheme := b.scheme, hasOpaquePath := true, opaquePath := b.opaquePath, path := b.path,
                              query := b.query, fragment := some [] }, .fragment, buf, f1, f2, f3, (i : Int)⟩
        else if b.scheme ≠ Impl.sFile then .continue ⟨u, .relative, buf, f1, f2, f3, (i : Int) - 1⟩
        else .continue ⟨u, .file, buf, f1, f2, f3, (i : Int) - 1⟩ := by
  unfold step
  simp only [Int.toNat_natCast, ptr_neg, if_false, hx, beq_iff_eq]
  rfl

end steps
end Head

section noScheme
variable {R : Option Url × Url → Option Url × Url → Prop}
variable {idna : Idna} {base : Option Url} {ov : Option Override}

theorem sim_specialRelativeOrAuthority (hB : Below R idna base ov) (b : Url) (hbase : base = some b)
    (hnf : b.scheme ≠ Impl.sFile) :
    SimR R idna base ov .specialRelativeOrAuthority 3 15 Fresh
      (Impl.specialRelativeOrAuthorityState idna b ov) := by
  refine SimR.of_cfg fun inp u f1 f2 f3 i fuel hpre hi hsc hf => ?_
  generalize hr : inp.toList.drop i = p
  have hst := Head.step_sroa (idna := idna) (base := base) (ov := ov.map ovState) (u := u) (buf := [])
    (f1 := f1) (f2 := f2) (f3 := f3) (getElem?_of_drop hr) (getElem?_succ_of_drop hr)
  fun_cases Impl.specialRelativeOrAuthorityState idna b ov u p
  · exact hB.ignoreSlashes.next2 hr hst hpre hsc hf
  · next hne =>
    rw [if_neg fun h => (eq_cons_cons_of_head? h.1 h.2).elim hne] at hst
    exact (sim_relative hB b hbase hnf).same hr hst hpre hi hsc hf

theorem sim_noScheme (hB : Below R idna base ov) :
    SimR R idna base ov .noScheme 3 15 Fresh (Impl.noSchemeState idna base ov) := by
  refine SimR.of_cfg fun inp u f1 f2 f3 i fuel hpre hi hsc hf => ?_
  generalize hr : inp.toList.drop i = p
  have hst := Head.step_noScheme (idna := idna) (base := base) (ov := ov.map ovState) (u := u) (buf := [])
    (f1 := f1) (f2 := f2) (f3 := f3) (getElem?_of_drop hr)
  obtain ⟨f, rfl, -⟩ := fuel_succ (n := 0) (Nat.le_trans (Nat.le_add_left _ _) hf)
  fun_cases Impl.noSchemeState idna base ov u p <;>
    simp only [List.head?_cons, ← isFile_iff, not_true_eq_false, and_false,
      true_and, false_and, not_false_eq_true, Bool.false_eq_true, if_true, if_false, ne_eq, *] at hst
  · exact run_failure f hst ▸ hB.refl _
  · simp only [Impl.copyPath, ‹_ = true›]
    exact (hB.fragment.next hr hst rfl hsc hf :)
  · next b hb hne =>
    rw [if_pos fun h => (List.head?_eq_some_iff.1 h).elim hne] at hst
    exact run_failure f hst ▸ hB.refl _
  · exact (sim_file hB).same hr hst ⟨hpre.path, hpre.query⟩ hi hsc hf
  · next b _ hnf =>
    exact (sim_relative hB b rfl (mt (isFile_iff b).2 hnf)).same hr hst hpre hi hsc hf

end noScheme
namespace Head

theorem toLower_eq_or : ∀ c, c < 128 → isSchemeChar c = true → toLower c = c ||| 0x20 := by decide +kernel

theorem map_toLower_eq (s : List Nat) (h : ∀ c ∈ s, isSchemeChar c = true) :
    s.map toLower = s.map (· ||| 0x20) := by
  apply List.map_congr_left
  intro c hc
  exact toLower_eq_or c (isSchemeChar_lt c (h c hc)) (h c hc)

theorem alpha_schemeChar (c : Nat) (h : isAlpha c = true) : isSchemeChar c = true := by
  simp [isSchemeChar, h]

section steps
variable {idna : Idna} {inp : Array Nat} {base : Option Url}
variable {u : Url} {buf : List Nat} {f1 f2 f3 : Bool} {i : Nat}

theorem step_schemeStart_alpha {c : Nat} (hc : inp[i]? = some c) (h : isAlpha c = true) :
    step idna inp base none ⟨u, .schemeStart, buf, f1, f2, f3, (i : Int)⟩ =
      .continue ⟨u, .scheme, buf ++ [toLower c], f1, f2, f3, (i : Int)⟩ := by
  unfold step
  simp only [Int.toNat_natCast, ptr_neg, if_false, hc]
  simp [h]

theorem step_schemeStart_other (h : ∀ c, inp[i]? = some c → isAlpha c = false) :
    step idna inp base none ⟨u, .schemeStart, buf, f1, f2, f3, (i : Int)⟩ =
      .continue ⟨u, .noScheme, buf, f1, f2, f3, (i : Int) - 1⟩ := by
  unfold step
  simp only [Int.toNat_natCast, ptr_neg, if_false]
  cases hc : inp[i]? with
  | none => simp
  | some c => simp [h c hc]

theorem step_scheme_char {c : Nat} (hc : inp[i]? = some c) (h : isSchemeChar c = true) :
    step idna inp base none ⟨u, .scheme, buf, f1, f2, f3, (i : Int)⟩ =
      .continue ⟨u, .scheme, buf ++ [toLower c], f1, f2, f3, (i : Int)⟩ := by
  unfold step
  simp only [Int.toNat_natCast, ptr_neg, if_false, hc]
  have : (isAlpha c || isDigit c || c == 0x2B || c == 0x2D || c == 0x2E) = true := h
  simp only [this, if_true]

theorem step_scheme_restart (h : ∀ c, inp[i]? = some c → isSchemeChar c = false ∧ c ≠ 0x3A) :
    step idna inp base none ⟨u, .scheme, buf, f1, f2, f3, (i : Int)⟩ =
      .continue ⟨u, .noScheme, [], f1, f2, f3, -1⟩ := by
  unfold step
  simp only [Int.toNat_natCast, ptr_neg, if_false]
  cases hc : inp[i]? with
  | none => simp
  | some c =>
    obtain ⟨h1, h2⟩ := h c hc
    have : (isAlpha c || isDigit c || c == 0x2B || c == 0x2D || c == 0x2E) = false := h1
    simp only [this, Bool.false_eq_true, if_false, if_neg h2]
    simp

theorem step_scheme_colon (idna : Idna) (inp : Array Nat) (base : Option Url) (u : Url) (buf : List Nat)
    (f1 f2 f3 : Bool) (i : Nat) (hc : inp[i]? = some 0x3A) :
    step idna inp base none ⟨u, .scheme, buf, f1, f2, f3, (i : Int)⟩ =
      if buf = Impl.sFile then .continue ⟨{ u with scheme := buf }, .file, [], f1, f2, f3, (i : Int)⟩
      else if Impl.isSpecialScheme buf = true ∧ base.map (·.scheme) = some buf then
        .continue ⟨{ u with scheme := buf }, .specialRelativeOrAuthority, [], f1, f2, f3, (i : Int)⟩
      else if Impl.isSpecialScheme buf = true then
        .continue ⟨{ u with scheme := buf }, .specialAuthoritySlashes, [], f1, f2, f3, (i : Int)⟩
      else if inp[i + 1]? = some 0x2F then
        .continue ⟨{ u with scheme := buf }, .pathOrAuthority, [], f1, f2, f3, (i : Int) + 1⟩
      else .continue ⟨{ u with scheme := buf, hasOpaquePath := true, opaquePath := [] }, .opaquePath, [],
        f1, f2, f3, (i : Int)⟩ := by
  unfold step
  simp only [Int.toNat_natCast, Int.toNat_natCast_add_one, ptr_neg, ptr_neg1, if_false, hc]
  -- ':' is none of the scheme characters, and without an override the three early returns of the state vanish
  simp [isAlpha, isDigit, Spec.isSpecial]
  rfl

end steps


theorem url_setOpaque (u : Url) (s : List Nat) (h : u.opaquePath = []) :
    ({ u with scheme := s, hasOpaquePath := true } : Url) =
      { u with scheme := s, hasOpaquePath := true, opaquePath := [] } :=
  (Url.setOpaquePath_self (u := { u with scheme := s, hasOpaquePath := true }) h).symm

end Head

section scheme
variable {R : Option Url × Url → Option Url × Url → Prop}
variable {idna : Idna} {base : Option Url}

/-- Scheme start state and scheme state (no override), hence the whole no-override parser (`Impl.urlParse`) against
    the Standard's machine started in the scheme start state.
    On a non-scheme code point without ':' the Standard restarts at pointer 0 in the no scheme state,
    which costs one more pass over the input (`4 * n`). -/
theorem sim_urlParse (hB : Below R idna base none) :
    SimR R idna base none .schemeStart 4 16 (fun k => k.p = 0 ∧ Fresh k) (Impl.urlParse idna base none) := by
  have sim_noScheme := sim_noScheme hB
  have sim_file := sim_file hB
  refine SimR.of_cfg fun inp u f1 f2 f3 i fuel hpre hi hsc hf => ?_
  obtain ⟨hp0, hfresh⟩ := hpre
  obtain rfl : i = 0 := by simpa using hp0
  show R (run idna inp base none fuel _) _
  simp only [Nat.sub_zero] at hf
  -- both ways into the no scheme state at pointer 0: from the scheme start state, and the restart from the scheme state
  have hno : ∀ {k : Cfg} {g : Nat} {p' : Int}, step idna inp base none k = .continue ⟨u, .noScheme, [], f1, f2, f3, p'⟩ →
      p' + 1 = ((0 : Nat) : Int) → g ≥ 3 * inp.size + 16 →
      R (run idna inp base none g k) (resOf none (Impl.noSchemeState idna base none u (inp.toList.drop 0))) :=
    fun hst hp' hg => sim_noScheme.step_to (j := 0) hst hp' hfresh (Nat.zero_le _) hsc hg
  generalize hr : inp.toList.drop 0 = p at hno
  have hlen : p.length = inp.size := by rw [← hr]; simp
  have hstart : (∀ c, inp[0]? = some c → isAlpha c = false) → Impl.urlParse idna base none u p =
      Impl.noSchemeState idna base none u p →
      R (run idna inp base none fuel ⟨u, .schemeStart, [], f1, f2, f3, ((0 : Nat) : Int)⟩)
        (resOf none (Impl.urlParse idna base none u p)) :=
    fun hna e => e ▸ hno (Head.step_schemeStart_other hna) (by simp) (by omega)
  cases p with
  | nil => exact hstart (by simp [(getElem?_of_drop_nil hr).1]) rfl
  | cons c0 r0 =>
    obtain ⟨hc0, hsz0, hr0⟩ := getElem?_of_drop_cons hr
    by_cases ha : isAlpha c0 = false
    · exact hstart (fun c hc => by rw [hc0] at hc; cases hc; exact ha) (by simp [Impl.urlParse, ha])
    replace ha : isAlpha c0 = true := by simpa using ha
    rw [show Impl.urlParse idna base none u (c0 :: r0) = Impl.schemeState idna base none u (c0 :: r0) by
      simp [Impl.urlParse, ha]]
    obtain ⟨f0, rfl, hf0⟩ := fuel_succ (n := 4 * inp.size + 15) hf
    rw [run_continue' (j := 0 + 1) f0 (Head.step_schemeStart_alpha hc0 ha) (by simp) hsz0]
    simp only [List.length_cons] at hlen
    -- the fuel left after the scan has to pay for a restart at pointer 0: `3 * n + 16`, wherever the scan ends
    refine run_scan_then (P := fun x => R x _) (q := isSchemeChar) (f := toLower)
      (fun _ _ _ hc h => Head.step_scheme_char hc h) hr0 hsz0 ([] ++ [toLower c0]) (a := 1) (c := 3 * inp.size + 16)
      (Nat.le_refl 1) (by omega) fun j g _ hdi _ hgj hend => ?_
    rw [show ([] ++ [toLower c0]) ++ (r0.takeWhile isSchemeChar).map toLower = Head.schemeOf c0 r0 from
      Head.map_toLower_eq (c0 :: r0.takeWhile isSchemeChar) (List.forall_mem_cons.2
        ⟨Head.alpha_schemeChar _ ha, fun _ hc => (mem_takeWhile hc).1⟩)]
    have hg : g ≥ 3 * inp.size + 16 := Nat.le_trans (Nat.le_add_left _ _) hgj
    have hg' : g ≥ 3 * (inp.size - j) + 16 :=
      Nat.le_trans (Nat.add_le_add_right (Nat.mul_le_mul_left 3 (Nat.sub_le _ _)) 16) hg
    clear hgj hlen hf0
    generalize hrest : r0.dropWhile isSchemeChar = rest at hdi
    have hfr : ∀ (S' : State) (p' : Int), Fresh ⟨{ u with scheme := Head.schemeOf c0 r0 }, S', [], f1, f2, f3, p'⟩ :=
      fun S' p' => hfresh.setScheme _
    by_cases hcolon : rest.head? = some 0x3A
    · obtain ⟨p', rfl⟩ := List.head?_eq_some_iff.1 hcolon
      obtain ⟨hci, -, hri⟩ := getElem?_of_drop_cons hdi
      have hst := Head.step_scheme_colon idna inp base u (Head.schemeOf c0 r0) f1 f2 f3 j hci
      by_cases hfile : Head.schemeOf c0 r0 = Impl.sFile
      · rw [if_pos hfile] at hst
        rw [Impl.B.schemeState_file idna base none u c0 r0 _ _ _ rfl hrest rfl rfl rfl (beq_iff_eq.2 hfile),
          List.drop_succ_cons, List.drop_zero]
        exact sim_file.next hdi hst ⟨hfresh.path, hfresh.query⟩ hsc hg'
      · rw [if_neg hfile] at hst
        by_cases hsp : Impl.isSpecialScheme (Head.schemeOf c0 r0) = true
        · by_cases hbs : base.map (·.scheme) = some (Head.schemeOf c0 r0)
          · rw [if_pos ⟨hsp, hbs⟩] at hst
            cases hbase : base with
            | none => rw [hbase] at hbs; cases hbs
            | some b =>
              have hb' : b.scheme = Head.schemeOf c0 r0 := by
                rw [hbase] at hbs; simpa using hbs
              have hsim := sim_specialRelativeOrAuthority hB b hbase (by rw [hb']; exact hfile)
              subst hbase
              rw [Impl.B.schemeState_sroa idna (some b) none u c0 r0 _ _ _ rfl hrest rfl rfl rfl
                (beq_eq_false_iff_ne.2 hfile) hsp b rfl hb', List.drop_succ_cons, List.drop_zero]
              exact hsim.next hdi hst (hfr _ _) hsc hg'
          · rw [if_neg fun h => hbs h.2, if_pos hsp] at hst
            rw [Impl.B.schemeState_sas idna base none u c0 r0 _ _ _ rfl hrest rfl rfl rfl
              (beq_eq_false_iff_ne.2 hfile) hsp (fun b hb e => hbs (by rw [hb]; exact congrArg some e)),
              List.drop_succ_cons, List.drop_zero]
            exact hB.specialAuthoritySlashes.next hdi hst (hfr _ _) hsc hg'
        · have hsp' : Impl.isSpecialScheme (Head.schemeOf c0 r0) = false := by simpa using hsp
          rw [if_neg fun h => hsp h.1, if_neg hsp] at hst
          by_cases hsl : ∃ r, p' = 0x2F :: r
          · obtain ⟨r, rfl⟩ := hsl
            rw [if_pos (getElem?_of_drop_cons hri).1] at hst
            rw [Impl.B.schemeState_poa idna base none u c0 r0 _ _ _ rfl hrest rfl rfl rfl
              (C08.nonspecial_nonfile hsp') hsp' _ rfl]
            exact hB.pathOrAuthority.next2 hdi hst (hfr _ _) hsc hg'
          · rw [if_neg fun h => hsl (List.head?_eq_some_iff.1 ((getElem?_of_drop hri).symm.trans h))] at hst
            rw [Impl.B.schemeState_opaque idna base none u c0 r0 _ _ _ rfl hrest rfl rfl rfl
              (C08.nonspecial_nonfile hsp') hsp' (fun r h => hsl ⟨r, h⟩), List.drop_succ_cons, List.drop_zero,
              Head.url_setOpaque u _ hfresh.opaquePath]
            exact hB.opaquePath.next hdi hst trivial hsc hg'
    · have hnc : ∀ c, rest.head? = some c → c ≠ 0x3A := fun c hc hcc => hcolon (hcc ▸ hc)
      have hns : Impl.B.isSch none rest = false := by
        cases rest with
        | nil => rfl
        | cons c t => exact beq_eq_false_iff_ne.2 (hnc c rfl)
      rw [Impl.B.schemeState_no idna base none u c0 r0 rest hrest hns, if_pos (by rfl)]
      exact hno (Head.step_scheme_restart fun c hc => ⟨hend c hc, hnc c (by rw [← getElem?_of_drop hdi]; exact hc)⟩)
        (by simp) hg

end scheme
namespace Head

theorem prep_scalar (e : Enc) (units : List Nat) (h : Props.UnitsOk e units) :
    ∀ c ∈ Impl.prep e units, Spec.isScalar c = true :=
  C10b.decode_scalars e _ (C10b.UOk.removeWs h)

end Head

theorem parse_conforms_of_sim {idna : Idna}
    (h : ∀ base, SimR FstEq idna base none .schemeStart 4 16 (fun k => k.p = 0 ∧ Fresh k)
      (Impl.urlParse idna base none)) :
    ∀ (e : Enc) (units : List Nat) (base : Option Url), Props.UnitsOk e units →
      Impl.parse idna e units base = Spec.apiParse idna e units base := by
  intro e units base hu
  have hu' : Props.UnitsOk e _ := C10b.UOk.doTrim hu
  have := (h base).basicParse rfl (Nat.le_refl _) (Nat.le_refl _) _ {} ⟨rfl, rfl, rfl, rfl, rfl⟩
    (Head.prep_scalar e _ hu')
  rw [C08.parse_eq]
  unfold Spec.apiParse
  rw [← Props.C01_input_conversion e _ hu']
  exact (this.trans (resOf_fst_none _)).symm

/-- C01 (parse), from the per-state simulations of the tail states (C01Tail) and of the authority
    states (C01Auth, weak form: first components) and the host parser equality: the library's
    `parse` is the Standard's URL parser, with and without a base, for every input encoding. -/
theorem C01_parse_conforms_partial (idna : Idna)
    (hHost : ∀ s o, (∀ c ∈ s, Spec.isScalar c = true) → Impl.parseHost idna s o = Spec.hostParse idna s o)
    (sim_fragment : ∀ base, SimR FstEq idna base none .fragment 3 13 (fun k => k.url.fragment = some []) Impl.fragmentState)
    (sim_query : ∀ base, SimR FstEq idna base none .query 3 13 (fun k => k.url.query.getD [] = []) (Impl.queryState none))
    (sim_opaquePath : ∀ base, SimR FstEq idna base none .opaquePath 3 13 (fun _ => True) (Impl.opaquePathState none))
    (sim_path : ∀ base, SimR FstEq idna base none .path 3 13 (fun _ => True) (Impl.pathState none))
    (sim_pathStart : ∀ base, SimR FstEq idna base none .pathStart 3 13 (fun _ => True) (Impl.pathStartState none))
    (sim_authority : ∀ base, SimR FstEq idna base none .authority 3 13 Fresh (Impl.authorityState idna none))
    (sim_ignoreSlashes : ∀ base, SimR FstEq idna base none .specialAuthorityIgnoreSlashes 3 13 Fresh
      (Impl.ignoreSlashesState idna none))
    (sim_specialAuthoritySlashes : ∀ base, SimR FstEq idna base none .specialAuthoritySlashes 3 13 Fresh
      (Impl.specialAuthoritySlashesState idna none))
    (sim_pathOrAuthority : ∀ base, SimR FstEq idna base none .pathOrAuthority 3 13 Fresh
      (Impl.pathOrAuthorityState idna none)) :
    ∀ (e : Enc) (units : List Nat) (base : Option Url), Props.UnitsOk e units →
      Impl.parse idna e units base = Spec.apiParse idna e units base :=
  parse_conforms_of_sim fun base =>
    sim_urlParse ⟨FstEq.refl, hHost, sim_fragment base, sim_query base, sim_opaquePath base, sim_path base,
      sim_pathStart base, sim_authority base, sim_ignoreSlashes base, sim_specialAuthoritySlashes base,
      sim_pathOrAuthority base⟩

#print axioms sim_urlParse
#print axioms C01_parse_conforms_partial
/-! ## the bundle supplied: tail states (C01Tail), authority states (C01Auth), and the host parser equality from C07 -/

theorem Fresh.authPre {k : Cfg} (h : Fresh k) : AuthPre k := by
  obtain ⟨h1, h2, h3, h4⟩ := h
  refine ⟨h1, h3, h2, ?_, ?_⟩ <;> rw [h4]

section
variable {idna : Idna}
variable (hHost : HostOk idna)
include hHost

/-- the whole no-override parser against the Standard's state machine (results agree; the URL left
    behind by a failing parse may differ, see `ResAgree` in C01Auth) -/
theorem sim_urlParse_closed (base : Option Url) :
    SimR ResAgree idna base none .schemeStart 4 16 (fun k => k.p = 0 ∧ Fresh k) (Impl.urlParse idna base none) :=
  have tail {S : State} {a c : Nat} {Pre : Cfg → Prop} {B : Url → List Nat → Res}
      (h : SimAt idna base none S a c Pre B) (ha : a ≤ 3) (hc : c ≤ 13) : SimR ResAgree idna base none S 3 13 Pre B :=
    (h.toR fun _ => ResAgree.rfl').mono ha hc fun _ h => h
  have auth {S : State} {a c : Nat} {B : Url → List Nat → Res}
      (h : SimAtW idna base none S a c AuthPre B) (ha : a ≤ 3) (hc : c ≤ 13) : SimR ResAgree idna base none S 3 13 Fresh B :=
    SimR.mono h ha hc fun _ h => h.authPre
  sim_urlParse ⟨fun _ => ResAgree.rfl', hHost,
    tail (sim_fragment idna base none) (by decide) (by decide),
    tail (sim_query idna base none) (by decide) (by decide),
    tail (sim_opaquePath idna base none) (by decide) (by decide),
    tail (sim_path idna base none) (by decide) (by decide),
    tail (sim_pathStart idna base none) (by decide) (by decide),
    auth (sim_authority_partial hHost) (by decide) (by decide),
    auth (sim_ignoreSlashes_partial hHost) (by decide) (by decide),
    auth (sim_specialAuthoritySlashes_partial hHost) (by decide) (by decide),
    auth (sim_pathOrAuthority_partial hHost) (by decide) (by decide)⟩

/-- C01 (parse): the library's `parse` is the Standard's URL parser, with and without a base, for
    every input encoding — given that the host parser is the Standard's (`hHost`). -/
theorem C01_parse_conforms_of_host :
    ∀ (e : Enc) (units : List Nat) (base : Option Url), Props.UnitsOk e units →
      Impl.parse idna e units base = Spec.apiParse idna e units base :=
  parse_conforms_of_sim fun base => (sim_urlParse_closed hHost base).imp fun _ _ h => h.fst

end

/-- C01 (parse) under the IDNA hypotheses of C07 (`Upa.Props.IdnaOk` = `AsciiHyp` ∧ `PersistHyp`) -/
theorem C01_parse_conforms_closed (idna : Idna) (hascii : C07.AsciiHyp idna) (hpersist : C07.PersistHyp idna) :
    ∀ (e : Enc) (units : List Nat) (base : Option Url), Props.UnitsOk e units →
      Impl.parse idna e units base = Spec.apiParse idna e units base :=
  C01_parse_conforms_of_host (C07.parseHost_eq idna hascii hpersist)

#print axioms C01_parse_conforms_closed
#print axioms sim_urlParse_closed
#print axioms C01_parse_conforms_of_host
end Upa.Proofs.C01
