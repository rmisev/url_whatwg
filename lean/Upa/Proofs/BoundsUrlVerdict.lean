import Upa.Proofs.BoundsUrlBlocks
import Upa.Proofs.CanParse
import Upa.Proofs.AsciiHom
/-
  The instrumented machine on code units reaches, block by block, the verdict of the list model `Impl.urlParse` on the
  decoded scalar values (C04f).  The tie between positions in the array and suffixes of the decoded list
  (`Dl e a p q = decode e (slice a p q)`): a scan that stops at an ASCII unit finds the position `takeWhile` /
  `dropWhile` find on the decoded list (`Dl_firstAt`, `Dl_scan_pos`: the scan of the units as a list, `FirstAt.slice`,
  commutes with decoding, `AsciiHom.span_delim` / `takeWhile` / `dropWhile`); a test of the first value that
  only ASCII values pass sees the unit at the pointer (`Ctx.D_peek`, `D_head_eq/ne`, `D_two_eq/ne`).  None of this
  asks the units to be in the range of their type (`decode e` keeps ASCII units whatever the others are): the field
  `hu` of `Ctx.Wf` is read by no lemma, its callers fill it from the hypothesis of C04f.  The chain of
  blocks of `urlParseB` cut into named suffixes (`kFragment … kSchemeStart`).  The simulation: which list-model
  function stands for a state (`stateFn`), its invariant (`Sim`), what a block does (`Fwd`), the rule for a link of
  the chain (`Sound.step`); the tail of the chain: from path_start_state on both models can only answer `ok`.
-/
namespace Upa.Impl.B
open UP Upa.Proofs.C10b
open Upa.Proofs.C09 (isOk isOk_fragment isOk_query isOk_path isOk_opaquePath isOk_pathStart)

/-- the decoded scalar values of the units `[p, q)` -/
def Dl (e : Enc) (a : Array Nat) (p q : Nat) : List Nat := decode e (slice a p q)

section
variable (e : Enc) (a : Array Nat)

theorem Dl_nil (p q : Nat) (h : q ≤ p) : Dl e a p q = [] := by
  simp only [Dl, slice_nil a p q h]; rfl

theorem Dl_cons_ascii (p q : Nat) (h : p < q) (hq : q ≤ a.size) (hc : a[p]! < 0x80) :
    Dl e a p q = a[p]! :: Dl e a (p + 1) q := by
  simp only [Dl]
  rw [slice_cons a p q h hq, decode_cons_ascii e _ _ hc]

/-- a position that holds an ASCII unit (or the end) is a character boundary of every encoding -/
theorem Dl_split (p q r : Nat) (h1 : p ≤ q) (h2 : q ≤ r) (hr : r ≤ a.size) (hq : q = r ∨ a[q]! < 0x80) :
    Dl e a p r = Dl e a p q ++ Dl e a q r := by
  by_cases hqr : q = r
  · subst hqr
    rw [Dl_nil e a q q (Nat.le_refl _), List.append_nil]
  · have hc : a[q]! < 0x80 := by rcases hq with h | h; exact absurd h hqr; exact h
    have hlt : q < r := by omega
    rw [Dl_cons_ascii e a q r hlt hr hc]
    simp only [Dl]
    rw [← slice_append a p q r h1 h2, slice_cons a q r hlt hr, decode_ascii_split e _ _ hc]

theorem Dl_eq_nil_iff (p q : Nat) (h : p ≤ q) (hq : q ≤ a.size) : Dl e a p q = [] ↔ p = q :=
  (decode_asciiHom e).eq_nil_iff.trans (slice_eq_nil a p q h hq)

/-- Where `std::find_if` with a predicate that holds for ASCII values only stops on the units is where the scan of the
    decoded values stops: the scan of the list of units (`FirstAt.slice`) commutes with decoding (`AsciiHom.span_delim`). -/
theorem Dl_firstAt (pred : Nat → Bool) (hp : AsciiPred pred) (p q last : Nat) (hl : last ≤ a.size)
    (hq : FirstAt a pred p last q) :
    (q = last ∨ a[q]! < 0x80) ∧ (Dl e a p last).takeWhile (fun x => !pred x) = Dl e a p q ∧
      (Dl e a p last).dropWhile (fun x => !pred x) = Dl e a q last := by
  obtain ⟨hT, hD⟩ := hq.slice hl
  have := (decode_asciiHom e).span_delim hp (slice a p last)
  rw [hT, hD] at this
  refine ⟨?_, this⟩
  by_cases h : q = last
  · exact Or.inl h
  · exact Or.inr (hp _ (hq.2.2.2 (Nat.lt_of_le_of_ne hq.2.1 h)))

theorem authEnd_ascii (sp : Bool) : AsciiPred (Proofs.C08.authEnd sp) := by
  intro x hx
  have := (Proofs.C08.authEnd_iff sp x).1 hx
  omega

theorem Dl_ne_of_units (v : Nat) (hv : v < 0x80) (p q : Nat) (hq : q ≤ a.size) (hall : ∀ i, p ≤ i → i < q → a[i]! ≠ v) :
    ∀ x ∈ Dl e a p q, x ≠ v := by
  rintro x hx rfl
  obtain ⟨i, h1, h2, h3⟩ := mem_slice a p q x hq (decode_ascii_mem e _ x hx hv)
  exact hall i h1 h2 h3.symm

/-- scan with a "continue" predicate that holds for ASCII values only (scheme characters, digits, slashes):
    the scanned units are the scanned values -/
theorem Dl_scan_pos (np : Nat → Bool) (hnp : AsciiPred np) (last : Nat) (hl : last ≤ a.size) (p q : Nat)
    (hq : FirstAt a (fun x => !np x) p last q) :
    (Dl e a p last).takeWhile np = slice a p q ∧ (Dl e a p last).dropWhile np = Dl e a q last := by
  obtain ⟨hT, hD⟩ := hq.slice hl
  simp only [Bool.not_not] at hT hD
  exact ⟨((decode_asciiHom e).takeWhile hnp _).trans hT,
    ((decode_asciiHom e).dropWhile hnp _).trans (congrArg _ hD)⟩

end

/-- everything the two models are run on -/
structure Ctx where
  idna : Idna
  e : Enc
  a : Array Nat
  first : Nat
  last : Nat
  ov : Option Override
  baseU : Option Url
  u0 : Url
  fuel : Nat

namespace Ctx
def base (c : Ctx) : Option BaseInfo := c.baseU.map BaseInfo.ofUrl
def ui (c : Ctx) : UrlInfo := UrlInfo.ofUrl c.u0
def orc (c : Ctx) : Oracles := Oracles.real c.idna c.e c.a
/-- the decoded rest of the input at pointer `p` -/
def D (c : Ctx) (p : Nat) : List Nat := Dl c.e c.a p c.last
structure Wf (c : Ctx) : Prop where
  h : c.first ≤ c.last
  hl : c.last ≤ c.a.size
  hf : c.last - c.first < c.fuel
  hu : UOk c.e c.a.toList
end Ctx

theorem Ctx.base_some {c : Ctx} {b : Url} (hb : c.baseU = some b) : c.base = some (BaseInfo.ofUrl b) := by
  rw [Ctx.base, hb]; rfl

theorem Ctx.base_none {c : Ctx} (hb : c.baseU = none) : c.base = none := by
  rw [Ctx.base, hb]; rfl

theorem Ctx.orc_hostOk (c : Ctx) (opq : Bool) (p q : Nat) :
    c.orc.hostOk opq p q = (parseHost c.idna (Dl c.e c.a p q) opq).isSome := rfl

/-- `UrlInfo.ofUrl` says `urls.need_save()`: the simulation is about the run that writes the URL (C04d holds for any
    `UrlInfo`); `kNeedSave_eq` and the `need_save()` tests of file_host_state rest on it. -/
theorem Ctx.ui_needSave (c : Ctx) : c.ui.needSave = true := rfl

theorem Ctx.D_end (c : Ctx) : c.D c.last = [] := Dl_nil c.e c.a c.last c.last (Nat.le_refl _)

theorem Ctx.D_ascii (c : Ctx) (W : c.Wf) (p : Nat) (h : p < c.last) (hc : c.a[p]! < 0x80) :
    c.D p = c.a[p]! :: c.D (p + 1) := Dl_cons_ascii c.e c.a p c.last h W.hl hc

/-- the first value `ch` of the decoded rest at `p`: tests that only ASCII values pass see the unit at `p` in it, and
    after an ASCII unit the rest is the decoded rest at `p + 1` -/
theorem Ctx.D_peek (c : Ctx) (W : c.Wf) (p : Nat) (h : p < c.last) :
    ∃ ch t, c.D p = ch :: t ∧ (∀ k, k < 0x80 → (ch = k ↔ c.a[p]! = k)) ∧
      (∀ pred, AsciiPred pred → pred ch = pred c.a[p]!) ∧ (c.a[p]! < 0x80 → ch = c.a[p]! ∧ t = c.D (p + 1)) := by
  by_cases hc : c.a[p]! < 0x80
  · exact ⟨_, _, c.D_ascii W p h hc, fun _ _ => Iff.rfl, fun _ _ => rfl, fun _ => ⟨rfl, rfl⟩⟩
  · obtain ⟨y, t, he, hy⟩ := (decode_asciiHom c.e).head c.a[p]! (slice c.a (p + 1) c.last) hc
    rw [← slice_cons c.a p c.last h W.hl] at he
    refine ⟨y, t, he, fun k hk => ?_, fun pred hp => ?_, fun ha => absurd ha hc⟩
    · constructor <;> intro hh <;> omega
    · cases h3 : pred y with
      | true => exact absurd (hp _ h3) hy
      | false =>
        cases h4 : pred c.a[p]! with
        | true => exact absurd (hp _ h4) hc
        | false => rfl

section
variable (c : Ctx) (W : c.Wf)
include W

/-- a decoded rest starts with the ASCII value `k` iff the unit at `p` is `k`: `D_head_eq`, `D_head_ne` -/
theorem D_head_eq (p k : Nat) (hk : k < 0x80) (hp : p < c.last) (ha : c.a[p]! = k) :
    c.D p = k :: c.D (p + 1) := by
  rw [c.D_ascii W p hp (by omega), ha]

theorem D_head_ne (p k : Nat) (hk : k < 0x80) (h : ¬ (p < c.last ∧ c.a[p]! = k)) : ∀ r, c.D p ≠ k :: r := by
  intro r hr
  by_cases hp : p < c.last
  · obtain ⟨ch, t, hD, hkk, -, -⟩ := c.D_peek W p hp
    rw [hD] at hr
    exact h ⟨hp, (hkk k hk).1 (List.cons.inj hr).1⟩
  · rw [show c.D p = [] from Dl_nil c.e c.a p c.last (by omega)] at hr
    cases hr

theorem D_two_eq (p : Nat) (hp : p + 2 ≤ c.last) (h0 : c.a[p]! = 0x2F) (h1 : c.a[p + 1]! = 0x2F) :
    c.D p = 0x2F :: 0x2F :: c.D (p + 2) := by
  rw [D_head_eq c W p 0x2F (by omega) (by omega) h0, D_head_eq c W (p + 1) 0x2F (by omega) (by omega) h1]

theorem D_two_ne (p : Nat) (h : ¬ (p + 2 ≤ c.last ∧ c.a[p]! = 0x2F ∧ c.a[p + 1]! = 0x2F)) :
    ∀ r, c.D p ≠ 0x2F :: 0x2F :: r := by
  intro r hr
  by_cases h0 : p < c.last ∧ c.a[p]! = 0x2F
  · rw [D_head_eq c W p 0x2F (by omega) h0.1 h0.2] at hr
    have hr' : c.D (p + 1) = 0x2F :: r := (List.cons.inj hr).2
    by_cases h1 : p + 1 < c.last ∧ c.a[p + 1]! = 0x2F
    · exact h ⟨by omega, h0.2, h1.2⟩
    · exact D_head_ne c W (p + 1) 0x2F (by omega) h1 r hr'
  · exact D_head_ne c W p 0x2F (by omega) h0 _ hr

end

def kEnd : M → R Bool := fun _ => pure true
def kFragment (c : Ctx) : M → R Bool :=
  stepB (· == .fragment) (bFragment c.e c.a c.first c.last c.fuel) kEnd
def kQuery (c : Ctx) : M → R Bool :=
  stepB (· == .query) (bQuery c.e c.a c.first c.last c.ov c.fuel) (kFragment c)
def kOpaquePath (c : Ctx) : M → R Bool :=
  stepB (· == .opaquePath) (bOpaquePath c.e c.a c.first c.last) (kQuery c)
def kPath (c : Ctx) : M → R Bool :=
  stepB (· == .path) (bPath c.e c.a c.first c.last c.ov c.orc) (kOpaquePath c)
def kPathStart (c : Ctx) : M → R Bool :=
  stepB (· == .pathStart) (bPathStart c.a c.first c.last c.ov) (kPath c)
def kNeedSave (c : Ctx) : M → R Bool :=
  stepB (fun _ => true) (bNeedSave c.ui) (kPathStart c)
def kFileHost (c : Ctx) : M → R Bool :=
  stepB (· == .fileHost) (bFileHost c.a c.first c.last c.ov c.ui c.orc) (kNeedSave c)
def kFileSlash (c : Ctx) : M → R Bool :=
  stepB (· == .fileSlash) (fun m => bFileSlash c.a c.first c.last c.base c.ui m 0) (kFileHost c)
def kFile (c : Ctx) : M → R Bool :=
  stepB (· == .file) (fun m => bFile c.a c.first c.last c.base m 0) (kFileSlash c)
def kPort (c : Ctx) : M → R Bool :=
  stepB (· == .port) (fun m => bPort c.a c.first c.last c.ov c.ui c.orc c.fuel m 0) (kFile c)
def kHost (c : Ctx) : M → R Bool :=
  stepB (fun s => s == .host || s == .hostname) (bHost c.a c.first c.last c.ov c.ui c.orc c.fuel) (kPort c)
def kAuthority (c : Ctx) : M → R Bool :=
  stepB (· == .authority) (bAuthority c.e c.a c.first c.last c.ui) (kHost c)
def kSAIS (c : Ctx) : M → R Bool :=
  stepB (· == .specialAuthorityIgnoreSlashes) (bSpecialAuthorityIgnoreSlashes c.a c.first c.last c.fuel) (kAuthority c)
def kSAS (c : Ctx) : M → R Bool :=
  stepB (· == .specialAuthoritySlashes) (fun m => bSpecialAuthoritySlashes c.a c.first c.last m 1) (kSAIS c)
def kRelativeSlash (c : Ctx) : M → R Bool :=
  stepB (· == .relativeSlash) (bRelativeSlash c.a c.first c.last c.base) (kSAS c)
def kRelative (c : Ctx) : M → R Bool :=
  stepB (· == .relative) (bRelative c.a c.first c.last c.base) (kRelativeSlash c)
def kPathOrAuthority (c : Ctx) : M → R Bool :=
  stepB (· == .pathOrAuthority) (fun m => bPathOrAuthority c.a c.first c.last m 0) (kRelative c)
def kSRoA (c : Ctx) : M → R Bool :=
  stepB (· == .specialRelativeOrAuthority) (fun m => bSpecialRelativeOrAuthority c.a c.first c.last m 1)
    (kPathOrAuthority c)
def kNoScheme (c : Ctx) : M → R Bool :=
  stepB (· == .noScheme) (bNoScheme c.a c.first c.last c.base) (kSRoA c)
def kScheme (c : Ctx) : M → R Bool :=
  stepB (· == .scheme) (bScheme c.a c.first c.last c.ov c.base c.ui c.fuel) (kNoScheme c)
def kSchemeStart (c : Ctx) : M → R Bool :=
  stepB (· == .schemeStart) (bSchemeStart c.a c.first c.last c.ov) (kScheme c)

theorem urlParseB_eq (c : Ctx) :
    urlParseB c.e c.a c.first c.last c.ov c.base c.ui c.orc c.fuel =
      kSchemeStart c ⟨St.ofOverride c.ov, c.first, c.ui.special, c.ui.file⟩ := rfl

theorem stepB_skip {cnd : St → Bool} {blk : M → R (M ⊕ Bool)} {k : M → R Bool} {m : M}
    (h : cnd m.state = false) : stepB cnd blk k m = k m := by
  unfold stepB; simp [h]

theorem stepB_ok {cnd : St → Bool} {blk : M → R (M ⊕ Bool)} {k : M → R Bool} {m : M} {v : Bool}
    (hc : cnd m.state = true)
    (hb : (blk m).sat (fun r => match r with | .inl m' => k m' = .ok v | .inr w => w = v)) :
    stepB cnd blk k m = .ok v := by
  unfold stepB
  rw [if_pos hc]
  obtain ⟨r, hr, hp⟩ := hb
  rw [hr]
  cases r with
  | inl m' => exact hp
  | inr w => simp only [] at hp; rw [hp]; rfl

section
variable (c : Ctx) (m : M)
theorem kNeedSave_eq : kNeedSave c m = kPathStart c m := rfl
end

/-- `first ≤ pointer ≤ last` -/
def Bnd (c : Ctx) (m : M) : Prop := c.first ≤ m.pointer ∧ m.pointer ≤ c.last

theorem Bnd.of {c : Ctx} {st : St} {p : Nat} {sp fl : Bool} (h1 : c.first ≤ p := by omega)
    (h2 : p ≤ c.last := by omega) : Bnd c ⟨st, p, sp, fl⟩ := ⟨h1, h2⟩

/-- a state from which both models can only answer `ok` -/
def isTail : St → Bool
  | .pathStart | .path | .opaquePath | .query | .fragment => true
  | _ => false

/-! ## the simulation: one invariant, one statement per block, one rule for the chain -/

/-- position of a state's block in the chain (host_state and hostname_state share a block).  The landmarks the
    invariant `Sim` speaks of: 2 = no_scheme_state … 9 = authority_state are the states a state override cannot
    reach, 10 = host_state, 15 = path_start_state, from which on both models answer `ok` (`isTail_rank`). -/
def rank : St → Nat
  | .schemeStart => 0 | .scheme => 1 | .noScheme => 2 | .specialRelativeOrAuthority => 3 | .pathOrAuthority => 4
  | .relative => 5 | .relativeSlash => 6 | .specialAuthoritySlashes => 7 | .specialAuthorityIgnoreSlashes => 8
  | .authority => 9 | .host => 10 | .hostname => 10 | .port => 11 | .file => 12 | .fileSlash => 13 | .fileHost => 14
  | .pathStart => 15 | .path => 16 | .opaquePath => 17 | .query => 18 | .fragment => 19

theorem needsBase_rank {s : St} (h : s.needsBase = true) : 3 ≤ rank s ∧ rank s ≤ 6 := by
  cases s <;> first | exact absurd h (by decide) | exact ⟨by decide, by decide⟩

theorem isTail_rank {s : St} : isTail s = true ↔ 15 ≤ rank s := by
  cases s <;> decide

/-- the function of the list model that stands for a state of the machine -/
def stateFn (c : Ctx) (s : St) (u : Url) (p : List Nat) : Res :=
  let withBase (f : Url → Res) : Res := match c.baseU with | some b => f b | none => ⟨.failure, u⟩
  match s with
  | .schemeStart =>
    let no : Res := if c.ov.isNone then noSchemeState c.idna c.baseU c.ov u p else ⟨.failure, u⟩
    match p with
    | ch :: _ => if isAlpha ch then schemeState c.idna c.baseU c.ov u p else no
    | [] => no
  | .scheme => schemeState c.idna c.baseU c.ov u p
  | .noScheme => noSchemeState c.idna c.baseU c.ov u p
  | .specialRelativeOrAuthority => withBase fun b => specialRelativeOrAuthorityState c.idna b c.ov u p
  | .relative => withBase fun b => relativeState c.idna b c.ov u p
  | .relativeSlash => withBase fun b => relativeSlashState c.idna b c.ov u p
  | .pathOrAuthority => pathOrAuthorityState c.idna c.ov u p
  | .specialAuthoritySlashes => specialAuthoritySlashesState c.idna c.ov u p
  | .specialAuthorityIgnoreSlashes => ignoreSlashesState c.idna c.ov u p
  | .authority => authorityState c.idna c.ov u p
  | .host | .hostname => hostState c.idna c.ov u p
  | .port => portState c.ov u p
  | .file => fileState c.idna c.baseU c.ov u p
  | .fileSlash => fileSlashState c.idna c.baseU c.ov u p
  | .fileHost => fileHostState c.idna c.ov u p
  | .pathStart => pathStartState c.ov u p
  | .path => pathState c.ov u p
  | .opaquePath => opaquePathState c.ov u p
  | .query => queryState c.ov u p
  | .fragment => fragmentState u p

def verdictAt (c : Ctx) (m : M) (u : Url) : Bool := isOk (stateFn c m.state u (c.D m.pointer))

section
variable {c : Ctx} {b : Url} (hb : c.baseU = some b) (p : Nat) (sp fl : Bool) (u : Url)
include hb

theorem verdictAt_sroa : verdictAt c ⟨.specialRelativeOrAuthority, p, sp, fl⟩ u =
    isOk (specialRelativeOrAuthorityState c.idna b c.ov u (c.D p)) := by simp only [verdictAt, stateFn, hb]

theorem verdictAt_relative : verdictAt c ⟨.relative, p, sp, fl⟩ u = isOk (relativeState c.idna b c.ov u (c.D p)) := by
  simp only [verdictAt, stateFn, hb]

theorem verdictAt_relativeSlash :
    verdictAt c ⟨.relativeSlash, p, sp, fl⟩ u = isOk (relativeSlashState c.idna b c.ov u (c.D p)) := by
  simp only [verdictAt, stateFn, hb]

end

/-- Machine state `m` and record `u` of the list model are at the same point of a run: the clauses of the pointer
    invariant `UInv` of the safety proof, over `c` (`scheme` also keeps what scheme_start_state has read); before the tail (where the verdict no longer depends on them) `is_special_scheme()` /
    `is_file_scheme()` are those of the record; a state override leaves out the states between scheme_state and
    host_state, and up to host_state the record is still the one the setter was called on. -/
structure Sim (c : Ctx) (m : M) (u : Url) : Prop where
  bnd : Bnd c m
  flags : rank m.state < 15 → m.special = u.isSpecial ∧ m.file = u.isFile
  base : m.state.needsBase = true → c.baseU.isSome = true
  scheme : m.state = .scheme → m.pointer < c.last ∧ isAlpha c.a[m.pointer]! = true
  mid : 2 ≤ rank m.state → rank m.state < 10 → c.ov = none
  u0 : c.ov.isSome = true → rank m.state ≤ 10 → u = c.u0

section
variable {c : Ctx} {st : St} {p : Nat} {sp fl : Bool} {u : Url}

theorem Sim.inv (h : Sim c ⟨st, p, sp, fl⟩ u) (ht : rank st < 15 := by decide) :
    c.first ≤ p ∧ p ≤ c.last ∧ sp = u.isSpecial ∧ fl = u.isFile :=
  ⟨h.bnd.1, h.bnd.2, h.flags ht⟩

theorem Sim.noOv (h : Sim c ⟨st, p, sp, fl⟩ u) (h1 : 2 ≤ rank st := by decide) (h2 : rank st < 10 := by decide) :
    c.ov = none :=
  h.mid h1 h2

theorem Sim.of (hov : c.ov = none) (hsp : sp = u.isSpecial) (hfl : fl = u.isFile)
    (hb : st.needsBase = true → c.baseU.isSome = true := by exact nofun) (hs : st ≠ .scheme := by decide)
    (h1 : c.first ≤ p := by omega) (h2 : p ≤ c.last := by omega) : Sim c ⟨st, p, sp, fl⟩ u :=
  ⟨⟨h1, h2⟩, fun _ => ⟨hsp, hfl⟩, hb, fun h => absurd h hs, fun _ _ => hov, fun h => by rw [hov] at h; cases h⟩

theorem Sim.late (hsp : sp = u.isSpecial) (hfl : fl = u.isFile) (hr : 10 < rank st := by exact of_decide_eq_true rfl)
    (h1 : c.first ≤ p := by omega) (h2 : p ≤ c.last := by omega) : Sim c ⟨st, p, sp, fl⟩ u :=
  ⟨⟨h1, h2⟩, fun _ => ⟨hsp, hfl⟩, fun (h : st.needsBase = true) => by have := needsBase_rank h; omega,
    fun (h : st = .scheme) => by rw [h] at hr; exact absurd hr (by decide),
    fun _ (h : rank st < 10) => by omega, fun _ (h : rank st ≤ 10) => by omega⟩

end

theorem Sim.tail {c : Ctx} {m : M} {u : Url} (hb : Bnd c m) (hr : 15 ≤ rank m.state) : Sim c m u :=
  ⟨hb, fun h => by omega, fun h => by have := needsBase_rank h; omega,
    fun h => by rw [h] at hr; exact absurd hr (by decide), fun _ h => by omega, fun _ h => by omega⟩

theorem verdictAt_tail {c : Ctx} {m : M} {u : Url} (hr : 15 ≤ rank m.state) : verdictAt c m u = true := by
  obtain ⟨st, p, sp, fl⟩ := m
  have hr : 15 ≤ rank st := hr
  cases st <;> first
    | exact absurd hr (by decide)
    | simp [verdictAt, stateFn, isOk_pathStart, isOk_path, isOk_opaquePath, isOk_query, isOk_fragment]

/-- What a block of the chain at position `n` does when the list model answers `v` there: it returns `v`, or falls
    through to a LATER state at which the list model, on the decoded rest at the new pointer and a record with the
    right flags, answers `v` too. -/
def Fwd (c : Ctx) (n : Nat) (v : Bool) (r : M ⊕ Bool) : Prop :=
  match r with
  | .inl m' => n < rank m'.state ∧ ∃ u', Sim c m' u' ∧ verdictAt c m' u' = v
  | .inr w => w = v

theorem Fwd.goto {c : Ctx} {n : Nat} {v : Bool} {st : St} {p : Nat} {sp fl : Bool} {u' : Url}
    (hG : Sim c ⟨st, p, sp, fl⟩ u') (hv : verdictAt c ⟨st, p, sp, fl⟩ u' = v)
    (hn : n < rank st := by exact of_decide_eq_true rfl) : Fwd c n v (.inl ⟨st, p, sp, fl⟩) :=
  ⟨hn, u', hG, hv⟩

theorem Fwd.tail {c : Ctx} {n : Nat} {m' : M} (hb : Bnd c m')
    (hr : 15 ≤ rank m'.state := by exact of_decide_eq_true rfl)
    (hn : n < rank m'.state := by exact of_decide_eq_true rfl) :
    Fwd c n true (.inl m') :=
  ⟨hn, c.u0, Sim.tail hb hr, verdictAt_tail hr⟩

/-- a tail block (postcondition `TPost`, from the safety proof) -/
theorem Fwd.of_tail {c : Ctx} {n : Nat} {S : List St} {blk : M → R (M ⊕ Bool)}
    (h : ∀ m, Bnd c m → (blk m).sat (TPost c.first c.last S))
    (hS : ∀ s ∈ S, 15 ≤ rank s ∧ n < rank s := by decide) (hn : 15 ≤ n := by decide)
    (m : M) (u : Url) (hG : Sim c m u) (hs : rank m.state = n) : (blk m).sat (Fwd c n (verdictAt c m u)) := by
  rw [verdictAt_tail (by omega)]
  refine R.sat_mono (h m hG.bnd) fun r hr => ?_
  cases r with
  | inl m' => exact Fwd.tail ⟨hr.1, hr.2.1⟩ (hS _ hr.2.2).1 (hS _ hr.2.2).2
  | inr v => exact hr

/-- the rest `k` of the chain answers like the list model from every state at or after position `n` -/
def Sound (c : Ctx) (k : M → R Bool) (n : Nat) : Prop :=
  ∀ m u, Sim c m u → n ≤ rank m.state → k m = .ok (verdictAt c m u)

/-- the chain rule: a block whose test picks the states at position `n` -/
theorem Sound.step {c : Ctx} {k : M → R Bool} {n : Nat} {cnd : St → Bool} {blk : M → R (M ⊕ Bool)}
    (hb : ∀ m u, Sim c m u → rank m.state = n → (blk m).sat (Fwd c n (verdictAt c m u))) (hk : Sound c k (n + 1))
    (hc : ∀ s, cnd s = decide (rank s = n) := by intro s; cases s <;> rfl) : Sound c (stepB cnd blk k) n := by
  intro m u hG hn
  by_cases h : rank m.state = n
  · refine stepB_ok (by rw [hc]; exact decide_eq_true h) (R.sat_mono (hb m u hG h) fun r hr => ?_)
    cases r with
    | inl m' =>
      obtain ⟨h1, u', hG', he⟩ := hr
      rw [← he]
      exact hk m' u' hG' (by omega)
    | inr v => exact hr
  · rw [stepB_skip (by rw [hc]; exact decide_eq_false h)]
    exact hk m u hG (by omega)

/-- the same for the block of one state `X`, its lemma stated for the machine states `⟨X, p, sp, fl⟩` -/
theorem Sound.stepAt {c : Ctx} {k : M → R Bool} {n : Nat} (X : St) {blk : M → R (M ⊕ Bool)}
    (hb : ∀ p sp fl u, Sim c ⟨X, p, sp, fl⟩ u → (blk ⟨X, p, sp, fl⟩).sat (Fwd c n (verdictAt c ⟨X, p, sp, fl⟩ u)))
    (hk : Sound c k (n + 1)) (hc : ∀ s, (s == X) = decide (rank s = n) := by intro s; cases s <;> rfl) :
    Sound c (stepB (· == X) blk k) n :=
  Sound.step (hc := hc) (fun m u hG hs => by
    obtain ⟨st, p, sp, fl⟩ := m
    obtain rfl : st = X := eq_of_beq ((hc st).trans (decide_eq_true hs))
    exact hb p sp fl u hG) hk

section tail
variable (c : Ctx) (W : c.Wf)
include W

/-- fragment_state is the last block and falls through to ITSELF (`bFragment_tail`), so it is not a `Fwd` step to a
    later state: the end of the chain is proved directly. -/
theorem sound_fragment : Sound c (kFragment c) (rank .fragment) := by
  intro m u hG (hn : 19 ≤ rank m.state)
  have hs : m.state = .fragment := by
    revert hn; cases m.state <;> first | exact fun h => absurd h (by decide) | exact fun _ => rfl
  rw [verdictAt_tail (by omega)]
  refine stepB_ok (by rw [hs]; rfl)
    (R.sat_mono (bFragment_tail W.hl c.e c.fuel W.hf m hG.bnd.1 hG.bnd.2 hs) fun r hr => ?_)
  cases r with
  | inl m' => rfl
  | inr v => exact hr

theorem sound_pathStart : Sound c (kPathStart c) (rank .pathStart) :=
  .step (Fwd.of_tail fun m hb => bPathStart_tail W.hl c.ov m hb.1 hb.2) <|
  .step (Fwd.of_tail fun m hb => bPath_tail W.hl c.e c.ov c.orc m hb.1 hb.2) <|
  .step (Fwd.of_tail fun m hb => bOpaquePath_tail W.hl c.e m hb.1 hb.2) <|
  .step (Fwd.of_tail fun m hb => bQuery_tail W.hl c.e c.ov c.fuel W.hf m hb.1 hb.2) <| sound_fragment c W

end tail

theorem sat_eq {α : Type} {x : R α} {t : α} (h : x.sat (fun v => v = t)) : x = .ok t :=
  R.eq_ok_of_sat h

end Upa.Impl.B
