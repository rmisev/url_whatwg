import Upa.Impl.Ip
import Upa.Proofs.ListScan
import Upa.Proofs.CharClass
/-
  C12 — IPv6 parser: the equations of the list model's loops (`getHexL_*`, `v6DigL_*`, `v6ShiftL_succ`; the bounds side
  uses them too), the code-shaped parser as a composition of its phases (`ipv6Parse_eq`: start, main
  loop, IPv4 tail, final shift) and what a successful run of each loop guarantees (`mainLoop_spec`, `v4Loop_spec`:
  the invariant of the state, `Inv`: eight 16-bit pieces, zeros from the current piece on; and that only ASCII
  units were stepped over), which gives the range of the result (`parse_good`) and the accepted input (`parse_ascii`).
-/
namespace Upa.Proofs.V6
open Upa

/-! ## the equations of the list model's loops -/

theorem getHexL_zero (p : List Nat) (v n : Nat) : Impl.getHexNumber 0 p v n = (v, n, p) := by
  rw [Impl.getHexNumber]

theorem getHexL_nil (m v n : Nat) : Impl.getHexNumber m [] v n = (v, n, []) := by
  cases m <;> simp [Impl.getHexNumber]

theorem getHexL_cons (m c : Nat) (r : List Nat) (v n : Nat) :
    Impl.getHexNumber (m + 1) (c :: r) v n =
      if isHex c = true then Impl.getHexNumber m r (v * 0x10 + hexVal c) (n + 1) else (v, n, c :: r) := by
  rw [Impl.getHexNumber]

theorem getHexL_len : ∀ (l : List Nat) (max v n : Nat), l.length ≤ max →
    Impl.getHexNumber max l v n = Impl.getHexNumber l.length l v n := by
  intro l
  induction l with
  | nil => intro max v n _; rw [getHexL_nil, getHexL_nil]
  | cons c r ih =>
    intro max v n h
    cases max with
    | zero => simp at h
    | succ m =>
      simp only [List.length_cons] at h ⊢
      rw [getHexL_cons, getHexL_cons, ih m _ _ (by omega)]

theorem v6DigL_nil (piece : Nat) : Impl.v6Digits [] piece = some (piece, []) := by rw [Impl.v6Digits]

theorem v6DigL_cons (d : Nat) (r : List Nat) (piece : Nat) :
    Impl.v6Digits (d :: r) piece =
      if isDigit d = true then
        (if piece = 0 then none
         else if piece * 10 + (d - 0x30) > 255 then none else Impl.v6Digits r (piece * 10 + (d - 0x30)))
      else some (piece, d :: r) := by
  rw [Impl.v6Digits]

theorem v6ShiftL_succ (diff compress k : Nat) (l : List Nat) :
    Impl.v6Shift diff compress (k + 1) l =
      Impl.v6Shift diff compress k ((l.set (compress + k + diff) (l.getD (compress + k) 0)).set (compress + k) 0) := by
  rw [Impl.v6Shift]

theorem getHex_lt : ∀ (max : Nat) (p : List Nat) (v n : Nat),
    (Impl.getHexNumber max p v n).1 < (v + 1) * 16 ^ max := by
  intro max
  induction max with
  | zero => intro p v n; simp [getHexL_zero]
  | succ m ih =>
    intro p v n
    have hpos : 0 < 16 ^ (m + 1) := Nat.pow_pos (by omega)
    cases p with
    | nil =>
      rw [getHexL_nil]
      calc v < v + 1 := by omega
        _ = (v + 1) * 1 := by omega
        _ ≤ (v + 1) * 16 ^ (m + 1) := Nat.mul_le_mul_left _ hpos
    | cons c r =>
      rw [getHexL_cons]
      split
      · rename_i hc
        have h1 : v * 0x10 + hexVal c + 1 ≤ (v + 1) * 16 := by have := hexVal_lt _ hc; omega
        calc (Impl.getHexNumber m r (v * 0x10 + hexVal c) (n + 1)).1
            < (v * 0x10 + hexVal c + 1) * 16 ^ m := ih _ _ _
          _ ≤ ((v + 1) * 16) * 16 ^ m := Nat.mul_le_mul_right _ h1
          _ = (v + 1) * 16 ^ (m + 1) := by rw [Nat.pow_succ, Nat.mul_assoc, Nat.mul_comm 16]
      · calc v < v + 1 := by omega
          _ = (v + 1) * 1 := by omega
          _ ≤ (v + 1) * 16 ^ (m + 1) := Nat.mul_le_mul_left _ hpos

/-- `l` is ASCII if `rest` is: what is known of the input `l` of a scanner that steps only over ASCII units and
    leaves `rest` -/
def AsciiPre (l rest : List Nat) : Prop := (∀ c ∈ rest, c < 0x80) → ∀ c ∈ l, c < 0x80

theorem AsciiPre.refl (l : List Nat) : AsciiPre l l := id

theorem AsciiPre.cons {c : Nat} {r rest : List Nat} (hc : c < 0x80) (h : AsciiPre r rest) : AsciiPre (c :: r) rest :=
  fun hr => List.forall_mem_cons.2 ⟨hc, h hr⟩

theorem AsciiPre.trans {l m r : List Nat} (h1 : AsciiPre l m) (h2 : AsciiPre m r) : AsciiPre l r :=
  fun hr => h1 (h2 hr)

theorem getHex_prefix : ∀ (max : Nat) (l : List Nat) (v n : Nat), AsciiPre l (Impl.getHexNumber max l v n).2.2
  | 0, l, v, n => by rw [getHexL_zero]; exact .refl l
  | m + 1, [], v, n => by rw [getHexL_nil]; exact .refl []
  | m + 1, c :: r, v, n => by
    rw [getHexL_cons]
    split
    · rename_i hc; exact (getHex_prefix m r _ _).cons (isHex_lt c hc)
    · exact .refl _

/-- what `ipv6_parse` returns, and every intermediate `address[]`: eight `uint16_t` -/
def Good (a : List Nat) : Prop := a.length = 8 ∧ ∀ x ∈ a, x < 65536

theorem Good_set (a : List Nat) (i v : Nat) (h : Good a) (hv : v < 65536) : Good (a.set i v) := by
  refine ⟨by simp [h.1], ?_⟩
  intro x hx
  rcases List.mem_or_eq_of_mem_set hx with h1 | h1
  · exact h.2 x h1
  · omega

/-- `address[]` is zero-initialised and written only below the piece index: the reason why the final shift may
    overwrite its target range and why the C++ shift equals the Standard's swaps -/
def ZerosFrom (a : List Nat) (k : Nat) : Prop := ∀ j, k ≤ j → a.getD j 0 = 0

structure Inv (st : Impl.V6St) : Prop where
  good : Good st.address
  le8 : st.pieceIndex ≤ 8
  cmp : st.compress ≤ st.pieceIndex
  zeros : ZerosFrom st.address st.pieceIndex

theorem ZerosFrom_set (a : List Nat) (k v : Nat) (h : ZerosFrom a k) : ZerosFrom (a.set k v) (k + 1) := by
  intro j hj
  rw [getD_set, if_neg (by omega)]
  exact h j (by omega)

/-- state after storing a piece -/
def stPut (st : Impl.V6St) (value : Nat) : Impl.V6St :=
  { st with address := st.address.set st.pieceIndex value, pieceIndex := st.pieceIndex + 1 }

/-- state after a "::" -/
def stCompress (st : Impl.V6St) : Impl.V6St :=
  { st with pieceIndex := st.pieceIndex + 1, compress := st.pieceIndex + 1 }

theorem Inv.init : Inv {} :=
  ⟨by constructor <;> decide, by simp, by simp, fun j _ => by
    have := getD_forall (P := (· < 1)) (l := [0, 0, 0, 0, 0, 0, 0, 0]) (d := 0) (by decide) (by omega) j
    exact Nat.lt_one_iff.1 this⟩

theorem Inv.put {st : Impl.V6St} (h : Inv st) (h8 : st.pieceIndex ≠ 8) {value : Nat} (hv : value < 65536) :
    Inv (stPut st value) :=
  ⟨Good_set _ _ _ h.good hv, by have := h.le8; simp [stPut]; omega, by have := h.cmp; simp [stPut]; omega,
    ZerosFrom_set _ _ _ h.zeros⟩

theorem Inv.compress {st : Impl.V6St} (h : Inv st) (h8 : st.pieceIndex ≠ 8) : Inv (stCompress st) :=
  ⟨h.good, by have := h.le8; simp [stCompress]; omega, by simp [stCompress],
    fun j hj => h.zeros j (by simp [stCompress] at hj; omega)⟩

/-- one iteration of the main loop, with the result of the bounded hex read named -/
theorem mainLoop_step (f c : Nat) (r : List Nat) (st : Impl.V6St) (value n : Nat) (p' : List Nat)
    (hg : Impl.getHexNumber 4 (c :: r) 0 0 = (value, n, p')) :
    Impl.v6MainLoop (f + 1) (c :: r) st =
      if st.pieceIndex = 8 then none
      else if c = 0x3A then
        (if st.compress ≠ 0 then none else Impl.v6MainLoop f r (stCompress st))
      else match (generalizing := false) p' with
        | [] => Impl.v6MainLoop f [] (stPut st value)
        | ch :: p1 =>
          if ch = 0x2E then (if n = 0 then none else some (st, some (c :: r)))
          else if ch = 0x3A then (if p1 = [] then none else Impl.v6MainLoop f p1 (stPut st value))
          else none := by
  rw [Impl.v6MainLoop.eq_3]
  simp only [hg]
  rfl

/-- `v4.getD []` is what the run leaves for the IPv4 tail (nothing, if it ran to the end of the input) -/
theorem mainLoop_spec : ∀ (fuel : Nat) (p : List Nat) (st st' : Impl.V6St) (v4 : Option (List Nat)),
    Inv st → Impl.v6MainLoop fuel p st = some (st', v4) → Inv st' ∧ AsciiPre p (v4.getD []) := by
  intro fuel
  induction fuel with
  | zero => intro p st st' v4 _ h; simp [Impl.v6MainLoop] at h
  | succ f ih =>
    intro p st st' v4 hinv h
    cases p with
    | nil => simp [Impl.v6MainLoop] at h; obtain ⟨rfl, rfl⟩ := h; exact ⟨hinv, .refl []⟩
    | cons c r =>
      generalize hg : Impl.getHexNumber 4 (c :: r) 0 0 = g at h
      obtain ⟨value, n, p'⟩ := g
      rw [mainLoop_step f c r st value n p' hg] at h
      have hpre : AsciiPre (c :: r) p' := by have := getHex_prefix 4 (c :: r) 0 0; rwa [hg] at this
      by_cases h8 : st.pieceIndex = 8
      · simp [h8] at h
      · rw [if_neg h8] at h
        have hset : Inv (stPut st value) :=
          hinv.put h8 (by have := getHex_lt 4 (c :: r) 0 0; rw [hg] at this; simpa using this)
        by_cases hc : c = 0x3A
        · rw [if_pos hc] at h
          by_cases hcm : st.compress ≠ 0
          · simp [hcm] at h
          · rw [if_neg hcm] at h
            obtain ⟨h1, h2⟩ := ih _ _ _ _ (hinv.compress h8) h
            exact ⟨h1, h2.cons (by omega)⟩
        · rw [if_neg hc] at h
          cases p' with
          | nil =>
            obtain ⟨h1, h2⟩ := ih _ _ _ _ hset h
            exact ⟨h1, hpre.trans h2⟩
          | cons ch p1 =>
            simp only at h
            by_cases hdot : ch = 0x2E
            · rw [if_pos hdot] at h
              by_cases hn : n = 0
              · simp [hn] at h
              · rw [if_neg hn] at h
                simp at h
                obtain ⟨rfl, rfl⟩ := h
                exact ⟨hinv, .refl _⟩
            · rw [if_neg hdot] at h
              by_cases hcol : ch = 0x3A
              · rw [if_pos hcol] at h
                by_cases hp1 : p1 = []
                · simp [hp1] at h
                · rw [if_neg hp1] at h
                  obtain ⟨h1, h2⟩ := ih _ _ _ _ hset h
                  exact ⟨h1, hpre.trans (h2.cons (by omega))⟩
              · simp [hcol] at h

/-- state after one dotted number -/
def stV4 (st : Impl.V6St) (piece ns' : Nat) : Impl.V6St :=
  { address := st.address.set st.pieceIndex ((st.address.getD st.pieceIndex 0 * 0x100 + piece) % 65536),
    pieceIndex := if ns' % 2 = 0 then st.pieceIndex + 1 else st.pieceIndex,
    compress := st.compress }

/-- one dotted number of the IPv4 tail, read from `l` (the text behind the '.', if one was due) -/
def v4Body (f ns : Nat) (st : Impl.V6St) (l : List Nat) : Option Impl.V6St :=
  match l with
  | [] => none
  | d :: r' =>
    if (!isDigit d) = true then none
    else match Impl.v6Digits r' (d - 0x30) with
      | none => none
      | some (piece, rest) => Impl.v6V4Loop f rest (ns + 1) (stV4 st piece (ns + 1))

/-- one iteration of the IPv4 tail: skip the '.' that every number but the first needs, then `v4Body` -/
theorem v4Loop_step (f c : Nat) (r : List Nat) (ns : Nat) (st : Impl.V6St) :
    Impl.v6V4Loop (f + 1) (c :: r) ns st =
      match (if ns > 0 then (if c = 0x2E ∧ ns < 4 then some r else none) else some (c :: r)) with
      | none => none
      | some l => v4Body f ns st l := by
  rw [Impl.v6V4Loop.eq_3]
  generalize (if ns > 0 then (if c = 0x2E ∧ ns < 4 then some r else none) else some (c :: r)) = q
  rcases q with _ | _ | ⟨d, r'⟩
  · rfl
  · rfl
  · simp only [v4Body, stV4]
    by_cases hd : (!isDigit d) = true
    · simp only [hd, if_true]
    · simp only [hd]
      cases Impl.v6Digits r' (d - 0x30) with
      | none => rfl
      | some pr =>
        obtain ⟨piece, rest⟩ := pr
        simp only
        by_cases hp : (ns + 1) % 2 = 0
        · simp only [hp, if_true]
        · simp only [hp, if_false]

theorem v4Loop_nil (f ns : Nat) (st : Impl.V6St) :
    Impl.v6V4Loop (f + 1) [] ns st = if ns ≠ 4 then none else some st := by
  rw [Impl.v6V4Loop]
  exact Nat.succ_ne_zero f

theorem v6Digits_le : ∀ (l : List Nat) (v x : Nat) (rest : List Nat), v ≤ 255 →
    Impl.v6Digits l v = some (x, rest) → x ≤ 255 ∧ AsciiPre l rest := by
  intro l
  induction l with
  | nil => intro v x rest hv h; simp [v6DigL_nil] at h; obtain ⟨rfl, rfl⟩ := h; exact ⟨hv, .refl []⟩
  | cons d r ih =>
    intro v x rest hv h
    rw [v6DigL_cons] at h
    by_cases hd : isDigit d = true
    · rw [if_pos hd] at h
      by_cases h0 : v = 0
      · simp [h0] at h
      · rw [if_neg h0] at h
        by_cases hgt : v * 10 + (d - 0x30) > 255
        · simp [hgt] at h
        · rw [if_neg hgt] at h
          have := ih _ _ _ (by omega) h
          exact ⟨this.1, this.2.cons (isDigit_lt d hd)⟩
    · rw [if_neg hd] at h
      simp at h
      obtain ⟨rfl, rfl⟩ := h
      exact ⟨hv, .refl _⟩

/-- zero pattern during the IPv4 tail: before an odd-numbered part the current piece and everything
    after it is zero; before an even-numbered part the current piece holds one byte. -/
def V4Z (ns : Nat) (st : Impl.V6St) : Prop :=
  (ns % 2 = 0 → ZerosFrom st.address st.pieceIndex) ∧
  (ns % 2 = 1 → st.address.getD st.pieceIndex 0 < 256 ∧ ZerosFrom st.address (st.pieceIndex + 1))

theorem V4Z_value (ns : Nat) (st : Impl.V6St) (piece : Nat) (h : V4Z ns st) (hp : piece ≤ 255) :
    st.address.getD st.pieceIndex 0 * 0x100 + piece < 65536 ∧
    (ns % 2 = 0 → st.address.getD st.pieceIndex 0 * 0x100 + piece < 256) := by
  rcases Nat.mod_two_eq_zero_or_one ns with h0 | h1
  · have := h.1 h0 st.pieceIndex (Nat.le_refl _)
    rw [this]; omega
  · have := (h.2 h1).1
    omega

theorem V4Z_step (ns : Nat) (st : Impl.V6St) (piece : Nat) (h : V4Z ns st) (hp : piece ≤ 255) :
    V4Z (ns + 1) (stV4 st piece (ns + 1)) := by
  have hv := V4Z_value ns st piece h hp
  rw [← Nat.mod_eq_of_lt hv.1] at hv
  rcases Nat.mod_two_eq_zero_or_one ns with h0 | h1
  · have e : (ns + 1) % 2 = 1 := by omega
    refine ⟨by omega, fun _ => ?_⟩
    have hpi : (stV4 st piece (ns + 1)).pieceIndex = st.pieceIndex := by simp [stV4, e]
    have hadr : (stV4 st piece (ns + 1)).address =
      st.address.set st.pieceIndex ((st.address.getD st.pieceIndex 0 * 0x100 + piece) % 65536) := rfl
    rw [hpi, hadr]
    constructor
    · rw [getD_set]; split
      · exact hv.2 h0
      · have := h.1 h0 st.pieceIndex (Nat.le_refl _); omega
    · intro j hj
      rw [getD_set, if_neg (by omega)]
      exact h.1 h0 j (by omega)
  · have e : (ns + 1) % 2 = 0 := by omega
    refine ⟨fun _ => ?_, by omega⟩
    have hpi : (stV4 st piece (ns + 1)).pieceIndex = st.pieceIndex + 1 := by simp [stV4, e]
    have hadr : (stV4 st piece (ns + 1)).address =
      st.address.set st.pieceIndex ((st.address.getD st.pieceIndex 0 * 0x100 + piece) % 65536) := rfl
    rw [hpi, hadr]
    intro j hj
    rw [getD_set, if_neg (by omega)]
    exact (h.2 h1).2 j (by omega)

/-- `2 * pieceIndex ≤ 12 + ns`: the tail is entered with `piece_index ≤ 6` (url_ip.h:323)
    and the index moves up after every second number, so it is at most `6 + ns / 2` and ends at most at 8 -/
theorem v4Loop_spec : ∀ (fuel : Nat) (p : List Nat) (ns : Nat) (st st' : Impl.V6St),
    Good st.address → ns ≤ 4 → 2 * st.pieceIndex ≤ 12 + ns → st.compress ≤ st.pieceIndex → V4Z ns st →
    Impl.v6V4Loop fuel p ns st = some st' → Inv st' ∧ ∀ c ∈ p, c < 0x80 := by
  intro fuel
  induction fuel with
  | zero => intro p ns st st' _ _ _ _ _ h; simp [Impl.v6V4Loop] at h
  | succ f ih =>
    intro p ns st st' hg hns hpi hcmp hz h
    cases p with
    | nil =>
      simp [Impl.v6V4Loop] at h
      obtain ⟨h4, rfl⟩ := h
      subst h4
      exact ⟨⟨hg, by omega, hcmp, hz.1 (by omega)⟩, nofun⟩
    | cons c r =>
      rw [v4Loop_step] at h
      split at h
      · simp at h
      · rename_i l hp
        -- `l` is what follows the '.', or all of `c :: r` for the first number
        have hl : ns + 1 ≤ 4 ∧ AsciiPre (c :: r) l := by
          by_cases h0 : ns > 0
          · simp only [h0, if_true] at hp
            split at hp
            · rename_i hdot
              simp only [Option.some.injEq] at hp
              exact ⟨by omega, hp ▸ (AsciiPre.refl r).cons (by omega)⟩
            · simp at hp
          · simp only [h0, if_false, Option.some.injEq] at hp
            exact ⟨by omega, hp ▸ .refl _⟩
        cases l with
        | nil => simp [v4Body] at h
        | cons d r' =>
          simp only [v4Body] at h
          by_cases hd : (!isDigit d) = true
          · simp [hd] at h
          · rw [if_neg hd] at h
            split at h
            · simp at h
            · rename_i piece rest hdig
              have hd' : isDigit d = true := by simpa using hd
              have hle : d - 0x30 ≤ 255 := by have := (isDigit_iff d).1 hd'; omega
              obtain ⟨hpiece, hpre⟩ := v6Digits_le _ _ _ _ hle hdig
              obtain ⟨h1, h2⟩ := ih _ _ _ _ (Good_set _ _ _ hg (Nat.mod_lt _ (by omega))) hl.1
                (by simp only [stV4]; split <;> omega) (by simp only [stV4]; split <;> omega)
                (V4Z_step ns st piece hz hpiece) h
              exact ⟨h1, hl.2 ((hpre.cons (isDigit_lt d hd')) h2)⟩

/-- ipv6_parse before the main loop: a leading "::" (or failure on a single leading ':') -/
def implStart (s : List Nat) : Option (List Nat × Impl.V6St) :=
  match s with
  | 0x3A :: c1 :: r => if c1 ≠ 0x3A then none else some (r, { pieceIndex := 1, compress := 1 })
  | _ => some (s, {})

theorem implStart_compress (r : List Nat) :
    implStart (0x3A :: 0x3A :: r) = some (r, { pieceIndex := 1, compress := 1 }) := rfl

theorem implStart_colon (c1 : Nat) (r : List Nat) (h : c1 ≠ 0x3A) : implStart (0x3A :: c1 :: r) = none :=
  if_pos h

theorem implStart_plain (c : Nat) (r : List Nat) (hc : c ≠ 0x3A) :
    implStart (c :: r) = some (c :: r, {}) := by
  unfold implStart
  split
  · rename_i heq; simp at heq; omega
  · rfl

/-- the two ways the start succeeds -/
theorem implStart_some {s p : List Nat} {st : Impl.V6St} (h : implStart s = some (p, st)) :
    (s = 0x3A :: 0x3A :: p ∧ st = { pieceIndex := 1, compress := 1 }) ∨ (p = s ∧ st = {}) := by
  unfold implStart at h
  split at h
  · split at h
    · cases h
    · rename_i hc1
      simp only [Option.some.injEq, Prod.mk.injEq] at h
      exact Or.inl ⟨by rw [Decidable.not_not.1 hc1, h.1], h.2.symm⟩
  · simp only [Option.some.injEq, Prod.mk.injEq] at h
    exact Or.inr ⟨h.1.symm, h.2.symm⟩

/-- ipv6_parse after the main loop: the IPv4 tail, if the main loop stopped at a '.' -/
def implV4 (F : Nat) (res : Option (Impl.V6St × Option (List Nat))) : Option Impl.V6St :=
  match res with
  | none => none
  | some (st, none) => some st
  | some (st, some p) => if st.pieceIndex > 6 then none else Impl.v6V4Loop F p 0 st

/-- ipv6_parse at the end: the shift loop when there was a "::", else the check for eight pieces -/
def implFinal (st : Impl.V6St) : Option (List Nat) :=
  if st.compress ≠ 0 then
    (if 8 - st.pieceIndex ≠ 0 then
      some (Impl.v6Shift (8 - st.pieceIndex) st.compress (st.pieceIndex - st.compress) st.address)
     else some st.address)
  else if st.pieceIndex ≠ 8 then none
  else some st.address

theorem ipv6Parse_eq (s : List Nat) :
    Impl.ipv6Parse s =
      if s.length < 2 then none
      else (implStart s).bind (fun ps =>
        (implV4 (s.length + 1) (Impl.v6MainLoop (s.length + 1) ps.1 ps.2)).bind implFinal) := by
  unfold Impl.ipv6Parse
  split
  · rfl
  · show (match implStart s with
      | none => none
      | some (p, st) => _) = _
    cases implStart s with
    | none => rfl
    | some ps =>
      obtain ⟨p, st⟩ := ps
      simp only [Option.bind]
      cases Impl.v6MainLoop (s.length + 1) p st with
      | none => rfl
      | some res =>
        obtain ⟨st', v4⟩ := res
        cases v4 with
        | none => rfl
        | some q =>
          simp only [implV4]
          by_cases h6 : st'.pieceIndex > 6
          · simp only [h6, if_true]
          · simp only [h6, if_false]
            cases Impl.v6V4Loop (s.length + 1) q 0 st' <;> rfl

theorem implStart_inv (s p : List Nat) (st : Impl.V6St) (h : implStart s = some (p, st)) : Inv st := by
  rcases implStart_some h with ⟨_, rfl⟩ | ⟨_, rfl⟩
  · exact Inv.init.compress (by decide)
  · exact Inv.init

theorem implV4_spec (F fuel : Nat) (p : List Nat) (st st' : Impl.V6St) (hinv : Inv st)
    (h : implV4 F (Impl.v6MainLoop fuel p st) = some st') : Inv st' ∧ ∀ c ∈ p, c < 0x80 := by
  unfold implV4 at h
  split at h
  · simp at h
  · rename_i st1 heq
    simp at h; subst h
    obtain ⟨h1, h2⟩ := mainLoop_spec _ _ _ _ _ hinv heq
    exact ⟨h1, h2 nofun⟩
  · rename_i st1 q heq
    obtain ⟨h1, h2⟩ := mainLoop_spec _ _ _ _ _ hinv heq
    split at h
    · simp at h
    · obtain ⟨h3, h4⟩ := v4Loop_spec _ _ _ _ _ h1.good (by omega) (by omega) h1.cmp
        ⟨fun _ => h1.zeros, fun h => by omega⟩ h
      exact ⟨h3, h2 h4⟩

theorem shift_good (diff c : Nat) : ∀ (k : Nat) (a : List Nat), Good a → Good (Impl.v6Shift diff c k a) := by
  intro k
  induction k with
  | zero => intro a h; exact h
  | succ k ih =>
    intro a h
    rw [v6ShiftL_succ]
    exact ih _ (Good_set _ _ _ (Good_set _ _ _ h (getD_forall (P := (· < 65536)) h.2 (by omega) _)) (by omega))

theorem implFinal_good (st : Impl.V6St) (a : List Nat) (hinv : Inv st) (h : implFinal st = some a) :
    Good a := by
  unfold implFinal at h
  split at h
  · split at h
    · simp at h; subst h; exact shift_good _ _ _ _ hinv.good
    · simp at h; subst h; exact hinv.good
  · split at h
    · simp at h
    · simp at h; subst h; exact hinv.good

theorem parse_phases (s a : List Nat) (h : Impl.ipv6Parse s = some a) :
    ∃ p st st', 2 ≤ s.length ∧ implStart s = some (p, st) ∧
      implV4 (s.length + 1) (Impl.v6MainLoop (s.length + 1) p st) = some st' ∧
      implFinal st' = some a ∧ Inv st' ∧ ∀ c ∈ p, c < 0x80 := by
  rw [ipv6Parse_eq] at h
  split at h
  · simp at h
  · rename_i hl
    cases hs : implStart s with
    | none => simp [hs] at h
    | some ps =>
      obtain ⟨p, st⟩ := ps
      simp only [hs, Option.bind] at h
      cases hm : implV4 (s.length + 1) (Impl.v6MainLoop (s.length + 1) p st) with
      | none => simp [hm] at h
      | some st' =>
        simp only [hm] at h
        exact ⟨p, st, st', by omega, rfl, hm, h, implV4_spec _ _ _ _ _ (implStart_inv s p st hs) hm⟩

theorem parse_good (s a : List Nat) (h : Impl.ipv6Parse s = some a) : Good a := by
  obtain ⟨p, st, st', _, _, _, hf, hinv, _⟩ := parse_phases s a h
  exact implFinal_good st' a hinv hf

theorem parse_ascii (s a : List Nat) (h : Impl.ipv6Parse s = some a) : ∀ c ∈ s, c < 0x80 := by
  obtain ⟨p, st, _, _, hs, _, _, _, hp⟩ := parse_phases s a h
  refine (?_ : AsciiPre s p) hp
  rcases implStart_some hs with ⟨rfl, _⟩ | ⟨rfl, _⟩
  · exact ((AsciiPre.refl _).cons (by omega)).cons (by omega)
  · exact .refl _

end Upa.Proofs.V6
