import Upa.Proofs.BoundsUrlVerdictFile
import Upa.Proofs.BoundsUrlVerdictAuth
import Upa.Proofs.BoundsUrlVerdictRel
import Upa.Proofs.EncIndep
/-
  C04f: the blocks of scheme_state and scheme_start_state; the whole chain from the block lemmas of BoundsUrlVerdictAuth /
  File / Rel (`sound_schemeStart`: entered at any state it answers what the list-model function of that state answers),
  url_parse (`sim_urlParse`) and url_parse with its whitespace removal (`urlParseVerdictB_agrees`).
-/
namespace Upa.Impl.B
open UP Upa.Proofs.C10b
open Upa.Proofs.C09 (isOk isOk_opaquePath)

section listside
variable (idna : Idna) (base : Option Url) (ov : Option Override) (u : Url) (c0 : Nat) (r0 body rest scheme : List Nat)
  (hb : r0.takeWhile isSchemeChar = body) (hr : r0.dropWhile isSchemeChar = rest)
  (hs : (c0 :: body).map (· ||| 0x20) = scheme)

include hb hr hs in
theorem isOk_schemeState_ov (h : isSch ov rest = true) (ho : ov.isSome = true) :
    isOk (schemeState idna base ov u (c0 :: r0)) =
      if u.isSpecial != isSpecialScheme scheme then false
      else if isFileScheme scheme && (u.hasCredentials || !u.port.isNone) then false
      else if u.isFile && (u.hostText == []) then false
      else true := by
  rw [schemeState_ov idna base ov u c0 r0 body rest scheme hb hr hs h ho]
  unfold Proofs.C03.implSchemeFin
  have e1 : (!u.port.isNone) = u.port.isSome := by cases u.port <;> rfl
  have e2 : (u.hostText == []) = decide (u.hostText = []) := by
    cases u.hostText <;> rfl
  rw [e1, e2]
  generalize (u.isSpecial != isSpecialScheme _) = A
  generalize (isFileScheme _ && (u.hasCredentials || u.port.isSome)) = B
  generalize (u.isFile && decide (u.hostText = [])) = C
  cases A <;> cases B <;> cases C <;> rfl

end listside

/-- the three `ignored` tests of a scheme setter run -/
theorem ov_leaf (c : Ctx) (n : Nat) (A B C : Bool) :
    (if A = true then (pure (.inr false) : R (M ⊕ Bool)) else if B = true then pure (.inr false)
      else if C = true then pure (.inr false) else pure (.inr true)).sat
      (Fwd c n (if A = true then false else if B = true then false else if C = true then false else true)) := by
  cases A <;> cases B <;> cases C <;> exact R.sat_pure rfl

theorem fwd_scheme (c : Ctx) (W : c.Wf) (p : Nat) (sp fl : Bool) (u : Url) (hG : Sim c ⟨.scheme, p, sp, fl⟩ u) :
    (bScheme c.a c.first c.last c.ov c.base c.ui c.fuel ⟨.scheme, p, sp, fl⟩).sat
      (Fwd c (rank .scheme) (isOk (schemeState c.idna c.baseU c.ov u (c.D p)))) := by
  obtain ⟨hp, ha⟩ : p < c.last ∧ isAlpha c.a[p]! = true := hG.scheme rfl
  obtain ⟨h1, h2, hsp, hfl⟩ := hG.inv
  have hl := W.hl
  have hf := W.hf
  have hD : c.D p = c.a[p]! :: c.D (p + 1) := c.D_ascii W p hp (isAlpha_lt _ ha)
  -- the scan for the end of the scheme is the list model's; then each leaf of the block is one `schemeState_*` equation
  unfold bScheme
  dsimp only
  refine R.sat_ptr (R.sat_range ?_)
  refine R.sat_bind (findIf_toLast c.a c.first c.last _ hl (p + 1) (by omega) (by omega)) ?_
  intro eos heos
  obtain ⟨e1, e2', -, -⟩ := id heos
  obtain ⟨hbody, hrest⟩ := Dl_scan_pos c.e c.a isSchemeChar isSchemeChar_lt c.last hl (p + 1) eos
    (by simpa using heos)
  change (c.D (p + 1)).takeWhile isSchemeChar = _ at hbody
  change (c.D (p + 1)).dropWhile isSchemeChar = c.D eos at hrest
  rw [hD]
  refine R.sat_bind (P := fun b => b = isSch c.ov (c.D eos) ∧
    (b = true → c.ov.isSome = false → eos < c.last ∧ c.D eos = 0x3A :: c.D (eos + 1))) ?_ ?_
  · refine R.sat_if (fun hne => ?_) (fun hne => ?_)
    · have hlt : eos < c.last := by omega
      refine R.sat_read hl (R.sat_pure ?_)
      by_cases hc : c.a[eos]! = 0x3A
      · have hd := D_head_eq c W eos 0x3A (by omega) hlt hc
        rw [hd]
        exact ⟨by simp [isSch, hc], fun _ _ => ⟨hlt, rfl⟩⟩
      · obtain ⟨x, t, hd, hk, -, -⟩ := c.D_peek W eos hlt
        have hx : x ≠ 0x3A := fun h => hc ((hk _ (by omega)).1 h)
        rw [hd]
        have hf1 : (c.a[eos]! == 0x3A) = false := by simpa using hc
        rw [hf1]
        exact ⟨by simp [isSch, hx], fun hh => by cases hh⟩
    · have he : eos = c.last := by omega
      refine R.sat_pure ⟨?_, ?_⟩
      · rw [he, c.D_end]; rfl
      · intro h1 h2; rw [h2] at h1; cases h1
  · intro isScheme ⟨hi1, hi2⟩
    cases isScheme with
    | false =>
      simp only [Bool.false_eq_true, if_false]
      rw [schemeState_no c.idna c.baseU c.ov u _ _ _ hrest hi1.symm]
      by_cases hov : c.ov.isNone = true
      · rw [if_pos hov, if_pos hov]
        refine R.sat_pure ?_
        rw [← hD]
        exact Fwd.goto (Sim.of (by simpa using hov) hsp hfl) rfl
      · rw [if_neg hov, if_neg hov]
        exact R.sat_pure rfl
    | true =>
      simp only [if_true]
      refine R.sat_bind (schemeCopy_sat c.a c.first c.last c.fuel p eos hl h1 (by omega) e2' hf) ?_
      intro scheme hsch
      have hs : (c.a[p]! :: slice c.a (p + 1) eos).map (· ||| 0x20) = scheme := by
        rw [hsch, slice_cons c.a p eos (by omega) (by omega)]
      by_cases hov : c.ov.isSome = true
      · obtain rfl := hG.u0 hov (of_decide_eq_true rfl)
        rw [if_pos hov, isOk_schemeState_ov c.idna c.baseU c.ov c.u0 _ _ _ _ _ hbody hrest hs hi1.symm hov]
        simp only [Ctx.ui, UrlInfo.ofUrl]
        exact ov_leaf _ _ _ _ _
      · have hov' : c.ov.isSome = false := by simpa using hov
        have hnone : c.ov = none := by
          cases h : c.ov with
          | none => rfl
          | some x => rw [h] at hov'; cases hov'
        obtain ⟨hlt, hDe⟩ := hi2 rfl hov'
        have hdrop : (c.D eos).drop 1 = c.D (eos + 1) := by rw [hDe]; rfl
        have hi := hi1.symm
        rw [if_neg hov]
        refine R.sat_ptr ?_
        by_cases hfs : isFileScheme scheme = true
        · rw [if_pos hfs]
          refine R.sat_pure ?_
          rw [schemeState_file c.idna c.baseU c.ov u _ _ _ _ _ hbody hrest hs hi hov' hfs, hdrop]
          exact Fwd.goto (u' := { u with scheme := scheme }) (Sim.late rfl rfl) rfl
        · rw [if_neg hfs]
          have hfs' : isFileScheme scheme = false := by simpa using hfs
          by_cases hss : isSpecialScheme scheme = true
          · rw [if_pos hss]
            simp only [Ctx.base]
            cases hbU : c.baseU with
            | none =>
              simp only [Option.map]
              refine R.sat_pure ?_
              rw [schemeState_sas c.idna none c.ov u _ _ _ _ _ hbody hrest hs hi hov' hfs' hss
                (by intro b hb; cases hb), hdrop]
              exact Fwd.goto (u' := { u with scheme := scheme }) (Sim.of hnone rfl rfl) rfl
            | some b =>
              simp only [Option.map, BaseInfo.ofUrl]
              by_cases hsame : b.scheme = scheme
              · rw [if_pos (by simp [hsame])]
                refine R.sat_pure ?_
                rw [schemeState_sroa c.idna (some b) c.ov u _ _ _ _ _ hbody hrest hs hi hov' hfs' hss b rfl hsame,
                  hdrop]
                exact Fwd.goto (u' := { u with scheme := scheme }) (Sim.of hnone rfl rfl fun _ => by rw [hbU]; rfl)
                  (verdictAt_sroa hbU _ _ _ _)
              · rw [if_neg (by simpa using fun h : scheme = b.scheme => hsame h.symm)]
                refine R.sat_pure ?_
                rw [schemeState_sas c.idna (some b) c.ov u _ _ _ _ _ hbody hrest hs hi hov' hfs' hss
                  (by intro b' hb'; cases hb'; exact hsame), hdrop]
                exact Fwd.goto (u' := { u with scheme := scheme }) (Sim.of hnone rfl rfl) rfl
          · rw [if_neg hss]
            have hss' : isSpecialScheme scheme = false := by simpa using hss
            refine peekIsB_if (by omega) hl (fun hl2 hc2 => ?_) (fun hsl2 => ?_)
            · refine R.sat_ptr (R.sat_pure ?_)
              have hd2 := D_head_eq c W (eos + 1) 0x2F (by omega) hl2 hc2
              rw [schemeState_poa c.idna c.baseU c.ov u _ _ _ _ _ hbody hrest hs hi hov' hfs' hss'
                (c.D (eos + 1 + 1)) (by rw [hdrop]; exact hd2)]
              exact Fwd.goto (u' := { u with scheme := scheme }) (Sim.of hnone rfl rfl) rfl
            · refine R.sat_pure ?_
              have hd2 : ∀ r, (c.D eos).drop 1 ≠ 0x2F :: r := by
                rw [hdrop]
                exact D_head_ne c W (eos + 1) 0x2F (by omega) hsl2
              rw [schemeState_opaque c.idna c.baseU c.ov u _ _ _ _ _ hbody hrest hs hi hov' hfs' hss' hd2, isOk_opaquePath]
              exact Fwd.tail Bnd.of

section
variable (c : Ctx) (W : c.Wf)
include W

theorem fwd_schemeStart (p : Nat) (sp fl : Bool) (u : Url) (hG : Sim c ⟨.schemeStart, p, sp, fl⟩ u) :
    (bSchemeStart c.a c.first c.last c.ov ⟨.schemeStart, p, sp, fl⟩).sat
      (Fwd c (rank .schemeStart) (verdictAt c ⟨.schemeStart, p, sp, fl⟩ u)) := by
  obtain ⟨h1, h2, h3, h4⟩ := hG.inv
  have hl := W.hl
  -- the answer of the list model, by the first unit
  have hlv : verdictAt c ⟨.schemeStart, p, sp, fl⟩ u =
      isOk (if p < c.last ∧ isAlpha c.a[p]! = true then schemeState c.idna c.baseU c.ov u (c.D p)
        else if c.ov.isNone then noSchemeState c.idna c.baseU c.ov u (c.D p) else ⟨.failure, u⟩) := by
    simp only [verdictAt, stateFn]
    by_cases hp : p < c.last
    · obtain ⟨ch, t, hD, -, hq, -⟩ := c.D_peek W p hp
      rw [hD]
      simp only [hq isAlpha isAlpha_lt, hp, true_and]
    · rw [show c.D p = [] from Dl_nil c.e c.a p c.last (by omega)]
      simp only [hp, false_and, if_false]
  rw [hlv]
  unfold bSchemeStart
  refine R.sat_bind (P := fun b => b = decide (p < c.last ∧ isAlpha c.a[p]! = true))
    (R.sat_if (fun hne => ?_) (fun he => R.sat_pure ?_)) ?_
  · have hp : p < c.last := by dsimp only at hne; omega
    exact R.sat_read hl (R.sat_pure (by simp [hp]))
  · have : ¬ p < c.last := by dsimp only at he; omega
    simp [this]
  rintro b rfl
  by_cases hsch : p < c.last ∧ isAlpha c.a[p]! = true
  · rw [decide_eq_true hsch, if_pos rfl, if_pos hsch]
    exact R.sat_pure (Fwd.goto ⟨⟨h1, h2⟩, fun _ => ⟨h3, h4⟩, nofun, fun _ => hsch,
      fun (h : 2 ≤ 1) => absurd h (by decide), fun ho _ => hG.u0 ho (Nat.zero_le _)⟩ rfl)
  · rw [decide_eq_false hsch, if_neg Bool.false_ne_true, if_neg hsch]
    split
    · rename_i hn
      exact R.sat_pure (Fwd.goto (Sim.of (Option.isNone_iff_eq_none.mp hn) h3 h4) rfl)
    · exact R.sat_pure rfl

theorem sound_noScheme : Sound c (kNoScheme c) (rank .noScheme) :=
  .stepAt .noScheme (fwd_noScheme c W) <| .stepAt .specialRelativeOrAuthority (fwd_sroa c W) <|
  .stepAt .pathOrAuthority (fwd_pathOrAuthority c W) <| .stepAt .relative (fwd_relative c W) <|
  .stepAt .relativeSlash (fwd_relativeSlash c W) <| .stepAt .specialAuthoritySlashes (fwd_sas c W) <|
  .stepAt .specialAuthorityIgnoreSlashes (fwd_sais c W) <| .stepAt .authority (fwd_authority c W) <|
  .step (fun ⟨st, p, sp, fl⟩ u hG hs => fwd_host c W st hs p sp fl u hG) <|
  .stepAt .port (fwd_port c W) <| .stepAt .file (fwd_file c W) <| .stepAt .fileSlash (fwd_fileSlash c W) <|
  .stepAt .fileHost (fwd_fileHost c W) <| fun m u => sound_pathStart c W m u

/-- The chain of blocks, entered at any state, answers what the list-model function of that state answers on the
    decoded rest. -/
theorem sound_schemeStart : Sound c (kSchemeStart c) (rank .schemeStart) :=
  .stepAt .schemeStart (fwd_schemeStart c W) <| .stepAt .scheme (fwd_scheme c W) <| sound_noScheme c W

theorem tail_kNoScheme (m : M) (hb : Bnd c m) (hs : isTail m.state = true) : kNoScheme c m = .ok true :=
  have hr := isTail_rank.mp hs
  (sound_noScheme c W m c.u0 (Sim.tail hb hr) (Nat.le_trans (by decide) hr)).trans (congrArg _ (verdictAt_tail hr))

omit W in
theorem rank_ofOverride (ov : Option Override) : rank (St.ofOverride ov) = 0 ∨ 10 ≤ rank (St.ofOverride ov) := by
  cases ov with
  | none => exact Or.inl rfl
  | some o => cases o <;> first | exact Or.inl rfl | exact Or.inr (by decide)

/-- url_parse starts at `state_override`, else at scheme_start_state, with the record it was called on -/
theorem sim_init : Sim c ⟨St.ofOverride c.ov, c.first, c.ui.special, c.ui.file⟩ c.u0 := by
  have hr := rank_ofOverride c.ov
  exact ⟨⟨Nat.le_refl _, W.h⟩, fun _ => ⟨rfl, rfl⟩,
    fun (h : (St.ofOverride c.ov).needsBase = true) => by have := needsBase_rank h; omega,
    fun (h : St.ofOverride c.ov = .scheme) => by rw [h] at hr; exact absurd hr (by decide),
    fun (h1 : 2 ≤ rank (St.ofOverride c.ov)) (h2 : rank (St.ofOverride c.ov) < 10) => by omega, fun _ _ => rfl⟩

omit W in
theorem urlParse_eq_stateFn (p : List Nat) :
    urlParse c.idna c.baseU c.ov c.u0 p = stateFn c (St.ofOverride c.ov) c.u0 p := by
  unfold stateFn
  cases c.ov with
  | none => rfl
  | some o => cases o <;> rfl

theorem sim_urlParse :
    urlParseB c.e c.a c.first c.last c.ov c.base c.ui c.orc c.fuel =
      .ok (isOk (urlParse c.idna c.baseU c.ov c.u0 (c.D c.first))) := by
  rw [urlParseB_eq, urlParse_eq_stateFn]
  exact sound_schemeStart c W _ _ (sim_init c W) (Nat.zero_le _)

end

/-- the states run on a whole buffer that holds `units` without its tabs and newlines -/
theorem sim_buffer (idna : Idna) (e : Enc) (l : List Nat) (base : Option Url) (ov : Option Override) (u : Url)
    (units : List Nat) (hl : l = removeWs units) (hu : UOk e units) :
    urlParseB e l.toArray 0 l.length ov (base.map BaseInfo.ofUrl) (UrlInfo.ofUrl u) (Oracles.real idna e l.toArray) =
      .ok (isOk (urlParse idna base ov u (prep e units))) := by
  let c : Ctx := ⟨idna, e, l.toArray, 0, l.length, ov, base, u, l.length - 0 + 1⟩
  have W : c.Wf := ⟨Nat.zero_le _, by show l.length ≤ l.toArray.size; simp, by show l.length - 0 < l.length - 0 + 1; omega,
    by show UOk e l.toArray.toList; rw [List.toList_toArray, hl]; exact hu.removeWs⟩
  have hD : c.D c.first = prep e units := by
    show decode e (slice l.toArray 0 l.length) = decode e (removeWs units)
    rw [slice_ofList, hl]
  exact hD ▸ sim_urlParse c W

/-- `urlParseVerdictB` (whitespace removal + the instrumented states on the code units, real host parser
    plugged in) answers what the list model answers on the prepared input -/
theorem urlParseVerdictB_agrees (idna : Idna) (e : Enc) (units : List Nat) (base : Option Url)
    (ov : Option Override) (u : Url) (hu : UOk e units) :
    urlParseVerdictB idna e units base ov u = some (isOk (urlParse idna base ov u (prep e units))) := by
  unfold urlParseVerdictB urlParseWsB
  simp only []
  have hsz : units.toArray.size = units.length := by simp
  obtain ⟨r, hr, hag⟩ := doRemoveWhitespaceB_agrees units.toArray 0 units.toArray.size
    (units.toArray.size - 0 + 1) (Nat.zero_le _) (Nat.le_refl _) (by omega)
  rw [hr]
  simp only [R.ok_bind]
  rw [hsz, slice_ofList] at hag
  cases r with
  | none =>
    dsimp only
    rw [hsz, sim_buffer idna e units base ov u units hag hu]
  | some buff =>
    dsimp only
    rw [sim_buffer idna e buff base ov u units hag hu]

end Upa.Impl.B
