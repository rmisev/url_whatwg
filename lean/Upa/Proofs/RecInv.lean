import Upa.Proofs.ParserRules
import Upa.Proofs.Percent
/-
  "The parser and the setters keep property P of the record", once, for every P of the form `Inv A`:
  the shape facts between the fields (fixed) and one predicate per field (`A : Alph`).  What the walk
  needs of the predicates is `Closed idna A`: the outputs of the encoders and of the host parser satisfy
  them, the path predicate is kept by the path loop.  The walk is one application of a rule of
  Upa/Proofs/ParserRules.lean per block from the path start state up; the tail blocks (fragment, query, opaque
  path, path, `afterPath`), which have no rule there, are opened here.  The canonical form of C08 (`canonA`, Upa/Proofs/Canon.lean) and the
  normal form of C02b (`normA`, Upa/Proofs/ReparseParsed.lean) are two alphabets.
-/
namespace Upa.Proofs.RecInv
open Upa Upa.Impl Upa.Proofs.C08

/-- one predicate per field of the record.  `host sp`, `query sp`: `sp` is the special flag of the scheme;
    `path sp file`; `fhost`: asked of the host of a file URL in addition; `strict`: the record also
    satisfies the three shape facts that only the normal form asks for (see `PathI`). -/
structure Alph where
  user : List Nat → Prop
  host : Bool → Host → Prop
  fhost : Host → Prop
  path : Bool → Bool → List (List Nat) → Prop
  opq : List Nat → Prop
  query : Bool → List Nat → Prop
  frag : List Nat → Prop
  strict : Prop

/-- What the walk needs of `A`.  Where the clause comes from, for the less obvious ones: the second half of
    `host_parse` is the premise `hne` of `hostState_rule`; `path_drive`: `fileSlashDefault` copies the drive
    segment of a file base; `opq_enc` has `head? ≠ '/'` because the scheme state sends `/…` to another block;
    `opq_prefix`: `stripTrailingSpaces` (search / hash setter, `update`). -/
structure Closed (idna : Idna) (A : Alph) : Prop where
  user_nil : A.user []
  user_enc : ∀ s, A.user (percentEncode userinfoNoEnc s)
  host_parse : ∀ {s sp h}, parseHost idna s (!sp) = some h → A.host sp h ∧ (s ≠ [] → h.text ≠ [])
  host_empty : ∀ sp, A.host sp emptyHost
  fhost_parse : ∀ {s h}, parseHost idna s false = some h → (h.text == sLocalhost) = false → A.fhost h
  fhost_empty : A.fhost emptyHost
  path_loop : ∀ sp file, PathLoopInv sp file (A.path sp file)
  path_nil : ∀ sp file, A.path sp file []
  path_drive : ∀ {a c t}, A.path true true ([a, c] :: t) → isNormalizedWindowsDrive a c = true →
    A.path true true [[a, c]]
  opq_enc : ∀ s, (∀ c ∈ s, isQorH c = false) → s.head? ≠ some 0x2F → A.opq (percentEncodeC0 s)
  opq_prefix : ∀ {l l'}, l' <+: l → A.opq l → A.opq l'
  query_enc : ∀ sp q, A.query sp (percentEncode (if sp then specialQueryNoEnc else queryNoEnc) q)
  frag_enc : ∀ s, A.frag (percentEncode fragmentNoEnc s)

variable {A : Alph}

/-- scheme, credentials, host, port; as a predicate of the fields it reads, so that a record which differs
    in other fields has the same `AuthI` by definition -/
structure AuthF (A : Alph) (sp file : Bool) (s un pw : List Nat) (ho : Option Host) (ht : List Nat)
    (po : Option Nat) : Prop where
  scheme : schemeOk s = true
  port : ∀ p, po = some p → p ≤ 65535 ∧ defaultPort s ≠ some p
  spHost : sp = true → file = false → ∃ h, ho = some h ∧ h.text ≠ []
  noCred : (ht = [] ∨ file = true) → un = [] ∧ pw = [] ∧ po = none
  fileHost : file = true → ∃ h, ho = some h
  user : A.user un
  pass : A.user pw
  host : ∀ h, ho = some h → A.host sp h
  hostFile : file = true → ∀ h, ho = some h → A.fhost h

abbrev AuthI (A : Alph) (u : Url) : Prop :=
  AuthF A u.isSpecial u.isFile u.scheme u.username u.password u.host u.hostText u.port

/-- the path of a finished URL -/
structure PathF (A : Alph) (spc file : Bool) (ho : Option Host) (op : Bool) (os : List Nat) (pa : List (List Nat))
    (q f : Option (List Nat)) : Prop where
  sp : spc = true → op = false ∧ pa ≠ []
  opq : op = true → pa = [] ∧ A.opq os ∧
    (A.strict → ho = none ∧ (q = none → f = none → os.getLast? ≠ some 0x20))
  lst : op = false → os = [] ∧ A.path spc file pa ∧
    (A.strict → spc = false → ho = none → pa ≠ [])

abbrev PathI (A : Alph) (u : Url) : Prop :=
  PathF A u.isSpecial u.isFile u.host u.hasOpaquePath u.opaquePath u.path u.query u.fragment

def QueryI (A : Alph) (u : Url) : Prop := ∀ q, u.query = some q → A.query u.isSpecial q
def FragI (A : Alph) (u : Url) : Prop := ∀ f, u.fragment = some f → A.frag f

def Inv (A : Alph) (u : Url) : Prop := AuthI A u ∧ PathI A u ∧ QueryI A u ∧ FragI A u

theorem PathF.mono {sp file ho op os pa} {q f q' f' : Option (List Nat)} (h : PathF A sp file ho op os pa q f)
    (hqf : q' = none → f' = none → q = none ∧ f = none) : PathF A sp file ho op os pa q' f' :=
  ⟨h.sp, fun ho => ⟨(h.opq ho).1, (h.opq ho).2.1, fun hst => ⟨((h.opq ho).2.2 hst).1,
    fun a b => ((h.opq ho).2.2 hst).2 (hqf a b).1 (hqf a b).2⟩⟩, h.lst⟩

theorem QueryI.ofScheme {u v : Url} (h : QueryI A u) (hs : v.scheme = u.scheme) (h1 : v.query = u.query := by rfl) :
    QueryI A v := by
  cases u; cases v
  simp only at hs h1
  subst hs h1
  exact h

theorem queryI_none (u : Url) (h : u.query = none) : QueryI A u := fun q hq => by rw [h] at hq; simp at hq
theorem fragI_none (u : Url) (h : u.fragment = none) : FragI A u := fun q hq => by rw [h] at hq; simp at hq

/-- `PathI` without the clause about the trailing space of an opaque path: with `q := some []` the premise
    `q = none` of that clause is false, so `PathF` at `(some []) none` is `PathI` minus the clause -/
abbrev PathW (A : Alph) (u : Url) : Prop :=
  PathF A u.isSpecial u.isFile u.host u.hasOpaquePath u.opaquePath u.path (some []) none

theorem PathI.toW {u : Url} (h : PathI A u) : PathW A u := PathF.mono h (fun hq => by simp at hq)

theorem PathW.toI {u : Url} {q f : Option (List Nat)} (h : PathW A u) (hqf : q ≠ none ∨ f ≠ none) :
    PathI A { u with query := q, fragment := f } :=
  PathF.mono h (fun a b => by rcases hqf with hq | hq <;> contradiction)

/-- a list path needs no trailing-space clause -/
theorem PathW.toI_list {u : Url} (h : PathW A u) (ho : u.hasOpaquePath = false) : PathI A u :=
  ⟨h.sp, fun hc => by rw [ho] at hc; exact absurd hc (by simp), h.lst⟩

variable {idna : Idna}

theorem c0_piece (c : Nat) :
    (if c ≥ 0x7F then pctEncodeChar c else if c ≤ 0x1F then pctByte c else [c]) = [c] ∨
    (∃ t, (if c ≥ 0x7F then pctEncodeChar c else if c ≤ 0x1F then pctByte c else [c]) = 0x25 :: t ∧
      ∀ x ∈ (0x25 :: t), isPctChar x = true) := by
  by_cases h : c ≥ 0x7F
  · right
    rw [if_pos h]
    obtain ⟨t, ht⟩ := C14.pctEncodeChar_head c
    refine ⟨t, ht, ?_⟩
    rw [← ht]; exact pctEncodeChar_chars c
  · rw [if_neg h]
    by_cases h2 : c ≤ 0x1F
    · right
      rw [if_pos h2]
      refine ⟨_, rfl, ?_⟩
      exact pctByte_chars c (by omega)
    · left; rw [if_neg h2]

theorem c0_head (s : List Nat) (h : (percentEncodeC0 s).head? = some 0x2F) : s.head? = some 0x2F := by
  cases s with
  | nil => simp [percentEncodeC0] at h
  | cons c cs =>
    rw [C14.percentEncodeC0_cons] at h
    rcases c0_piece c with hp | ⟨t, hp, _⟩
    · rw [hp] at h; simpa using h
    · rw [hp] at h; simp at h

/-- every piece the C0 encoder emits is the unit itself or `%XX` (`c0_piece`), never a space of its own, so a
    trailing space of the output is the last input unit -/
theorem c0_last (s : List Nat) (h : (percentEncodeC0 s).getLast? = some 0x20) :
    s.getLast? = some 0x20 := by
  induction s with
  | nil => simp [percentEncodeC0] at h
  | cons c cs ih =>
    rw [C14.percentEncodeC0_cons, List.getLast?_append] at h
    cases hcs : (percentEncodeC0 cs).getLast? with
    | some z =>
      rw [hcs] at h
      simp only [Option.some_or, Option.some.injEq] at h
      subst h
      have := ih hcs
      cases cs with
      | nil => simp at this
      | cons d ds => rw [List.getLast?_cons_cons]; exact this
    | none =>
      rw [hcs] at h
      simp only [Option.none_or] at h
      have hnil : cs = [] := by
        cases cs with
        | nil => rfl
        | cons d ds =>
          exfalso
          have : percentEncodeC0 (d :: ds) = [] := List.getLast?_eq_none_iff.1 hcs
          rw [C14.percentEncodeC0_cons] at this
          rcases c0_piece d with hp | ⟨t, hp, _⟩ <;> rw [hp] at this <;> simp at this
      subst hnil
      rcases c0_piece c with hp | ⟨t, hp, hall⟩
      · rw [hp] at h; simpa using h
      · rw [hp] at h
        have := hall _ (List.mem_of_getLast? h)
        exact absurd this (by decide)

theorem head?_takeWhile_ne {p : Nat → Bool} {l : List Nat} {k : Nat} (h : l.head? ≠ some k) :
    (l.takeWhile p).head? ≠ some k := by
  cases l with
  | nil => simp
  | cons a r =>
    rw [List.takeWhile_cons]
    split
    · simpa using h
    · simp

/-- a record without authority, not special -/
theorem authI_bare (hC : Closed idna A) (u : Url) (hs : schemeOk u.scheme = true) (hns : u.isSpecial = false)
    (hu : u.username = []) (hp : u.password = []) (hh : u.host = none) (hport : u.port = none) :
    AuthI A u := by
  have hnf : u.isFile = false := nonspecial_nonfile hns
  exact ⟨hs, fun p hp => by rw [hport] at hp; simp at hp, fun h => by rw [hns] at h; exact absurd h (by simp),
    fun _ => ⟨hu, hp, hport⟩, fun h => by rw [hnf] at h; exact absurd h (by simp),
    by rw [hu]; exact hC.user_nil, by rw [hp]; exact hC.user_nil, fun h hh' => by rw [hh] at hh'; simp at hh',
    fun _ h hh' => by rw [hh] at hh'; simp at hh'⟩

/-- the list path under construction -/
structure PreF (A : Alph) (sp file op : Bool) (os : List Nat) (pa : List (List Nat)) : Prop where
  notOpaque : op = false
  opq : os = []
  segs : A.path sp file pa

abbrev PathPre (A : Alph) (u : Url) : Prop := PreF A u.isSpecial u.isFile u.hasOpaquePath u.opaquePath u.path

theorem pathI_of_pathPre {u : Url} (hp : PathPre A u) (hne : u.path ≠ [] ∨ (u.isSpecial = false ∧ u.host ≠ none)) :
    PathI A u :=
  ⟨fun h => ⟨hp.notOpaque, by
      rcases hne with h1 | ⟨h1, _⟩
      · exact h1
      · rw [h] at h1; exact absurd h1 (by simp)⟩,
    fun h => by rw [hp.notOpaque] at h; exact absurd h (by simp),
    fun _ => ⟨hp.opq, hp.segs, fun _ hs hh => by
      rcases hne with h1 | ⟨_, h1⟩
      · exact h1
      · exact absurd hh h1⟩⟩

/-- what the blocks before the path need of the path fields: with a state override (setter run) the
    URL already has a finished list path, without one the list path is under construction -/
abbrev PathMode (A : Alph) (ov : Option Override) (u : Url) : Prop :=
  (ov.isSome = true ∧ PathI A u ∧ (A.strict → u.hasOpaquePath = false)) ∨ (ov = none ∧ PathPre A u)

theorem PathI.setHost {u : Url} (hp : PathI A u) (hno : A.strict → u.hasOpaquePath = false) (h : Host) :
    PathI A { u with host := some h } :=
  ⟨hp.sp, fun hc => ⟨(hp.opq hc).1, (hp.opq hc).2.1, fun hst => by
      rw [show u.hasOpaquePath = true from hc] at hno; exact absurd (hno hst) (by simp)⟩,
    fun ho => ⟨(hp.lst ho).1, (hp.lst ho).2.1, fun _ _ hh => by simp at hh⟩⟩

theorem PathMode.setHost {ov : Option Override} {u : Url} (hm : PathMode A ov u) (h : Host) :
    PathMode A ov { u with host := some h } := by
  rcases hm with ⟨ho, hp, hno⟩ | ⟨ho, hp⟩
  · exact Or.inl ⟨ho, hp.setHost hno h, hno⟩
  · exact Or.inr ⟨ho, hp⟩

theorem AuthI.setPort_none {u : Url} (ha : AuthI A u) : AuthI A { u with port := none } :=
  ⟨ha.scheme, fun p hp => by simp at hp, ha.spHost,
    fun h => ⟨(ha.noCred h).1, (ha.noCred h).2.1, rfl⟩, ha.fileHost, ha.user, ha.pass, ha.host, ha.hostFile⟩

theorem AuthI.setPort_some {u : Url} (ha : AuthI A u) (hh : u.hostText ≠ []) (hnf : u.isFile = false)
    (n : Nat) (hn : n ≤ 65535) (hd : defaultPort u.scheme ≠ some n) :
    AuthI A { u with port := some n } :=
  ⟨ha.scheme, fun p hp => by simp only [Option.some.injEq] at hp; subst hp; exact ⟨hn, hd⟩,
    ha.spHost,
    fun h => by
      rcases h with h | h
      · exact absurd h hh
      · exact absurd (show u.isFile = true from h) (by simp [hnf]),
    ha.fileHost, ha.user, ha.pass, ha.host, ha.hostFile⟩

theorem portResult_spec {u u' : Url} (h : u' = u ∨ u' = { u with port := none } ∨
      ∃ n, n ≤ 65535 ∧ defaultPort u.scheme ≠ some n ∧ u' = { u with port := some n })
    (ha : AuthI A u) (hh : u.hostText ≠ []) (hnf : u.isFile = false) :
    AuthI A u' ∧ ∃ po, u' = { u with port := po } := by
  rcases h with rfl | rfl | ⟨n, hn, hd, rfl⟩
  · exact ⟨ha, u'.port, rfl⟩
  · exact ⟨ha.setPort_none, _, rfl⟩
  · exact ⟨ha.setPort_some hh hnf n hn hd, _, rfl⟩

theorem hostText_ne {u : Url} (h : u.hostText ≠ []) : u.host ≠ none := fun hn => h (hostText_nil hn)

/-- facts about scheme and credentials every host block run has -/
structure HostBase (A : Alph) (u : Url) : Prop where
  scheme : schemeOk u.scheme = true
  port : ∀ p, u.port = some p → p ≤ 65535 ∧ defaultPort u.scheme ≠ some p
  notFile : u.isFile = false
  user : A.user u.username
  pass : A.user u.password

theorem HostBase.setHost {u : Url} (hb : HostBase A u) (h : Host) (hn : A.host u.isSpecial h)
    (hsp : u.isSpecial = true → h.text ≠ [])
    (hc : h.text = [] → u.username = [] ∧ u.password = [] ∧ u.port = none) :
    AuthI A { u with host := some h } :=
  ⟨hb.scheme, hb.port, fun hs _ => ⟨h, rfl, hsp hs⟩,
    fun hh => by
      rcases hh with hh | hh
      · exact hc hh
      · exact absurd (show u.isFile = true from hh) (by simp [hb.notFile]),
    fun hf => absurd (show u.isFile = true from hf) (by simp [hb.notFile]),
    hb.user, hb.pass, fun h' hh' => by simp only [Option.some.injEq] at hh'; subst hh'; exact hn,
    fun hf => absurd (show u.isFile = true from hf) (by simp [hb.notFile])⟩

theorem AuthI.setHost_file {u : Url} (ha : AuthI A u) (hfile : u.isFile = true) (h : Host)
    (hn : A.host u.isSpecial h) (hfo : A.fhost h) :
    AuthI A { u with host := some h } :=
  ⟨ha.scheme, ha.port, fun _ hnf => absurd (show u.isFile = false from hnf) (by simp [hfile]),
    fun _ => ha.noCred (Or.inr hfile), fun _ => ⟨h, rfl⟩, ha.user, ha.pass,
    fun h' hh' => by simp only [Option.some.injEq] at hh'; subst hh'; exact hn,
    fun _ h' hh' => by simp only [Option.some.injEq] at hh'; subst hh'; exact hfo⟩

theorem PathMode.none_pre {ov : Option Override} {u : Url} (hm : PathMode A ov u) (ho : ov.isNone = true) :
    ov = none ∧ PathPre A u := by
  rcases hm with ⟨h, _⟩ | h
  · cases ov <;> simp at h ho
  · exact h

/-- a record on which a path block can start: `Inv A` with the list path still under construction -/
structure Ready (A : Alph) (u : Url) : Prop where
  auth : AuthI A u
  path : PathPre A u
  query : QueryI A u
  frag : FragI A u

/-- what a `file:` base URL provides -/
theorem fileBase_of (b : Url) (hc : Inv A b) (hf : b.isFile = true) :
    b.scheme = sFile ∧ (∃ h, b.host = some h ∧ A.host true h ∧ A.fhost h) ∧
    b.hasOpaquePath = false ∧ b.opaquePath = [] ∧ A.path true true b.path ∧ b.path ≠ [] := by
  obtain ⟨ha, hp, _, _⟩ := hc
  have hsp : b.isSpecial = true := file_special hf
  obtain ⟨h, hh⟩ := ha.fileHost hf
  have hno := (hp.sp hsp).1
  refine ⟨(isFileScheme_iff _).1 hf, ⟨h, hh, ?_, ha.hostFile hf h hh⟩, hno, (hp.lst hno).1, ?_,
    (hp.sp hsp).2⟩
  · have := ha.host h hh; rwa [hsp] at this
  · have := (hp.lst hno).2.1; rwa [hsp, hf] at this

theorem getLast?_suffix {l t : List Nat} (h : t <:+ l) {k : Nat} (ht : t.getLast? = some k) :
    l.getLast? = some k := by
  obtain ⟨pre, rfl⟩ := h
  rw [List.getLast?_append, ht]; rfl

theorem inv_stripTrailingSpaces (hpre : ∀ {l l'}, l' <+: l → A.opq l → A.opq l') (u : Url) (ha : AuthI A u)
    (hp : PathW A u) (hq : QueryI A u) (hf : FragI A u) : Inv A (stripTrailingSpaces u) := by
  unfold stripTrailingSpaces
  split
  · rename_i hc
    simp only [Bool.and_eq_true, Option.isNone_iff_eq_none] at hc
    obtain ⟨⟨ho, hfn⟩, hqn⟩ := hc
    obtain ⟨h1, h2, h3⟩ := hp.opq ho
    exact ⟨ha, ⟨hp.sp, fun _ => ⟨h1, hpre (strip_prefix u.opaquePath) h2,
        fun hst => ⟨(h3 hst).1, fun _ _ => strip_last _⟩⟩,
      fun hc => by rw [show u.hasOpaquePath = false from hc] at ho; exact absurd ho (by simp)⟩,
      hq, hf⟩
  · rename_i hc
    refine ⟨ha, ?_, hq, hf⟩
    cases ho : u.hasOpaquePath with
    | false => exact hp.toI_list ho
    | true =>
      refine hp.toI ?_
      simp only [ho, Bool.true_and, Bool.and_eq_true, Option.isNone_iff_eq_none, not_and] at hc
      by_cases hfn : u.fragment = none
      · exact Or.inl (hc hfn)
      · exact Or.inr hfn

theorem inv_setUserinfo (u : Url) (h : Inv A u) (hc : canHaveUsernamePasswordPort u = true)
    (un pw : List Nat) (hun : A.user un) (hpw : A.user pw) :
    Inv A { u with username := un, password := pw } := by
  obtain ⟨ha, hp, hq, hf⟩ := h
  obtain ⟨hc1, hc2⟩ := canHave_iff.1 hc
  refine ⟨⟨ha.scheme, ha.port, ha.spHost, ?_, ha.fileHost, hun, hpw, ha.host, ha.hostFile⟩,
    hp, hq, hf⟩
  intro hh
  rcases hh with hh | hh
  · exact absurd hh hc1
  · exact absurd (show u.isFile = true from hh) (by simp [hc2])

/-- the `protocol` setter may turn a non-file special URL into a file URL and back: it keeps `Inv A`
    when `A` asks nothing of file URLs in particular -/
theorem inv_setScheme (hff : ∀ h, A.fhost h) (hpf : ∀ sp f f' p, A.path sp f p → A.path sp f' p)
    (u : Url) (h : Inv A u) (scheme : List Nat) (hs : schemeOk scheme = true)
    (hsp : isSpecialScheme scheme = u.isSpecial)
    (hfile : isFileScheme scheme = true → u.username = [] ∧ u.password = [] ∧ u.port = none)
    (h3 : ¬ (u.isFile = true ∧ u.hostText = [])) :
    Inv A (if (u.port.isSome && decide (defaultPort scheme = u.port)) = true
      then ({ u with scheme := scheme, port := none } : Url) else { u with scheme := scheme }) := by
  obtain ⟨ha, hp, hq, hf⟩ := h
  have hhost : isSpecialScheme scheme = true → ∃ h, u.host = some h ∧ h.text ≠ [] := by
    intro hss
    rw [hsp] at hss
    cases huf : u.isFile with
    | false => exact ha.spHost hss huf
    | true =>
      obtain ⟨h, hh⟩ := ha.fileHost huf
      refine ⟨h, hh, fun ht => h3 ⟨huf, ?_⟩⟩
      simp [Url.hostText, hh, ht]
  -- the record with any admissible port
  have key : ∀ po : Option Nat, (∀ n, po = some n → n ≤ 65535 ∧ defaultPort scheme ≠ some n) →
      (u.port = none → po = none) →
      Inv A ({ u with scheme := scheme, port := po } : Url) := by
    intro po hpo hpn
    refine ⟨⟨hs, hpo, fun hss _ => hhost hss, ?_, fun hfs => ?_, ha.user, ha.pass, ?_,
        fun _ x _ => hff x⟩,
      ⟨fun hss => hp.sp (by rw [← hsp]; exact hss), hp.opq, ?_⟩, ?_, hf⟩
    · intro hh
      rcases hh with hh | hh
      · obtain ⟨a, b, c⟩ := ha.noCred (Or.inl hh)
        exact ⟨a, b, hpn c⟩
      · obtain ⟨a, b, c⟩ := hfile hh
        exact ⟨a, b, hpn c⟩
    · obtain ⟨h, hh, _⟩ := hhost (file_special hfs)
      exact ⟨h, hh⟩
    · intro x hx
      show A.host (isSpecialScheme scheme) x
      rw [hsp]; exact ha.host x hx
    · intro ho
      obtain ⟨a, b, c⟩ := hp.lst ho
      refine ⟨a, ?_, ?_⟩
      · show A.path (isSpecialScheme scheme) _ u.path
        rw [hsp]; exact hpf _ _ _ _ b
      · intro hst hns
        exact c hst (by rw [← hsp]; exact hns)
    · intro q hq'
      show A.query (isSpecialScheme scheme) q
      rw [hsp]; exact hq q hq'
  split
  · exact key none (fun n hn => by simp at hn) (fun _ => rfl)
  · rename_i hc
    refine key u.port ?_ (fun h => h)
    intro n hn
    refine ⟨(ha.port n hn).1, fun hd => hc ?_⟩
    simp [hn, hd]

theorem update_inv (hpre : ∀ {l l'}, l' <+: l → A.opq l → A.opq l') (o : UrlObj) (hu : ∀ u, o.url = some u → Inv A u)
    (hform : ∀ sp u p, o.url = some u → o.sp = some p → A.query sp (formSerialize p.list)) :
    ∀ u', o.update.url = some u' → Inv A u' := by
  refine update_rule (P := Inv A) o hu (fun u p hou hop => ?_)
  obtain ⟨ha, hp, hq, hf⟩ := hu u hou
  refine ⟨inv_stripTrailingSpaces hpre _ ha hp.toW (queryI_none _ rfl) hf,
    ha, hp.toW.toI (Or.inl (by simp)), ?_, hf⟩
  intro q hq'
  simp only [Option.some.injEq] at hq'
  subst hq'
  exact hform _ u p hou hop

section Walk
variable (hC : Closed idna A)
include hC

/-! ### fragment, query, opaque path -/

theorem inv_fragmentState (u : Url) (p : List Nat) (ha : AuthI A u) (hp : PathW A u)
    (hq : QueryI A u) : Inv A (fragmentState u p).url :=
  ⟨ha, hp.toI (Or.inr (by simp)),
    hq, fun f hf => by
      simp only [fragmentState, Option.some.injEq] at hf
      subst hf; exact hC.frag_enc p⟩

theorem queryI_set (u : Url) (q : List Nat) :
    QueryI A { u with query := some (percentEncode (if u.isSpecial then specialQueryNoEnc else queryNoEnc) q) } := by
  intro x hx
  simp only [Option.some.injEq] at hx; subst hx
  exact hC.query_enc u.isSpecial q

theorem inv_queryState (ov : Option Override) (u : Url) (p : List Nat) (ha : AuthI A u)
    (hp : PathW A u) (hf : FragI A u) : Inv A (queryState ov u p).url := by
  unfold queryState
  dsimp only
  split
  · exact ⟨ha, hp.toI (Or.inl (by simp)),
      queryI_set hC u _, hf⟩
  · exact inv_fragmentState hC _ _ ha hp
      (queryI_set hC u _)

theorem inv_afterPath (ov : Option Override) (u : Url) (rest : List Nat) (ha : AuthI A u)
    (hp : PathW A u) (hq : QueryI A u) (hf : FragI A u) (hnil : rest = [] → PathI A u) :
    Inv A (afterPath ov u rest).url := by
  unfold afterPath
  split
  · exact ⟨ha, hnil rfl, hq, hf⟩
  · split
    · exact inv_queryState hC ov u _ ha hp hf
    · exact inv_fragmentState hC u _ ha hp hq

theorem inv_afterPath' (ov : Option Override) (u : Url) (rest : List Nat) (h : Inv A u) :
    Inv A (afterPath ov u rest).url :=
  inv_afterPath hC ov u rest h.1 h.2.1.toW h.2.2.1 h.2.2.2 (fun _ => h.2.1)

theorem inv_opaquePathState (s p : List Nat) (hs : schemeOk s = true)
    (hns : isSpecialScheme s = false) (hp0 : p.head? ≠ some 0x2F) (hpl : A.strict → p.getLast? ≠ some 0x20) :
    Inv A (opaquePathState none { scheme := s, hasOpaquePath := true } p).url := by
  unfold opaquePathState
  dsimp only
  have hop : A.opq ([] ++ percentEncodeC0 (p.takeWhile (fun c => !isQorH c))) :=
    hC.opq_enc _ (fun c hc => by simpa using (mem_takeWhile hc).1) (head?_takeWhile_ne hp0)
  have hw : PathW A
      { scheme := s, hasOpaquePath := true, opaquePath := [] ++ percentEncodeC0 (p.takeWhile (fun c => !isQorH c)) } :=
    ⟨fun h => absurd (show isSpecialScheme s = true from h) (by simp [hns]),
      fun _ => ⟨rfl, hop, fun _ => ⟨rfl, fun h => by simp at h⟩⟩,
      fun h => by simp at h⟩
  refine inv_afterPath hC none _ _ (authI_bare hC _ hs hns rfl rfl rfl rfl) hw (queryI_none _ rfl)
    (fragI_none _ rfl) ?_
  intro hrest
  refine ⟨hw.sp, fun _ => ⟨rfl, hop, fun hst => ⟨rfl, fun _ _ => ?_⟩⟩, hw.lst⟩
  rw [takeWhile_of_dropWhile_nil hrest]
  exact fun h => hpl hst (c0_last p h)

/-! ### path -/

theorem inv_pathState (ov : Option Override) (u : Url) (p : List Nat) (ha : AuthI A u)
    (hp : PathPre A u) (hq : QueryI A u) (hf : FragI A u) : Inv A (pathState ov u p).url := by
  unfold pathState
  apply inv_afterPath' hC
  obtain ⟨p', he, hok, hne⟩ := parsePath_inv u (hC.path_loop _ _)
    (if ov.isSome then p else p.takeWhile (fun c => !isQorH c)) hp.segs
  rw [he]
  exact ⟨ha, pathI_of_pathPre ⟨hp.notOpaque, hp.opq, hok⟩ (Or.inl hne), hq, hf⟩

theorem inv_pathStartState (ov : Option Override) (u : Url) (p : List Nat) (ha : AuthI A u)
    (hp : PathPre A u) (hq : QueryI A u) (hf : FragI A u) (hh : ov = none → u.host ≠ none) :
    Inv A (pathStartState ov u p).url := by
  have hpn : u.isSpecial = false → u.host ≠ none → PathI A u :=
    fun hs hn => pathI_of_pathPre hp (Or.inr ⟨hs, hn⟩)
  refine pathStartState_rule (G := fun r => Inv A r.url) ov u p
    (fun q => inv_pathState hC _ _ q ha hp hq hf)
    (fun hs ho q => ⟨inv_queryState hC _ _ q ha (hpn hs (hh ho)).toW hf,
      inv_fragmentState hC _ q ha (hpn hs (hh ho)).toW hq⟩)
    (fun hs _ _ => ?_)
    (fun hs hn => ⟨ha, hpn hs (hn.elim hh id), hq, hf⟩)
  exact ⟨ha, pathI_of_pathPre ⟨hp.notOpaque, hp.opq, (hC.path_loop _ _).snocNil hp.segs⟩ (Or.inl (by simp)),
    hq, hf⟩

/-! ### port, host -/

/-- end of a host / port block: return (override) or go on with the path -/
theorem inv_finish (ov : Option Override) (u : Url) (rest : List Nat) (ha : AuthI A u)
    (hm : PathMode A ov u) (hq : QueryI A u) (hf : FragI A u) (hhost : u.host ≠ none) :
    Inv A (if ov.isSome then (⟨.ok, u⟩ : Res) else pathStartState ov u rest).url := by
  rcases hm with ⟨ho, hp, _⟩ | ⟨ho, hp⟩
  · rw [if_pos ho]; exact ⟨ha, hp, hq, hf⟩
  · subst ho
    simp only [Option.isSome_none, Bool.false_eq_true, if_false]
    exact inv_pathStartState hC none u rest ha hp hq hf (fun _ => hhost)

theorem inv_portState (ov : Option Override) (u : Url) (p : List Nat) (ha : AuthI A u)
    (hh : u.hostText ≠ []) (hnf : u.isFile = false) (hm : PathMode A ov u) (hq : QueryI A u) (hf : FragI A u)
    (hu : ov.isSome = true → Inv A u)
    (hgo : ov.isSome = true ∨ (portState ov u p).out = .ok) :
    Inv A (portState ov u p).url := by
  refine portState_rule (G := fun r => ov.isSome = true ∨ r.out = .ok → Inv A r.url) ov u p
    (fun h => ?_) (fun u' hu' q _ => ?_) hgo
  · rcases h with h | h
    · exact hu h
    · simp at h
  · obtain ⟨ha', po, rfl⟩ := portResult_spec hu' ha hh hnf
    exact inv_finish hC ov _ _ ha' hm hq hf
      (hostText_ne hh)

theorem inv_hostState (ov : Option Override) (u : Url)
    (p : List Nat)
    (hfileCase : ov.isSome = true → u.isFile = true → Inv A (fileHostState idna ov u p).url)
    (hb : u.isFile = false → HostBase A u)
    (hm : PathMode A ov u) (hq : QueryI A u) (hf : FragI A u)
    (hu : ov.isSome = true → Inv A u)
    (hnone : ov = none → u.isFile = false ∧ u.port = none ∧
      (u.hasCredentials = true → ∃ c r, p = c :: r ∧
        authEnd u.isSpecial c = false))
    (hgo : ov.isSome = true ∨ (hostState idna ov u p).out = .ok) :
    Inv A (hostState idna ov u p).url := by
  refine hostState_rule (G := fun r => ov.isSome = true ∨ r.out = .ok → Inv A r.url) idna ov u p
    (fun s h hph => (hC.host_parse hph).2) hnone (fun ho hfile _ => hfileCase ho hfile)
    (fun o ho h => ?_) (fun hnf s h hph hsp hcr => ?_) hgo
  · rcases h with h | h
    · exact hu h
    · exact absurd h ho
  · have ha' : AuthI A { u with host := some h } :=
      (hb hnf).setHost h (hC.host_parse hph).1 hsp hcr
    refine ⟨fun q _ => inv_finish hC ov _ q ha' (hm.setHost h) hq hf (by simp),
      fun hne q hgo => inv_portState hC ov _ q ha' hne hnf (hm.setHost h) hq hf
        (fun ho => ?_) hgo⟩
    obtain ⟨_, hpu, hqu, hfu⟩ := hu ho
    rcases hm with ⟨_, _, hno⟩ | ⟨hn, _⟩
    · exact ⟨ha', hpu.setHost hno h, hqu, hfu⟩
    · subst hn; simp at ho

/-! ### file host -/

theorem good_fileHostState (ov : Option Override) (u : Url)
    (p : List Nat) (ha : AuthI A u) (hfile : u.isFile = true) (hm : PathMode A ov u) (hq : QueryI A u)
    (hf : FragI A u) : Good (Inv A) ov (fileHostState idna ov u p) := by
  have hcu : ov.isSome = true → Inv A u := by
    intro ho
    rcases hm with ⟨_, hp, _⟩ | ⟨h, _⟩
    · exact ⟨ha, hp, hq, hf⟩
    · subst h; simp at ho
  have hsp : u.isSpecial = true := file_special hfile
  refine fileHostState_rule idna ov u p (good_fail hcu _ (by decide)) (fun ho => ?_) (fun h hh q => ?_)
  · subst ho
    exact Or.inl (inv_pathState hC none u p ha (hm.none_pre rfl).2 hq hf)
  · have hn : A.host u.isSpecial h ∧ A.fhost h := by
      rcases hh with rfl | ⟨s, hph, hloc⟩
      · exact ⟨hC.host_empty _, hC.fhost_empty⟩
      · rw [hsp] at hph ⊢
        exact ⟨(hC.host_parse hph).1, hC.fhost_parse hph hloc⟩
    exact Or.inl (inv_finish hC ov _ q (ha.setHost_file hfile h hn.1 hn.2) (hm.setHost h)
      hq hf (by simp))

/-! ### authority -/

theorem good_authorityState (u : Url) (p : List Nat)
    (hs : schemeOk u.scheme = true) (hnf : u.isFile = false) (hun : u.username = [])
    (hpw : u.password = []) (hport : u.port = none) (hp : PathPre A u) (hq : QueryI A u) (hf : FragI A u) :
    Good (Inv A) none (authorityState idna none u p) := by
  have hhost : ∀ (u' : Url) (q : List Nat), u'.scheme = u.scheme → A.user u'.username →
      A.user u'.password → u'.port = none → PathPre A u' → QueryI A u' → FragI A u' →
      (u'.hasCredentials = true → ∃ c r, q = c :: r ∧
        authEnd u'.isSpecial c = false) →
      Good (Inv A) none (hostState idna none u' q) := by
    intro u' q h1 h2 h3 h4 h5 h6 h7 h8
    have hnf' : u'.isFile = false := by
      have : u'.isFile = u.isFile := by simp only [Url.isFile, h1]
      rw [this]; exact hnf
    apply good_of
    apply inv_hostState hC none u' q (fun h => by simp at h)
      (fun _ => ⟨by rw [h1]; exact hs, fun p hp => by rw [h4] at hp; simp at hp, hnf', h2, h3⟩)
      (Or.inr ⟨rfl, h5⟩) h6 h7 (fun h => by simp at h) (fun _ => ⟨hnf', h4, h8⟩)
  refine authorityState_rule idna none u p (Or.inr ⟨rfl, by simp⟩)
    (hhost u p rfl (by rw [hun]; exact hC.user_nil) (by rw [hpw]; exact hC.user_nil) hport hp hq hf
      (fun hc => by simp [Url.hasCredentials, hun, hpw] at hc))
    (fun un pw c r hun' hpw' hcend =>
      hhost _ _ rfl ?_ ?_ hport hp hq hf
        (fun _ => ⟨c, r, rfl, hcend⟩))
  · rcases hun' with rfl | ⟨s, rfl⟩
    · show A.user u.username
      rw [hun]; exact hC.user_nil
    · exact hC.user_enc s
  · rcases hpw' with rfl | ⟨s, rfl⟩
    · show A.user u.password
      rw [hpw]; exact hC.user_nil
    · exact hC.user_enc s

/-! ### records ready for the path blocks -/

theorem Ready.good_pathState {u : Url} (h : Ready A u) (p : List Nat) :
    Good (Inv A) none (pathState none u p) :=
  Or.inl (inv_pathState hC none u p h.auth h.path h.query h.frag)

theorem pathPre_nil (u : Url) (h1 : u.hasOpaquePath = false) (h2 : u.opaquePath = [])
    (h3 : u.path = []) : PathPre A u :=
  ⟨h1, h2, by rw [h3]; exact hC.path_nil _ _⟩

theorem fresh_ready (s : List Nat) (hs : schemeOk s = true) (hns : isSpecialScheme s = false) :
    Ready A { scheme := s } :=
  ⟨authI_bare hC _ hs hns rfl rfl rfl rfl, pathPre_nil hC _ rfl rfl rfl, queryI_none _ rfl, fragI_none _ rfl⟩

/-! ### file states -/

theorem ready_file (u : Url) (hs : u.scheme = sFile) (hu : u.username = []) (hp : u.password = [])
    (hport : u.port = none) (h : Host) (hh : u.host = some h) (hn : A.host true h)
    (hfo : A.fhost h)
    (h1 : u.hasOpaquePath = false) (h2 : u.opaquePath = []) (h3 : A.path true true u.path)
    (hq : QueryI A u) (hfr : FragI A u) : Ready A u := by
  have hfile : u.isFile = true := (isFileScheme_iff _).2 hs
  have hsp : u.isSpecial = true := file_special hfile
  refine ⟨⟨by rw [hs]; decide, fun p hp => by rw [hport] at hp; simp at hp,
    fun _ hnf => by rw [hfile] at hnf; simp at hnf, fun _ => ⟨hu, hp, hport⟩, fun _ => ⟨h, hh⟩,
    by rw [hu]; exact hC.user_nil, by rw [hp]; exact hC.user_nil, fun h' hh' => ?_, fun _ h' hh' => ?_⟩,
    ⟨h1, h2, by rw [hsp, hfile]; exact h3⟩, hq, hfr⟩
  · rw [hh] at hh'; simp only [Option.some.injEq] at hh'; subst hh'; rw [hsp]; exact hn
  · rw [hh] at hh'; simp only [Option.some.injEq] at hh'; subst hh'; exact hfo

theorem ready_fileBase : Ready A fileBase :=
  ready_file hC _ rfl rfl rfl rfl emptyHost rfl (hC.host_empty _) hC.fhost_empty rfl rfl (hC.path_nil _ _)
    (queryI_none _ rfl) (fragI_none _ rfl)

/-! ### a parser run from the scheme start state -/

theorem good_urlParse (base : Option Url)
    (hbase : ∀ b, base = some b → Inv A b) (p : List Nat) (hl : A.strict → p.getLast? ≠ some 0x20) :
    Good (Inv A) none (urlParse idna base none {} p) := by
  have hrb : Ready A fileBase := ready_fileBase hC
  have hloop := hC.path_loop true true
  refine urlParse_rule idna base p (Or.inr ⟨rfl, by simp⟩)
    (fun s q hs hnf => good_authorityState hC _ q hs hnf rfl rfl rfl (pathPre_nil hC _ rfl rfl rfl)
      (queryI_none _ rfl) (fragI_none _ rfl))
    (fun s q hs hns => (fresh_ready hC s hs hns).good_pathState hC q)
    (fun s q hs hns h0 hsuf => Or.inl (inv_opaquePathState hC s q hs hns h0
      (fun hst hh => hl hst (getLast?_suffix hsuf hh))))
    (fun q => ⟨good_fileHostState hC none fileBase q hrb.auth (by decide) (Or.inr ⟨rfl, hrb.path⟩)
      hrb.query hrb.frag, hrb.good_pathState hC q⟩)
    (fun b hb hbf => ?_) (fun b hb hbf hbo => ?_) (fun b hb hbo q => ?_)
  · have hball := hbase b hb
    obtain ⟨hbs, ⟨h, hh, hn, hfo⟩, hno, hopq, hsegs, hpne⟩ := fileBase_of b hball hbf
    have hr : ∀ p', A.path true true p' →
        Ready A { fileBase with host := b.host, path := p' } := fun p' h1 =>
      ready_file hC _ rfl rfl rfl rfl h hh hn hfo rfl rfl h1 (queryI_none _ rfl) (fragI_none _ rfl)
    have ha := (hr _ hsegs).auth
    have hpn : PathI A { fileBase with host := b.host, path := b.path } :=
      pathI_of_pathPre (hr _ hsegs).path (Or.inl hpne)
    have hqb : QueryI A b := hball.2.2.1
    exact ⟨Or.inl ⟨ha, PathW.toI_list hpn.toW rfl,
        hqb.ofScheme hbs.symm, fragI_none _ rfl⟩,
      fun q => ⟨Or.inl (inv_queryState hC none _ q ha hpn.toW (fragI_none _ rfl)),
        Or.inl (inv_fragmentState hC _ q ha hpn.toW
          (hqb.ofScheme hbs.symm))⟩,
      fun p' q hpre => (hr p' (hloop.pre hpre hsegs)).good_pathState hC q,
      fun a c t q hbp hnd => (hr _ (hC.path_drive (by rw [← hbp]; exact hsegs) hnd)).good_pathState hC q⟩
  · obtain ⟨ha, hp, hq, hf⟩ := hbase b hb
    have hbo' : b.hasOpaquePath = false := hbo.elim id (fun hs => (hp.sp hs).1)
    have haC : AuthI A (copyPath (copyAuthority { scheme := b.scheme } b) b) := ha
    have hpC : PathW A (copyPath (copyAuthority { scheme := b.scheme } b) b) := hp.toW
    exact ⟨Or.inl ⟨haC, PathW.toI_list hpC hbo',
        hq, fragI_none _ rfl⟩,
      fun q => ⟨Or.inl (inv_queryState hC none _ q haC hpC (fragI_none _ rfl)),
        Or.inl (inv_fragmentState hC _ q haC hpC
          hq),
        Ready.good_pathState hC (u := removeLastSegment (copyPath (copyAuthority { scheme := b.scheme } b) b))
          ⟨haC, ⟨hbo', (hp.lst hbo').1,
            (hC.path_loop _ _).pre (List.dropLast_prefix _) (hp.lst hbo').2.1⟩,
            queryI_none _ rfl, fragI_none _ rfl⟩ q,
        Ready.good_pathState hC (u := copyAuthority { scheme := b.scheme } b)
          ⟨ha, pathPre_nil hC _ rfl rfl rfl, queryI_none _ rfl, fragI_none _ rfl⟩ q,
        good_authorityState hC _ q ha.scheme hbf rfl rfl rfl (pathPre_nil hC _ rfl rfl rfl)
          (queryI_none _ rfl) (fragI_none _ rfl)⟩⟩
  · obtain ⟨ha, hp, hq, _⟩ := hbase b hb
    have hns : isSpecialScheme b.scheme = false := by
      cases h : isSpecialScheme b.scheme with
      | false => rfl
      | true => have := (hp.sp h).1; rw [hbo] at this; simp at this
    refine Or.inl (inv_fragmentState hC _ q (authI_bare hC _ ha.scheme hns rfl rfl rfl rfl) ?_ hq)
    have hw := hp.toW
    exact ⟨fun h => absurd (show isSpecialScheme b.scheme = true from h) (by simp [hns]),
      fun _ => ⟨(hw.opq hbo).1, (hw.opq hbo).2.1, fun _ => ⟨rfl, fun h => by simp at h⟩⟩,
      fun h => absurd (show b.hasOpaquePath = false from h) (by simp [hbo])⟩

theorem parse_inv (e : Enc) (units : List Nat) (base : Option Url)
    (hbase : ∀ b, base = some b → Inv A b) (hl : A.strict → (prep e (doTrim units)).getLast? ≠ some 0x20)
    (u : Url) (h : parse idna e units base = some u) : Inv A u :=
  parse_of_good (good_urlParse hC base hbase _ hl) h

/-! ## setters -/

theorem inv_hostState_ov (o : Override) (u : Url)
    (h : Inv A u) (hno : u.hasOpaquePath = false) (p : List Nat) :
    Inv A (hostState idna (some o) u p).url := by
  obtain ⟨ha, hp, hq, hf⟩ := h
  refine inv_hostState hC (some o) u p ?_ ?_ (Or.inl ⟨rfl, hp, fun _ => hno⟩) hq hf (fun _ => ⟨ha, hp, hq, hf⟩)
    (fun hn => by simp at hn) (Or.inl rfl)
  · intro _ hfile
    rcases good_fileHostState hC (some o) u p ha hfile (Or.inl ⟨rfl, hp, fun _ => hno⟩) hq hf with hg | ⟨hg, _⟩
    · exact hg
    · simp at hg
  · intro hnf
    exact ⟨ha.scheme, ha.port, hnf, ha.user, ha.pass⟩

/-- every setter keeps `Inv A` (also when it reports failure); for `protocol`, `A` must ask nothing
    of file URLs in particular -/
theorem set_inv (s : Setter) (e : Enc) (units : List Nat) (u : Url) (h : Inv A u)
    (hl : A.strict → (prep e (doTrim units)).getLast? ≠ some 0x20)
    (hs : s = .protocol → (∀ h, A.fhost h) ∧ ∀ sp f f' p, A.path sp f p → A.path sp f' p) :
    Inv A (setValid idna s e units u).1 := by
  obtain ⟨ha, hp, hq, hf⟩ := h
  refine setValid_rule (P := Inv A) idna s e units u ⟨ha, hp, hq, hf⟩
    (fun _ u' hpr => parse_inv hC e units none (fun b hb => by simp at hb) hl u' hpr)
    (fun hpr scheme hs' h1 h2 h3 => inv_setScheme (hs hpr).1 (hs hpr).2 u ⟨ha, hp, hq, hf⟩ scheme hs' h1 h2 h3)
    (fun hc => ?_) (fun ho p => ?_)
    (fun _ => ⟨inv_stripTrailingSpaces hC.opq_prefix _ ha hp.toW (queryI_none _ rfl) hf,
      fun p => inv_queryState hC (some .query) u p ha hp.toW hf⟩)
    (fun _ => ⟨inv_stripTrailingSpaces hC.opq_prefix _ ha hp.toW hq (fragI_none _ rfl),
      fun p => inv_fragmentState hC u p ha hp.toW hq⟩)
  · obtain ⟨hc1, hc2⟩ := canHave_iff.1 hc
    have hno : A.strict → u.hasOpaquePath = false := fun hst => by
      cases ho : u.hasOpaquePath with
      | false => rfl
      | true => exact absurd ((hp.opq ho).2.2 hst).1 (hostText_ne hc1)
    exact ⟨fun _ x => inv_setUserinfo u ⟨ha, hp, hq, hf⟩ hc _ _ (hC.user_enc x) ha.pass,
      fun _ x => inv_setUserinfo u ⟨ha, hp, hq, hf⟩ hc _ _ ha.user (hC.user_enc x),
      fun _ => ⟨⟨ha.setPort_none, hp, hq, hf⟩,
        fun p => inv_portState hC (some .port) u p ha hc1 hc2 (Or.inl ⟨rfl, hp, hno⟩) hq hf
          (fun _ => ⟨ha, hp, hq, hf⟩) (Or.inl rfl)⟩⟩
  · exact ⟨fun _ o => inv_hostState_ov hC o u ⟨ha, hp, hq, hf⟩ ho p,
      fun _ => inv_pathStartState hC (some .pathStart) _ p ha
        ⟨ho, (hp.lst ho).1, hC.path_nil _ _⟩ hq hf
        (fun hn => by simp at hn)⟩

end Walk

end Upa.Proofs.RecInv
