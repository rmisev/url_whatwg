import Upa.Basic
/-
  String literals in evaluated goals.  The kernel turns a literal `"…"` into its list of characters through the
  UTF-8 byte array of `String`, which is slow (tens of thousands of reduction steps per character, more than
  linear in the length), while it identifies the literal with `String.ofList [chars]` at no cost.  Rewriting with
  `asciiStr_ofList` (an instance of `String.toList_ofList`) first hands the evaluation the code points directly.
-/
namespace Upa

theorem asciiStr_ofList (l : List Char) : asciiStr (String.ofList l) = l.map Char.toNat :=
  congrArg _ String.toList_ofList

/-- `decide +kernel` after every `asciiStr "…"` of the goal has been rewritten to its code points; a constant
    that hides the literal (`ofStr`, a local abbreviation) has to be unfolded first. -/
macro "decide_ascii" : tactic => `(tactic| ((repeat rw [asciiStr_ofList]); decide +kernel))

end Upa
