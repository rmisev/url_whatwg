import Upa.Proofs.ParseRepBase
/-
  relative_state and relative_slash_state: `append_parts(base, USERNAME, …)` right after
  `set_scheme(base)`.
-/

namespace Upa.Proofs.ParseRep
open Upa Upa.Impl Upa.Proofs.C05 Upa.Proofs.SetRep Upa.Proofs.SetRepApi Upa.Props

/-- the record after `append_parts(base, USERNAME, t2)`: authority, path (t2 ≥ PATH), query (t2 ≥ QUERY) -/
def relCopy (b : Url) (t2 : Nat) : Url :=
  { scheme := b.scheme, username := b.username, password := b.password, host := b.host, port := b.port,
    path := if PATH ≤ t2 then b.path else [], query := if QUERY ≤ t2 then b.query else none }

/-- its segments are those of the base up to `t2`: the three call shapes of relative_state and
    relative_slash_state (`t2` = PORT, PATH, QUERY) -/
theorem segs_relCopy {b : Url} (ho : b.hasOpaquePath = false) (t2 : Nat) (ht2 : t2 = 6 ∨ t2 = 8 ∨ t2 = 9) :
    segsOf (relCopy b t2) = (segsOf b).take (t2 + 1) ++ List.replicate (10 - t2) [] := by
  rcases ht2 with rfl | rfl | rfl <;>
  simp [relCopy, segsOf, sepSeg, userSeg, passSeg, atSeg, portSeg, prefixSeg, querySeg, fragSeg, credOn,
    Url.hostText, pathText, needsPathPrefix, Url.hasCredentials, ho, PATH, QUERY, List.replicate]

theorem flags_relCopy {b : Url} (ho : b.hasOpaquePath = false) (B : List (List Nat)) (t2 : Nat)
    (ht2 : t2 = 6 ∨ t2 = 8 ∨ t2 = 9) (c : Nat) :
    SameFields { copyFlags (layout ({ scheme := b.scheme } : Url)) (mkRep (layout b) B) USERNAME t2 with
      segCount := c } { layout (relCopy b t2) with segCount := c } := fun A => by
  rcases ht2 with rfl | rfl | rfl
  · exact mkRep_congr rfl rfl rfl rfl rfl rfl rfl rfl rfl
  · exact mkRep_congr rfl rfl rfl rfl ho rfl rfl rfl rfl
  · exact mkRep_congr rfl rfl rfl rfl ho rfl rfl rfl rfl

/-- the first part `append_parts(base, USERNAME, …)` copies: between the scheme and it the base has
    nothing but the "//" of an authority -/
theorem apFirst_user_spec {b : Url} (ok : BaseOk b) (ho : b.hasOpaquePath = false) {B : List (List Nat)}
    (hB : Rp (segsOf b) B) :
    ∃ ifirst, apFirst (mkRep (layout b) B) USERNAME = ifirst ∧ (ifirst = 2 ∨ ifirst = 5 ∨ ifirst = 7) ∧
      ifirst < B.length ∧ (ifirst = 7 → b.host = none) ∧
      (segsOf b).take ifirst = [b.scheme, 0x3A :: sepFor ifirst] ++ List.replicate (ifirst - 2) [] := by
  have hif := apFirst_user ok (ok.repFor hB)
  have hlo := hB.lo
  cases hh : b.host with
  | none =>
    have h9 := base_path_long hB (pathText_ne_nil ho (ok.path_ne hh ho))
    refine ⟨7, by simpa [hh] using hif, by simp, by omega, fun _ => rfl, ?_⟩
    simp [segsOf, sepSeg, userSeg, passSeg, atSeg, portSeg, credOn, Url.hostText, hh, sepFor, HOST, List.replicate]
  | some hd =>
    by_cases hc : b.hasCredentials = true
    · refine ⟨2, by simpa [hh, hc] using hif, by simp, by omega, fun h => absurd h (by decide), ?_⟩
      simp [segsOf, sepSeg, hh, sepFor, HOST]
    · refine ⟨5, by simpa [hh, hc] using hif, by simp, by omega, fun h => absurd h (by decide), ?_⟩
      simp [segsOf, sepSeg, userSeg, passSeg, atSeg, credOn, hh, hc, sepFor, HOST, List.replicate]

/-- `append_parts(base, USERNAME, t2[, pathOpFn])` right after `set_scheme(base)`, something being copied -/
theorem rel_copy {b : Url} (ok : BaseOk b) {B : List (List Nat)} (hB : Rp (segsOf b) B)
    (ho : b.hasOpaquePath = false)
    {s : Ser} (h : SchInv s { scheme := b.scheme }) (t2 : Nat) (ht2 : t2 = 6 ∨ t2 = 8 ∨ t2 = 9)
    (hcopy : b.host.isSome = true ∨ t2 ≠ 6) :
    SerInv (s.appendParts (mkRep (layout b) B) USERNAME t2 none) (relCopy b t2) ∧
      (s.appendParts (mkRep (layout b) B) USERNAME t2 none).lastPt ≤ t2 ∧
      (t2 = PATH → ∀ o, PathInv (s.appendParts (mkRep (layout b) B) USERNAME PATH (some o))
        { relCopy b t2 with path := opList o b.isFile b.path }) := by
  obtain ⟨ifirst, hif, hif2, hlt, hhost, htake⟩ := apFirst_user_spec ok ho hB
  have hle : ifirst ≤ t2 := by
    by_cases h7 : ifirst = 7
    · have : t2 ≠ 6 := hcopy.resolve_left (by rw [hhost h7]; simp)
      omega
    · omega
  have hk : kPartStart.getD ifirst 0 = 0 := by rcases hif2 with h | h | h <;> (subst h; rfl)
  have hd := dest_scheme (layout ({ scheme := b.scheme } : Url)) (mkRep (layout b) B) b.scheme ok.scheme_ne
    USERNAME t2 ifirst (by omega)
  rw [← h.eq] at hd
  refine copy_list (u' := relCopy b t2) hB ho (ok.noSlash ho) USERNAME t2 ifirst hif hk (by omega) (by omega) hle
    (by omega) (by omega) hlt hd rfl ?_ ⟨ok.scheme_ne, ok.bare⟩ rfl rfl (fun h8 => by subst h8; rfl) rfl (flags_relCopy ho B t2 ht2)
  have e : t2 + 1 = ifirst + (t2 + 1 - ifirst) := by omega
  rw [segs_relCopy ho t2 ht2, ← htake]
  conv => lhs; rw [e, List.take_add]

theorem relCopy6 (b : Url) : copyAuthority { scheme := b.scheme } b = relCopy b 6 := by
  simp [copyAuthority, relCopy, PATH, QUERY]

theorem relCopy8 {b : Url} (ok : BaseOk b) (ho : b.hasOpaquePath = false) :
    copyPath (copyAuthority { scheme := b.scheme } b) b = relCopy b 8 := by
  simp [copyAuthority, copyPath, relCopy, PATH, QUERY, ho, ok.opaquePath_nil ho]

theorem relCopy9 {b : Url} (ok : BaseOk b) (ho : b.hasOpaquePath = false) :
    ({ copyPath (copyAuthority { scheme := b.scheme } b) b with query := b.query } : Url) = relCopy b 9 := by
  simp [copyAuthority, copyPath, relCopy, PATH, QUERY, ho, ok.opaquePath_nil ho]

theorem sim_relativeSlash (idna : Idna) {b : Url} (ok : BaseOk b) {B : List (List Nat)}
    (hB : Rp (segsOf b) B) (ho : b.hasOpaquePath = false) {s : Ser} (h : SchInv s { scheme := b.scheme })
    (p : List Nat) :
    Agree (relativeSlashStateSer idna (mkRep (layout b) B) s p)
      (relativeSlashState idna b none { scheme := b.scheme } p) := by
  have hdef : Agree (pathStateSer (s.appendParts (mkRep (layout b) B) USERNAME PORT none) p)
      (pathState none (copyAuthority { scheme := b.scheme } b) p) := by
    rw [relCopy6]
    apply sim_pathState
    cases hh : b.host with
    | some hd =>
      obtain ⟨h1, h2, _⟩ := rel_copy ok hB ho h 6 (by simp) (Or.inl (by simp [hh]))
      exact h1.pathInv (Nat.lt_of_le_of_lt h2 (by decide)) rfl rfl rfl rfl
    | none =>
      -- no authority to copy: only the flags are touched
      have hrb := ok.repFor hB
      have hif := apFirst_user ok hrb
      simp only [hh, Option.isSome_none, Bool.false_eq_true, if_false] at hif
      obtain ⟨hu, hp, hport⟩ := ok.bare hh
      rw [appendParts_nothing s (layout b) hB USERNAME PORT none (by rw [hif]; simp [PORT])]
      apply SchInv.pathInv _ rfl
      refine ⟨ok.scheme_ne, h.last, ?_, hh, hu, hp, hport, rfl, rfl, rfl⟩
      rw [h.rep, copyFlags_schemeRep]
      rfl
  unfold relativeSlashStateSer relativeSlashState
  rw [h.special]
  cases p with
  | nil => exact hdef
  | cons c r =>
    exact Agree.ite
      (fun _ => Agree.ite (fun _ => sim_ignoreSlashes idna h rfl _) fun _ => sim_authority idna h rfl _)
      fun _ => Agree.ite (fun _ => sim_ignoreSlashes idna h rfl _) fun _ => hdef

/-- `hu`: after `set_scheme(base)` the record has the scheme of the base and nothing else — relative_state is
    entered on a fresh object (no_scheme_state) or right after the same special scheme was written
    (special_relative_or_authority_state) -/
theorem sim_relative (idna : Idna) {b : Url} (ok : BaseOk b) {B : List (List Nat)}
    (hB : Rp (segsOf b) B) (ho : b.hasOpaquePath = false) {s : Ser} (hs : Fresh s) (u : Url)
    (hu : ({ u with scheme := b.scheme } : Url) = { scheme := b.scheme }) (p : List Nat) :
    Agree (relativeStateSer idna (mkRep (layout b) B) s p) (relativeState idna b none u p) := by
  have hrb := ok.repFor hB
  have h := setSchemeOf_fresh ok hrb hs
  unfold relativeStateSer relativeState
  simp only [hu]
  rw [h.special]
  obtain ⟨k1, k2, _⟩ := rel_copy ok hB ho h 9 (by simp) (Or.inr (by simp))
  obtain ⟨q1, q2, q3⟩ := rel_copy ok hB ho h 8 (by simp) (Or.inr (by simp))
  cases p with
  | nil =>
    simp only [relCopy9 ok ho]
    exact ⟨rfl, k1.final⟩
  | cons c r =>
    refine Agree.ite (fun _ => sim_relativeSlash idna ok hB ho h _) fun _ => Agree.ite (fun _ => ?_) fun _ =>
      Agree.ite (fun _ => ?_) fun _ => Agree.ite (fun _ => sim_relativeSlash idna ok hB ho h _) fun _ => ?_
    · rw [relCopy8 ok ho]
      exact sim_query q1 (Nat.lt_of_le_of_lt q2 (by decide)) _
    · rw [relCopy9 ok ho]
      exact sim_fragment k1 (Nat.lt_of_le_of_lt k2 (by decide)) _
    · rw [relCopy8 ok ho]
      exact sim_pathState (q3 rfl .remLast) _

end Upa.Proofs.ParseRep
