import Upa.Proofs.Radix
/-
  C12 — IPv6 serializer: the equations of `countZeros` / `longestZeroSeq` (`lzs_*`; the bounds side uses them too); the
  C++ scan for the longest zero run (with its skip counter) finds the Standard's
  compressed piece index (`longest_findCompress`), and both serializers print the same closed form
  (`serialize_form`: pieces joined by ':' resp. `pre:` … `::` … `post`). The alphabet of the output, for every argument:
  `ipv6Serialize_chars` (in `v6Char`).
-/
namespace Upa.Proofs.V6
open Upa

theorem zr_cons_zero (r : List Nat) : Spec.zeroRunLen (0 :: r) = Spec.zeroRunLen r + 1 := by
  simp [Spec.zeroRunLen]

theorem zr_cons_ne (a : Nat) (r : List Nat) (h : a ≠ 0) : Spec.zeroRunLen (a :: r) = 0 := by
  cases a with
  | zero => exact absurd rfl h
  | succ n => simp [Spec.zeroRunLen]

theorem countZeros_eq : ∀ l, Impl.countZeros l = Spec.zeroRunLen l := by
  intro l
  induction l with
  | nil => rfl
  | cons a r ih =>
    cases a with
    | zero => simp [Impl.countZeros, Spec.zeroRunLen, ih]
    | succ n => simp [Impl.countZeros, Spec.zeroRunLen]

theorem countZeros_zero (r : List Nat) : Impl.countZeros (0 :: r) = Impl.countZeros r + 1 := by
  simp [Impl.countZeros]

theorem countZeros_ne (c : Nat) (r : List Nat) (h : c ≠ 0) : Impl.countZeros (c :: r) = 0 := by
  cases c with
  | zero => exact absurd rfl h
  | succ n => simp [Impl.countZeros]

theorem lzs_skip_all : ∀ (l : List Nat) (i skip lc cp : Nat), l.length ≤ skip →
    Impl.longestZeroSeq l i skip lc cp = (lc, cp) := by
  intro l
  induction l with
  | nil => intro i skip lc cp _; rfl
  | cons x r ih =>
    intro i skip lc cp h
    simp only [List.length_cons] at h
    rw [Impl.longestZeroSeq, if_pos (by omega)]
    exact ih _ _ _ _ (by omega)

theorem lzs_skip (lc cp : Nat) : ∀ k (l : List Nat) i, k ≤ l.length →
    Impl.longestZeroSeq l i k lc cp = Impl.longestZeroSeq (l.drop k) (i + k) 0 lc cp := by
  intro k
  induction k with
  | zero => intro l i _; rfl
  | succ k ih =>
    intro l i h
    cases l with
    | nil => exact absurd h (Nat.not_succ_le_zero k)
    | cons x r =>
      rw [Impl.longestZeroSeq, if_pos (Nat.succ_pos k), Nat.add_sub_cancel, ih r (i + 1) (Nat.le_of_succ_le_succ h),
        Nat.add_right_comm]
      rfl

theorem lzs_cons (c : Nat) (rest : List Nat) (i lc cp : Nat) :
    Impl.longestZeroSeq (c :: rest) i 0 lc cp =
      if c = 0 then
        Impl.longestZeroSeq rest (i + 1) (Impl.countZeros (c :: rest))
          (if lc < Impl.countZeros (c :: rest) then Impl.countZeros (c :: rest) else lc)
          (if lc < Impl.countZeros (c :: rest) then i else cp)
      else Impl.longestZeroSeq rest (i + 1) 0 lc cp := by
  rw [Impl.longestZeroSeq, if_neg (Nat.lt_irrefl 0)]
  refine ite_congr rfl (fun _ => ?_) (fun _ => rfl)
  by_cases h : lc < Impl.countZeros (c :: rest)
  · simp only [if_pos h]
  · simp only [if_neg h]

/-- relation between the C++ `(last_count, compress)` and the Standard's best run -/
def R (lc cmp : Nat) (best : Option (Nat × Nat)) : Prop :=
  (lc ≤ 1 ∧ best = none) ∨ (2 ≤ lc ∧ best = some (cmp, lc))

def better (best : Option (Nat × Nat)) (len : Nat) : Bool :=
  match best with
  | none => true
  | some (_, bl) => decide (len > bl)

theorem fca_cons (a : Nat) (r : List Nat) (i : Nat) (best : Option (Nat × Nat)) :
    Spec.findCompressAux (a :: r) i best =
      Spec.findCompressAux r (i + 1)
        (if Spec.zeroRunLen (a :: r) > 1 ∧ better best (Spec.zeroRunLen (a :: r)) = true
         then some (i, Spec.zeroRunLen (a :: r)) else best) := rfl

theorem fca_noupd (a : Nat) (r : List Nat) (i lc cmp : Nat) (best : Option (Nat × Nat))
    (hR : R lc cmp best) (h : Spec.zeroRunLen (a :: r) ≤ lc ∨ Spec.zeroRunLen (a :: r) ≤ 1) :
    Spec.findCompressAux (a :: r) i best = Spec.findCompressAux r (i + 1) best := by
  rw [fca_cons]
  congr 1
  rcases hR with ⟨h1, rfl⟩ | ⟨h2, rfl⟩
  · have : ¬ (Spec.zeroRunLen (a :: r) > 1) := by omega
    simp [this]
  · have : ¬ (Spec.zeroRunLen (a :: r) > lc) := by omega
    simp [this, better]

theorem fca_upd (a : Nat) (r : List Nat) (i lc cmp : Nat) (best : Option (Nat × Nat))
    (hR : R lc cmp best) (h1 : Spec.zeroRunLen (a :: r) > lc) (h2 : Spec.zeroRunLen (a :: r) > 1) :
    Spec.findCompressAux (a :: r) i best =
      Spec.findCompressAux r (i + 1) (some (i, Spec.zeroRunLen (a :: r))) := by
  rw [fca_cons]
  congr 1
  rcases hR with ⟨_, rfl⟩ | ⟨_, rfl⟩
  · simp [h2, better]
  · simp [h1, h2, better]

theorem longest_rel : ∀ (l : List Nat) (i skip lc cmp : Nat) (best : Option (Nat × Nat)),
    R lc cmp best → (0 < skip → Spec.zeroRunLen l = skip - 1 ∧ skip ≤ lc) →
    R (Impl.longestZeroSeq l i skip lc cmp).1 (Impl.longestZeroSeq l i skip lc cmp).2
      (Spec.findCompressAux l i best) := by
  intro l
  induction l with
  | nil => intro i skip lc cmp best hR _; simpa [Impl.longestZeroSeq, Spec.findCompressAux] using hR
  | cons a r ih =>
    intro i skip lc cmp best hR hskip
    by_cases hs : skip > 0
    · obtain ⟨hz, hle⟩ := hskip hs
      rw [Impl.longestZeroSeq, if_pos hs, fca_noupd a r i lc cmp best hR (by omega)]
      apply ih _ _ _ _ _ hR
      intro hs'
      by_cases ha : a = 0
      · subst ha; rw [zr_cons_zero] at hz; omega
      · rw [zr_cons_ne a r ha] at hz; omega
    · obtain rfl : skip = 0 := by omega
      by_cases ha : a = 0
      · subst ha
        rw [lzs_cons, if_pos rfl, countZeros_eq]
        have hc := zr_cons_zero r
        by_cases hlt : lc < Spec.zeroRunLen (0 :: r)
        · simp only [hlt, if_true]
          by_cases h1 : Spec.zeroRunLen (0 :: r) > 1
          · rw [fca_upd 0 r i lc cmp best hR hlt h1]
            apply ih
            · exact Or.inr ⟨by omega, rfl⟩
            · intro _; omega
          · rw [fca_noupd 0 r i lc cmp best hR (by omega)]
            apply ih
            · rcases hR with ⟨_, rfl⟩ | ⟨h2, _⟩
              · exact Or.inl ⟨by omega, rfl⟩
              · omega
            · intro _; omega
        · simp only [hlt, if_false]
          rw [fca_noupd 0 r i lc cmp best hR (by omega)]
          apply ih _ _ _ _ _ hR
          intro _; omega
      · rw [lzs_cons, if_neg ha,
          fca_noupd a r i lc cmp best hR (by rw [zr_cons_ne a r ha]; omega)]
        apply ih _ _ _ _ _ hR
        intro h; omega

theorem findCompressAux_spec (P : Nat → Nat → Prop) : ∀ (l : List Nat) (i : Nat) (best : Option (Nat × Nat)),
    (∀ j n, best = some (j, n) → P j n) →
    (∀ k, k < l.length → Spec.zeroRunLen (l.drop k) > 1 → P (i + k) (Spec.zeroRunLen (l.drop k))) →
    ∀ j n, Spec.findCompressAux l i best = some (j, n) → P j n := by
  intro l
  induction l with
  | nil => intro i best hb _ j n h; exact hb j n (by simpa [Spec.findCompressAux] using h)
  | cons a r ih =>
    intro i best hb hk j n h
    rw [fca_cons] at h
    refine ih (i + 1) _ ?_ ?_ j n h
    · intro j' n' hj
      split at hj
      · next hc =>
        have := hk 0 (by simp) (by simpa using hc.1)
        simp at hj
        obtain ⟨rfl, rfl⟩ := hj
        simpa using this
      · exact hb j' n' hj
    · intro k hk1 hk2
      have := hk (k + 1) (by simpa using hk1) (by simpa using hk2)
      have e : i + (k + 1) = i + 1 + k := by omega
      rw [e] at this
      simpa using this

theorem longest_findCompress (a : List Nat) :
    ((Impl.longestZeroSeq a 0 0 0 0).1 ≤ 1 ∧ Spec.findCompress a = none) ∨
    (2 ≤ (Impl.longestZeroSeq a 0 0 0 0).1 ∧
      Spec.findCompress a = some (Impl.longestZeroSeq a 0 0 0 0).2 ∧
      (Impl.longestZeroSeq a 0 0 0 0).2 < a.length ∧
      Spec.zeroRunLen (a.drop (Impl.longestZeroSeq a 0 0 0 0).2) = (Impl.longestZeroSeq a 0 0 0 0).1) := by
  have h := longest_rel a 0 0 0 0 none (Or.inl ⟨by omega, rfl⟩) (by intro h; omega)
  rcases h with ⟨h1, h2⟩ | ⟨h1, h2⟩
  · left; exact ⟨h1, by simp [Spec.findCompress, h2]⟩
  · right
    refine ⟨h1, by simp [Spec.findCompress, h2], ?_⟩
    have := findCompressAux_spec (fun j n => j < a.length ∧ Spec.zeroRunLen (a.drop j) = n) a 0 none
      (by intro j n h; cases h) (by intro k hk _; simpa using hk) _ _ h2
    exact this

/-- every piece followed by ':' (what is printed in front of the compressed run) -/
def colonEach : List Nat → List Nat
  | [] => []
  | x :: r => toHexLower x ++ 0x3A :: colonEach r

/-- pieces joined by ':' (an address without compression, and what is printed behind the run) -/
def joinC : List Nat → List Nat
  | [] => []
  | x :: r => toHexLower x ++ (if r = [] then [] else 0x3A :: joinC r)

/-- the compression marker: "::" at the start, ":" after a piece that already printed its ':' -/
def marker (idx : Nat) : List Nat := if idx = 0 then [0x3A, 0x3A] else [0x3A]

theorem impl_loop_plain (c : Option Nat) (len : Nat) : ∀ (l : List Nat) (fuel i : Nat),
    l.length < fuel → (∀ idx, c = some idx → idx < i) →
    Impl.ipv6SerLoop c len fuel l i = joinC l := by
  intro l
  induction l with
  | nil => intro fuel i _ _; cases fuel <;> simp [Impl.ipv6SerLoop, joinC]
  | cons a r ih =>
    intro fuel i hf hc
    obtain ⟨f, rfl⟩ : ∃ f, fuel = f + 1 := ⟨fuel - 1, by simp at hf; omega⟩
    rw [Impl.ipv6SerLoop, if_neg (fun e => Nat.lt_irrefl _ (hc i e)), Impl.unsignedToStr_hex a, joinC]
    by_cases hr : r = []
    · simp [hr]
    · simp only [hr, if_false]
      rw [ih f (i + 1) (by simp at hf; omega) (fun idx e => Nat.lt_succ_of_lt (hc idx e))]

theorem impl_loop_compress (len : Nat) (post : List Nat) (hlen : 2 ≤ len) (idx : Nat) :
    ∀ (pre : List Nat) (fuel i : Nat), idx = i + pre.length →
    (pre ++ (List.replicate len 0 ++ post)).length < fuel →
    Impl.ipv6SerLoop (some idx) len fuel (pre ++ (List.replicate len 0 ++ post)) i =
      colonEach pre ++ (marker idx ++ joinC post) := by
  intro pre
  induction pre with
  | nil =>
    intro fuel i hidx hf
    simp at hidx
    subst hidx
    obtain ⟨f, rfl⟩ : ∃ f, fuel = f + 1 := ⟨fuel - 1, by omega⟩
    obtain ⟨n, rfl⟩ : ∃ n, len = n + 1 := ⟨len - 1, by omega⟩
    have hd : (0 :: (List.replicate n 0 ++ post)).drop (n + 1) = post := by
      simp
    simp only [List.nil_append, List.replicate_succ, List.cons_append, colonEach]
    rw [Impl.ipv6SerLoop, if_pos rfl, hd]
    cases post with
    | nil => simp [marker, joinC]
    | cons b r' =>
      simp only [marker, joinC]
      rw [Impl.unsignedToStr_hex b]
      by_cases hr : r' = []
      · simp [hr]
      · simp only [hr, if_false]
        rw [impl_loop_plain (some idx) (n + 1) r' f (idx + (n + 1) + 1)
          (by simp at hf; omega) (fun j e => by cases e; omega)]
        simp
  | cons x pre' ih =>
    intro fuel i hidx hf
    obtain ⟨f, rfl⟩ : ∃ f, fuel = f + 1 := ⟨fuel - 1, by simp at hf; omega⟩
    have hne : some idx ≠ some i := by simp at hidx ⊢; omega
    have hr : pre' ++ (List.replicate len 0 ++ post) ≠ [] := by
      obtain ⟨n, rfl⟩ : ∃ n, len = n + 1 := ⟨len - 1, by omega⟩
      simp [List.replicate_succ]
    simp only [List.cons_append, colonEach]
    rw [Impl.ipv6SerLoop, if_neg hne, Impl.unsignedToStr_hex x, if_neg hr,
      ih f (i + 1) (by simp at hidx; omega) (by simp at hf ⊢; omega)]
    simp

theorem spec_ser_plain (c : Option Nat) : ∀ (l : List Nat) (i : Nat),
    i + l.length = 8 → (∀ idx, c = some idx → idx < i) →
    Spec.ipv6SerAux c l i false = joinC l := by
  intro l
  induction l with
  | nil => intro i _ _; simp [Spec.ipv6SerAux, joinC]
  | cons a r ih =>
    intro i hl hc
    rw [Spec.ipv6SerAux, if_neg (by simp), if_neg (fun e => Nat.lt_irrefl _ (hc i e)), joinC,
      ih (i + 1) (by simp at hl; omega) (fun idx e => Nat.lt_succ_of_lt (hc idx e))]
    cases r with
    | nil => simp at hl; simp [hl, joinC]
    | cons b r' =>
      have : i ≠ 7 := by simp at hl; omega
      simp [this]

theorem spec_ser_skip (c : Option Nat) (l : List Nat) : ∀ (n i : Nat),
    Spec.ipv6SerAux c (List.replicate n 0 ++ l) i true = Spec.ipv6SerAux c l (i + n) true := by
  intro n
  induction n with
  | zero => intro i; simp
  | succ n ih =>
    intro i
    simp only [List.replicate_succ, List.cons_append]
    rw [Spec.ipv6SerAux, if_pos (by simp), ih]
    congr 1; omega

theorem spec_ser_compress (len : Nat) (post : List Nat) (hlen : 2 ≤ len) (idx : Nat)
    (hpost : ∀ b r, post = b :: r → b ≠ 0) :
    ∀ (pre : List Nat) (i : Nat), idx = i + pre.length →
    i + (pre ++ (List.replicate len 0 ++ post)).length = 8 →
    Spec.ipv6SerAux (some idx) (pre ++ (List.replicate len 0 ++ post)) i false =
      colonEach pre ++ (marker idx ++ joinC post) := by
  intro pre
  induction pre with
  | nil =>
    intro i hidx hl
    simp at hidx
    subst hidx
    obtain ⟨n, rfl⟩ : ∃ n, len = n + 1 := ⟨len - 1, by omega⟩
    simp only [List.nil_append, List.replicate_succ, List.cons_append, colonEach]
    rw [Spec.ipv6SerAux, if_neg (by simp), if_pos rfl, spec_ser_skip]
    cases post with
    | nil => simp [marker, joinC, Spec.ipv6SerAux]
    | cons b r' =>
      have hb := hpost b r' rfl
      have e : Spec.ipv6SerAux (some idx) (b :: r') (idx + 1 + n) true =
          Spec.ipv6SerAux (some idx) (b :: r') (idx + 1 + n) false := by
        rw [Spec.ipv6SerAux, Spec.ipv6SerAux]; simp [hb]
      rw [e, spec_ser_plain (some idx) (b :: r') (idx + 1 + n) (by simp at hl ⊢; omega)
        (fun j e => by cases e; omega)]
      simp [marker]
  | cons x pre' ih =>
    intro i hidx hl
    have hne : some idx ≠ some i := by simp at hidx ⊢; omega
    have h7 : i ≠ 7 := by simp at hl; omega
    simp only [List.cons_append, colonEach]
    rw [Spec.ipv6SerAux, if_neg (by simp), if_neg hne,
      ih (i + 1) (by simp at hidx; omega) (by simp at hl ⊢; omega)]
    simp [h7]

theorem zeroRun_decomp : ∀ l : List Nat,
    l = List.replicate (Spec.zeroRunLen l) 0 ++ l.drop (Spec.zeroRunLen l) ∧
    ∀ b r, l.drop (Spec.zeroRunLen l) = b :: r → b ≠ 0 := by
  intro l
  induction l with
  | nil => simp [Spec.zeroRunLen]
  | cons a r ih =>
    by_cases ha : a = 0
    · subst ha
      rw [zr_cons_zero]
      simp only [List.replicate_succ, List.cons_append, List.drop_succ_cons]
      exact ⟨by rw [← ih.1], ih.2⟩
    · rw [zr_cons_ne a r ha]
      simp
      intro b; exact ha b

theorem serialize_form (a : List Nat) (h8 : a.length = 8) :
    (Impl.ipv6Serialize a = joinC a ∧ Spec.ipv6Serialize a = joinC a) ∨
    (∃ pre len post, a = pre ++ (List.replicate len 0 ++ post) ∧ 2 ≤ len ∧
      Impl.ipv6Serialize a = colonEach pre ++ (marker pre.length ++ joinC post) ∧
      Spec.ipv6Serialize a = colonEach pre ++ (marker pre.length ++ joinC post)) := by
  rcases longest_findCompress a with ⟨h1, h2⟩ | ⟨h1, h2, h3, h4⟩
  · left
    constructor
    · unfold Impl.ipv6Serialize
      have : (Impl.longestZeroSeq a 0 0 0 0).1 = 0 ∨ (Impl.longestZeroSeq a 0 0 0 0).1 = 1 := by omega
      simp only [this, if_true]
      exact impl_loop_plain none _ a _ 0 (by omega) (fun _ e => nomatch e)
    · unfold Spec.ipv6Serialize
      rw [h2]
      exact spec_ser_plain none a 0 (by omega) (fun _ e => nomatch e)
  · right
    generalize hidx : (Impl.longestZeroSeq a 0 0 0 0).2 = idx at h2 h3 h4
    generalize hlen : (Impl.longestZeroSeq a 0 0 0 0).1 = len at h1 h4
    obtain ⟨hd1, hd2⟩ := zeroRun_decomp (a.drop idx)
    rw [h4] at hd1 hd2
    have ha : a = a.take idx ++ (List.replicate len 0 ++ (a.drop idx).drop len) := by
      rw [← hd1]; simp
    have hpl : (a.take idx).length = idx := by simp; omega
    refine ⟨a.take idx, len, (a.drop idx).drop len, ha, h1, ?_, ?_⟩
    · unfold Impl.ipv6Serialize
      have : ¬ (len = 0 ∨ len = 1) := by omega
      simp only [hidx, hlen, this, if_false]
      rw [hpl]
      have e := impl_loop_compress len ((a.drop idx).drop len) h1 idx (a.take idx) (a.length + 1) 0
        (by omega) (by rw [← ha]; omega)
      rw [← ha] at e
      exact e
    · unfold Spec.ipv6Serialize
      rw [h2, hpl]
      have e := spec_ser_compress len ((a.drop idx).drop len) h1 idx hd2 (a.take idx) 0
        (by omega) (by rw [← ha]; omega)
      rw [← ha] at e
      exact e

theorem serialize_eq (a : List Nat) (h8 : a.length = 8) : Impl.ipv6Serialize a = Spec.ipv6Serialize a := by
  rcases serialize_form a h8 with ⟨h1, h2⟩ | ⟨pre, len, post, _, _, h1, h2⟩ <;> rw [h1, h2]

/-! ## the alphabet of the output -/

/-- decimal digits, 'a' … 'f' and ':' -/
def v6Char (c : Nat) : Bool := isDigit c || (decide (0x61 ≤ c) && decide (c ≤ 0x66)) || c == 0x3A

theorem hex_v6 {x n : Nat} (h : x ∈ Impl.unsignedToStr 16 hexDigitLower n) : v6Char x = true := by
  rw [Impl.unsignedToStr_hex] at h
  rcases Radix.toHexLower_chars n x h with h | h <;> simp [v6Char, h]

theorem ipv6SerLoop_chars (compress : Option Nat) (len : Nat) :
    ∀ fuel l i, ∀ x ∈ Impl.ipv6SerLoop compress len fuel l i, v6Char x = true := by
  intro fuel
  induction fuel with
  | zero => intro l i x hx; simp [Impl.ipv6SerLoop] at hx
  | succ k ih =>
    intro l i x hx
    cases l with
    | nil => simp [Impl.ipv6SerLoop] at hx
    | cons a r =>
      rw [Impl.ipv6SerLoop] at hx
      have hout : ∀ y ∈ (if i = 0 then [0x3A, 0x3A] else [0x3A] : List Nat), v6Char y = true := by
        intro y hy; split at hy <;> simp at hy <;> rcases hy with rfl <;> decide
      have htail : ∀ (r' : List Nat) (j : Nat),
          x ∈ (if r' = [] then [] else 0x3A :: Impl.ipv6SerLoop compress len k r' j) → v6Char x = true := by
        intro r' j hx
        split at hx
        · simp at hx
        · rcases List.mem_cons.1 hx with rfl | hx
          · decide
          · exact ih _ _ x hx
      by_cases hc : compress = some i
      · rw [if_pos hc] at hx
        dsimp only at hx
        cases hd : List.drop len (a :: r) with
        | nil => rw [hd] at hx; exact hout x hx
        | cons b r' =>
          rw [hd] at hx
          simp only [List.mem_append] at hx
          rcases hx with (hx | hx) | hx
          · exact hout x hx
          · exact hex_v6 hx
          · exact htail _ _ hx
      · rw [if_neg hc] at hx
        simp only [List.mem_append] at hx
        rcases hx with hx | hx
        · exact hex_v6 hx
        · exact htail _ _ hx

/-- the serializer's alphabet, for every argument (from `Radix.toHexLower_chars` along the loop) -/
theorem ipv6Serialize_chars (a : List Nat) : ∀ x ∈ Impl.ipv6Serialize a, v6Char x = true := by
  intro x hx
  unfold Impl.ipv6Serialize at hx
  exact ipv6SerLoop_chars _ _ _ _ _ x hx

end Upa.Proofs.V6
