import Upa.Proofs.SetRepApi
import Upa.Proofs.Canon
/-
  Every state block of `Impl/SetRepApi.lean`, run on a representation of a
  record `u`, yields a representation of the record the block of `Impl/Url.lean` leaves, with the
  same success flag (`Sim`, `sim_setter`).  The edits are the operations of C05b; the decisions agree
  by `Proofs/SetRepApi.lean`.  Then, read off what a setter can change in the record (`C08.SetStep`,
  Proofs/ParserRules.lean): `HostInv` (through `HStep`), `RepOk` and `RecShape` are kept by every setter.
-/
namespace Upa.Proofs.SetRepApi
open Upa Upa.Impl Upa.Proofs.C05 Upa.Proofs.SetRep Upa.Props

/-- a block run on the representation against the block run on the record -/
def Sim (x : Rep × Bool) (y : Res) : Prop :=
  RepFor x.1 y.url ∧ x.2 = (y.out == .ok)

theorem Sim.refl_fail {r : Rep} {u : Url} (h : RepFor r u) (o : Outcome) (ho : o ≠ .ok) :
    Sim (r, false) ⟨o, u⟩ := by
  refine ⟨h, ?_⟩
  cases o <;> simp at ho ⊢

/-! ### `RepOk` of the edited records -/

theorem repOk_host {u : Url} (ok : RepOk u) (ho : u.hasOpaquePath = false) (hd : Host) :
    RepOk { u with host := some hd } :=
  ⟨recWF_host ok.1 hd, fun hn => by simp at hn, fun hp => by
    rw [show ({ u with host := some hd } : Url).hasOpaquePath = u.hasOpaquePath from rfl, ho] at hp
    simp at hp⟩

theorem repOk_port_none {u : Url} (ok : RepOk u) : RepOk { u with port := none } :=
  ⟨recWF_port_none ok.1, ok.2.1, ok.2.2⟩

theorem repOk_auth {u : Url} (ok : RepOk u) (hh : u.host.isSome) (un pw : List Nat) (po : Option Nat) :
    RepOk { u with username := un, password := pw, port := po } :=
  ⟨recWF_auth ok.1 hh un pw po, ok.2.1, ok.2.2⟩

theorem repOk_scheme {u : Url} (ok : RepOk u) (s : List Nat) (hs : s ≠ []) :
    RepOk { u with scheme := s } := ⟨⟨hs, ok.1.2⟩, ok.2.1, ok.2.2⟩

theorem repOk_path {u : Url} (ok : RepOk u) (p : List (List Nat)) (hp : u.host = none → p ≠ []) :
    RepOk { u with path := p } := ⟨ok.1, fun hn _ => hp hn, ok.2.2⟩

theorem host_isSome_of_text {u : Url} (h : u.hostText ≠ []) : u.host.isSome = true :=
  Option.isSome_iff_ne_none.2 (RecInv.hostText_ne h)

/-! ### fragment, query -/

theorem sim_fragment {r : Rep} {u : Url} (ok : RepOk u) (h : RepFor r u) (p : List Nat) :
    Sim (fragmentStateRep r p) (fragmentState u p) :=
  ⟨C05b_write_fragment u _ r ok h, rfl⟩

theorem sim_query {r : Rep} {u : Url} (ok : RepOk u) (h : RepFor r u) (ov : Override) (p : List Nat) :
    Sim (queryStateRep r p) (queryState (some ov) u p) := by
  rw [C08.queryState_ov, ← isSpecialScheme_eq h]
  exact ⟨C05b_write_query u _ r ok h, rfl⟩

/-! ### port -/

theorem sim_port {r : Rep} {u : Url} (ok : RepOk u) (hh : u.host.isSome) (h : RepFor r u)
    (ov : Override) (p : List Nat) :
    Sim (portStateRep r p) (portState (some ov) u p) := by
  unfold portStateRep portState
  simp only [Option.isSome_some, Bool.or_true, if_true]
  by_cases hd : p.takeWhile isDigit = []
  · simp only [hd, ne_eq, not_true_eq_false, if_false]
    exact ⟨h, rfl⟩
  · simp only [ne_eq, hd, not_false_eq_true, if_true]
    by_cases h5 : (stripLeadingZeros (p.takeWhile isDigit)).length > 5
    · simp only [h5, if_true]
      exact Sim.refl_fail h _ (by simp)
    · simp only [h5, if_false]
      by_cases hbig : decimalValue (stripLeadingZeros (p.takeWhile isDigit)) > 0xFFFF
      · simp only [hbig, if_true]
        exact Sim.refl_fail h _ (by simp)
      · simp only [hbig, if_false]
        rw [portTest_of_idx (schemeIdx_eq h)]
        by_cases hdef : defaultPort u.scheme =
            some (decimalValue (stripLeadingZeros (p.takeWhile isDigit)))
        · simp only [hdef, bne_self_eq_false, Bool.false_eq_true, if_false, if_true]
          exact ⟨C05b_clear_port u r ok h, rfl⟩
        · simp only [bne_iff_ne.2 hdef, hdef, if_true, if_false]
          have hw := C05b_write_port u (decimalValue (stripLeadingZeros (p.takeWhile isDigit))) r ok hh h
          rw [port_digits _ hd (fun c hc => (mem_takeWhile hc).1)] at hw
          exact ⟨hw, rfl⟩

/-! ### host -/

theorem parseHostRep_fst (idna : Idna) (r : Rep) (s : List Nat) :
    (parseHostRep idna r s).1 = r ∨
      ∃ hd : Host, (parseHostRep idna r s).1 = writeHost r hd.text (hostKindCode hd.kind) := by
  unfold parseHostRep
  cases s with
  | nil => exact Or.inr ⟨⟨.empty, []⟩, rfl⟩
  | cons c t =>
    simp only
    cases parseHost idna (c :: t) (!r.isSpecialScheme) with
    | none => exact Or.inl rfl
    | some hd => exact Or.inr ⟨hd, rfl⟩

/-- the host parser writing through `hostStart`/`hostDone`: nothing on failure, `writeHost` on success.
    `hs`: the empty input reaches the host parser only for a non-special URL (url.h:1999-2004, 2172) -/
theorem sim_parseHost {r : Rep} {u : Url} (ok : RepOk u) (ho : u.hasOpaquePath = false)
    (h : RepFor r u) (idna : Idna) (s : List Nat) (hs : s = [] → u.isSpecial = false) :
    match parseHost idna s (!u.isSpecial) with
    | none => parseHostRep idna r s = (r, false)
    | some hd => parseHostRep idna r s = (writeHost r hd.text (hostKindCode hd.kind), true) ∧
        RepFor (writeHost r hd.text (hostKindCode hd.kind)) { u with host := some hd } := by
  unfold parseHostRep
  simp only
  rw [isSpecialScheme_eq h]
  cases s with
  | nil =>
    rw [hs rfl]
    have : parseHost idna [] (!false) = some { kind := .empty, text := [] } := rfl
    rw [this]
    exact ⟨rfl, C05b_write_host u { kind := .empty, text := [] } r ok ho h⟩
  | cons c t =>
    simp only
    cases hp : parseHost idna (c :: t) (!u.isSpecial) with
    | none => rfl
    | some hd => exact ⟨rfl, C05b_write_host u hd r ok ho h⟩

theorem sim_fileHost {r : Rep} {u : Url} (ok : RepOk u) (ho : u.hasOpaquePath = false)
    (hh : u.host.isSome) (h : RepFor r u) (idna : Idna) (ov : Override) (p : List Nat) :
    Sim (fileHostStateRep idna r p) (fileHostState idna (some ov) u p) := by
  unfold fileHostStateRep fileHostState
  simp only [Option.isSome_some, if_true, Option.isNone_some, Bool.false_and, Bool.false_eq_true,
    if_false]
  by_cases hb : p.takeWhile (fun c => !isSpecialAuthorityEnd c) = []
  · simp only [hb, if_true]
    exact ⟨C05b_set_empty_host u r ok hh h, rfl⟩
  · simp only [hb, if_false]
    have key := sim_parseHost ok ho h idna (p.takeWhile (fun c => !isSpecialAuthorityEnd c))
      (fun hc => absurd hc hb)
    cases hp : parseHost idna (p.takeWhile (fun c => !isSpecialAuthorityEnd c)) (!u.isSpecial) with
    | none =>
      rw [hp] at key
      simp only at key
      rw [key]
      exact Sim.refl_fail h _ (by simp)
    | some hd =>
      rw [hp] at key
      simp only at key
      obtain ⟨k1, k2⟩ := key
      rw [k1]
      simp only [Bool.not_true, Bool.false_eq_true, if_false]
      have ok1 : RepOk { u with host := some hd } := repOk_host ok ho hd
      have hv : (writeHost r hd.text (hostKindCode hd.kind)).partView HOST = hd.text :=
        partView_host k2
      rw [hv]
      by_cases hl : (hd.text == sLocalhost) = true
      · simp only [hl, if_true]
        exact ⟨C05b_empty_host { u with host := some hd } _ ok1 rfl k2, rfl⟩
      · simp only [hl, Bool.false_eq_true, if_false]
        exact ⟨k2, rfl⟩

theorem sim_host {r : Rep} {u : Url} (ok : RepOk u) (ho : u.hasOpaquePath = false)
    (hfile : u.isFile = true → u.host.isSome = true) (h : RepFor r u) (idna : Idna)
    (ov : Override) (hov : ov = .host ∨ ov = .hostname) (p : List Nat) :
    Sim (hostStateRep idna (decide (ov = .hostname)) r p) (hostState idna (some ov) u p) := by
  unfold hostStateRep hostState
  rw [isFileScheme_eq h, isSpecialScheme_eq h, hasCredentials_eq ok.1 h, portNotNull_eq h]
  simp only [Option.isSome_some, Bool.true_and, Bool.and_true]
  by_cases hf : u.isFile = true
  · simp only [hf, if_true]
    exact sim_fileHost ok ho (hfile hf) h idna ov p
  · simp only [hf, Bool.false_eq_true, if_false]
    generalize hauth : p.takeWhile (fun c => !C08.authEnd u.isSpecial c) = auth
    generalize hafter : p.dropWhile (fun c => !C08.authEnd u.isSpecial c) = afterAuth
    cases hsc : hostScan auth false with
    | mk hostPart portPart =>
      simp only
      by_cases c1 : (decide (hostPart = []) && (portPart.isSome || u.isSpecial)) = true
      · simp only [c1, if_true]
        exact Sim.refl_fail h _ (by simp)
      · simp only [c1, Bool.false_eq_true, if_false]
        by_cases c2 : (decide (hostPart = []) && (u.hasCredentials || u.port.isSome)) = true
        · simp only [c2, if_true]
          exact Sim.refl_fail h _ (by simp)
        · simp only [c2, Bool.false_eq_true, if_false]
          have e3 : (portPart.isSome && decide (ov = .hostname)) =
              (portPart.isSome && decide (some ov = some Override.hostname)) := by
            rcases hov with rfl | rfl <;> simp
          rw [e3]
          by_cases c3 : (portPart.isSome && decide (some ov = some Override.hostname)) = true
          · simp only [c3, if_true]
            exact Sim.refl_fail h _ (by simp)
          · simp only [c3, Bool.false_eq_true, if_false]
            have hs : hostPart = [] → u.isSpecial = false := by
              intro he
              cases hsp : u.isSpecial with
              | false => rfl
              | true => simp [he, hsp] at c1
            have key := sim_parseHost ok ho h idna hostPart hs
            cases hp : parseHost idna hostPart (!u.isSpecial) with
            | none =>
              rw [hp] at key
              simp only at key
              rw [key]
              exact Sim.refl_fail h _ (by simp)
            | some hd =>
              rw [hp] at key
              simp only at key
              obtain ⟨k1, k2⟩ := key
              rw [k1]
              simp only [Bool.not_true, Bool.false_eq_true, if_false]
              have ok1 : RepOk { u with host := some hd } := repOk_host ok ho hd
              cases portPart with
              | none => exact ⟨k2, rfl⟩
              | some pp => exact sim_port ok1 rfl k2 ov (pp ++ afterAuth)

/-! ### path: the setter's buffer follows the record's path -/

theorem ofPath_snoc (p : List (List Nat)) (seg : List Nat) :
    PathBuf.ofPath (p ++ [seg]) = (PathBuf.ofPath p).push seg := by
  unfold PathBuf.ofPath
  rw [List.foldl_append]
  rfl

theorem ofPath_segEnd_isEmpty (p : List (List Nat)) : (PathBuf.ofPath p).segEnd.isEmpty = p.isEmpty := by
  rw [ofPath_eq]
  cases p <;> simp [slashed]

theorem pathSegmentBuf_ofPath (u : Url) (seg : List Nat) (l : Bool) :
    pathSegmentBuf u.isFile (PathBuf.ofPath u.path) seg l = PathBuf.ofPath (pathSegment u seg l).path := by
  unfold pathSegmentBuf pathSegment
  by_cases hdd : doubleDot seg = true
  · simp only [hdd, if_true]
    rw [shorten_ofPath]
    cases l
    · simp
    · simp only [if_true]
      rw [← ofPath_snoc]
  · simp only [hdd, Bool.false_eq_true, if_false]
    by_cases hsd : singleDot seg = true
    · simp only [hsd, if_true]
      cases l
      · simp
      · simp only [if_true]
        rw [← ofPath_snoc]
    · simp only [hsd, Bool.false_eq_true, if_false]
      rw [ofPath_segEnd_isEmpty]
      rcases seg with _ | ⟨a, _ | ⟨c, _ | ⟨d, t⟩⟩⟩
      · exact (ofPath_snoc _ _).symm
      · exact (ofPath_snoc _ _).symm
      · dsimp only
        by_cases hw : (u.isFile && u.path.isEmpty && isWindowsDrive a c) = true
        · simp only [hw, if_true]; exact (ofPath_snoc _ _).symm
        · simp only [hw, Bool.false_eq_true, if_false]; exact (ofPath_snoc _ _).symm
      · exact (ofPath_snoc _ _).symm

theorem pathSegmentsBuf_ofPath : ∀ (segs : List (List Nat)) (u : Url),
    pathSegmentsBuf u.isFile (PathBuf.ofPath u.path) segs = PathBuf.ofPath (pathSegments u segs).path := by
  intro segs
  induction segs with
  | nil => intro u; rfl
  | cons seg rest ih =>
    intro u
    cases rest with
    | nil => exact pathSegmentBuf_ofPath u seg true
    | cons s2 r2 =>
      rw [pathSegmentsBuf, C08.pathSegments_more _ _ _ (List.cons_ne_nil _ _)]
      · rw [pathSegmentBuf_ofPath u seg false,
          ← show (pathSegment u seg false).isFile = u.isFile from
            (C08.pathSegment_frame u seg false).elim fun _ h => h ▸ rfl]
        exact ih _
      · simp

theorem parsePathBuf_eq {r : Rep} {u : Url} (h : RepFor r u) (s : List Nat) :
    parsePathBuf r s = PathBuf.ofPath (parsePath { u with path := [] } s).path := by
  unfold parsePathBuf parsePath
  rw [isSpecialScheme_eq h, isFileScheme_eq h]
  exact pathSegmentsBuf_ofPath _ { u with path := [] }

theorem sim_commit {r : Rep} {u : Url} (ok : RepOk u) (ho : u.hasOpaquePath = false) (h : RepFor r u)
    (p' : List (List Nat)) (hseg : ∀ s ∈ p', s.all C08.segChar = true) :
    Sim (commitPathBuf r (PathBuf.ofPath p'), true) ⟨.ok, { u with path := p' }⟩ := by
  refine ⟨?_, rfl⟩
  show RepFor (commitPathBuf r (PathBuf.ofPath p')) { u with path := p' }
  rw [commitPathBuf_ofPath r u p' ho]
  exact C05b_commit_path u p' r ok ho (ParseRep.NoSlash.head fun s hs => C08.segChar_ne_slash (hseg s hs)) h

theorem sim_parsePath {r : Rep} {u : Url} (ok : RepOk u) (ho : u.hasOpaquePath = false) (h : RepFor r u)
    (ov : Override) (s : List Nat) :
    Sim (commitPathBuf r (parsePathBuf r s), true) (pathState (some ov) { u with path := [] } s) := by
  rw [C08.pathState_ov, parsePathBuf_eq h]
  obtain ⟨p', he, hseg, _⟩ := C08.parsePath_spec { u with path := [] } s (by simp)
  rw [he]
  exact sim_commit ok ho h p' hseg

theorem sim_pathStart {r : Rep} {u : Url} (ok : RepOk u) (ho : u.hasOpaquePath = false) (h : RepFor r u)
    (ov : Override) (p : List Nat) :
    Sim (pathStartStateRep r p) (pathStartState (some ov) { u with path := [] } p) := by
  unfold pathStartStateRep pathStartState
  rw [isSpecialScheme_eq h, hostNotNull_eq h]
  have hsp : ({ u with path := [] } : Url).isSpecial = u.isSpecial := rfl
  rw [hsp]
  by_cases hs : u.isSpecial = true
  · simp only [hs, if_true]
    cases p with
    | nil => exact sim_parsePath ok ho h ov []
    | cons c rest =>
      simp only
      by_cases hc : isSlash c = true
      · simp only [hc, if_true]; exact sim_parsePath ok ho h ov rest
      · simp only [hc, Bool.false_eq_true, if_false]; exact sim_parsePath ok ho h ov (c :: rest)
  · simp only [hs, Bool.false_eq_true, if_false]
    cases p with
    | nil =>
      simp only [Option.isSome_some, Bool.true_and]
      have hh : ({ u with path := [] } : Url).host = u.host := rfl
      rw [hh, Option.not_isSome]
      cases hn : u.host.isNone with
      | true =>
        simp only [if_true]
        exact sim_commit ok ho h [[]] (by simp)
      | false =>
        simp only [Bool.false_eq_true, if_false]
        exact sim_commit ok ho h [] (by simp)
    | cons c rest =>
      simp only [Option.isNone_some, Bool.false_eq_true, if_false]
      by_cases hc : c = 0x2F
      · simp only [hc, if_true]; exact sim_parsePath ok ho h ov rest
      · simp only [hc, if_false]; exact sim_parsePath ok ho h ov (c :: rest)

/-! ### protocol -/

/-- url.h:1740-1765 on the representation: the tail of `Impl.protocolRep` under a name (`protocolRep_cons` is `rfl`) -/
def protoTailRep (r : Rep) (scheme : List Nat) : Rep × Bool :=
  let inf := schemeIndex scheme
  if r.isSpecialScheme != inf.isSome then (r, false)
  else if inf == some 4 && (r.hasCredentials || r.portNotNull) then (r, false)
  else if r.isFileScheme && r.isEmpty HOST then (r, false)
  else
    let r1 := saveScheme r scheme
    let dp := schemeInfDefaultPort inf
    let r2 := if dp.isSome && r1.portInt == dp then clearPart r1 PORT else r1
    (r2, true)

theorem protocolRep_cons (r : Rep) (c0 : Nat) (r0 : List Nat) :
    protocolRep r (c0 :: r0) =
      if !isAlpha c0 then (r, false)
      else if !B.isSch (some .schemeStart) (r0.dropWhile isSchemeChar) then (r, false)
      else protoTailRep r ((c0 :: r0.takeWhile isSchemeChar).map (· ||| 0x20)) := rfl

theorem sim_protoTail {r : Rep} {u : Url} (ok : RepOk u) (h : RepFor r u) (scheme : List Nat)
    (hsne : scheme ≠ []) : Sim (protoTailRep r scheme) (C03.implSchemeFin u scheme) := by
  unfold protoTailRep C03.implSchemeFin
  simp only
  rw [isSpecialScheme_eq h, Scheme.schemeIndex_isSome, schemeIndex_file, hasCredentials_eq ok.1 h,
    portNotNull_eq h, isFileScheme_eq h, isEmpty_host h, schemeInfDefaultPort_eq]
  by_cases c1 : (u.isSpecial != isSpecialScheme scheme) = true
  · simp only [c1, if_true]; exact Sim.refl_fail h _ (by simp)
  · simp only [c1, Bool.false_eq_true, if_false]
    by_cases c2 : (isFileScheme scheme && (u.hasCredentials || u.port.isSome)) = true
    · simp only [c2, if_true]; exact Sim.refl_fail h _ (by simp)
    · simp only [c2, Bool.false_eq_true, if_false]
      by_cases c3 : (u.isFile && decide (u.hostText = [])) = true
      · simp only [c3, if_true]; exact Sim.refl_fail h _ (by simp)
      · simp only [c3, Bool.false_eq_true, if_false]
        have ok1 : RepOk { u with scheme := scheme } := repOk_scheme ok scheme hsne
        have h1 : RepFor (saveScheme r scheme) { u with scheme := scheme } :=
          C05b_save_scheme u scheme r ok hsne h
        have hpi : (saveScheme r scheme).portInt = u.port :=
          portInt_eq (u := { u with scheme := scheme }) ok1.1 h1
        rw [hpi]
        have e : ((defaultPort scheme).isSome && u.port == defaultPort scheme) =
            (u.port.isSome && decide (defaultPort scheme = u.port)) := by
          cases hd : defaultPort scheme <;> cases hq : u.port <;> simp
          rename_i a b
          by_cases hab : b = a
          · simp [hab]
          · have : ¬ a = b := fun hc => hab hc.symm
            simp [hab, this]
        rw [e]
        by_cases c4 : (u.port.isSome && decide (defaultPort scheme = u.port)) = true
        · simp only [c4, if_true]
          exact ⟨C05b_clear_port { u with scheme := scheme } _ ok1 h1, rfl⟩
        · simp only [c4, Bool.false_eq_true, if_false]
          exact ⟨h1, rfl⟩

theorem sim_protocol {r : Rep} {u : Url} (ok : RepOk u) (h : RepFor r u) (idna : Idna) (p : List Nat) :
    Sim (protocolRep r p) (urlParse idna none (some .schemeStart) u p) := by
  cases p with
  | nil => exact Sim.refl_fail h _ (by simp)
  | cons c0 r0 =>
    rw [protocolRep_cons, C03.urlParse_scheme_ov, C03.schemeOv, C03.isSch_some]
    by_cases ha : isAlpha c0 = true
    · simp only [ha, if_true, Bool.not_true, Bool.false_eq_true, if_false]
      by_cases hs : C03.schemeEnd r0 = 0x3A
      · simp only [hs, decide_true, Bool.not_true, Bool.false_eq_true, if_false, if_true]
        exact sim_protoTail ok h _ (by simp)
      · simp only [hs, decide_false, Bool.not_false, if_true, if_false]
        exact Sim.refl_fail h _ (by simp)
    · simp only [ha, Bool.false_eq_true, if_false, Bool.not_false, if_true]
      exact Sim.refl_fail h _ (by simp)

/-! ### the whole setters -/

/-- `Sim` for the pair `setValid` returns -/
def SimP (x : Rep × Bool) (y : Url × Bool) : Prop := RepFor x.1 y.1 ∧ x.2 = y.2

theorem Sim.pair {x : Rep × Bool} {y : Res} (hs : Sim x y) : SimP x (y.url, y.out == Outcome.ok) := hs

/-- the guard `!has_opaque_path()` of host, hostname, pathname -/
theorem simP_unless_opaque {r : Rep} {u : Url} (h : RepFor r u) {x : Rep × Bool}
    {y : Url × Bool} (hs : u.hasOpaquePath = false → SimP x y) :
    SimP (if !r.opaquePath then x else (r, false)) (if !u.hasOpaquePath then y else (u, false)) := by
  rw [opaquePath_eq h]
  cases ho : u.hasOpaquePath
  · exact hs ho
  · exact ⟨h, rfl⟩

/-- the guard `canHaveUsernamePasswordPort()` of username, password, port -/
theorem simP_if_canHave {r : Rep} {u : Url} (h : RepFor r u) {x : Rep × Bool}
    {y : Url × Bool} (hs : ∀ hd, u.host = some hd → hd.text ≠ [] → SimP x y) :
    SimP (if r.canHaveUsernamePasswordPort then x else (r, false))
      (if canHaveUsernamePasswordPort u then y else (u, false)) := by
  rw [canHave_eq h]
  cases hc : canHaveUsernamePasswordPort u
  · exact ⟨h, rfl⟩
  · obtain ⟨hd, hx, hxt⟩ := C08.canHave_host hc
    exact hs hd hx hxt

theorem sim_setter (idna : Idna) (s : Setter) (e : Enc) (units : List Nat) {u : Url} {r : Rep}
    (hs : s ≠ .href) (ok : RepOk u)
    (hfile : s = .host ∨ s = .hostname → u.isFile = true → u.host.isSome = true) (h : RepFor r u) :
    SimP (setRep idna s e units r) (setValid idna s e units u) := by
  cases s with
  | href => exact absurd rfl hs
  | protocol => exact (sim_protocol ok h idna (prep e units)).pair
  | username =>
    exact simP_if_canHave h fun x hx hxt =>
      ⟨C05b_write_username u _ r x ok hx hxt h, rfl⟩
  | password =>
    exact simP_if_canHave h fun x hx hxt =>
      ⟨C05b_write_password u _ r x ok hx hxt h, rfl⟩
  | host =>
    exact simP_unless_opaque h fun ho =>
      (sim_host ok ho (hfile (Or.inl rfl)) h idna .host (Or.inl rfl) (prep e units)).pair
  | hostname =>
    exact simP_unless_opaque h fun ho =>
      (sim_host ok ho (hfile (Or.inr rfl)) h idna .hostname (Or.inr rfl) (prep e units)).pair
  | port =>
    refine simP_if_canHave h fun x hx _ => ?_
    by_cases hu : units = []
    · rw [if_pos hu, if_pos hu]
      exact ⟨C05b_clear_port u r ok h, rfl⟩
    · rw [if_neg hu, if_neg hu]
      exact (sim_port ok (by rw [hx]; rfl) h .port (prep e units)).pair
  | pathname =>
    exact simP_unless_opaque h fun ho => (sim_pathStart ok ho h .pathStart (prep e units)).pair
  | search =>
    cases units with
    | nil =>
      exact ⟨C05b_strip_trailing_spaces _ _ (ok : RepOk { u with query := none }) (C05b_clear_query u r ok h), rfl⟩
    | cons c rest => exact (sim_query ok h .query _).pair
  | hash =>
    cases units with
    | nil =>
      exact ⟨C05b_strip_trailing_spaces _ _ (ok : RepOk { u with fragment := none })
          (C05b_clear_fragment u r ok h), rfl⟩
    | cons c rest => exact (sim_fragment ok h _).pair

/-! ### "a special URL has a host" is kept by every setter -/

/-- what a setter may do to specialness and host: enough for "a special URL has a host" -/
def HStep (u v : Url) : Prop := v.isSpecial = u.isSpecial ∧ (v.host = u.host ∨ v.host.isSome = true)

theorem HStep.of_key {u v : Url} (h : C03.key v = C03.key u) : HStep u v := by
  simp only [C03.key, Prod.mk.injEq] at h
  refine ⟨?_, Or.inl h.2⟩
  unfold Url.isSpecial
  rw [h.1]

theorem HStep.keeps {u v : Url} (hs : HStep u v) (hsp : HostInv u) : HostInv v := by
  intro hv
  rcases hs.2 with h | h
  · rw [h]; exact hsp (by rw [← hs.1]; exact hv)
  · exact h

theorem hstep_setter (idna : Idna) (s : Setter) (e : Enc) (units : List Nat) (u : Url)
    (hs : s ≠ .href) : HStep u (setValid idna s e units u).1 := by
  have := C08.setValid_frame idna s e units u hs
  generalize (setValid idna s e units u).1 = v at this
  cases this with
  | scheme s po _ _ h _ => exact ⟨h.symm, Or.inl rfl⟩
  | host hd po _ _ => exact ⟨rfl, Or.inr rfl⟩
  | noQuery _ => exact HStep.of_key (u := u) (C03.key_stripTrailingSpaces { u with query := none })
  | noFrag _ => exact HStep.of_key (u := u) (C03.key_stripTrailingSpaces { u with fragment := none })
  | _ => exact ⟨rfl, Or.inl rfl⟩

/-! ### `RepOk` is kept by every setter (no side condition) -/

theorem repOk_setter (idna : Idna) (s : Setter) (e : Enc) (units : List Nat) {u : Url}
    (hs : s ≠ .href) (ok : RepOk u) : RepOk (setValid idna s e units u).1 := by
  have := C08.setValid_frame idna s e units u hs
  generalize (setValid idna s e units u).1 = v at this
  -- the guard of the credential setters: the host is non-empty, so non-null
  have hh : canHaveUsernamePasswordPort u = true → u.host.isSome = true := fun hc => by
    obtain ⟨x, hx, _⟩ := C08.canHave_host hc; rw [hx]; rfl
  cases this with
  | scheme s po _ h1 _ h3 =>
    rcases h3 with rfl | rfl
    · exact repOk_scheme ok s h1
    · exact repOk_port_none (repOk_scheme ok s h1)
  | user x _ hc => exact repOk_auth ok (hh hc) _ _ _
  | pass x _ hc => exact repOk_auth ok (hh hc) _ _ _
  | port po _ hc => exact repOk_auth ok (hh hc) _ _ _
  | host hd po _ ho => exact repOk_auth (repOk_host ok ho hd) rfl _ _ po
  | path p' _ _ _ hne => exact repOk_path ok p' hne
  | noQuery _ => exact repOk_strip (u := { u with query := none }) ok
  | noFrag _ => exact repOk_strip (u := { u with fragment := none }) ok
  | _ => exact ok

/-! ### `RecShape` is kept by every setter -/

theorem recShape_strip {u : Url} (sh : RecShape u) : RecShape (stripTrailingSpaces u) := by
  obtain ⟨op, h, hp⟩ := C08.stripTrailingSpaces_frame u
  rw [h]
  exact ⟨sh.1, fun hf => ⟨List.prefix_nil.1 ((sh.2 hf).1 ▸ hp), (sh.2 hf).2⟩⟩

theorem recShape_setter (idna : Idna) (s : Setter) (e : Enc) (units : List Nat) {u : Url}
    (hs : s ≠ .href) (sh : RecShape u) : RecShape (setValid idna s e units u).1 := by
  have := C08.setValid_frame idna s e units u hs
  generalize (setValid idna s e units u).1 = v at this
  cases this with
  | path p' _ ho hQ _ =>
    exact ⟨fun hc => by
        rw [show ({ u with path := p' } : Url).hasOpaquePath = u.hasOpaquePath from rfl, ho] at hc
        simp at hc,
      fun _ => ⟨(sh.2 ho).1, fun seg hseg =>
        C08.segChar_ne_slash (hQ _ (C08.segChar_pathInv _ _) (fun _ h => nomatch h) seg hseg)⟩⟩
  | noQuery _ => exact recShape_strip (u := { u with query := none }) sh
  | noFrag _ => exact recShape_strip (u := { u with fragment := none }) sh
  | _ => exact sh

end Upa.Proofs.SetRepApi
