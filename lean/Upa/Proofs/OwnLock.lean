import Upa.Proofs.OwnAbs
/-
  C06b: the lock-step half at heap level.  `LockInv h`: every url, seen through `abs`,
  satisfies the invariant `LockS` of C06, and every FREE params object holds well-formed pairs (it may
  be assigned to an owned one later).  One walk over the operations (`stepH_inv`) gives both halves of a
  step, `OwnG` and `LockInv` (key uniqueness is walked apart: `stepH_nodupK`, `Proofs/OwnInv.lean`): a url operation through its `Sim` statement (`Upa/Proofs/OwnAbs.lean`) and the `UrlObj`-level
  lemma of `Upa/Proofs/Lockstep.lean`; an operation on params objects leaves every `abs` as it is or
  edits it at the owner, and writes well-formed lists into FREE objects.
-/
namespace Upa.Proofs.Own
open Upa Upa.Impl Upa.Impl.Own Upa.Proofs.C06

/-- FREE params objects hold well-formed UTF-8 names and values (the second field of `LockInv`, under a
    name for the operations on params objects, which write FREE cells) -/
def WFree (h : Heap) : Prop := ∀ p c, cont h p = some c → up h p = some none → AllWFP c.list

structure LockInv (h : Heap) : Prop where
  /-- `LockS` of C06 for what every url id stands for -/
  lock : ∀ u, LockS (abs h u)
  /-- FREE params objects hold well-formed UTF-8 names and values -/
  wfFree : ∀ p c, cont h p = some c → up h p = some none → AllWFP c.list

theorem lockInv_empty : LockInv {} := ⟨fun _ => lockS_init, fun _ _ h => (by cases h)⟩

theorem LockInv.wf_all {h : Heap} (hl : LockInv h) (hi : OwnG h) : ∀ p c, cont h p = some c → AllWFP c.list := by
  intro p c hc
  rcases hup : up h p with _ | _ | u
  · rw [(cont_eq_none h p).2 hup] at hc; cases hc
  · exact hl.wfFree p c hc hup
  · have hs := hi.back p u hup
    have := (hl.lock u).wf c (by rw [abs_eq, hs]; exact hc)
    exact this

theorem LockInv.wf_listOf {h : Heap} (hl : LockInv h) (hi : OwnG h) (p : Nat) : AllWFP (h.listOf p) := by
  rw [listOf_eq]
  cases hc : cont h p with
  | none => exact AllWFP_nil
  | some c => exact hl.wf_all hi p c hc

theorem LockInv.qbytes {h : Heap} (hl : LockInv h) (u : Nat) : QBytes (h.recOf u) := by
  rw [← abs_url]; exact (hl.lock u).qbytes

theorem FreeKeep.wfFree {h h' : Heap} (k : FreeKeep h h') (hl : LockInv h) : WFree h' :=
  fun p c hc hp => hl.wfFree p c ((k p hp).2 ▸ hc) (k p hp).1

theorem Sim.lockInv {h h' : Heap} {F : Nat → UrlObj} {L : Nat → Bool} (a : Sim h h' F L) (hl : LockInv h)
    (hF : ∀ u, LockS (F u)) : LockInv h' := ⟨fun u => a.absEq u ▸ hF u, a.free.wfFree hl⟩

end Upa.Proofs.Own

namespace Upa.Impl.Own
open Upa Upa.Impl Upa.Proofs.C06

/-- side condition of a list edit: the names / values handed in are well-formed UTF-8 (finding F3), a
    query string handed to `parse` is a byte string — the clauses `Upa.Proofs.C06.Op.WF` has for these
    edits (its other two, on the base of a parse and on `assignParams`, are carried by `LockInv` here:
    `qbytes`, `wfFree`).  In the namespace of the model so that `m.WF` / `op.WF` read as on `C06.Op`; in this
    file because they speak of `WFB` and `AllWFP` of `Proofs/Lockstep.lean`. -/
def PMut.WF : PMut → Prop
  | .append n v => WFB n ∧ WFB v
  | .set n v => WFB n ∧ WFB v
  | .parse _ bytes => ∀ x ∈ bytes, x < 256
  | _ => True

/-- side condition of an operation (for the lock-step half only) -/
def HOp.WF : HOp → Prop
  | .newParams l => AllWFP l
  | .paramsMutate _ m => m.WF
  | _ => True

instance (m : PMut) : Decidable m.WF := by
  cases m <;> unfold PMut.WF <;> infer_instance
instance (op : HOp) : Decidable op.WF := by
  cases op <;> unfold HOp.WF <;> infer_instance

end Upa.Impl.Own

namespace Upa.Proofs.Own
open Upa Upa.Impl Upa.Impl.Own Upa.Proofs.C06

theorem pmut_wf (m : PMut) (hw : m.WF) (c : Params) (hc : AllWFP c.list) : AllWFP (m.fn c).list :=
  pmut_all m (fun n v h => by rcases h with rfl | rfl <;> exact ⟨hw, wfp_value hw.2⟩)
    (fun r b h => by subst h; exact formParse_wfp' r b hw) c hc

theorem searchBytes_byte (r : Option Url) (hq : QBytes r) : ∀ x ∈ searchBytes r, x < 256 := by
  unfold searchBytes
  cases r with
  | none => simp
  | some u =>
    unfold QBytes queryBytes at hq
    unfold getSearch
    dsimp only at hq ⊢
    split
    · rename_i c q hcq
      rw [hcq] at hq
      intro x hx
      simp only [List.mem_cons] at hx
      rcases hx with rfl | hx
      · decide
      · exact hq x (by simpa using hx)
    · simp

/-! ## FREE objects under the params operations -/

theorem wfree_setContent (h : Heap) (p : Nat) (l : List BPair) (s : Bool) (hw : WFree h) (hl : AllWFP l) :
    WFree (h.setContent p l s) := by
  intro q c hc hup
  simp only [cont_setContent, up_setContent] at hc hup
  split at hc
  · cases hcp : cont h p with
    | none => simp [hcp] at hc
    | some c0 => simp [hcp] at hc; subst hc; exact hl
  · exact hw q c hc hup
theorem wfree_allocP (h : Heap) (c : PCell) (hw : WFree h) (hl : AllWFP c.list) : WFree (h.allocP c) := by
  intro q c' hc hup
  simp only [cont_allocP, up_allocP] at hc hup
  split at hc
  · cases hc; exact hl
  · rename_i hne; simp only [hne, if_false] at hup; exact hw q c' hc hup
theorem wfree_delP (h : Heap) (p : Nat) (hw : WFree h) : WFree (h.delP p) := by
  intro q c hc hup
  simp only [cont_delP, up_delP] at hc hup
  split at hc
  · cases hc
  · rename_i hne; simp only [hne, if_false] at hup; exact hw q c hc hup
theorem wfree_update (h : Heap) (p : Nat) (hw : WFree h) : WFree (update h p) := by
  intro q c hc hup
  simp only [cont_update, up_update] at hc hup
  exact hw q c hc hup

/-- **A list edit through a params object** (any `f` that keeps the pairs well formed; `update()`
    may be skipped when `f` changed nothing) keeps lock-step: the heap-level `spApply_lockS_skip` -/
theorem paramsMutate_lockInv (h : Heap) (hi : OwnG h) (hl : LockInv h) (p : Nat) (hp : h.liveP p = true)
    (f : Params → Params) (a : Bool) (hf : ∀ c, AllWFP c.list → AllWFP (f c).list)
    (ha : a = false → ∀ c, (f c).list.length = c.list.length → f c = c) : LockInv (paramsMutate h p f a) := by
  refine ⟨fun u' => ?_, ?_⟩
  · rw [paramsMutate_abs h hi p f a hp]
    split
    · exact spApply_lockS_skip _ f a (hl.lock u') hf ha
    · exact hl.lock u'
  · rw [paramsMutate_live h p f a hp]
    have := wfree_setContent h p _ (f { list := h.listOf p, isSorted := h.sortedOf p }).isSorted hl.wfFree
      (hf { list := h.listOf p, isSorted := h.sortedOf p } (hl.wf_listOf hi p))
    split
    · exact wfree_update _ _ this
    · exact this

/-! ## one step -/

theorem lockS_safeAssignSrc (dst src : UrlObj) (hs : LockS src) : LockS (safeAssignSrc dst src) := by
  unfold safeAssignSrc
  apply lockS_invalid
  intro p hp
  split at hp
  · exact wf_emptied (fun _ => rfl) p hp
  · exact hs.wf p hp

theorem LockInv.same {h h' : Heap} (hl : LockInv h) (ha : ∀ u', abs h' u' = abs h u')
    (hw : WFree h') : LockInv h' :=
  ⟨fun u' => ha u' ▸ hl.lock u', hw⟩

theorem lockS_ite {u : Nat} {o : UrlObj} {A : Nat → UrlObj} (ho : LockS o) (hA : ∀ v, LockS (A v)) (v : Nat) :
    LockS (if v = u then o else A v) := by
  split
  · exact ho
  · exact hA v

/-- both halves of the step of a url operation, from its `Sim`.  `W`, `S` stand for `op.WF` and
    `lockSafe h op`: no url operation needs either side condition -/
theorem Sim.step {h h' : Heap} {F : Nat → UrlObj} {L : Nat → Bool} {W S : Prop} (a : Sim h h' F L)
    (hF : LockInv h → ∀ u, LockS (F u)) : OwnG h' ∧ (LockInv h → W → S → LockInv h') :=
  ⟨a.own, fun hl _ _ => a.lockInv hl (hF hl)⟩

/-- **One step**: the ownership graph stays well formed and — for well-formed arguments, and unless
    the list is moved out of an OWNED object — lock-step is kept -/
theorem stepH_inv (idna : Idna) (h : Heap) (op : HOp) (hi : OwnG h) (hp : pre h op = true) :
    OwnG (stepH idna h op) ∧ (LockInv h → op.WF → lockSafe h op = true → LockInv (stepH idna h op)) := by
  cases op <;> simp only [pre, live, asserts, Bool.and_true, Bool.and_eq_true, bne_iff_ne, ne_eq,
    Option.isNone_iff_eq_none] at hp
  case newUrl =>
    exact (allocU_sim h hi {} rfl).step fun hl => lockS_ite lockS_init hl.lock
  case newParams l =>
    exact ⟨hi.allocP_none _ rfl, fun hl hw _ => hl.same (newParams_abs h hi l) (wfree_allocP h _ hl.wfFree hw)⟩
  case urlSearchParams u =>
    exact (urlSearchParams_sim h hi u hp).step fun hl => lockS_ite (searchParams_lockS _ (hl.lock u)) hl.lock
  case urlCopyConstruct s =>
    exact (urlCopyConstruct_sim h hi s).step fun hl => lockS_ite (copyConstruct_lockS _ (hl.lock s)) hl.lock
  case urlCopyAssign d s =>
    exact (urlCopyAssign_sim h hi d s hp.1.1 hp.1.2).step fun hl =>
      lockS_ite (copyAssign_lockS _ _ (hl.lock s)) hl.lock
  case urlMoveConstruct s =>
    exact (urlMoveConstruct_sim h hi s hp).step fun hl =>
      lockS_ite (moveAssign_lockS _ (hl.lock s)).1 (lockS_ite (moveAssign_lockS _ (hl.lock s)).2 hl.lock)
  case urlMoveAssign d s =>
    exact (urlMoveAssign_sim h hi d s hp.1.1 hp.1.2 hp.2).step fun hl =>
      lockS_ite (moveAssign_lockS _ (hl.lock s)).1 (lockS_ite (moveAssign_lockS _ (hl.lock s)).2 hl.lock)
  case urlSafeAssign d s =>
    exact (urlSafeAssign_sim h hi d s hp.1.1 hp.1.2 hp.2).step fun hl =>
      lockS_ite (safeAssign_lockS _ _ (hl.lock s)).1 (lockS_ite (lockS_safeAssignSrc _ _ (hl.lock s)) hl.lock)
  case urlSwap a b =>
    exact (urlSwap_sim h hi a b hp.1 hp.2).step fun hl => lockS_ite (hl.lock b) (lockS_ite (hl.lock a) hl.lock)
  case urlClear u =>
    exact (urlClear_sim h hi u).step fun hl => lockS_ite (clear_lockS _ (hl.lock u)) hl.lock
  case urlParse u e units base =>
    refine (urlDoParse_sim h hi u _ hp.1).step fun hl =>
      lockS_ite (parseRes_lockS _ _ (parseResult_qbytes idna e units _ fun b hb => ?_) (hl.lock u)) hl.lock
    cases base with
    | none => cases hb
    | some bid =>
      simp only [Option.map_some, Option.some.injEq] at hb
      rw [← hb]; exact hl.qbytes bid
  case urlSet u s e units =>
    exact (urlSet_sim idna h hi u s e units hp).step fun hl =>
      lockS_ite (set_lockS idna _ s e units (hl.lock u)) hl.lock
  case urlSearchParamsRvalue u =>
    have hfree : lockSafe h (.urlSearchParamsRvalue u) = true → h.spOf u = none := Option.isNone_iff_eq_none.1
    refine ⟨?_, fun hl _ hs => hl.same (urlSearchParamsRvalue_abs h hi u (hfree hs)) ?_⟩
    · rw [stepH]; unfold urlSearchParamsRvalue; split
      · exact (hi.allocP_none _ rfl).setContent _ _ _
      · exact hi.allocP_none _ rfl
    · simp only [stepH, urlSearchParamsRvalue, hfree hs, newParams]
      exact wfree_allocP h _ hl.wfFree (formParse_wfp' _ _ (searchBytes_byte _ (hl.qbytes u)))
  case destroyUrl u =>
    exact (destroyUrl_sim h hi u).step fun hl => lockS_ite lockS_init hl.lock
  case paramsCopyConstruct p =>
    exact ⟨hi.allocP_none _ rfl, fun hl _ _ =>
      hl.same (paramsCopyConstruct_abs h hi p) (wfree_allocP h _ hl.wfFree (hl.wf_listOf hi p))⟩
  case paramsCopyAssign d s =>
    refine ⟨(sameG_paramsCopyAssign h d s).ownG hi, fun hl _ _ => ?_⟩
    by_cases hds : d = s
    · have : stepH idna h (.paramsCopyAssign d s) = h := by simp [stepH, paramsCopyAssign, hds]
      rw [this]; exact hl
    · rw [stepH, paramsCopyAssign_eq h d s hds hp.1 hp.2]
      exact paramsMutate_lockInv h hi hl d hp.1 _ true (fun _ _ => hl.wf_listOf hi s) (fun ht => nomatch ht)
  case paramsMoveConstruct p =>
    refine ⟨(hi.allocP_none _ rfl).setContent _ _ _, fun hl _ hs =>
      hl.same (paramsMoveConstruct_abs h hi p (Option.isNone_iff_eq_none.1 hs)) ?_⟩
    simp only [stepH, paramsMoveConstruct]
    exact wfree_setContent _ _ _ _ (wfree_allocP h _ hl.wfFree (hl.wf_listOf hi p)) AllWFP_nil
  case paramsMoveAssign d s =>
    refine ⟨(sameG_paramsMoveAssign h d s).ownG hi, fun hl _ hs =>
      hl.same (paramsMoveAssign_abs h hi d s hp.2 (Option.isNone_iff_eq_none.1 hs)) ?_⟩
    simp only [stepH, paramsMoveAssign, moveParams]
    split
    · exact hl.wfFree
    · exact wfree_setContent _ _ _ _ (wfree_setContent _ _ _ _ hl.wfFree (hl.wf_listOf hi s)) AllWFP_nil
  case paramsSafeAssign d s =>
    refine ⟨(sameG_paramsSafeAssign h d s).ownG hi, fun hl _ hs => ⟨fun u' => ?_, ?_⟩⟩
    · rw [stepH, paramsSafeAssign_abs h hi d s hp.2 hp.1.1 hp.1.2 (Option.isNone_iff_eq_none.1 hs)]
      split
      · exact spApply_lockS _ _ (hl.lock u') (fun _ _ => hl.wf_listOf hi s)
      · exact hl.lock u'
    · simp only [stepH, paramsSafeAssign, moveParams]
      split
      · exact hl.wfFree
      · exact wfree_update _ _
          (wfree_setContent _ _ _ _ (wfree_setContent _ _ _ _ hl.wfFree (hl.wf_listOf hi s)) AllWFP_nil)
  case paramsSwap a b =>
    refine ⟨(sameG_paramsSwap h a b).ownG hi, fun hl _ _ => hl.same (paramsSwap_abs h hi a b hp.2.1 hp.2.2) ?_⟩
    simp only [stepH, paramsSwap]
    split
    · exact hl.wfFree
    · exact wfree_setContent _ _ _ _ (wfree_setContent _ _ _ _ hl.wfFree (hl.wf_listOf hi b)) (hl.wf_listOf hi a)
  case paramsMutate p m =>
    exact ⟨(sameG_paramsMutate h p _ _).ownG hi, fun hl hw _ =>
      paramsMutate_lockInv h hi hl p hp _ _ (pmut_wf m hw) (pmut_keep m)⟩
  case destroyParams p =>
    exact ⟨hi.delP_free p (not_owned hp.2), fun hl _ _ =>
      hl.same (destroyParams_abs h hi p hp.2) (wfree_delP h p hl.wfFree)⟩

theorem stepH_ownInv (idna : Idna) (h : Heap) (op : HOp) (hp : pre h op = true) (hi : OwnInv h) :
    OwnInv (stepH idna h op) := by
  rw [ownInv_iff] at *
  exact ⟨(stepH_inv idna h op hi.1 hp).1, stepH_nodupK idna h op hi.2⟩

theorem stepH_lockInv (idna : Idna) (h : Heap) (op : HOp) (hi : OwnG h) (hl : LockInv h)
    (hp : pre h op = true) (hw : op.WF) (hs : lockSafe h op = true) : LockInv (stepH idna h op) :=
  (stepH_inv idna h op hi hp).2 hl hw hs

end Upa.Proofs.Own
