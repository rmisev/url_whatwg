import Upa.Props.C05b
import Upa.Proofs.SetRepExc
/-
  The representations at the throwing primitives of the `url_setter` operations, started on a
  representation `mkRep r0 A` of a record.  All of them have the shape `ShapeOf r0 m r`: the string is
  the concatenation of the segments `A` of the started parts (at least `m` of them) followed by text
  `extra` of a part whose end offset is not written yet; the offsets are the running sums of `A`, then
  zeros; flags etc. are those of `r0`; the scheme segment is not empty (`0 < off A 1`).  Such a
  representation has its offsets in bounds and ascending and a non-empty string (`Pt`: some shape); if
  moreover HOST is started, and PORT when the port is non-null, the subtraction `e - b` of `url::host()`
  (unguarded until fba3d2d) does not wrap (`PtS`).  What `start_part` computes on `mkRep r0 A` is taken from the equations
  of Upa/Proofs/SetRep.lean (`setStart_last`); this file only adds which step throws.
-/
namespace Upa.Props
open Upa Upa.Impl

/-- every offset is inside the string, the table has its 11 entries, and once the never-started
    trailing parts are read as "end of string" the offsets ascend -/
def OffsetsOk (r : Rep) : Prop :=
  r.partEnd.length = 11 ∧ (∀ x ∈ r.partEnd, x ≤ r.norm.length) ∧
  List.Pairwise (· ≤ ·) r.fill.partEnd ∧ (∀ x ∈ r.fill.partEnd, x ≤ r.norm.length)

instance (r : Rep) : Decidable (OffsetsOk r) := by unfold OffsetsOk; infer_instance

end Upa.Props

namespace Upa.Proofs.SetRepExc
open Upa Upa.Impl Upa.Proofs.C05 Upa.Proofs.SetRep Upa.Props

def ShapeOf (r0 : Rep) (m : Nat) (r : Rep) : Prop :=
  ∃ (A : List (List Nat)) (extra : List Nat), m ≤ A.length ∧ A.length ≤ 11 ∧ 0 < off A 1 ∧
    r = mkRepE r0 A extra

theorem ShapeOf.mono {r0 r : Rep} {m m' : Nat} (h : ShapeOf r0 m r) (hm : m' ≤ m) : ShapeOf r0 m' r := by
  obtain ⟨A, e, h1, h2, h3, h4⟩ := h
  exact ⟨A, e, by omega, h2, h3, h4⟩

theorem shapeOf_rp (r0 : Rep) {S A : List (List Nat)} (h : Rp S A) : ShapeOf r0 A.length (mkRep r0 A) :=
  ⟨A, [], Nat.le_refl _, h.hi, h.posA, by simp [mkRepE, mkRep]⟩

theorem ShapeOf.append {r0 r : Rep} {m : Nat} (h : ShapeOf r0 m r) (t : List Nat) :
    ShapeOf r0 m { r with norm := r.norm ++ t } := by
  obtain ⟨A, e, h1, h2, h3, rfl⟩ := h
  exact ⟨A, e ++ t, h1, h2, h3, by simp [mkRepE, mkRep]⟩

/-- the flags etc. come from `r0` only through the eight non-string fields -/
theorem mkRepE_congr {r0 r1 : Rep} (A : List (List Nat)) (e : List Nat)
    (h1 : r0.hostNotNull = r1.hostNotNull) (h2 : r0.portNotNull = r1.portNotNull)
    (h3 : r0.queryNotNull = r1.queryNotNull) (h4 : r0.fragmentNotNull = r1.fragmentNotNull)
    (h5 : r0.opaquePath = r1.opaquePath) (h6 : r0.hostType = r1.hostType)
    (h7 : r0.segCount = r1.segCount) (h8 : r0.schemeIdx = r1.schemeIdx) :
    mkRepE r0 A e = mkRepE r1 A e := by
  simp only [mkRepE, mkRep, h1, h2, h3, h4, h5, h6, h7, h8]

theorem ShapeOf.setHostType {r0 r : Rep} {m : Nat} (h : ShapeOf r0 m r) (ht : Nat) :
    ShapeOf (r0.setHostType ht) m (r.setHostType ht) := by
  obtain ⟨A, e, h1, h2, h3, rfl⟩ := h
  exact ⟨A, e, h1, h2, h3, rfl⟩

theorem ShapeOf.segCount {r0 r : Rep} {m : Nat} (h : ShapeOf r0 m r) (n : Nat) :
    ShapeOf { r0 with segCount := n } m { r with segCount := n } := by
  obtain ⟨A, e, h1, h2, h3, rfl⟩ := h
  exact ⟨A, e, h1, h2, h3, rfl⟩

/-! ### a representation of that shape has its offsets in bounds and ascending -/

theorem ShapeOf.offsetsOk {r0 r : Rep} {m : Nat} (h : ShapeOf r0 m r) : OffsetsOk r := by
  obtain ⟨A, e, _, hA, hpos, rfl⟩ := h
  have hAne : A ≠ [] := by
    intro hc; rw [hc] at hpos; simp [off] at hpos
  have hle : ∀ x ∈ (mkRepE r0 A e).partEnd, x ≤ (mkRepE r0 A e).norm.length := by
    intro x hx
    show x ≤ (A.flatten ++ e).length
    rw [List.length_append]
    rcases List.mem_append.mp hx with h1 | h1
    · have := (sums_bounds 0 A x h1).2; omega
    · rw [(List.mem_replicate.mp h1).2]; exact Nat.zero_le _
  -- the filled table: the running sums, then the length of the string
  have hfill : (mkRepE r0 A e).fill.partEnd =
      sums 0 A ++ List.replicate (11 - A.length) (mkRepE r0 A e).norm.length :=
    fillTrailing_sums _ _ _ hAne hpos
  have hle' : ∀ x ∈ (mkRepE r0 A e).fill.partEnd, x ≤ (mkRepE r0 A e).norm.length := by
    intro x hx
    rw [hfill] at hx
    rcases List.mem_append.mp hx with h1 | h1
    · exact hle x (List.mem_append_left _ h1)
    · rw [(List.mem_replicate.mp h1).2]; exact Nat.le_refl _
  refine ⟨by show (sums 0 A ++ _).length = 11; simp; omega, hle, ?_, hle'⟩
  rw [hfill]
  refine List.pairwise_append.mpr ⟨sums_pairwise 0 A,
    List.pairwise_replicate.mpr (Or.inr (Nat.le_refl _)), fun a ha b hb => ?_⟩
  rw [(List.mem_replicate.mp hb).2]
  exact hle a (List.mem_append_left _ ha)

/-! ### `url_serializer::start_part` behind the last started part -/

/-- behind part `lastPt ≥ HOST_START` the first switch does nothing: the skipped offsets are filled,
    then the delimiter is appended -/
theorem serStartPartX_ge4 (r : Rep) (lastPt pt : Nat) (h4 : 4 ≤ lastPt) (hlt : lastPt < pt) :
    serStartPartX r lastPt pt =
      (if delim pt = [] then pure { r with partEnd := fillRange r.partEnd (lastPt + 1) pt r.norm.length }
       else appendNormX { r with partEnd := fillRange r.partEnd (lastPt + 1) pt r.norm.length } (delim pt)) := by
  unfold serStartPartX serSwitch1X
  rw [if_neg (by simp only [PATH]; omega), if_neg (by simp only [SCHEME]; omega),
    if_neg (by simp only [USERNAME]; omega), if_neg (by simp only [PASSWORD]; omega)]
  rfl

/-- behind part `lastPt ≥ HOST_START` the one throwing primitive of `start_part` is its last step, the
    append of the delimiter: a failure state is the result without the delimiter -/
theorem leaves_serStartPartX_open (r : Rep) (lastPt pt : Nat) (h4 : 4 ≤ lastPt) (hlt : lastPt < pt) :
    Leaves (serStartPartX r lastPt pt)
      (fun x => serStartPart r lastPt pt = { x with norm := x.norm ++ delim pt }) := by
  rw [← serStartPartX_val, serStartPartX_ge4 _ _ _ h4 hlt]
  by_cases hd : delim pt = []
  · rw [if_pos hd]; exact leaves_pure
  · rw [if_neg hd]; exact Leaves.bind (leaves_mayThrow rfl) leaves_pure

/-- the same for `url_setter::start_part` in its two branches that write to `norm_url_` -/
theorem leaves_setStartPartX_open (r : Rep) (pt : Nat) (hpt5 : 5 ≤ pt)
    (hl : r.pe pt = 0 → 4 ≤ findLastPart r pt ∧ findLastPart r pt < pt)
    (hu : (setStartPart r pt).useStrp = false) :
    Leaves (setStartPartX r pt)
      (fun x => (setStartPart r pt).rep = { x with norm := x.norm ++ delim pt }) := by
  unfold setStartPart at hu ⊢
  unfold setStartPartX
  by_cases h1 : r.pe pt ≠ 0
  · rw [if_pos h1] at hu ⊢
    rw [if_pos h1]
    by_cases h2 : pt < FRAGMENT ∧ r.pe pt < r.norm.length
    · rw [if_pos h2] at hu; cases hu
    · rw [if_neg h2, if_neg h2]
      exact (leaves_serStartPartX_open _ (pt - 1) pt (by omega) (by omega)).map
  · rw [if_neg h1, if_neg h1]
    have := hl (Classical.not_not.mp h1)
    exact (leaves_serStartPartX_open _ _ pt this.1 this.2).map

theorem mkRepE_strip {x r0 : Rep} {X : List (List Nat)} {d : List Nat}
    (h : mkRepE r0 X d = { x with norm := x.norm ++ d }) : x = mkRep r0 X :=
  rep_eq_mkRep (List.append_cancel_right (congrArg Rep.norm h).symm)
    (congrArg Rep.partEnd h).symm (congrArg Rep.hostNotNull h).symm (congrArg Rep.portNotNull h).symm
    (congrArg Rep.queryNotNull h).symm (congrArg Rep.fragmentNotNull h).symm (congrArg Rep.opaquePath h).symm
    (congrArg Rep.hostType h).symm (congrArg Rep.segCount h).symm (congrArg Rep.schemeIdx h).symm

/-! ### `url_setter::start_part`, the appends, `save_part` -/

/-- the branch `use_strp_` of `url_setter::start_part` (other parts follow): at most the assignment to
    the temporary `strp_` throws -/
theorem setStartPartX_of_follows {r : Rep} {pt : Nat} (h1 : r.pe pt ≠ 0)
    (h2 : pt < FRAGMENT ∧ r.pe pt < r.norm.length) :
    Leaves (setStartPartX r pt) (· = r) ∧ (setStartPartX r pt).val.rep = r ∧
      (setStartPartX r pt).val.useStrp = true := by
  unfold setStartPartX
  rw [if_pos h1, if_pos h2]
  exact ⟨Leaves.bind (leaves_exitOr <| leaves_mayThrow rfl) leaves_pure,
    rfl, rfl⟩

/-- the part is the last one with text, or was never started: part `pt` is open behind the parts
    `S.take pt` (`setStart_last`), and so it is at the failure, without the delimiter -/
theorem setStartPartX_last (r0 : Rep) {S A : List (List Nat)} (h : Rp S A) (pt : Nat)
    (hpt5 : 5 ≤ pt) (hpt : pt ≤ 10) (hlast : (S.drop (pt + 1)).flatten = []) :
    Leaves (setStartPartX (mkRep r0 A) pt) (ShapeOf r0 (min A.length pt)) ∧
      ShapeOf r0 (min A.length pt) (setStartPartX (mkRep r0 A) pt).val.rep ∧
      (setStartPartX (mkRep r0 A) pt).val.useStrp = false := by
  have hlo := h.lo
  have hlenS := h.lenS
  have heq := setStart_last r0 h pt hpt5 hpt hlast
  have hpos : 0 < off (S.take pt) 1 := by
    have := h.pos
    unfold off at this ⊢
    rwa [List.take_take, Nat.min_eq_left (by omega)]
  -- part `pt` is open behind the parts `S.take pt`, whatever text of it is there already
  have hsh : ∀ d, ShapeOf r0 (min A.length pt) (mkRepE r0 (S.take pt) d) := fun d =>
    ⟨S.take pt, d, by simp; omega, by simp; omega, hpos, rfl⟩
  refine ⟨?_, by rw [setStartPartX_val, heq]; exact hsh _, by rw [setStartPartX_val, heq]⟩
  refine (leaves_setStartPartX_open _ pt hpt5 (fun hz => ?_) (by rw [heq])).mono fun x hx => ?_
  · -- the part was never started: `find_last_part` finds the last started one
    have hA : A.length ≤ pt := Nat.le_of_not_lt fun hc => h.pe_ne_zero r0 hc hz
    have := findLastPart_mkRep r0 A (by omega) h.posA pt (by omega)
    omega
  · rw [heq] at hx
    rw [mkRepE_strip hx, ← mkRepE_nil]
    exact hsh []

theorem appendX_strp (o : Open) (t : List Nat) (h : o.useStrp = true) :
    Leaves (o.appendX t) (· = o.rep) ∧ (o.appendX t).val.rep = o.rep ∧
      (o.appendX t).val.useStrp = true := by
  unfold Open.appendX
  rw [if_pos h]
  exact ⟨Leaves.bind (leaves_mayThrowN _ rfl) leaves_pure, rfl, h⟩

theorem appendX_nostrp {r0 : Rep} {m : Nat} (o : Open) (t : List Nat) (h : o.useStrp = false)
    (hs : ShapeOf r0 m o.rep) :
    Leaves (o.appendX t) (ShapeOf r0 m) ∧ ShapeOf r0 m (o.appendX t).val.rep ∧
      (o.appendX t).val.useStrp = false := by
  unfold Open.appendX
  rw [if_neg (by simp [h])]
  refine ⟨(leaves_appendUnitsX (fun _ t h => h.append t) hs t).map, ?_, h⟩
  show ShapeOf r0 m (appendUnitsX o.rep t).val
  rw [appendUnitsX_val]
  exact hs.append t

/-- `url_serializer::save_part` (url.h:2975) is an assignment -/
theorem leaves_setSavePartX_nostrp {o : Open} (h : o.useStrp = false) (P : Rep → Prop) :
    Leaves (setSavePartX o) P := by
  unfold setSavePartX
  simp only
  rw [if_neg (by simp [h])]
  exact leaves_pure

/-- other parts follow: the call is all-or-nothing -/
theorem writePartX_strp (r0 : Rep) {S A : List (List Nat)} (h : Rp S A) (pt : Nat) (text : List Nat)
    (hne : (S.drop (pt + 1)).flatten ≠ []) :
    Leaves (writePartX (mkRep r0 A) pt text) (· = mkRep r0 A) := by
  -- only the temporary `strp_` is touched
  obtain ⟨k1, k2, k3⟩ := setStartPartX_of_follows (h.pe_ne_zero r0 (by have := h.present hne; omega))
    (h.follows r0 hne)
  obtain ⟨a1, a2, _⟩ := appendX_strp (setStartPartX (mkRep r0 A) pt).val text k3
  exact Leaves.bind k1 (Leaves.bind (a1.mono fun _ e => e.trans k2)
    (leaves_setSavePartX.mono fun _ e => e.trans (a2.trans k2)))

theorem writePartX_shape (r0 : Rep) {S A : List (List Nat)} (h : Rp S A) (pt : Nat) (text : List Nat)
    (hpt5 : 5 ≤ pt) (hpt : pt ≤ 10) :
    Leaves (writePartX (mkRep r0 A) pt text) (ShapeOf r0 (min A.length pt)) := by
  by_cases hlast : (S.drop (pt + 1)).flatten = []
  · obtain ⟨k1, k2, k3⟩ := setStartPartX_last r0 h pt hpt5 hpt hlast
    obtain ⟨a1, _, a3⟩ := appendX_nostrp (setStartPartX (mkRep r0 A) pt).val text k3 k2
    exact Leaves.bind k1 (Leaves.bind a1 (leaves_setSavePartX_nostrp a3 _))
  · exact (writePartX_strp r0 h pt text hlast).of_eq ((shapeOf_rp r0 h).mono (Nat.min_le_left _ _))

/-! ### what a shape gives the getters: `Pt`, `PtS`, `PtW` -/

/-- `url::host()` (url.h:1197-1202) takes `e - b` from the raw offsets, `e = part_end_[PORT]` when the
    port is non-null, else `part_end_[HOST]`, `b = part_end_[HOST_START]`.  Until the repair of F11
    (fba3d2d) it did so WITHOUT the guard `e > b` of `get_part_view`: for a non-null host the view was
    inside the string only if `b ≤ e` -/
def HostViewOk (r : Rep) : Prop :=
  r.hostNotNull = true → r.pe HOST_START ≤ (if r.portNotNull then r.pe PORT else r.pe HOST)

instance (r : Rep) : Decidable (HostViewOk r) := by unfold HostViewOk; infer_instance

/-- some shape: enough for the offsets (`Pt.offsetsOk`) and for a non-empty string (`Pt.norm_ne`) -/
def Pt (r : Rep) : Prop := ∃ r0 m, ShapeOf r0 m r

/-- a shape in which HOST was started, and PORT too if the port is non-null -/
def PtS (r : Rep) : Prop := ∃ r0 m, ShapeOf r0 m r ∧ 6 ≤ m ∧ (r0.portNotNull = true → 7 ≤ m)

/-- `PtS` under the condition `w`, `Pt` without it: `url_setter::start_part` cuts the string and zeroes
    the offset of the part being rewritten when no text follows that part -/
def PtW (w : Prop) (r : Rep) : Prop := Pt r ∧ (w → PtS r)

theorem PtS.pt {r : Rep} (h : PtS r) : Pt r := by
  obtain ⟨r0, m, h1, _, _⟩ := h
  exact ⟨r0, m, h1⟩

theorem PtS.ptW {r : Rep} {w : Prop} (h : PtS r) : PtW w r := ⟨h.pt, fun _ => h⟩

theorem PtW.imp {r : Rep} {w w' : Prop} (h : PtW w r) (hw : w' → w) : PtW w' r := ⟨h.1, fun x => h.2 (hw x)⟩

theorem ShapeOf.pt {r0 r : Rep} {m : Nat} (h : ShapeOf r0 m r) : Pt r := ⟨r0, m, h⟩

theorem Pt.offsetsOk {r : Rep} (h : Pt r) : OffsetsOk r := by
  obtain ⟨r0, m, h1⟩ := h
  exact h1.offsetsOk

theorem Pt.norm_ne {r : Rep} (h : Pt r) : r.norm ≠ [] := by
  obtain ⟨r0, m, A, ex, _, _, hpos, rfl⟩ := h
  rcases A with _ | ⟨_ | ⟨c, a⟩, t⟩
  · simp [off] at hpos
  · simp [off] at hpos
  · simp [mkRepE]

theorem pe_mkRepE (r0 : Rep) (A : List (List Nat)) (e : List Nat) (i : Nat) :
    (mkRepE r0 A e).pe i = (mkRep r0 A).pe i := rfl

theorem PtS.hostViewOk {r : Rep} (h : PtS r) : HostViewOk r := by
  obtain ⟨r0, m, ⟨A, e, hm, hA, hpos, rfl⟩, h6, h7⟩ := h
  intro _
  show (mkRep r0 A).pe HOST_START ≤ if r0.portNotNull then (mkRep r0 A).pe PORT else (mkRep r0 A).pe HOST
  rw [pe_mkRep_lt _ _ _ (by simp only [HOST_START]; omega)]
  split
  · rw [pe_mkRep_lt _ _ _ (by have := h7 ‹_›; simp only [PORT]; omega)]
    exact off_mono A (by decide)
  · rw [pe_mkRep_lt _ _ _ (by simp only [HOST]; omega)]
    exact off_mono A (by decide)

theorem ptS_of_represents {r : Rep} {u : Url} (wf : RecWF u) (h : Represents r u) : PtS r := by
  obtain ⟨A, hA, rfl⟩ := h
  exact ⟨layout u, A.length, shapeOf_rp _ hA, hA.lo, rp_port_started wf hA segsOf_port⟩

theorem ptS_of_repFor {r : Rep} {u : Url} (wf : RecWF u) (h : RepFor r u) : PtS r :=
  ptS_of_represents wf ((repFor_iff u wf r).mp h)

/-! ### whole operations: a part written, the host written, the path committed -/

/-- `start_part(pt)`; the text; `save_part()` on a representation: all-or-nothing when other parts follow
    (`w`); otherwise part `pt` is open at a failure -/
theorem leaves_writePartX {r : Rep} {u : Url} (wf : RecWF u) (h : Represents r u) (pt : Nat) (text : List Nat)
    (hpt5 : 5 ≤ pt) (hpt : pt ≤ 10) {w : Prop}
    (hw : w → ((segsOf u).drop (pt + 1)).flatten ≠ []) : Leaves (writePartX r pt text) (PtW w) := by
  have hr : PtS r := ptS_of_represents wf h
  obtain ⟨A, hA, rfl⟩ := h
  exact fun r' hr' => ⟨(writePartX_shape (layout u) hA pt text hpt5 hpt r' hr').pt, fun x => by
    rw [writePartX_strp (layout u) hA pt text (hw x) r' hr']; exact hr⟩

/-- `hostDone` after `save_part`: the host type, then "/." removed by one more `replace_part` -/
def hostTailX (ht : Nat) (r0 : Rep) : X Rep :=
  if !(r0.setHostType ht).isEmpty PATH_PREFIX then replacePart1X (r0.setHostType ht) PATH_PREFIX []
  else pure (r0.setHostType ht)

theorem writeHostX_eq (r : Rep) (text : List Nat) (ht : Nat) :
    writeHostX r text ht = writePartX r HOST text >>= hostTailX ht := by
  unfold writeHostX writePartX hostDoneX
  simp only [X.bind_assoc]
  rfl

/-- `hostStart()`; the host text; `hostDone(ht)` on a representation of `u`.  A failure leaves the
    representation as it was, or - the host being the last part - cut at HOST_START with a prefix of
    the new host appended and `part_end_[HOST] = 0`, or the host written and "/." not yet removed. -/
theorem leaves_writeHostX (u : Url) (text : List Nat) (ht : Nat) {r : Rep} (ok : RepOk u)
    (h : Represents r u) (ho : u.hasOpaquePath = false) :
    Leaves (writeHostX r text ht)
      (PtW ((portSeg u ++ prefixSeg u ++ pathText u ++ querySeg u ++ fragSeg u) ≠ [])) := by
  obtain ⟨A, hA, rfl⟩ := h
  -- the test `part_len(SCHEME_SEP) < 3` of `start_part(HOST)`: there is no "//" yet, so the path follows
  have hok := ok.follows_host ho
  have wf := ok.1
  have hA' := hA
  unfold segsOf at hA'
  obtain ⟨A1, h1, h2⟩ := writePart_host_S (layout u) hA' text hok
  have hfollow : (List.drop (HOST + 1) (segsOf u)).flatten =
      portSeg u ++ prefixSeg u ++ pathText u ++ querySeg u ++ fragSeg u := by
    simp [segsOf, HOST]
  rw [writeHostX_eq]
  refine Leaves.bind ?_ (leaves_orExit (leaves_replacePartX.of_eq ?_))
  · exact leaves_writePartX wf ⟨A, hA, rfl⟩ HOST text (by simp [HOST]) (by simp [HOST])
      fun hf => hfollow ▸ hf
  · -- the state after `save_part` and `set_host_type`
    rw [writePartX_val, h1, setHostType_mkRep]
    exact PtS.ptW ⟨_, A1.length, shapeOf_rp _ h2, h2.lo,
      rp_port_started wf h2 fun hd => by split at hd <;> simp at hd <;> exact hd.1⟩

/-- `commit_path`: a failure of the first `replace_part` leaves the offsets of never-started parts
    up to PATH filled (the same record); a failure of the second one (the "/." prefix) leaves the new
    path and segment count written and the prefix as it was -/
theorem leaves_commitPathX (r0 : Rep) {S A : List (List Nat)} (h : Rp S A) (text : List Nat) (n : Nat) :
    Leaves (commitPathX (mkRep r0 A) text n) PtS := by
  -- `commit_path` first counts the parts up to PATH (index 8) as started: nine parts, HOST and PORT among them
  obtain ⟨hf1, hf2⟩ := fillUnset_mkRep r0 h
  have hlo := h.lo
  have hlen1 : 8 < (A ++ List.replicate (9 - A.length) ([] : List Nat)).length := by simp; omega
  obtain ⟨A2, h23, h21, h22⟩ := repl_one r0 hf2 8 text hlen1 (by omega)
  unfold commitPathX
  refine Leaves.bind (leaves_replacePartX.of_eq ?_) (leaves_adjustPathPrefixX.of_eq ?_)
  · rw [hf1]
    exact ⟨r0, _, shapeOf_rp r0 hf2, by omega, fun _ => by omega⟩
  · rw [replacePart1X_val, hf1]
    simp only [replacePart1, PATH]
    rw [h21]
    exact ⟨{ r0 with segCount := n }, _, shapeOf_rp _ h22, by omega, fun _ => by omega⟩

end Upa.Proofs.SetRepExc
