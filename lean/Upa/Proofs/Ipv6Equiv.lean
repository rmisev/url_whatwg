import Upa.Spec.Ip
import Upa.Proofs.Ipv6Parse
/-
  C12 — IPv6 parser: the code-shaped parser works on the remaining suffix, the Standard's on a pointer
  into the whole input; with `suffix = inp.drop pointer` each phase of the one simulates the other
  (`hex_sim`, `digits_sim`, `sim_v4`, `sim_main`), and the C++ shift loop equals the Standard's swap loop
  on a state whose pieces from the current one on are zero (`swaps_eq_shift`).
-/
namespace Upa.Proofs.V6
open Upa

theorem cAt_of_drop_cons (inp : List Nat) (p c : Nat) (r : List Nat) (h : inp.drop p = c :: r) :
    Spec.cAt inp p = some c ∧ inp.drop (p + 1) = r ∧ p < inp.length := by
  have h1 : (inp.drop p)[0]? = inp[p + 0]? := List.getElem?_drop
  rw [h] at h1
  have h2 : (inp.drop p).drop 1 = r := by rw [h]; rfl
  rw [List.drop_drop] at h2
  have h3 : p < inp.length := by
    apply Classical.byContradiction
    intro hn
    rw [List.drop_of_length_le (by omega)] at h
    cases h
  refine ⟨by simpa [Spec.cAt] using h1.symm, ?_, h3⟩
  rw [← h2]

theorem cAt_of_drop_nil (inp : List Nat) (p : Nat) (h : inp.drop p = []) : Spec.cAt inp p = none := by
  simp [Spec.cAt, List.drop_eq_nil_iff.1 h]

theorem hex_sim (inp : List Nat) : ∀ (max f p v l : Nat), max < f → l + max = 4 →
    ∃ q, Spec.ipv6Loop.hex inp f p v l =
        (q, (Impl.getHexNumber max (inp.drop p) v l).1, (Impl.getHexNumber max (inp.drop p) v l).2.1) ∧
      (Impl.getHexNumber max (inp.drop p) v l).2.2 = inp.drop q ∧
      q + l = p + (Impl.getHexNumber max (inp.drop p) v l).2.1 ∧ (p ≤ inp.length → q ≤ inp.length) := by
  intro max
  induction max with
  | zero =>
    intro f p v l hf hl
    obtain ⟨f', rfl⟩ : ∃ f', f = f' + 1 := ⟨f - 1, by omega⟩
    refine ⟨p, ?_, by simp [getHexL_zero], by simp [getHexL_zero], fun h => h⟩
    have : ¬ l < 4 := by omega
    rw [Spec.ipv6Loop.hex.eq_2]
    cases Spec.cAt inp p <;> simp [getHexL_zero, this]
  | succ m ih =>
    intro f p v l hf hl
    obtain ⟨f', rfl⟩ : ∃ f', f = f' + 1 := ⟨f - 1, by omega⟩
    rw [Spec.ipv6Loop.hex.eq_2]
    cases hd : inp.drop p with
    | nil =>
      rw [cAt_of_drop_nil inp p hd]
      exact ⟨p, by simp [getHexL_nil], by simp [getHexL_nil, hd], by simp [getHexL_nil],
        fun h => h⟩
    | cons c r =>
      obtain ⟨hc, hr, hlt⟩ := cAt_of_drop_cons inp p c r hd
      rw [hc]
      simp only
      by_cases hx : isHex c = true
      · have hl4 : l < 4 := by omega
        rw [getHexL_cons, if_pos hx, if_pos ⟨hl4, hx⟩]
        obtain ⟨q, h1, h2, h3, h4⟩ := ih f' (p + 1) (v * 0x10 + hexVal c) (l + 1) (by omega) (by omega)
        rw [hr] at h1 h2 h3
        exact ⟨q, h1, h2, by omega, fun _ => h4 (by omega)⟩
      · rw [getHexL_cons, if_neg hx, if_neg (by simp [hx])]
        exact ⟨p, rfl, hd.symm, rfl, fun h => h⟩

theorem digits_sim (inp : List Nat) : ∀ (l : List Nat) (f p v : Nat), inp.drop p = l → l.length < f →
    (Impl.v6Digits l v = none → Spec.ipv6V4Part.digits inp f p (some v) = none) ∧
    (∀ x rest, Impl.v6Digits l v = some (x, rest) →
      ∃ q, Spec.ipv6V4Part.digits inp f p (some v) = some (x, q) ∧ rest = inp.drop q ∧ p ≤ q ∧
        (p ≤ inp.length → q ≤ inp.length)) := by
  intro l
  induction l with
  | nil =>
    intro f p v hd hf
    obtain ⟨f', rfl⟩ : ∃ f', f = f' + 1 := ⟨f - 1, by omega⟩
    rw [Spec.ipv6V4Part.digits.eq_2, cAt_of_drop_nil inp p hd]
    constructor
    · intro h; simp [v6DigL_nil] at h
    · intro x rest h
      simp [v6DigL_nil] at h
      obtain ⟨rfl, rfl⟩ := h
      exact ⟨p, rfl, hd.symm, Nat.le_refl _, fun h => h⟩
  | cons d r ih =>
    intro f p v hd hf
    obtain ⟨f', rfl⟩ : ∃ f', f = f' + 1 := ⟨f - 1, by omega⟩
    obtain ⟨hc, hr, hlt⟩ := cAt_of_drop_cons inp p d r hd
    rw [Spec.ipv6V4Part.digits.eq_2, hc, v6DigL_cons]
    simp only
    by_cases hdig : isDigit d = true
    · simp only [hdig, if_true]
      cases v with
      | zero => simp
      | succ v' =>
        simp only [Nat.succ_ne_zero, if_false]
        by_cases hgt : (v' + 1) * 10 + (d - 0x30) > 255
        · simp [hgt]
        · simp only [hgt, if_false]
          obtain ⟨i1, i2⟩ := ih f' (p + 1) ((v' + 1) * 10 + (d - 0x30)) hr (by simp at hf; omega)
          refine ⟨i1, ?_⟩
          intro x rest h
          obtain ⟨q, h1, h2, h3, h4⟩ := i2 x rest h
          exact ⟨q, h1, h2, by omega, fun _ => h4 (by omega)⟩
    · simp only [hdig]
      constructor
      · intro h; simp at h
      · intro x rest h
        simp at h
        obtain ⟨rfl, rfl⟩ := h
        exact ⟨p, rfl, hd.symm, Nat.le_refl _, fun h => h⟩

/-- the Standard's state for a state of the C++ parser (`compress = 0` stands for null) -/
def toSpec (st : Impl.V6St) : Spec.V6 :=
  { addr := st.address, pieceIndex := st.pieceIndex,
    compress := if st.compress = 0 then none else some st.compress }

/-- Standard-side state after one dotted number -/
def spV4 (st : Spec.V6) (v ns' : Nat) : Spec.V6 :=
  { addr := st.addr.set st.pieceIndex (st.addr.getD st.pieceIndex 0 * 0x100 + v),
    pieceIndex := if ns' = 2 ∨ ns' = 4 then st.pieceIndex + 1 else st.pieceIndex,
    compress := st.compress }

/-- Standard side of `v4Body`: one dotted number, read from position `p'` -/
def spV4Body (inp : List Nat) (f ns : Nat) (st : Spec.V6) (p' : Nat) : Option Spec.V6 :=
  match Spec.cAt inp p' with
  | none => none
  | some d =>
    if (!isDigit d) = true then none
    else match Spec.ipv6V4Part.digits inp (inp.length + 1) p' none with
      | none => none
      | some (v, q) => Spec.ipv6V4Part inp f q (ns + 1) (spV4 st v (ns + 1))

theorem specV4_step (inp : List Nat) (f p ns : Nat) (st : Spec.V6) (c : Nat) (hc : Spec.cAt inp p = some c) :
    Spec.ipv6V4Part inp (f + 1) p ns st =
      match (if ns > 0 then (if c = 0x2E ∧ ns < 4 then some (p + 1) else none) else some p) with
      | none => none
      | some p' => spV4Body inp f ns st p' := by
  rw [Spec.ipv6V4Part.eq_2, hc]
  simp only [spV4Body, spV4]
  generalize (if ns > 0 then (if c = 0x2E ∧ ns < 4 then some (p + 1) else none) else some p) = q
  cases q with
  | none => rfl
  | some p' =>
    simp only
    cases Spec.cAt inp p' with
    | none => rfl
    | some d =>
      simp only
      by_cases hd : (!isDigit d) = true
      · simp only [hd, if_true]
      · simp only [hd]
        cases Spec.ipv6V4Part.digits inp (inp.length + 1) p' none with
        | none => rfl
        | some pr =>
          obtain ⟨v, q⟩ := pr
          simp only
          by_cases hp : ns + 1 = 2 ∨ ns + 1 = 4
          · simp only [hp, if_true]
          · simp only [hp, if_false]

theorem toSpec_stV4 (st : Impl.V6St) (piece ns : Nat) (hz : V4Z ns st) (hp : piece ≤ 255) (hns : ns + 1 ≤ 4) :
    toSpec (stV4 st piece (ns + 1)) = spV4 (toSpec st) piece (ns + 1) := by
  have hv := (V4Z_value ns st piece hz hp).1
  have e : (ns + 1) % 2 = 0 ↔ (ns + 1 = 2 ∨ ns + 1 = 4) := by omega
  simp only [toSpec, stV4, spV4, Nat.mod_eq_of_lt hv, e]

theorem sim_v4 (inp : List Nat) : ∀ (f1 f2 p ns : Nat) (st : Impl.V6St),
    p ≤ inp.length → inp.length < p + f1 → inp.length < p + f2 → ns ≤ 4 → V4Z ns st →
    (Impl.v6V4Loop f1 (inp.drop p) ns st).map toSpec = Spec.ipv6V4Part inp f2 p ns (toSpec st) := by
  intro f1
  induction f1 with
  | zero => intro f2 p ns st _ h; omega
  | succ f1 ih =>
    intro f2 p ns st hp hf1 hf2 hns hz
    obtain ⟨f2, rfl⟩ : ∃ f', f2 = f' + 1 := ⟨f2 - 1, by omega⟩
    cases hd : inp.drop p with
    | nil =>
      rw [Spec.ipv6V4Part.eq_2, cAt_of_drop_nil inp p hd]
      by_cases h4 : ns = 4 <;> simp [Impl.v6V4Loop, h4]
    | cons c r =>
      obtain ⟨hc, hr, hlt⟩ := cAt_of_drop_cons inp p c r hd
      rw [v4Loop_step, specV4_step inp f2 p ns (toSpec st) c hc]
      -- one dotted number, read from the position `p'` of its first digit, on both sides
      have key : ∀ (p' : Nat) (l' : List Nat), inp.drop p' = l' → p ≤ p' → p' ≤ inp.length → ns + 1 ≤ 4 →
          (v4Body f1 ns st l').map toSpec = spV4Body inp f2 ns (toSpec st) p' := by
        intro p' l' hd' hpp' hp'len hns1
        simp only [v4Body, spV4Body]
        cases l' with
        | nil => rw [cAt_of_drop_nil inp p' hd']; rfl
        | cons d r' =>
          obtain ⟨hc', hr', hlt'⟩ := cAt_of_drop_cons inp p' d r' hd'
          rw [hc']
          simp only
          by_cases hdig : (!isDigit d) = true
          · simp only [hdig, if_true]; rfl
          · simp only [hdig]
            have hdig' : isDigit d = true := by simpa using hdig
            have hle : d - 0x30 ≤ 255 := by have := (isDigit_iff d).1 hdig'; omega
            have hfirst : Spec.ipv6V4Part.digits inp (inp.length + 1) p' none =
                Spec.ipv6V4Part.digits inp inp.length (p' + 1) (some (d - 0x30)) := by
              rw [Spec.ipv6V4Part.digits.eq_2, hc']
              simp only [hdig', if_true]
            rw [hfirst]
            obtain ⟨i1, i2⟩ := digits_sim inp r' inp.length (p' + 1) (d - 0x30) hr'
              (by rw [← hr']; simp; omega)
            cases hdg : Impl.v6Digits r' (d - 0x30) with
            | none => rw [i1 hdg]; rfl
            | some pr =>
              obtain ⟨piece, rest⟩ := pr
              obtain ⟨q, h1, h2, h3, h4⟩ := i2 piece rest hdg
              rw [h1]
              simp only [Bool.false_eq_true, if_false]
              have hpiece := (v6Digits_le _ _ _ _ hle hdg).1
              rw [h2, ih f2 q (ns + 1) (stV4 st piece (ns + 1)) (h4 (by omega)) (by omega) (by omega) hns1
                (V4Z_step ns st piece hz hpiece), toSpec_stV4 st piece ns hz hpiece hns1]
      by_cases h0 : ns > 0
      · simp only [h0, if_true]
        by_cases hdot : c = 0x2E ∧ ns < 4
        · simp only [hdot, and_self, if_true]
          exact key (p + 1) r hr (by omega) (by omega) (by omega)
        · simp only [hdot, if_false]; rfl
      · simp only [h0, if_false]
        exact key p (c :: r) hd (Nat.le_refl _) hp (by omega)

def spPut (st : Spec.V6) (value : Nat) : Spec.V6 :=
  { st with addr := st.addr.set st.pieceIndex value, pieceIndex := st.pieceIndex + 1 }

def spCompress (st : Spec.V6) : Spec.V6 :=
  { st with pieceIndex := st.pieceIndex + 1, compress := some (st.pieceIndex + 1) }

theorem specLoop_step (inp : List Nat) (f p : Nat) (st : Spec.V6) (c q value length : Nat)
    (hc : Spec.cAt inp p = some c) (hh : Spec.ipv6Loop.hex inp 5 p 0 0 = (q, value, length)) :
    Spec.ipv6Loop inp (f + 1) p st =
      if st.pieceIndex = 8 then none
      else if c = 0x3A then
        (if st.compress.isSome then none else Spec.ipv6Loop inp f (p + 1) (spCompress st))
      else match Spec.cAt inp q with
        | none => Spec.ipv6Loop inp f q (spPut st value)
        | some ch =>
          if ch = 0x2E then
            (if length = 0 then none
             else if st.pieceIndex > 6 then none
             else Spec.ipv6V4Part inp (inp.length + 2) (q - length) 0 st)
          else if ch = 0x3A then
            (if (Spec.cAt inp (q + 1)).isNone then none else Spec.ipv6Loop inp f (q + 1) (spPut st value))
          else none := by
  rw [Spec.ipv6Loop.eq_2, hc]
  simp only [hh]
  by_cases h8 : st.pieceIndex = 8
  · simp only [h8, if_true]
  · simp only [h8, if_false]
    by_cases hcol : c = 0x3A
    · simp only [hcol, if_true]; rfl
    · simp only [hcol, if_false]
      cases hq : Spec.cAt inp q with
      | none => rfl
      | some ch =>
        by_cases h1 : ch = 0x2E
        · subst h1; rfl
        · by_cases h2 : ch = 0x3A
          · subst h2; rfl
          · simp only [h1, h2, if_false]

theorem toSpec_stPut (st : Impl.V6St) (v : Nat) : toSpec (stPut st v) = spPut (toSpec st) v := rfl

theorem toSpec_stCompress (st : Impl.V6St) : toSpec (stCompress st) = spCompress (toSpec st) := by
  simp [toSpec, stCompress, spCompress]

theorem sim_main (inp : List Nat) (F : Nat) (hF : inp.length < F) : ∀ (f1 f2 p : Nat) (st : Impl.V6St),
    p ≤ inp.length → inp.length < p + f1 → inp.length < p + f2 → ZerosFrom st.address st.pieceIndex →
    (implV4 F (Impl.v6MainLoop f1 (inp.drop p) st)).map toSpec = Spec.ipv6Loop inp f2 p (toSpec st) := by
  intro f1
  induction f1 with
  | zero => intro f2 p st _ h; omega
  | succ f1 ih =>
    intro f2 p st hp hf1 hf2 hz
    obtain ⟨f2, rfl⟩ : ∃ f', f2 = f' + 1 := ⟨f2 - 1, by omega⟩
    cases hd : inp.drop p with
    | nil =>
      rw [Spec.ipv6Loop.eq_2, cAt_of_drop_nil inp p hd]
      simp [Impl.v6MainLoop, implV4]
    | cons c r =>
      obtain ⟨hc, hr, hlt⟩ := cAt_of_drop_cons inp p c r hd
      obtain ⟨q, h1, h2, h3, h4⟩ := hex_sim inp 4 5 p 0 0 (by omega) (by omega)
      rw [hd] at h1 h2 h3
      generalize hg : Impl.getHexNumber 4 (c :: r) 0 0 = g at h1 h2 h3
      obtain ⟨value, n, p'⟩ := g
      simp only at h1 h2 h3
      have hq := h4 hp
      rw [mainLoop_step f1 c r st value n p' hg, specLoop_step inp f2 p (toSpec st) c q value n hc h1]
      have e8 : (toSpec st).pieceIndex = st.pieceIndex := rfl
      rw [e8]
      by_cases h8 : st.pieceIndex = 8
      · simp only [h8, if_true]; rfl
      · simp only [h8, if_false]
        have hzput : ZerosFrom (stPut st value).address (stPut st value).pieceIndex :=
          ZerosFrom_set _ _ _ hz
        by_cases hcol : c = 0x3A
        · simp only [hcol, if_true]
          by_cases hcm : st.compress = 0
          · have : (toSpec st).compress.isSome = false := by simp [toSpec, hcm]
            simp only [hcm, this, ne_eq, not_true, if_false, Bool.false_eq_true]
            rw [← hr, ih f2 (p + 1) (stCompress st) (by omega) (by omega) (by omega)
              (fun j hj => hz j (by simp [stCompress] at hj; omega)), toSpec_stCompress]
          · have : (toSpec st).compress.isSome = true := by simp [toSpec, hcm]
            simp only [hcm, this, ne_eq, not_false_eq_true, if_true]; rfl
        · simp only [hcol, if_false]
          cases p' with
          | nil =>
            have hqlen := List.drop_eq_nil_iff.1 h2.symm
            rw [cAt_of_drop_nil inp q h2.symm]
            simp only
            have : ([] : List Nat) = inp.drop q := h2
            rw [this, ih f2 q (stPut st value) hq (by omega) (by omega) hzput, toSpec_stPut]
          | cons ch p1 =>
            obtain ⟨hc', hr', hlt'⟩ := cAt_of_drop_cons inp q ch p1 h2.symm
            rw [hc']
            simp only
            by_cases hdot : ch = 0x2E
            · simp only [hdot, if_true]
              by_cases hn : n = 0
              · simp only [hn, if_true]; rfl
              · simp only [hn, if_false]
                simp only [implV4]
                have hqn : q - n = p := by omega
                by_cases h6 : st.pieceIndex > 6
                · simp only [h6, if_true]; rfl
                · simp only [h6, if_false]
                  rw [hqn, ← hd]
                  exact sim_v4 inp F (inp.length + 2) p 0 st hp (by omega) (by omega) (by omega)
                    ⟨fun _ => hz, fun h => by omega⟩
            · simp only [hdot, if_false]
              by_cases hcol' : ch = 0x3A
              · simp only [hcol', if_true]
                cases p1 with
                | nil =>
                  rw [cAt_of_drop_nil inp (q + 1) hr']
                  simp; rfl
                | cons c2 p2 =>
                  obtain ⟨hc2, _, hlt2⟩ := cAt_of_drop_cons inp (q + 1) c2 p2 hr'
                  rw [hc2]
                  simp only [List.cons_ne_nil, if_false, Option.isNone_some, Bool.false_eq_true]
                  rw [← hr', ih f2 (q + 1) (stPut st value) (by omega) (by omega) (by omega) hzput,
                    toSpec_stPut]
              · simp only [hcol', if_false]; rfl

theorem swapAt_self (l : List Nat) (i : Nat) : Spec.swapAt l i i = l := by
  unfold Spec.swapAt
  rw [set_getD_self, set_getD_self]

theorem swaps_self (c : Nat) : ∀ (k P : Nat) (a : List Nat), P + 1 = c + k → Spec.ipv6Swaps c P k a = a := by
  intro k
  induction k with
  | zero => intro P a _; cases P <;> rfl
  | succ k ih =>
    intro P a h
    cases P with
    | zero => rfl
    | succ P =>
      rw [Spec.ipv6Swaps]
      have e : c + (k + 1) - 1 = P + 1 := by omega
      rw [e, swapAt_self]
      exact ih P a (by omega)

theorem swaps_eq_shift (c d : Nat) : ∀ (k : Nat) (a : List Nat),
    (∀ j, c + k ≤ j → j < c + k + (d + 1) → a.getD j 0 = 0) →
    Spec.ipv6Swaps c (c + k + d) k a = Impl.v6Shift (d + 1) c k a := by
  intro k
  induction k with
  | zero => intro a _; cases (c + 0 + d) <;> rfl
  | succ k ih =>
    intro a hz
    have e1 : c + (k + 1) + d = (c + k + d) + 1 := by omega
    have e2 : c + (k + 1) - 1 = c + k := by omega
    have e3 : c + k + d + 1 = c + k + (d + 1) := by omega
    rw [e1, Spec.ipv6Swaps, Impl.v6Shift, e2, e3]
    have h0 : a.getD (c + k + (d + 1)) 0 = 0 := hz _ (by omega) (by omega)
    have hs : Spec.swapAt a (c + k + (d + 1)) (c + k) =
        (a.set (c + k + (d + 1)) (a.getD (c + k) 0)).set (c + k) 0 := by
      unfold Spec.swapAt; rw [h0]
    rw [hs]
    apply ih
    intro j hj1 hj2
    rw [getD_set]
    split
    · rfl
    · rename_i hn
      rw [getD_set, if_neg (by omega)]
      by_cases hj : j = c + k
      · have hlen : a.length ≤ j := by
          have : ¬ j < (a.set (c + k + (d + 1)) (a.getD (c + k) 0)).length := fun h => hn ⟨hj.symm, h⟩
          simpa using this
        exact getD_of_length_le hlen
      · exact hz j (by omega) (by omega)

/-- the Standard's steps after the main loop: the swap loop, or the check for eight pieces -/
def specFinal (st : Spec.V6) : Option (List Nat) :=
  match st.compress with
  | some cmp => some (Spec.ipv6Swaps cmp 7 (st.pieceIndex - cmp) st.addr)
  | none => if st.pieceIndex ≠ 8 then none else some st.addr

theorem final_eq (st : Impl.V6St) (hinv : Inv st) : implFinal st = specFinal (toSpec st) := by
  unfold implFinal specFinal toSpec
  by_cases hc : st.compress = 0
  · simp [hc]
  · have h1 := hinv.cmp
    have h2 := hinv.le8
    simp only [hc, ne_eq, not_false_eq_true, if_true, if_false]
    by_cases h8 : 8 - st.pieceIndex = 0
    · simp only [h8, not_true, if_false]
      rw [swaps_self st.compress (st.pieceIndex - st.compress) 7 st.address (by omega)]
    · simp only [h8, not_false_eq_true, if_true]
      obtain ⟨d, hd⟩ : ∃ d, 8 - st.pieceIndex = d + 1 := ⟨8 - st.pieceIndex - 1, by omega⟩
      have e7 : 7 = st.compress + (st.pieceIndex - st.compress) + d := by omega
      rw [hd]
      conv => rhs; rw [e7]
      rw [swaps_eq_shift]
      intro j hj _
      exact hinv.zeros j (by omega)

/-- the Standard's steps before the main loop -/
def specStart (inp : List Nat) : Option (Nat × Spec.V6) :=
  if Spec.cAt inp 0 = some 0x3A then
    (if Spec.cAt inp 1 = some 0x3A then some (2, { pieceIndex := 1, compress := some 1 }) else none)
  else some (0, {})

theorem specParse_eq (inp : List Nat) :
    Spec.ipv6Parse inp =
      (specStart inp).bind (fun ps => (Spec.ipv6Loop inp (inp.length + 2) ps.1 ps.2).bind specFinal) := by
  unfold Spec.ipv6Parse
  show (match specStart inp with
      | none => none
      | some (p, st) => _) = _
  cases specStart inp with
  | none => rfl
  | some ps =>
    obtain ⟨p, st⟩ := ps
    simp only [Option.bind]
    cases Spec.ipv6Loop inp (inp.length + 2) p st with
    | none => rfl
    | some st' =>
      simp only [specFinal]
      cases st'.compress <;> rfl

theorem start_eq (c0 c1 : Nat) (r : List Nat) :
    (implStart (c0 :: c1 :: r)).map (fun ps => (ps.1, toSpec ps.2)) =
      (specStart (c0 :: c1 :: r)).map (fun ps => ((c0 :: c1 :: r).drop ps.1, ps.2)) := by
  unfold implStart specStart
  by_cases h0 : c0 = 0x3A
  · subst h0
    by_cases h1 : c1 = 0x3A
    · subst h1; simp [Spec.cAt, toSpec]
    · simp [Spec.cAt, h1]
  · simp only [Spec.cAt, List.getElem?_cons_zero, Option.some.injEq, h0, if_false]
    split
    · rename_i heq; simp at heq; omega
    · simp [toSpec]

theorem core_eq (inp : List Nat) (p : Nat) (st : Impl.V6St) (hp : p ≤ inp.length) (hinv : Inv st) :
    (implV4 (inp.length + 1) (Impl.v6MainLoop (inp.length + 1) (inp.drop p) st)).bind implFinal =
      (Spec.ipv6Loop inp (inp.length + 2) p (toSpec st)).bind specFinal := by
  rw [← sim_main inp (inp.length + 1) (by omega) (inp.length + 1) (inp.length + 2) p st hp
    (by omega) (by omega) hinv.zeros]
  cases hm : implV4 (inp.length + 1) (Impl.v6MainLoop (inp.length + 1) (inp.drop p) st) with
  | none => rfl
  | some st' =>
    have := (implV4_spec _ _ _ _ _ hinv hm).1
    simp only [Option.map, Option.bind]
    exact final_eq st' this

/-- The C++ rejects an input of fewer than two units before anything else (`ipv6Parse_eq`'s first test); the Standard
    has no such test, so it has to be shown to fail on every one-unit input: on ":" in its step 5, on anything else
    by running the main loop (through `core_eq`, on the C++ side): it fails, or ends with one piece and no compression. -/
theorem spec_single (c : Nat) : Spec.ipv6Parse [c] = none := by
  rw [specParse_eq]
  unfold specStart
  by_cases h0 : c = 0x3A
  · subst h0; simp [Spec.cAt]
  · have hcore := core_eq [c] 0 {} (by simp) Inv.init
    have e : toSpec ({} : Impl.V6St) = ({} : Spec.V6) := by simp [toSpec]
    rw [e] at hcore
    simp only [Spec.cAt, List.getElem?_cons_zero, Option.some.injEq, h0, if_false]
    show (Spec.ipv6Loop [c] ([c].length + 2) 0 {}).bind specFinal = none
    rw [← hcore]
    simp only [List.drop_zero, List.length_singleton]
    generalize hg : Impl.getHexNumber 4 [c] 0 0 = g
    obtain ⟨value, n, p'⟩ := g
    rw [mainLoop_step 1 c [] {} value n p' hg]
    rw [getHexL_cons, getHexL_nil] at hg
    by_cases hx : isHex c = true
    · simp [hx] at hg
      obtain ⟨rfl, rfl, rfl⟩ := hg
      simp [h0, Impl.v6MainLoop, implV4, implFinal, stPut]
    · simp [hx] at hg
      obtain ⟨rfl, rfl, rfl⟩ := hg
      simp [h0, implV4]

theorem parse_eq (s : List Nat) : Impl.ipv6Parse s = Spec.ipv6Parse s := by
  match s with
  | [] => rfl
  | [c] => rw [spec_single]; rfl
  | c0 :: c1 :: r =>
    rw [ipv6Parse_eq, specParse_eq, if_neg (by simp)]
    have hs := start_eq c0 c1 r
    cases hi : implStart (c0 :: c1 :: r) with
    | none =>
      rw [hi] at hs
      cases hsp : specStart (c0 :: c1 :: r) with
      | none => rfl
      | some ps => rw [hsp] at hs; simp at hs
    | some ps =>
      obtain ⟨l, st⟩ := ps
      rw [hi] at hs
      cases hsp : specStart (c0 :: c1 :: r) with
      | none => rw [hsp] at hs; simp at hs
      | some ps' =>
        obtain ⟨p, st'⟩ := ps'
        rw [hsp] at hs
        simp at hs
        obtain ⟨hl, hst⟩ := hs
        have hp : p ≤ (c0 :: c1 :: r).length := by
          unfold specStart at hsp
          split at hsp
          · split at hsp
            · simp at hsp; simp; omega
            · simp at hsp
          · simp at hsp; omega
        simp only [Option.bind]
        rw [hl, ← hst]
        exact core_eq (c0 :: c1 :: r) p st hp (implStart_inv _ _ _ hi)

end Upa.Proofs.V6
