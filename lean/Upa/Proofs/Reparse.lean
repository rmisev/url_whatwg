import Upa.Impl.Api
import Upa.Proofs.EncHead
import Upa.Proofs.ParserRules
import Upa.Proofs.Radix
import Upa.Proofs.Percent
import Upa.Proofs.CharClass
/-
  C02: serialise, then parse again: `Impl.parse idna e (Impl.serialize u) base = some u` for `u` in the
  normal form `NormP`.  One lemma per parser block, bottom-up over the serialiser grammar, each about ANY
  record: on a well-formed piece followed by a text at whose head the block's scan stops, the block stores
  the piece and goes on with the next block, or ends the run after the fragment (a scan over `x ++ t` stops at the
  head of `t`: `takeWhile_scan`, `dropWhile_scan` of Proofs/ListScan.lean; the encoders are the identity on their fixpoints; `toDecimal` re-parses to the same
  number).  The serialisation is one equation over its pieces (`serialize_eq`); every element of it is
  printable, so trimming, tab / newline removal and decoding leave it alone (`prep_serialize`); the parser
  proper is then run on it by shape (host / file host / opaque path / list path), and the base is never
  consulted because the text starts with a scheme.
-/
namespace Upa.Proofs.C02
open Upa Upa.Impl

/-! ## component predicates of the normal form -/

def isLowerAlpha (c : Nat) : Bool := decide (0x61 ≤ c) && decide (c ≤ 0x7A)
/-- scheme code point after the first, lower case: `a-z 0-9 + - .` -/
def schemeTailChar (c : Nat) : Bool :=
  isLowerAlpha c || isDigit c || c == 0x2B || c == 0x2D || c == 0x2E
def schemeOk : List Nat → Bool
  | [] => false
  | c :: r => isLowerAlpha c && r.all schemeTailChar

/-- `Impl/Canon.lean` has the same predicate for the canonical form -/
theorem schemeOk_eq (s : List Nat) : schemeOk s = Impl.schemeOk s := by
  cases s <;> rfl

def userinfoOk (s : List Nat) : Bool := s.all (keeps userinfoNoEnc)
def fragmentOk (s : List Nat) : Bool := s.all (keeps fragmentNoEnc)
def queryOk (special : Bool) (s : List Nat) : Bool :=
  s.all (keeps (if special then specialQueryNoEnc else queryNoEnc))
/-- path segment element: kept by the path encoder, not `/`, and not `\` in a special URL -/
def segCharOk (special : Bool) (c : Nat) : Bool :=
  keeps pathNoEnc c && c != 0x2F && !(special && c == 0x5C)
def segOk (special : Bool) (seg : List Nat) : Bool :=
  seg.all (segCharOk special) && !singleDot seg && !doubleDot seg
/-- file URL: the first segment is not an un-normalised drive letter `X|` -/
def driveOk : List (List Nat) → Bool
  | [a, b] :: _ => !(isAlpha a && b == 0x7C)
  | _ => true
/-- opaque path element: kept by the C0-control encoder (0x20..0x7E), not `?`, not `#` -/
def opaqueCharOk (c : Nat) : Bool := decide (0x1F < c) && decide (c < 0x7F) && !isQorH c
/-- opaque path: elements ok, does not start with `/`, and does not end with a space when both
    query and fragment are null (`noQF`) -/
def opaqueOk (op : List Nat) (noQF : Bool) : Bool :=
  op.all opaqueCharOk && op.head? != some 0x2F && !(noQF && op.getLast? == some 0x20)
/-- host text element: printable ASCII, none of `/ ? # @`, and not `\` in a special URL -/
def hostCharOk (special : Bool) (c : Nat) : Bool :=
  decide (0x20 < c) && decide (c < 0x7F) && c != 0x2F && c != 0x3F && c != 0x23 && c != 0x40 &&
    !(special && c == 0x5C)
def notBracket (c : Nat) : Bool := c != 0x5B && c != 0x5D
/-- `[` … `]` with no bracket inside, or no `:` `[` `]` at all: `hostScan` finds no port colon in it -/
def hostColonOk : List Nat → Bool
  | [] => true
  | c :: r =>
    if c = 0x5B then r.getLast? == some 0x5D && r.dropLast.all notBracket
    else (c :: r).all (fun c => c != 0x3A && notBracket c)
/-- file URL host: not `localhost`, not a two-element drive letter -/
def hostFileOk (t : List Nat) : Bool :=
  t != sLocalhost && !(match t with | [a, b] => isWindowsDrive a b | _ => false)
def hostTextOk (special file : Bool) (t : List Nat) : Bool :=
  t.all (hostCharOk special) && hostColonOk t && (!file || hostFileOk t)

/-- which components may be present together -/
def ShapeP (u : Url) : Prop :=
  (u.hasOpaquePath = true → u.host = none ∧ u.path = [] ∧ u.isSpecial = false) ∧
  (u.hasOpaquePath = false → u.opaquePath = []) ∧
  (u.isSpecial = true → u.host ≠ none ∧ u.path ≠ []) ∧
  (u.isSpecial = true → u.isFile = false → u.hostText ≠ []) ∧
  (u.isFile = true ∨ u.hostText = [] → u.username = [] ∧ u.password = [] ∧ u.port = none) ∧
  -- "a:" re-parses with an (empty) opaque path
  (u.isSpecial = false → u.host = none → u.hasOpaquePath = false → u.path ≠ [])

def portOk (scheme : List Nat) : Option Nat → Bool
  | none => true
  | some p => decide (p < 65536) && defaultPort scheme != some p

def HostStable (idna : Idna) (special : Bool) (h : Host) : Prop :=
  if h.text = [] then h = emptyHost else parseHost idna h.text (!special) = some h

instance (idna : Idna) (special : Bool) (h : Host) : Decidable (HostStable idna special h) := by
  unfold HostStable; infer_instance

theorem HostStable.cases {idna : Idna} {sp : Bool} {h : Host} (hst : HostStable idna sp h) :
    (h.text = [] ∧ h = emptyHost) ∨ (h.text ≠ [] ∧ parseHost idna h.text (!sp) = some h) := by
  unfold HostStable at hst
  split at hst
  · exact .inl ⟨‹_›, hst⟩
  · exact .inr ⟨‹_›, hst⟩

/-! ## preprocessing -/

theorem removeWs_id (s : List Nat) (h : ∀ c ∈ s, 0x20 ≤ c) : removeWs s = s := by
  unfold removeWs
  rw [List.filter_eq_self]
  intro c hc
  have := h c hc
  simp [isRemovable]
  omega

/-- the last element exists and is not a trim character -/
def EndsOk (l : List Nat) : Prop := ∃ i z, l = i ++ [z] ∧ 0x20 < z

theorem EndsOk.append_left {y : List Nat} (x : List Nat) (h : EndsOk y) : EndsOk (x ++ y) := by
  obtain ⟨i, z, rfl, hz⟩ := h
  exact ⟨x ++ i, z, by simp, hz⟩

theorem EndsOk.of_all {x : List Nat} (hne : x ≠ []) (h : ∀ c ∈ x, 0x20 < c) : EndsOk x := by
  refine ⟨x.dropLast, x.getLast hne, (List.dropLast_concat_getLast hne).symm, h _ (List.getLast_mem hne)⟩

theorem doTrim_id (c : Nat) (r : List Nat) (hc : 0x20 < c) (he : EndsOk (c :: r)) :
    doTrim (c :: r) = c :: r := by
  obtain ⟨i, z, hl, hz⟩ := he
  unfold doTrim
  have h1 : (c :: r).dropWhile isTrimChar = c :: r := by
    have : isTrimChar c = false := by simp [isTrimChar]; omega
    simp [List.dropWhile, this]
  have h2 : isTrimChar z = false := by simp [isTrimChar]; omega
  rw [h1, hl]
  simp [List.reverse_append, h2]

/-! ## the parser blocks, bottom-up

  Each block is `{ v with … }` on the record it is given and reads only `v.isSpecial`, `v.isFile`,
  `v.scheme`, `v.path` of it; so each lemma is about any record `v`. -/

@[simp] theorem isFile_mk (s un pw : List Nat) (h : Option Host) (p : Option Nat) (b : Bool)
    (op : List Nat) (pa : List (List Nat)) (q f : Option (List Nat)) :
    (Url.mk s un pw h p b op pa q f).isFile = isFileScheme s := rfl

/-- `?query#fragment` as the serializer writes it -/
def qText : Option (List Nat) → List Nat
  | some q => 0x3F :: q
  | none => []
def fText : Option (List Nat) → List Nat
  | some f => 0x23 :: f
  | none => []
def qfText (q f : Option (List Nat)) : List Nat := qText q ++ fText f

def qOk (special : Bool) : Option (List Nat) → Bool
  | none => true
  | some q => queryOk special q
def fOk : Option (List Nat) → Bool
  | none => true
  | some f => fragmentOk f

theorem fragmentOk_enc (f : List Nat) (hf : fragmentOk f = true) : percentEncode fragmentNoEnc f = f :=
  C14.percentEncode_keeps _ _ (by simpa [fragmentOk] using hf)

theorem queryOk_enc (sp : Bool) (q : List Nat) (hq : queryOk sp q = true) :
    percentEncode (if sp = true then specialQueryNoEnc else queryNoEnc) q = q :=
  C14.percentEncode_keeps _ _ (by simpa [queryOk] using hq)

/-- both query sets escape `#` and everything that is not printable; the fragment set escapes everything that is
    not printable -/

theorem queryOk_facts {sp : Bool} {c : Nat}
    (h : keeps (if sp = true then specialQueryNoEnc else queryNoEnc) c = true) :
    isPrintable c = true ∧ c ≠ 0x23 := by
  rw [keeps_iff] at h
  have : 0x20 < c ∧ c < 0x7F ∧ c ≠ 0x23 := by
    cases sp
    · exact C14.querySet_keeps c h.1 h.2
    · exact (C14.specialQuerySet_keeps c h.1 h.2).imp_right fun t => ⟨t.1, t.2.1⟩
  exact ⟨by simp only [isPrintable, Bool.and_eq_true, decide_eq_true_eq]; omega, this.2.2⟩

theorem queryOk_nohash (sp : Bool) (q : List Nat) (hq : queryOk sp q = true) :
    ∀ c ∈ q, (c != 0x23) = true :=
  fun c hc => by simpa using (queryOk_facts (List.all_eq_true.1 hq c hc)).2

theorem fragmentState_ok (v : Url) (f : List Nat) (hf : fragmentOk f = true) :
    fragmentState v f = ⟨.ok, { v with fragment := some f }⟩ := by
  unfold fragmentState
  rw [fragmentOk_enc f hf]

theorem queryState_ok (v : Url) {q : List Nat} {f : Option (List Nat)} (hv : v.fragment = none)
    (hq : queryOk v.isSpecial q = true) (hf : fOk f = true) :
    queryState none v (q ++ fText f) = ⟨.ok, { v with query := some q, fragment := f }⟩ := by
  have hstop : StopsAt (· != 0x23) (fText f) := by
    cases f <;> simp [StopsAt, fText]
  unfold queryState
  simp only [Option.isSome_none, Bool.false_eq_true, if_false]
  rw [takeWhile_scan _ _ _ (queryOk_nohash _ q hq) hstop, dropWhile_scan _ _ _ (queryOk_nohash _ q hq) hstop,
    queryOk_enc _ q hq]
  cases f with
  | none => simp only [fText]; rw [← hv]
  | some f => simp only [fText]; exact fragmentState_ok _ f hf

theorem afterPath_qf (v : Url) {q f : Option (List Nat)} (hv : v.query = none ∧ v.fragment = none)
    (hq : qOk v.isSpecial q = true) (hf : fOk f = true) :
    afterPath none v (qfText q f) = ⟨.ok, { v with query := q, fragment := f }⟩ := by
  cases q with
  | some q =>
    simp only [qfText, qText, List.cons_append, afterPath, if_true]
    exact queryState_ok v hv.2 hq hf
  | none =>
    cases f with
    | none =>
      simp only [qfText, qText, fText, List.append_nil, afterPath]
      congr 1; cases v; simp_all
    | some f =>
      simp only [qfText, qText, fText, List.nil_append, afterPath]
      rw [if_neg (by decide), fragmentState_ok _ f hf, ← hv.1]

theorem qf_stops (q f : Option (List Nat)) : StopsAt (fun c => !isQorH c) (qfText q f) := by
  cases q <;> cases f <;> simp [qfText, qText, fText, StopsAt, isQorH]

theorem qf_stops_slash (q f : Option (List Nat)) : StopsAt (· == 0x2F) (qfText q f) := by
  cases q <;> cases f <;> simp [qfText, qText, fText, StopsAt]

/-! ### opaque path -/

theorem opaqueCharOk_facts {c : Nat} (h : opaqueCharOk c = true) :
    0x1F < c ∧ c < 0x7F ∧ isQorH c = false := by
  simpa [opaqueCharOk, and_assoc] using h

theorem opaquePathState_ok (v : Url) {op : List Nat} {q f : Option (List Nat)}
    (hv : v.opaquePath = [] ∧ v.query = none ∧ v.fragment = none)
    (hop : ∀ c ∈ op, opaqueCharOk c = true)
    (hq : qOk v.isSpecial q = true) (hf : fOk f = true) :
    opaquePathState none v (op ++ qfText q f) = ⟨.ok, { v with opaquePath := op, query := q, fragment := f }⟩ := by
  have hall : ∀ c ∈ op, (!isQorH c) = true := fun c hc => by simp [(opaqueCharOk_facts (hop c hc)).2.2]
  unfold opaquePathState
  simp only [takeWhile_scan _ _ _ hall (qf_stops q f), dropWhile_scan _ _ _ hall (qf_stops q f),
    percentEncodeC0_keeps op (fun c hc => ⟨(opaqueCharOk_facts (hop c hc)).1, (opaqueCharOk_facts (hop c hc)).2.1⟩),
    hv.1, List.nil_append]
  exact afterPath_qf _ hv.2 hq hf

/-! ### path -/

/-- the segments separated by `/` -/
def joinSegs : List (List Nat) → List Nat
  | [] => []
  | seg :: rest => seg ++ rest.flatMap (fun s => 0x2F :: s)

theorem segOk_parts {sp : Bool} {seg : List Nat} (h : segOk sp seg = true) :
    (∀ c ∈ seg, segCharOk sp c = true) ∧ singleDot seg = false ∧ doubleDot seg = false := by
  simp only [segOk, Bool.and_eq_true, List.all_eq_true, Bool.not_eq_true'] at h
  exact ⟨h.1.1, h.1.2, h.2⟩

theorem segOk_enc {sp : Bool} {seg : List Nat} (h : segOk sp seg = true) :
    percentEncode pathNoEnc seg = seg := by
  apply C14.percentEncode_keeps
  intro c hc
  have := (segOk_parts h).1 c hc
  simp only [segCharOk, Bool.and_eq_true] at this
  exact this.1.1

theorem pathSegment_ok (v : Url) {seg : List Nat} (isLast : Bool) (hseg : segOk v.isSpecial seg = true)
    (hdrive : v.isFile = true → v.path = [] → driveOk [seg] = true) :
    pathSegment v seg isLast = { v with path := v.path ++ [seg] } := by
  obtain ⟨hch, hsd, hdd⟩ := segOk_parts hseg
  rw [C08.pathSegment_eq, hdd, hsd, segOk_enc hseg]
  simp only [Bool.false_eq_true, if_false]
  split
  · -- a drive letter at the head of a file path: `driveOk` leaves `X:` only, which is written back as it is
    next hc =>
    simp only [Bool.and_eq_true, List.isEmpty_iff] at hc
    have hd := hdrive hc.1.1 hc.1.2
    have hw := hc.2
    unfold C08.isDrive2 at hw
    split at hw
    · next a c =>
      simp only [driveOk, isWindowsDrive, Bool.and_eq_true, Bool.or_eq_true, Bool.not_eq_true',
        Bool.and_eq_false_iff, beq_iff_eq] at hd hw
      have : c = 0x3A := by
        rcases hw.2 with h1 | h1
        · exact h1
        · rcases hd with h2 | h2
          · simp [hw.1] at h2
          · simp [h1] at h2
      subst this
      rfl
    · cases hw
  · rfl

theorem driveOk_cons (a : List Nat) (x : List (List Nat)) : driveOk (a :: x) = driveOk [a] := by
  rcases a with _ | ⟨a0, _ | ⟨b0, _ | ⟨c0, r⟩⟩⟩ <;> rfl

theorem pathSegments_ok : ∀ (segs : List (List Nat)) (v : Url),
    (∀ seg ∈ segs, segOk v.isSpecial seg = true) →
    (v.isFile = true → v.path = [] → driveOk segs = true) →
    pathSegments v segs = { v with path := v.path ++ segs } := by
  intro segs
  induction segs with
  | nil => intro v _ _; simp [pathSegments]
  | cons seg rest ih =>
    intro v hs hd
    have hd1 : v.isFile = true → v.path = [] → driveOk [seg] = true :=
      fun h1 h2 => driveOk_cons seg rest ▸ hd h1 h2
    cases rest with
    | nil => exact pathSegment_ok v true (hs seg List.mem_cons_self) hd1
    | cons seg' rest' =>
      simp only [pathSegments]
      rw [pathSegment_ok v false (hs seg List.mem_cons_self) hd1,
        ih { v with path := v.path ++ [seg] } (fun x hx => hs x (List.mem_cons_of_mem _ hx))
          (fun _ h2 => by simp at h2)]
      simp

theorem segCharOk_facts {sp : Bool} {c : Nat} (h : segCharOk sp c = true) :
    isQorH c = false ∧ (c == 0x2F) = false ∧ 0x20 < c ∧ c < 0x7F := by
  simp only [segCharOk, keeps, Bool.and_eq_true, decide_eq_true_eq] at h
  obtain ⟨e, f, h3f, h23⟩ := C14.pathSet_keeps c h.1.1.1 h.1.1.2
  exact ⟨by simp [isQorH, h3f, h23], by simpa using h.1.2, e, f⟩

theorem flatMap_slash_cons (seg0 : List Nat) (rest : List (List Nat)) :
    (seg0 :: rest).flatMap (fun s => 0x2F :: s) = 0x2F :: joinSegs (seg0 :: rest) := by
  simp [joinSegs]

theorem pathState_scan (v : Url) (x rest : List Nat) (hx : ∀ c ∈ x, (!isQorH c) = true)
    (hr : StopsAt (fun c => !isQorH c) rest) :
    pathState none v (x ++ rest) = afterPath none (parsePath v x) rest := by
  unfold pathState
  simp only [Option.isSome_none, Bool.false_eq_true, if_false]
  rw [takeWhile_scan _ _ _ hx hr, dropWhile_scan _ _ _ hx hr]

/-- the path block on `seg0/seg1/…?query#fragment` (leading `/` already consumed) -/
theorem pathState_eq (v : Url) (seg0 : List Nat) (rest : List (List Nat)) (q f : Option (List Nat))
    (hs : ∀ seg ∈ seg0 :: rest, ∀ c ∈ seg, segCharOk v.isSpecial c = true) :
    pathState none v (joinSegs (seg0 :: rest) ++ qfText q f) =
      afterPath none (pathSegments v (seg0 :: rest)) (qfText q f) := by
  have key : ∀ seg ∈ seg0 :: rest, ∀ c ∈ seg, (!isQorH c) = true := fun seg hseg c hc => by
    simp [(segCharOk_facts (hs seg hseg c hc)).1]
  have hall : ∀ c ∈ joinSegs (seg0 :: rest), (!isQorH c) = true :=
    List.forall_mem_append.2 ⟨key seg0 List.mem_cons_self,
      C17.join_all 0x2F (by decide) rest fun seg hseg => key seg (List.mem_cons_of_mem _ hseg)⟩
  have hsep : ∀ seg ∈ seg0 :: rest, ∀ c ∈ seg, C08.pathSep v.isSpecial c = false := fun seg hseg c hc => by
    have := hs seg hseg c hc
    simp only [segCharOk, Bool.and_eq_true, bne_iff_ne, ne_eq, Bool.not_eq_true'] at this
    simp [C08.pathSep, this.1.2, this.2]
  rw [pathState_scan v _ _ hall (qf_stops q f), C08.parsePath_eq, joinSegs,
    C17.splitOnP_join _ 0x2F (by simp [C08.pathSep]) rest seg0 (hsep seg0 List.mem_cons_self)
      fun seg hseg => hsep seg (List.mem_cons_of_mem _ hseg)]

theorem pathState_ok (v : Url) {seg0 : List Nat} {rest : List (List Nat)} {q f : Option (List Nat)}
    (hv : v.query = none ∧ v.fragment = none)
    (hs : ∀ seg ∈ seg0 :: rest, segOk v.isSpecial seg = true)
    (hd : v.isFile = true → v.path = [] → driveOk (seg0 :: rest) = true)
    (hq : qOk v.isSpecial q = true) (hf : fOk f = true) :
    pathState none v (joinSegs (seg0 :: rest) ++ qfText q f) =
      ⟨.ok, { v with path := v.path ++ seg0 :: rest, query := q, fragment := f }⟩ := by
  rw [pathState_eq v seg0 rest q f (fun seg hseg => (segOk_parts (hs seg hseg)).1),
    pathSegments_ok (seg0 :: rest) v hs hd]
  exact afterPath_qf _ hv hq hf

/-- the `/.` guard: `.//seg1/…` is read as `["", seg1, …]` -/
theorem pathState_dot (v : Url) {rest : List (List Nat)} {q f : Option (List Nat)}
    (hv : v.query = none ∧ v.fragment = none)
    (hs : ∀ seg ∈ [] :: rest, segOk v.isSpecial seg = true)
    (hd : v.isFile = false)
    (hq : qOk v.isSpecial q = true) (hf : fOk f = true) :
    pathState none v (0x2E :: (([] : List Nat) :: rest).flatMap (fun s => 0x2F :: s) ++ qfText q f) =
      ⟨.ok, { v with path := v.path ++ [] :: rest, query := q, fragment := f }⟩ := by
  have e : 0x2E :: (([] : List Nat) :: rest).flatMap (fun s => 0x2F :: s) ++ qfText q f =
      joinSegs ([0x2E] :: [] :: rest) ++ qfText q f := by simp [joinSegs]
  rw [e, pathState_eq v [0x2E] ([] :: rest) q f]
  · -- the single-dot segment, not the last one, leaves the record as it is
    have : pathSegments v ([0x2E] :: [] :: rest) = pathSegments v ([] :: rest) := by
      simp [pathSegments, pathSegment, singleDot, doubleDot]
    rw [this, pathSegments_ok ([] :: rest) v hs (fun h1 _ => by simp [hd] at h1)]
    exact afterPath_qf _ hv hq hf
  · intro seg hseg c hc
    rcases List.mem_cons.1 hseg with rfl | hseg
    · cases List.mem_singleton.1 hc
      cases v.isSpecial <;> decide
    · exact (segOk_parts (hs seg hseg)).1 c hc

theorem pathStartState_ok (v : Url) {path : List (List Nat)} {q f : Option (List Nat)}
    (hv : v.query = none ∧ v.fragment = none)
    (hne : v.isSpecial = true → path ≠ [])
    (hs : ∀ seg ∈ path, segOk v.isSpecial seg = true)
    (hd : v.isFile = true → v.path = [] → driveOk path = true)
    (hq : qOk v.isSpecial q = true) (hf : fOk f = true) :
    pathStartState none v (path.flatMap (fun s => 0x2F :: s) ++ qfText q f) =
      ⟨.ok, { v with path := v.path ++ path, query := q, fragment := f }⟩ := by
  unfold pathStartState
  cases path with
  | cons seg0 rest =>
    rw [flatMap_slash_cons]
    have := pathState_ok v hv hs hd hq hf
    cases hS : v.isSpecial <;> simp [isSlash, this]
  | nil =>
    cases hS : v.isSpecial with
    | true => exact absurd rfl (hne hS)
    | false =>
      -- not special, no path: the block dispatches on `?` / `#` as `afterPath` does
      rw [hS] at hq
      have h := afterPath_qf v hv (by rw [hS]; exact hq) hf
      simp only [List.flatMap_nil, List.nil_append, Bool.false_eq_true, if_false, List.append_nil] at h ⊢
      cases q with
      | none =>
        cases f with
        | none => exact h
        | some f => simpa [qfText, qText, fText, afterPath] using h
      | some q => simpa [qfText, qText, fText, afterPath] using h

/-! ### port -/

/-- the text after the authority: empty, or starts with `/`, `?` or `#` -/
def AuthEnd : List Nat → Prop
  | [] => True
  | c :: _ => isAuthorityEnd c = true

theorem authEnd_tail (path : List (List Nat)) (q f : Option (List Nat)) :
    AuthEnd (path.flatMap (fun s => 0x2F :: s) ++ qfText q f) := by
  cases path with
  | cons seg0 rest => simp [AuthEnd, isAuthorityEnd]
  | nil => cases q <;> cases f <;> simp [AuthEnd, isAuthorityEnd, qfText, qText, fText]

theorem AuthEnd.stops {t : List Nat} (h : AuthEnd t) (p : Nat → Bool)
    (hp : ∀ c, isAuthorityEnd c = true → p c = false) : StopsAt p t := by
  cases t with
  | nil => trivial
  | cons c r => exact hp c h

theorem authEnd_cases (c : Nat) (h : isAuthorityEnd c = true) : c = 0x2F ∨ c = 0x3F ∨ c = 0x23 := by
  simpa [isAuthorityEnd, or_assoc] using h

theorem port_roundtrip (p : Nat) (hp : p < 65536) :
    (∀ c ∈ toDecimal p, isDigit c = true) ∧ toDecimal p ≠ [] ∧
    stripLeadingZeros (toDecimal p) = toDecimal p ∧ (toDecimal p).length ≤ 5 ∧
    decimalValue (stripLeadingZeros (toDecimal p)) = p := by
  obtain ⟨c, r, hcr, hc0, hr0⟩ := Radix.toDecimal_head p
  have hs : stripLeadingZeros (toDecimal p) = toDecimal p := by
    rw [hcr]
    apply C08.stripLeadingZeros_id
    by_cases h : p = 0
    · exact Or.inr (hr0 h)
    · exact Or.inl (hc0 h)
  refine ⟨Radix.toDecimal_digits p, by rw [hcr]; simp, hs, Radix.toDecimal_length_le p 4 (by omega),
    by rw [hs, Radix.decimalValue_toDecimal]⟩

theorem portState_ok (v : Url) {port : Nat} {rest : List Nat}
    (hp : port < 65536) (hd : defaultPort v.scheme ≠ some port) (hr : AuthEnd rest) :
    portState none v (toDecimal port ++ rest) = pathStartState none { v with port := some port } rest := by
  obtain ⟨hdig, hne, hstrip, hlen, hval⟩ := port_roundtrip port hp
  have hstop : StopsAt isDigit rest := hr.stops _ (by
    intro c hc
    rcases authEnd_cases c hc with rfl | rfl | rfl <;> decide)
  unfold portState
  rw [takeWhile_scan _ _ _ hdig hstop, dropWhile_scan _ _ _ hdig hstop]
  rw [hstrip] at hval
  simp only [ne_eq, hne, not_false_eq_true, hstrip, if_true, hval, gt_iff_lt,
    show ¬ (5 < (toDecimal port).length) by omega, if_false,
    show ¬ (0xFFFF < port) by omega, hd, Option.isSome_none, Bool.false_eq_true]
  cases rest with
  | nil => simp
  | cons c r => simp only [AuthEnd] at hr; simp [hr]

/-! ### host -/

def portText : Option Nat → List Nat
  | some p => 0x3A :: toDecimal p
  | none => []

theorem hostScan_portText (p : Option Nat) : hostScan (portText p) false = ([], p.map toDecimal) := by
  cases p with
  | none => exact C08.hostScan_empty false
  | some p => exact C08.hostScan_colon _

theorem notBracket_iff (c : Nat) : notBracket c = true ↔ c ≠ 0x5B ∧ c ≠ 0x5D := by
  simp [notBracket]

theorem hostScan_ok (t : List Nat) (p : Option Nat) (ht : hostColonOk t = true) :
    hostScan (t ++ portText p) false = (t, p.map toDecimal) := by
  cases t with
  | nil => exact hostScan_portText p
  | cons c r =>
    unfold hostColonOk at ht
    by_cases hc : c = 0x5B
    · subst hc
      simp only [if_true, Bool.and_eq_true, beq_iff_eq, List.all_eq_true] at ht
      obtain ⟨hlast, hm⟩ := ht
      have hr : r = r.dropLast ++ [0x5D] := by
        have hne : r ≠ [] := by intro h; subst h; simp at hlast
        have := List.dropLast_concat_getLast hne
        rw [List.getLast?_eq_some_getLast hne] at hlast
        rw [← this]
        simp at hlast
        simp [hlast]
      rw [hr]
      rw [List.cons_append, C08.hostScan_open, List.append_assoc,
        C08.hostScan_append _ _ true (fun c hc => ⟨((notBracket_iff c).1 (hm c hc)).1, ((notBracket_iff c).1 (hm c hc)).2, nofun⟩),
        List.singleton_append, C08.hostScan_close, hostScan_portText]
    · simp only [hc, if_false, List.all_eq_true, Bool.and_eq_true, bne_iff_ne, ne_eq] at ht
      rw [C08.hostScan_append_plain _ _ _ (fun x hx => ⟨(ht x hx).1, (notBracket_iff x).1 (ht x hx).2⟩),
        hostScan_portText]
      simp

theorem hostCharOk_facts {sp : Bool} {c : Nat} (h : hostCharOk sp c = true) :
    0x20 < c ∧ c < 0x7F ∧ c ≠ 0x2F ∧ c ≠ 0x3F ∧ c ≠ 0x23 ∧ c ≠ 0x40 ∧ (sp = true → c ≠ 0x5C) := by
  simp only [hostCharOk, Bool.and_eq_true, decide_eq_true_eq, bne_iff_ne, ne_eq, Bool.not_eq_true',
    Bool.and_eq_false_iff, beq_eq_false_iff_ne] at h
  refine ⟨h.1.1.1.1.1.1, h.1.1.1.1.1.2, h.1.1.1.1.2, h.1.1.1.2, h.1.1.2, h.1.2, ?_⟩
  intro hsp
  rcases h.2 with h2 | h2
  · simp [hsp] at h2
  · exact h2

theorem portText_chars (p : Option Nat) : ∀ c ∈ portText p, c = 0x3A ∨ (0x30 ≤ c ∧ c ≤ 0x39) := by
  intro c hc
  cases p with
  | none => simp [portText] at hc
  | some p =>
    simp only [portText, List.mem_cons] at hc
    exact hc.imp id fun hc => (isDigit_iff c).1 (Radix.toDecimal_digits p c hc)

theorem authEnd_host {sp : Bool} {c : Nat} (h : hostCharOk sp c = true) : (!C08.authEnd sp c) = true := by
  obtain ⟨_, _, h1, h2, h3, _, h4⟩ := hostCharOk_facts h
  rw [Bool.not_eq_true', ← Bool.not_eq_true, C08.authEnd_iff]
  rintro (e | e | e | ⟨hs, e⟩)
  · exact h1 e
  · exact h2 e
  · exact h3 e
  · exact h4 hs e

theorem authEnd_port {sp : Bool} {p : Option Nat} {c : Nat} (h : c ∈ portText p) : (!C08.authEnd sp c) = true := by
  have := portText_chars p c h
  rw [Bool.not_eq_true', ← Bool.not_eq_true, C08.authEnd_iff]; omega

theorem AuthEnd.stops_authEnd {t : List Nat} (h : AuthEnd t) (sp : Bool) : StopsAt (fun c => !C08.authEnd sp c) t :=
  h.stops _ (by
    intro c hc
    rcases authEnd_cases c hc with rfl | rfl | rfl <;> cases sp <;> decide)

theorem parseHost_stable (idna : Idna) (sp : Bool) (h : Host) (hst : HostStable idna sp h)
    (hne : sp = true → h.text ≠ []) : parseHost idna h.text (!sp) = some h := by
  rcases hst.cases with ⟨ht, rfl⟩ | ⟨-, hp⟩
  · cases sp with
    | false => rfl
    | true => exact absurd ht (hne rfl)
  · exact hp

/-- `host[:port]` holds no authority end and no `@` -/
theorem hostport_chars {sp : Bool} {t : List Nat} (hch : ∀ c ∈ t, hostCharOk sp c = true) (p : Option Nat) :
    ∀ c ∈ t ++ portText p, (!C08.authEnd sp c) = true ∧ c ≠ 0x40 := by
  intro c hc
  rcases List.mem_append.1 hc with hc | hc
  · exact ⟨authEnd_host (hch c hc), (hostCharOk_facts (hch c hc)).2.2.2.2.2.1⟩
  · refine ⟨authEnd_port hc, ?_⟩
    have := portText_chars p c hc
    omega

theorem hostState_ok (idna : Idna) (v : Url) (h : Host) (p : Option Nat) (rest : List Nat)
    (hv : v.port = none)
    (hch : ∀ c ∈ h.text, hostCharOk v.isSpecial c = true)
    (hcol : hostColonOk h.text = true)
    (hst : HostStable idna v.isSpecial h)
    (hne : v.isSpecial = true → h.text ≠ [])
    (hempty : h.text = [] → p = none)
    (hport : portOk v.scheme p = true)
    (hr : AuthEnd rest) :
    hostState idna none v (h.text ++ portText p ++ rest) =
      pathStartState none { v with host := some h, port := p } rest := by
  have hall := fun c hc => (hostport_chars hch p c hc).1
  have hr' := hr.stops_authEnd v.isSpecial
  rw [C08.hostState_eq idna none v _ _ _ _ _ rfl (takeWhile_scan _ _ _ hall hr') (dropWhile_scan _ _ _ hall hr')
    (hostScan_ok _ _ hcol)]
  simp only [parseHost_stable idna _ h hst hne]
  have hc1 : (decide (h.text = []) && ((Option.map toDecimal p).isSome || v.isSpecial)) = false := by
    by_cases ht : h.text = []
    · cases hempty ht
      cases hS : v.isSpecial with
      | false => simp
      | true => exact absurd ht (hne hS)
    · simp [ht]
  rw [hc1]
  simp only [Option.isSome_none, Bool.and_false, Bool.false_and, Bool.false_eq_true, if_false, reduceCtorEq,
    decide_false]
  cases p with
  | none => simp only [Option.map_none]; rw [← hv]
  | some port =>
    simp only [portOk, Bool.and_eq_true, decide_eq_true_eq, bne_iff_ne, ne_eq] at hport
    exact portState_ok _ hport.1 hport.2 hr


/-! ### authority (credentials) -/

/-- `user[:password]@` as the serializer writes it -/
def credText (un pw : List Nat) : List Nat :=
  if (un ≠ [] || pw ≠ []) = true then un ++ (if pw ≠ [] then 0x3A :: pw else []) ++ [0x40] else []

theorem userinfoOk_facts {s : List Nat} (h : userinfoOk s = true) {c : Nat} (hc : c ∈ s) :
    0x20 < c ∧ c < 0x7F ∧ c ≠ 0x2F ∧ c ≠ 0x3F ∧ c ≠ 0x23 ∧ c ≠ 0x40 ∧ c ≠ 0x3A ∧ c ≠ 0x5C := by
  have := (List.all_eq_true.1 h) c hc
  simp only [keeps, Bool.and_eq_true, decide_eq_true_eq] at this
  exact C14.userinfoSet_keeps c this.1 this.2

theorem userinfoOk_enc {s : List Nat} (h : userinfoOk s = true) : percentEncode userinfoNoEnc s = s :=
  C14.percentEncode_keeps _ _ (by simpa [userinfoOk] using h)

theorem authEnd_user {sp : Bool} {s : List Nat} (h : userinfoOk s = true) {c : Nat} (hc : c ∈ s) :
    (!C08.authEnd sp c) = true := by
  have := userinfoOk_facts h hc
  rw [Bool.not_eq_true', ← Bool.not_eq_true, C08.authEnd_iff]; omega

theorem credBody_chars {un pw : List Nat} {c : Nat} (hc : c ∈ un ++ (if pw ≠ [] then 0x3A :: pw else [])) :
    c = 0x3A ∨ (c ∈ un ∨ c ∈ pw) := by
  rcases List.mem_append.1 hc with hc | hc
  · exact Or.inr (Or.inl hc)
  · by_cases hp : pw = []
    · simp [hp] at hc
    · simp only [ne_eq, hp, not_false_eq_true, if_true, List.mem_cons] at hc
      rcases hc with hc | hc
      · exact Or.inl hc
      · exact Or.inr (Or.inr hc)

theorem credBody_authEnd {sp : Bool} {un pw : List Nat} (hun : userinfoOk un = true) (hpw : userinfoOk pw = true) :
    ∀ c ∈ un ++ (if pw ≠ [] then 0x3A :: pw else []), (!C08.authEnd sp c) = true := by
  intro c hc
  rcases credBody_chars hc with rfl | hc | hc
  · cases sp <;> decide
  · exact authEnd_user hun hc
  · exact authEnd_user hpw hc

theorem credText_authEnd {sp : Bool} {un pw : List Nat} (hun : userinfoOk un = true) (hpw : userinfoOk pw = true) :
    ∀ c ∈ credText un pw, (!C08.authEnd sp c) = true := by
  intro c hc
  unfold credText at hc
  split at hc
  · rcases List.mem_append.1 hc with hc | hc
    · exact credBody_authEnd hun hpw c hc
    · cases List.mem_singleton.1 hc; cases sp <;> decide
  · cases hc

/-- the authority block peels `user[:password]@` off and hands `host[:port]…` (any text `hp` without `@` and
    without an authority end; the split is at the LAST `@`) to the host block -/
theorem authorityState_ok (idna : Idna) (v : Url) (un pw hp rest : List Nat)
    (hv : v.username = [] ∧ v.password = [])
    (hun : userinfoOk un = true) (hpw : userinfoOk pw = true)
    (hhp : ∀ c ∈ hp, (!C08.authEnd v.isSpecial c) = true ∧ c ≠ 0x40)
    (hne : hp = [] → un = [] ∧ pw = [])
    (hr : AuthEnd rest) :
    authorityState idna none v (credText un pw ++ hp ++ rest) =
      hostState idna none { v with username := un, password := pw } (hp ++ rest) := by
  have hr' := hr.stops_authEnd v.isSpecial
  unfold authorityState
  by_cases hcr : un = [] ∧ pw = []
  · obtain ⟨rfl, rfl⟩ := hcr
    simp only [show credText [] [] = [] by simp [credText], List.nil_append]
    simp only [takeWhile_scan _ _ _ (fun c hc => (hhp c hc).1) hr', C08.splitLastAt_none _ (fun c hc => (hhp c hc).2)]
    congr 1
    cases v; simp_all
  · have hcr' : (pw ≠ [] || un ≠ []) = true := by
      by_cases h1 : un = [] <;> by_cases h2 : pw = [] <;> simp [h1, h2] <;> exact hcr ⟨h1, h2⟩
    have hne' : hp ≠ [] := fun ht => hcr (hne ht)
    have e0 : credText un pw ++ hp ++ rest =
        ((un ++ (if pw ≠ [] then 0x3A :: pw else [])) ++ 0x40 :: hp) ++ rest := by
      have : ¬un = [] ∨ ¬pw = [] := by simpa [Bool.or_comm] using hcr'
      simp [credText, this]
    have hallE : ∀ c ∈ (un ++ (if pw ≠ [] then 0x3A :: pw else [])) ++ 0x40 :: hp,
        (!C08.authEnd v.isSpecial c) = true := by
      intro c hc
      rcases List.mem_append.1 hc with hc | hc
      · exact credBody_authEnd hun hpw c hc
      · rcases List.mem_cons.1 hc with rfl | hc
        · cases v.isSpecial <;> decide
        · exact (hhp c hc).1
    have hunc : ∀ c ∈ un, (c != 0x3A) = true := by
      intro c hc; simpa using (userinfoOk_facts hun hc).2.2.2.2.2.2.1
    have hpstop : StopsAt (· != 0x3A) (if pw ≠ [] then 0x3A :: pw else []) := by
      by_cases hp : pw = [] <;> simp [hp, StopsAt]
    have e4 : ((if pw ≠ [] then 0x3A :: pw else []).drop 1) = pw := by
      by_cases hp : pw = [] <;> simp [hp]
    have hpw' : (if pw ≠ [] then pw else v.password) = pw := by
      by_cases hp : pw = [] <;> simp [hp, hv.2]
    rw [e0]
    simp only [takeWhile_scan _ _ _ hallE hr', dropWhile_scan _ _ _ hallE hr',
      C08.splitLastAt_some _ _ (fun c hc => (hhp c hc).2), hne', if_false,
      takeWhile_scan _ _ _ hunc hpstop, dropWhile_scan _ _ _ hunc hpstop, e4, hcr', if_true,
      userinfoOk_enc hun, userinfoOk_enc hpw, hpw']


/-! ### file host -/

theorem fileHostState_scan (idna : Idna) (v : Url) (hsp : v.isSpecial = true) (buf rest : List Nat)
    (hbuf : ∀ c ∈ buf, (!isSpecialAuthorityEnd c) = true)
    (hstop : StopsAt (fun c => !isSpecialAuthorityEnd c) rest)
    (hdrive : C08.isDrive2 buf = false) :
    fileHostState idna none v (buf ++ rest) =
      if buf = [] then pathStartState none { v with host := some emptyHost } rest
      else match parseHost idna buf false with
        | none => ⟨.failure, v⟩
        | some h => pathStartState none { v with host := some (if h.text == sLocalhost then emptyHost else h) } rest := by
  rw [C08.fileHostState_eq]
  simp only [takeWhile_scan _ _ _ hbuf hstop, dropWhile_scan _ _ _ hbuf hstop, Option.isSome_none,
    Bool.false_eq_true, if_false, hdrive, Bool.and_false, hsp, Bool.not_true]
  rfl

theorem fileHostState_ok (idna : Idna) (v : Url) (hsp : v.isSpecial = true) (h : Host) (rest : List Nat)
    (hch : ∀ c ∈ h.text, hostCharOk true c = true)
    (hfo : hostFileOk h.text = true)
    (hst : HostStable idna true h)
    (hr : AuthEnd rest) :
    fileHostState idna none v (h.text ++ rest) = pathStartState none { v with host := some h } rest := by
  simp only [hostFileOk, Bool.and_eq_true, bne_iff_ne, ne_eq, Bool.not_eq_true'] at hfo
  rw [fileHostState_scan idna v hsp _ _ (fun c hc => authEnd_host (sp := true) (hch c hc)) (hr.stops_authEnd true) hfo.2]
  rcases hst.cases with ⟨ht, rfl⟩ | ⟨ht, hp⟩
  · rw [if_pos ht]
  · rw [if_neg ht, show parseHost idna h.text false = some h from hp]
    simp [hfo.1]

/-! ### scheme -/

theorem schemeTail_lt {c : Nat} (h : schemeTailChar c = true) : c < 128 := by
  simp only [schemeTailChar, isLowerAlpha, isDigit, Bool.or_eq_true, Bool.and_eq_true, decide_eq_true_eq,
    beq_iff_eq] at h
  omega

theorem schemeTail_facts {c : Nat} (h : schemeTailChar c = true) :
    isSchemeChar c = true ∧ c ||| 0x20 = c ∧ 0x20 < c ∧ c < 0x7F :=
  have tbl : ∀ c, c < 128 → schemeTailChar c = true →
      isSchemeChar c = true ∧ c ||| 0x20 = c ∧ 0x20 < c ∧ c < 0x7F := by decide +kernel
  tbl c (schemeTail_lt h) h

theorem lowerAlpha_facts {c : Nat} (h : isLowerAlpha c = true) :
    isAlpha c = true ∧ schemeTailChar c = true := by
  have tbl : ∀ c, c < 128 → isLowerAlpha c = true → isAlpha c = true ∧ schemeTailChar c = true := by
    decide +kernel
  have : c < 128 := by
    simp only [isLowerAlpha, Bool.and_eq_true, decide_eq_true_eq] at h; omega
  exact tbl c this h

theorem schemeOk_parts {s : List Nat} (h : schemeOk s = true) :
    ∃ c0 sr, s = c0 :: sr ∧ isLowerAlpha c0 = true ∧ ∀ c ∈ sr, schemeTailChar c = true := by
  cases s with
  | nil => simp [schemeOk] at h
  | cons c0 sr =>
    simp only [schemeOk, Bool.and_eq_true, List.all_eq_true] at h
    exact ⟨c0, sr, rfl, h.1, h.2⟩

/-- what the scheme block dispatches to on `scheme:tail` -/
theorem urlParse_scheme (idna : Idna) (base : Option Url) (s tail : List Nat) (hs : schemeOk s = true) :
    urlParse idna base none {} (s ++ 0x3A :: tail) =
      (if isFileScheme s then fileState idna base none { scheme := s } tail
       else if isSpecialScheme s then
         match base with
         | some b =>
           if b.scheme = s then specialRelativeOrAuthorityState idna b none { scheme := s } tail
           else specialAuthoritySlashesState idna none { scheme := s } tail
         | none => specialAuthoritySlashesState idna none { scheme := s } tail
       else
         match tail with
         | 0x2F :: r => pathOrAuthorityState idna none { scheme := s } r
         | _ => opaquePathState none { scheme := s, hasOpaquePath := true } tail) := by
  obtain ⟨c0, sr, rfl, h0, hsr⟩ := schemeOk_parts hs
  have hall : ∀ c ∈ sr, isSchemeChar c = true := fun c hc => (schemeTail_facts (hsr c hc)).1
  have hstop : StopsAt isSchemeChar (0x3A :: tail) := by simp [StopsAt]; decide
  have hmap : (c0 :: sr).map (· ||| 0x20) = c0 :: sr := by
    have : ∀ c ∈ c0 :: sr, c ||| 0x20 = c := by
      intro c hc
      rcases List.mem_cons.1 hc with rfl | hc
      · exact (schemeTail_facts (lowerAlpha_facts h0).2).2.1
      · exact (schemeTail_facts (hsr c hc)).2.1
    calc (c0 :: sr).map (· ||| 0x20) = (c0 :: sr).map id := List.map_congr_left this
      _ = c0 :: sr := List.map_id _
  simp only [urlParse, List.cons_append, (lowerAlpha_facts h0).1, if_true]
  unfold schemeState
  simp only [takeWhile_scan _ _ _ hall hstop, dropWhile_scan _ _ _ hall hstop, beq_self_eq_true,
    if_true, Option.isSome_none, Bool.false_eq_true, if_false, hmap, List.drop_one, List.tail_cons]
  rfl



/-! ## assembly -/

/-- the normal form, as a structure (the conjunction is spelled out in `Upa.Props.Norm`) -/
structure NormP (idna : Idna) (u : Url) : Prop where
  scheme : schemeOk u.scheme = true
  shape : ShapeP u
  user : userinfoOk u.username = true
  pass : userinfoOk u.password = true
  host : ∀ h, u.host = some h →
    hostTextOk u.isSpecial u.isFile h.text = true ∧ HostStable idna u.isSpecial h
  port : portOk u.scheme u.port = true
  segs : ∀ seg ∈ u.path, segOk u.isSpecial seg = true
  drive : u.isFile = true → driveOk u.path = true
  opq : u.hasOpaquePath = true →
    opaqueOk u.opaquePath (u.query.isNone && u.fragment.isNone) = true
  query : qOk u.isSpecial u.query = true
  frag : fOk u.fragment = true

variable {idna : Idna} {u : Url}

/-- the clauses that speak of single components, for a record given by its components (the form `rw` needs) -/
theorem NormP.mk_parts {s un pw : List Nat} {h : Option Host} {p : Option Nat} {b : Bool} {op : List Nat}
    {pa : List (List Nat)} {q f : Option (List Nat)} (hN : NormP idna ⟨s, un, pw, h, p, b, op, pa, q, f⟩) :
    schemeOk s = true ∧ userinfoOk un = true ∧ userinfoOk pw = true ∧ portOk s p = true ∧
    (∀ seg ∈ pa, segOk (isSpecialScheme s) seg = true) ∧ (isFileScheme s = true → driveOk pa = true) ∧
    qOk (isSpecialScheme s) q = true ∧ fOk f = true :=
  ⟨hN.scheme, hN.user, hN.pass, hN.port, hN.segs, hN.drive, hN.query, hN.frag⟩

theorem NormP.hostText (hN : NormP idna u) {h : Host} (hh : u.host = some h) :
    (∀ c ∈ h.text, hostCharOk u.isSpecial c = true) ∧ hostColonOk h.text = true ∧
    (u.isFile = true → hostFileOk h.text = true) := by
  have hto := (hN.host h hh).1
  simp only [hostTextOk, Bool.and_eq_true, List.all_eq_true, Bool.or_eq_true, Bool.not_eq_true'] at hto
  refine ⟨hto.1.1, hto.1.2, fun hF => ?_⟩
  rcases hto.2 with h1 | h1
  · rw [hF] at h1; cases h1
  · exact h1

/-! ### the serialisation -/

/-- `//[user[:password]@]host[:port]`, or nothing for a null host -/
def authText (u : Url) : List Nat :=
  match u.host with
  | some h => 0x2F :: 0x2F :: (credText u.username u.password ++ h.text ++ portText u.port)
  | none => []

/-- the grammar of the serialisation -/
theorem serialize_eq (u : Url) :
    serialize u = u.scheme ++ 0x3A :: (authText u ++ (if needsPathPrefix u then [0x2F, 0x2E] else []) ++
      pathText u ++ qfText u.query u.fragment) := by
  unfold serialize authText
  cases u.host <;>
    simp only [credText, portText, qfText, qText, fText, Url.hasCredentials, List.append_assoc,
      List.cons_append, List.nil_append, List.append_nil] <;> rfl

theorem ser_host (s un pw : List Nat) (h : Host) (p : Option Nat) (op : List Nat) (pa : List (List Nat))
    (q f : Option (List Nat)) :
    serialize ⟨s, un, pw, some h, p, false, op, pa, q, f⟩ =
      s ++ 0x3A :: 0x2F :: 0x2F :: (credText un pw ++ h.text ++ portText p ++
        (pa.flatMap (fun s => 0x2F :: s) ++ qfText q f)) := by
  simp [serialize_eq, authText, needsPathPrefix, pathText]

theorem ser_opaque (s un pw : List Nat) (p : Option Nat) (op : List Nat) (pa : List (List Nat))
    (q f : Option (List Nat)) :
    serialize ⟨s, un, pw, none, p, true, op, pa, q, f⟩ = s ++ 0x3A :: (op ++ qfText q f) := by
  simp [serialize_eq, authText, needsPathPrefix, pathText]

theorem ser_list (s un pw : List Nat) (p : Option Nat) (op : List Nat) (pa : List (List Nat))
    (q f : Option (List Nat)) :
    serialize ⟨s, un, pw, none, p, false, op, pa, q, f⟩ =
      s ++ 0x3A :: ((if (decide (pa.length > 1) && pa.head? == some []) = true then [0x2F, 0x2E] else []) ++
        (pa.flatMap (fun s => 0x2F :: s) ++ qfText q f)) := by
  simp [serialize_eq, authText, needsPathPrefix, pathText]

/-! ### printable elements -/

theorem printable_iff {c : Nat} : isPrintable c = true ↔ 0x20 < c ∧ c < 0x7F := by
  simp [isPrintable]; omega

theorem pr_scheme {s : List Nat} (hs : schemeOk s = true) : ∀ c ∈ s, isPrintable c = true := by
  obtain ⟨c0, sr, rfl, h0, hsr⟩ := schemeOk_parts hs
  intro c hc
  rcases List.mem_cons.1 hc with rfl | hc
  · exact printable_iff.2 (schemeTail_facts (lowerAlpha_facts h0).2).2.2
  · exact printable_iff.2 (schemeTail_facts (hsr c hc)).2.2

theorem pr_user {s : List Nat} (h : userinfoOk s = true) : ∀ c ∈ s, isPrintable c = true :=
  fun _ hc => printable_iff.2 ⟨(userinfoOk_facts h hc).1, (userinfoOk_facts h hc).2.1⟩

theorem pr_cred {un pw : List Nat} (hun : userinfoOk un = true) (hpw : userinfoOk pw = true) :
    ∀ c ∈ credText un pw, isPrintable c = true := by
  intro c hc
  unfold credText at hc
  split at hc
  · rcases List.mem_append.1 hc with hc | hc
    · rcases credBody_chars hc with rfl | hc | hc
      · decide
      · exact pr_user hun c hc
      · exact pr_user hpw c hc
    · simp only [List.mem_singleton] at hc
      subst hc
      decide
  · simp at hc

theorem pr_host {sp : Bool} {t : List Nat} (h : ∀ c ∈ t, hostCharOk sp c = true) : ∀ c ∈ t, isPrintable c = true :=
  fun c hc => printable_iff.2 ⟨(hostCharOk_facts (h c hc)).1, (hostCharOk_facts (h c hc)).2.1⟩

theorem pr_port (p : Option Nat) : ∀ c ∈ portText p, isPrintable c = true := by
  intro c hc
  have := portText_chars p c hc
  rw [printable_iff]
  omega

theorem pr_path {sp : Bool} {pa : List (List Nat)} (h : ∀ seg ∈ pa, segOk sp seg = true) :
    ∀ c ∈ pa.flatMap (fun s => 0x2F :: s), isPrintable c = true := by
  refine C17.join_all 0x2F (by decide) pa fun seg hseg c hc => ?_
  have := segCharOk_facts ((segOk_parts (h seg hseg)).1 c hc)
  exact printable_iff.2 this.2.2

theorem pr_qf {sp : Bool} {q f : Option (List Nat)} (hq : qOk sp q = true) (hf : fOk f = true) :
    ∀ c ∈ qfText q f, isPrintable c = true := by
  intro c hc
  simp only [qfText, List.mem_append] at hc
  rcases hc with hc | hc
  · cases q with
    | none => simp [qText] at hc
    | some q =>
      simp only [qText, List.mem_cons] at hc
      rcases hc with rfl | hc
      · decide
      · exact (queryOk_facts (List.all_eq_true.1 hq c hc)).1
  · cases f with
    | none => simp [fText] at hc
    | some f =>
      simp only [fText, List.mem_cons] at hc
      rcases hc with rfl | hc
      · decide
      · have := keeps_iff.1 (List.all_eq_true.1 hf c hc)
        exact printable_iff.2 (C14.fragmentSet_keeps c this.1 this.2)

theorem pr_auth (hN : NormP idna u) : ∀ c ∈ authText u, isPrintable c = true := by
  unfold authText
  cases hh : u.host with
  | none => simp
  | some h =>
    simp only [List.forall_mem_cons, List.forall_mem_append]
    exact ⟨by decide, by decide,
      ⟨pr_cred hN.user hN.pass, pr_host (hN.hostText hh).1⟩, pr_port _⟩

theorem pr_pathText (hsegs : ∀ seg ∈ u.path, segOk u.isSpecial seg = true)
    (hopq : u.hasOpaquePath = true → opaqueOk u.opaquePath (u.query.isNone && u.fragment.isNone) = true) :
    ∀ c ∈ pathText u, isPrintable c = true ∨ (c = 0x20 ∧ u.hasOpaquePath = true) := by
  intro c hc
  unfold pathText at hc
  split at hc
  · rename_i ho
    have hoo := hopq ho
    simp only [opaqueOk, Bool.and_eq_true, List.all_eq_true] at hoo
    have := opaqueCharOk_facts (hoo.1.1 c hc)
    by_cases h20 : c = 0x20
    · exact .inr ⟨h20, ho⟩
    · exact .inl (printable_iff.2 ⟨by omega, this.2.1⟩)
  · exact .inl (pr_path hsegs c hc)

theorem serialize_pr (hN : NormP idna u) :
    ∀ c ∈ serialize u, isPrintable c = true ∨ (c = 0x20 ∧ u.hasOpaquePath = true) := by
  rw [serialize_eq]
  simp only [List.forall_mem_cons, List.forall_mem_append]
  refine ⟨fun c hc => .inl (pr_scheme hN.scheme c hc), .inl (by decide),
    ⟨⟨fun c hc => .inl (pr_auth hN c hc), fun c hc => .inl ?_⟩, pr_pathText hN.segs hN.opq⟩,
    fun c hc => .inl (pr_qf hN.query hN.frag c hc)⟩
  split at hc
  · simp only [List.mem_cons, List.not_mem_nil, or_false] at hc
    rcases hc with rfl | rfl <;> decide
  · cases hc

theorem qfText_eq_nil {q f : Option (List Nat)} (h : qfText q f = []) : q = none ∧ f = none := by
  cases q <;> cases f <;> simp [qfText, qText, fText] at h ⊢


/-! ### preprocessing is the identity on the serialisation -/

/-- trimming, tab / newline removal and decoding (in any encoding) leave a text over 0x20..0x7F as it is when it
    neither starts nor ends with a space -/
theorem prep_text (e : Enc) (c : Nat) (r : List Nat) (hc : 0x20 < c) (hall : ∀ x ∈ c :: r, 0x20 ≤ x ∧ x < 0x80)
    (hend : EndsOk (c :: r)) : prep e (doTrim (c :: r)) = c :: r := by
  unfold prep
  rw [doTrim_id c r hc hend, removeWs_id _ (fun x hx => (hall x hx).1), decode_of_ascii e _ (fun x hx => (hall x hx).2)]

/-- the serialisation does not end with a space: an opaque path may, when a query or a fragment follows -/
theorem serialize_ends (hN : NormP idna u) : EndsOk (serialize u) := by
  cases hb : u.hasOpaquePath with
  | false =>
    refine EndsOk.of_all (fun h => ?_) fun c hc => ?_
    · have : (0x3A : Nat) ∈ serialize u := by simp [serialize]
      rw [h] at this; cases this
    · rcases serialize_pr hN c hc with h | h
      · exact (printable_iff.1 h).1
      · rw [hb] at h; cases h.2
  | true =>
    obtain ⟨s, un, pw, host, p, _, op, pa, q, f⟩ := u
    cases hb
    obtain ⟨hOp, -⟩ := hN.shape
    cases ((hOp rfl).1 : host = none)
    have hoo : opaqueOk op (q.isNone && f.isNone) = true := hN.opq rfl
    simp only [opaqueOk, Bool.and_eq_true, List.all_eq_true, bne_iff_ne, ne_eq, Bool.not_eq_true',
      Bool.and_eq_false_iff, beq_eq_false_iff_ne] at hoo
    obtain ⟨⟨hop, -⟩, hlast⟩ := hoo
    rw [ser_opaque]
    apply EndsOk.append_left
    by_cases hqf : qfText q f = []
    · obtain ⟨rfl, rfl⟩ := qfText_eq_nil hqf
      rw [hqf, List.append_nil]
      by_cases hop0 : op = []
      · subst hop0; exact ⟨[], 0x3A, rfl, by decide⟩
      · refine EndsOk.append_left [0x3A] ⟨op.dropLast, op.getLast hop0, (List.dropLast_concat_getLast hop0).symm, ?_⟩
        have h1 := (opaqueCharOk_facts (hop _ (List.getLast_mem hop0))).1
        have h2 : op.getLast hop0 ≠ 0x20 := by
          rcases hlast with h | h
          · simp at h
          · rw [List.getLast?_eq_some_getLast hop0] at h
            simpa using h
        omega
    · have : EndsOk (qfText q f) := EndsOk.of_all hqf (fun c hc => (printable_iff.1 (pr_qf hN.query hN.frag c hc)).1)
      have := this.append_left (0x3A :: op)
      simpa using this

theorem prep_serialize (e : Enc) (hN : NormP idna u) : prep e (doTrim (serialize u)) = serialize u := by
  obtain ⟨c0, sr, hs, -, -⟩ := schemeOk_parts hN.scheme
  have h1 : serialize u = c0 :: (sr ++ (serialize u).drop u.scheme.length) := by
    rw [← List.cons_append, ← hs]; simp [serialize]
  have he := serialize_ends hN
  have hall := serialize_pr hN
  rw [h1] at he hall ⊢
  refine prep_text e _ _ (printable_iff.1 (pr_scheme hN.scheme c0 (by simp [hs]))).1 (fun x hx => ?_) he
  rcases hall x hx with h | h
  · rw [printable_iff] at h; omega
  · omega

/-! ### from the scheme block to the first block of each shape: the base is never consulted -/

/-- `scheme://…`, not file: the authority block (special: whatever the base; not special: through
    path-or-authority) -/
theorem urlParse_slashes (idna : Idna) (base : Option Url) (s X : List Nat) (hs : schemeOk s = true)
    (hfile : isFileScheme s = false) (hX : isSpecialScheme s = true → StopsAt isSlash X) :
    urlParse idna base none {} (s ++ 0x3A :: 0x2F :: 0x2F :: X) =
      authorityState idna none ⟨s, [], [], none, none, false, [], [], none, none⟩ X := by
  rw [urlParse_scheme idna base s _ hs, hfile]
  simp only [Bool.false_eq_true, if_false]
  cases hS : isSpecialScheme s with
  | false => simp only [Bool.false_eq_true, if_false, pathOrAuthorityState]
  | true =>
    have hdrop : X.dropWhile isSlash = X := dropWhile_scan isSlash [] X (by simp) (hX hS)
    simp only [if_true]
    cases base with
    | none => simp only [specialAuthoritySlashesState, ignoreSlashesState, hdrop]
    | some b =>
      by_cases hb : b.scheme = s
      · simp only [hb, if_true, specialRelativeOrAuthorityState, ignoreSlashesState, hdrop]
      · simp only [hb, if_false, specialAuthoritySlashesState, ignoreSlashesState, hdrop]

/-- `file://…`: the file host block, whatever the base -/
theorem urlParse_file (idna : Idna) (base : Option Url) (X : List Nat) :
    urlParse idna base none {} (sFile ++ 0x3A :: 0x2F :: 0x2F :: X) =
      fileHostState idna none C08.fileBase X := by
  rw [urlParse_scheme idna base sFile _ (by decide)]
  have h1 : isFileScheme sFile = true := by decide
  simp only [h1, if_true, fileState, isFile_mk, Bool.not_true, Bool.false_eq_true, if_false, isSlash,
    beq_self_eq_true, Bool.true_or, fileSlashState]
  rfl

/-- `scheme:opaque…`, not special -/
theorem urlParse_opaque (idna : Idna) (base : Option Url) (s X : List Nat) (hs : schemeOk s = true)
    (hS : isSpecialScheme s = false) (hX : StopsAt (· == 0x2F) X) :
    urlParse idna base none {} (s ++ 0x3A :: X) =
      opaquePathState none ⟨s, [], [], none, none, true, [], [], none, none⟩ X := by
  have hfile : isFileScheme s = false := C08.nonspecial_nonfile hS
  rw [urlParse_scheme idna base s _ hs, hfile, hS]
  simp only [Bool.false_eq_true, if_false]
  split
  · next r => simp [StopsAt] at hX
  · rfl

/-- `scheme:/path…`, not special, path not starting with a second `/` -/
theorem urlParse_path (idna : Idna) (base : Option Url) (s X : List Nat) (hs : schemeOk s = true)
    (hS : isSpecialScheme s = false) (hX : StopsAt (· == 0x2F) X) :
    urlParse idna base none {} (s ++ 0x3A :: 0x2F :: X) =
      pathState none ⟨s, [], [], none, none, false, [], [], none, none⟩ X := by
  have hfile : isFileScheme s = false := C08.nonspecial_nonfile hS
  rw [urlParse_scheme idna base s _ hs, hfile, hS]
  simp only [Bool.false_eq_true, if_false, pathOrAuthorityState]
  split
  · next r => simp [StopsAt] at hX
  · rfl


/-! ### the parser proper on the serialisation, by shape (host / file host / opaque path / list path) -/

theorem authEnd_slash {c : Nat} (h : (!C08.authEnd true c) = true) : isSlash c = false := by
  have h : isSpecialAuthorityEnd c = false := by simpa [C08.authEnd] using h
  simp only [isSpecialAuthorityEnd, isSlash, Bool.or_eq_false_iff] at h ⊢
  exact ⟨h.1.1.1, h.2⟩

theorem reparse_host (hN : NormP idna u) {h : Host} (hh : u.host = some h) (hF : u.isFile = false)
    (base : Option Url) : urlParse idna base none {} (serialize u) = ⟨.ok, u⟩ := by
  obtain ⟨hOp, hList, hSp, hSpH, hNoCred, -⟩ := hN.shape
  obtain ⟨hch, hcol, -⟩ := hN.hostText hh
  have hst := (hN.host h hh).2
  obtain ⟨s, un, pw, _, p, b, op, pa, q, f⟩ := u
  cases hh
  cases b with
  | true => exact absurd (hOp rfl).1 (by simp)
  | false =>
  cases (hList rfl : op = [])
  obtain ⟨hs, hun, hpw, hport, hsegs, -, hq, hf⟩ := hN.mk_parts
  have hF' : isFileScheme s = false := hF
  have hch : ∀ c ∈ h.text, hostCharOk (isSpecialScheme s) c = true := hch
  have hne : isSpecialScheme s = true → h.text ≠ [] := fun hS => hSpH hS hF
  have hempty : h.text = [] → un = [] ∧ pw = [] ∧ p = none := fun ht => hNoCred (.inr ht)
  have hr := authEnd_tail pa q f
  have hhp := hostport_chars hch p
  rw [ser_host, urlParse_slashes idna base s _ hs hF, List.append_assoc (credText un pw),
    authorityState_ok idna ⟨s, [], [], none, none, false, [], [], none, none⟩ un pw _ _ ⟨rfl, rfl⟩ hun hpw hhp
      (fun ht => have := hempty (List.append_eq_nil_iff.1 ht).1; ⟨this.1, this.2.1⟩) hr,
    hostState_ok idna ⟨s, un, pw, none, none, false, [], [], none, none⟩ h p _ rfl hch hcol hst hne
      (fun ht => (hempty ht).2.2) hport hr]
  · exact pathStartState_ok _ ⟨rfl, rfl⟩ (fun hS => (hSp hS).2) hsegs (fun h1 => by simp [hF'] at h1) hq hf
  · -- special: the text after `//` does not start with a slash
    intro hS
    rw [List.append_assoc, List.append_assoc]
    refine StopsAt.append (fun c hc => authEnd_slash (credText_authEnd hun hpw c hc)) fun _ =>
      StopsAt.append (fun c hc => authEnd_slash ?_) fun ht => absurd ht (hne hS)
    have := authEnd_host (hch c hc)
    rwa [hS] at this

theorem reparse_file (hN : NormP idna u) {h : Host} (hh : u.host = some h) (hF : u.isFile = true)
    (base : Option Url) : urlParse idna base none {} (serialize u) = ⟨.ok, u⟩ := by
  obtain ⟨hOp, hList, hSp, -, hNoCred, -⟩ := hN.shape
  obtain ⟨hun, hpw, hp⟩ := hNoCred (.inl hF)
  obtain ⟨hch, -, hfo⟩ := hN.hostText hh
  have hst := (hN.host h hh).2
  obtain ⟨s, un, pw, _, p, b, op, pa, q, f⟩ := u
  cases hh; cases hun; cases hpw; cases hp
  cases b with
  | true => exact absurd (hOp rfl).1 (by simp)
  | false =>
  cases (hList rfl : op = [])
  have hsF : s = sFile := (C08.isFileScheme_iff s).1 hF
  subst hsF
  obtain ⟨-, -, -, -, hsegs, hdrive, hq, hf⟩ := hN.mk_parts
  rw [ser_host, urlParse_file]
  simp only [show credText [] [] = [] by simp [credText], portText, List.nil_append, List.append_nil]
  rw [fileHostState_ok idna _ rfl h _ hch (hfo hF) hst (authEnd_tail pa q f)]
  exact pathStartState_ok _ ⟨rfl, rfl⟩ (fun hS => (hSp hS).2) hsegs (fun _ _ => hdrive hF) hq hf

theorem reparse_opaque (hN : NormP idna u) (hh : u.host = none) (hb : u.hasOpaquePath = true)
    (base : Option Url) : urlParse idna base none {} (serialize u) = ⟨.ok, u⟩ := by
  obtain ⟨hOp, -, -, -, hNoCred, -⟩ := hN.shape
  obtain ⟨-, hpa, hS⟩ := hOp hb
  obtain ⟨hun, hpw, hp⟩ := hNoCred (.inr (by simp [Url.hostText, hh]))
  obtain ⟨s, un, pw, _, p, _, op, pa, q, f⟩ := u
  cases hh; cases hb; cases hpa; cases hun; cases hpw; cases hp
  obtain ⟨hs, -, -, -, -, -, hq, hf⟩ := hN.mk_parts
  have hoo : opaqueOk op (q.isNone && f.isNone) = true := hN.opq rfl
  simp only [opaqueOk, Bool.and_eq_true, List.all_eq_true, bne_iff_ne, ne_eq] at hoo
  rw [ser_opaque, urlParse_opaque idna base s _ hs hS]
  · exact opaquePathState_ok _ ⟨rfl, rfl, rfl⟩ hoo.1.1 hq hf
  · cases op with
    | nil => exact qf_stops_slash q f
    | cons c r => simpa [StopsAt] using hoo.1.2

/-- the serialiser's `/.` guard (a null host and a path starting with an empty segment) is one of the two cases -/
theorem reparse_list (hN : NormP idna u) (hh : u.host = none) (hb : u.hasOpaquePath = false)
    (base : Option Url) : urlParse idna base none {} (serialize u) = ⟨.ok, u⟩ := by
  obtain ⟨-, hList, hSp, -, hNoCred, hNoHost⟩ := hN.shape
  obtain ⟨hun, hpw, hp⟩ := hNoCred (.inr (by simp [Url.hostText, hh]))
  have hS : u.isSpecial = false := by
    cases hS : u.isSpecial with
    | false => rfl
    | true => exact absurd hh (hSp hS).1
  have hpne := hNoHost hS hh hb
  have hop := hList hb
  obtain ⟨s, un, pw, _, p, _, op, pa, q, f⟩ := u
  cases hh; cases hb; cases hop; cases hun; cases hpw; cases hp
  obtain ⟨hs, -, -, -, hsegs, -, hq, hf⟩ := hN.mk_parts
  have hF : isFileScheme s = false := C08.nonspecial_nonfile hS
  rw [ser_list]
  cases pa with
  | nil => exact absurd rfl hpne
  | cons seg0 rest =>
    by_cases hpre : (decide ((seg0 :: rest).length > 1) && (seg0 :: rest).head? == some []) = true
    · -- `/.` guard
      simp only [hpre, if_true]
      simp only [List.head?_cons, Bool.and_eq_true, decide_eq_true_eq, beq_iff_eq, Option.some.injEq] at hpre
      obtain ⟨-, rfl⟩ := hpre
      rw [show s ++ 0x3A :: ([0x2F, 0x2E] ++ ((([] : List Nat) :: rest).flatMap (fun s => 0x2F :: s) ++ qfText q f)) =
          s ++ 0x3A :: 0x2F :: (0x2E :: (([] : List Nat) :: rest).flatMap (fun s => 0x2F :: s) ++ qfText q f) by simp,
        urlParse_path idna base s _ hs hS (by simp [StopsAt])]
      exact pathState_dot _ ⟨rfl, rfl⟩ hsegs hF hq hf
    · simp only [hpre, Bool.false_eq_true, if_false, List.nil_append]
      rw [flatMap_slash_cons, List.cons_append, urlParse_path idna base s _ hs hS]
      · exact pathState_ok _ ⟨rfl, rfl⟩ hsegs (fun h1 => by simp [hF] at h1) hq hf
      · -- the path text does not start with a second slash
        cases seg0 with
        | cons c r =>
          have := segCharOk_facts ((segOk_parts (hsegs _ List.mem_cons_self)).1 c List.mem_cons_self)
          simpa [joinSegs, StopsAt] using this.2.1
        | nil =>
          cases rest with
          | nil => simpa [joinSegs] using qf_stops_slash q f
          | cons r0 rs => simp at hpre

/-- C02 in any encoding of the code units (the text is ASCII): a URL in normal form is reproduced by
    serialising and parsing again, whatever the base -/
theorem reparse_enc (e : Enc) (idna : Idna) (u : Url) (hN : NormP idna u) (base : Option Url) :
    parse idna e (serialize u) base = some u := by
  have hp : urlParse idna base none {} (serialize u) = ⟨.ok, u⟩ := by
    cases hh : u.host with
    | none =>
      cases hb : u.hasOpaquePath with
      | true => exact reparse_opaque hN hh hb base
      | false => exact reparse_list hN hh hb base
    | some h =>
      cases hF : u.isFile with
      | true => exact reparse_file hN hh hF base
      | false => exact reparse_host hN hh hF base
  unfold parse
  rw [prep_serialize e hN, hp]

/-- C02 over UTF-8 code units, as `Props.C02_reparse` states it -/
theorem reparse (idna : Idna) (u : Url) (hN : NormP idna u) (base : Option Url) :
    parse idna .u8 (serialize u) base = some u :=
  reparse_enc .u8 idna u hN base

/-! ### what the two file-only clauses exclude -/

theorem hostFileOk_false_iff (t : List Nat) : hostFileOk t = false ↔
    (t = asciiStr "localhost" ∨ ∃ a b, t = [a, b] ∧ isAlpha a = true ∧ (b = 0x3A ∨ b = 0x7C)) := by
  have hl : sLocalhost = asciiStr "localhost" := rfl
  rw [← hl]
  unfold hostFileOk
  rcases t with _ | ⟨a, _ | ⟨b, _ | ⟨c, r⟩⟩⟩
  · simp
  · simp
  · have hne : [a, b] ≠ sLocalhost := by
      intro h
      have := congrArg List.length h
      simp [sLocalhost, asciiStr] at this
    have hbne : ([a, b] != sLocalhost) = true := by simpa using hne
    simp only [hbne, Bool.true_and, Bool.not_eq_eq_eq_not, Bool.not_false, isWindowsDrive,
      Bool.and_eq_true, Bool.or_eq_true, beq_iff_eq]
    constructor
    · rintro ⟨h1, h2⟩; exact Or.inr ⟨a, b, rfl, h1, h2⟩
    · rintro (h | ⟨a', b', h, h1, h2⟩)
      · exact absurd h hne
      · simp only [List.cons.injEq, and_true] at h
        obtain ⟨rfl, rfl⟩ := h
        exact ⟨h1, h2⟩
  · simp

theorem driveOk_false_iff (path : List (List Nat)) : driveOk path = false ↔
    ∃ a rest, path = [a, 0x7C] :: rest ∧ isAlpha a = true := by
  unfold driveOk
  split
  · next a b rest =>
    simp only [Bool.not_eq_eq_eq_not, Bool.not_false, Bool.and_eq_true, beq_iff_eq, List.cons.injEq]
    constructor
    · rintro ⟨h1, rfl⟩; exact ⟨a, rest, by simp, h1⟩
    · rintro ⟨a', rest', h, h1⟩
      simp only [and_true] at h
      obtain ⟨⟨rfl, rfl⟩, _⟩ := h
      exact ⟨h1, rfl⟩
  · next hne =>
    simp only [Bool.true_eq_false, false_iff]
    rintro ⟨a, rest, rfl, _⟩
    exact hne a 0x7C rest rfl

end Upa.Proofs.C02
