import Upa.Proofs.SetRep
/-
  The in-place edits of `Impl/SetRep.lean`, part by part: query, fragment, port, username / password, host, path,
  scheme, trailing spaces.  Each is first described on segments (`Rp S A`), then on records (`Represents r u`), where
  the segments of the edited record are found by unfolding; `RepOk` is what the host and path edits need of the record.
  At the end the path buffer of the setter, which follows the record's path (`ofPath_eq`, `shorten_ofPath`).
-/
namespace Upa.Proofs.SetRep
open Upa Upa.Impl Upa.Proofs.C05
open Upa.Proofs.SetRepExc (mkRepE)
open Upa.Proofs.ParseRep (ptext NoSlash pathText_ptext)
/-! ### query, fragment, port at the record level

  The segments of an edited record are those of the record with one segment replaced; a segment
  function that does not read the edited field unfolds to itself, so `segsOf u' = …` holds by `rfl`
  (once `u.host` is a constructor, where the segment depends on it). -/

theorem write_tail {u u' : Url} {r : Rep} (pt : Nat) (text : List Nat)
    (hpt : pt = PORT ∨ pt = QUERY ∨ pt = FRAGMENT) (htext : pt = PORT → text ≠ [])
    (h : Represents r u)
    (hS : segsOf u' = (segsOf u).take pt ++ [delim pt ++ text] ++ (segsOf u).drop (pt + 1))
    (hset : SameFields ((layout u).setNotNull pt) (layout u')) :
    Represents (writePartFlag r pt text) u' := by
  obtain ⟨A, hA, rfl⟩ := h
  obtain ⟨A', h1, h2⟩ := writePart_tail (layout u) hA pt text hpt htext
  unfold writePartFlag
  rw [h1, setNotNull_mkRep, hset]
  exact ⟨A', hS ▸ h2, rfl⟩

theorem write_query (u : Url) (q : List Nat) {r : Rep} (h : Represents r u) :
    Represents (writePartFlag r QUERY q) { u with query := some q } :=
  write_tail QUERY q (Or.inr (Or.inl rfl)) (fun hc => absurd hc (by decide)) h rfl (fun _ => rfl)

theorem write_fragment (u : Url) (f : List Nat) {r : Rep} (h : Represents r u) :
    Represents (writePartFlag r FRAGMENT f) { u with fragment := some f } :=
  write_tail FRAGMENT f (Or.inr (Or.inr rfl)) (fun hc => absurd hc (by decide)) h rfl (fun _ => rfl)

theorem write_port (u : Url) (p : Nat) {r : Rep} (h : Represents r u) (hh : u.host.isSome) :
    Represents (writePartFlag r PORT (toDecimal p)) { u with port := some p } := by
  refine write_tail PORT _ (Or.inl rfl) (fun _ => Radix.toDecimal_ne_nil p) h ?_ (fun _ => rfl)
  obtain ⟨scheme, username, password, host, port, hasOpaque, opaquePath, path, query, fragment⟩ := u
  cases host with
  | none => exact absurd hh (Bool.false_ne_true)
  | some x => rfl

/-- `clear_part(pt)`: segment `pt` becomes empty and the flag goes off; when the part was never
    started nothing happens, and then (`hkeep`) the flag was off already -/
theorem clear_part {u u' : Url} {r : Rep} (pt : Nat) (hpt1 : 1 ≤ pt) (hpt : pt ≤ 10)
    (h : Represents r u)
    (hS : segsOf u' = (segsOf u).take pt ++ [[]] ++ (segsOf u).drop (pt + 1))
    (hset : SameFields ((layout u).setNull pt) (layout u'))
    (hkeep : (segsOf u).getD pt [] = [] → SameFields (layout u) (layout u')) :
    Represents (clearPart r pt) u' := by
  obtain ⟨A, hA, rfl⟩ := h
  unfold clearPart
  rcases emptyPart_Rp (layout u) hA pt hpt1 hpt with ⟨h0, A', h1, h2⟩ | ⟨h0, h1, h2⟩
  · rw [if_pos (hA.pe_ne_zero _ h0), h1, setNull_mkRep, hset]
    exact ⟨_, hS ▸ h2, rfl⟩
  · rw [if_neg (by simp [h1]), hkeep (by rw [← hA.getD]; exact getD_of_length_le h0)]
    exact ⟨A, (hS.trans h2) ▸ hA, rfl⟩

theorem clear_port (u : Url) {r : Rep} (wf : RecWF u) (h : Represents r u) :
    Represents (clearPart r PORT) { u with port := none } := by
  refine clear_part PORT (by decide) (by decide) h ?_ (fun _ => rfl) ?_
  · obtain ⟨scheme, username, password, host, port, hasOpaque, opaquePath, path, query, fragment⟩ := u
    cases host <;> rfl
  · intro hp
    have hn : u.port = none := portSeg_eq_nil wf hp
    obtain ⟨scheme, username, password, host, port, hasOpaque, opaquePath, path, query, fragment⟩ := u
    subst hn
    exact fun _ => rfl

theorem clear_query (u : Url) {r : Rep} (h : Represents r u) :
    Represents (clearPart r QUERY) { u with query := none } := by
  refine clear_part QUERY (by decide) (by decide) h rfl (fun _ => rfl) ?_
  obtain ⟨scheme, username, password, host, port, hasOpaque, opaquePath, path, query, fragment⟩ := u
  cases query with
  | none => exact fun _ _ => rfl
  | some q => exact fun hq => absurd hq (List.cons_ne_nil _ _)

theorem clear_fragment (u : Url) {r : Rep} (h : Represents r u) :
    Represents (clearPart r FRAGMENT) { u with fragment := none } := by
  refine clear_part FRAGMENT (by decide) (by decide) h rfl (fun _ => rfl) ?_
  obtain ⟨scheme, username, password, host, port, hasOpaque, opaquePath, path, query, fragment⟩ := u
  cases fragment with
  | none => exact fun _ _ => rfl
  | some f => exact fun hf => absurd hf (List.cons_ne_nil _ _)

/-! ### username / password (segment level) -/

section
variable (r0 : Rep) {s0 s1 s2 s3 s4 s5 s6 s7 s8 s9 s10 : List Nat} {A : List (List Nat)}
  (h : Rp [s0, s1, s2, s3, s4, s5, s6, s7, s8, s9, s10] A)
include h

theorem isEmpty_user : (mkRep r0 A).isEmpty USERNAME = decide (s2 = []) :=
  (h.isEmpty r0 USERNAME (by decide)).trans (by cases s2 <;> rfl)

theorem isEmpty_pass : (mkRep r0 A).isEmpty PASSWORD = decide (s3.length ≤ 1) :=
  h.isEmpty r0 PASSWORD (by decide)

theorem writePart_username_S (hhost : s5 ≠ []) (t : List Nat) :
    ∃ A', writePart (mkRep r0 A) USERNAME t = mkRep r0 A' ∧
      Rp (if t ≠ [] ∧ s2 = [] ∧ s3.length ≤ 1 then [s0, s1, t, [], [0x40], s5, s6, s7, s8, s9, s10]
          else if t = [] ∧ s3.length ≤ 1 then [s0, s1, [], [], [], s5, s6, s7, s8, s9, s10]
          else [s0, s1, t, s3, s4, s5, s6, s7, s8, s9, s10]) A' := by
  have hlo := h.lo
  have hne : (List.drop (USERNAME + 1) [s0, s1, s2, s3, s4, s5, s6, s7, s8, s9, s10]).flatten ≠ [] := by
    simp [USERNAME, hhost]
  unfold writePart
  rw [setStartPart_strp r0 h USERNAME t hne]
  have hstrp : strpInit (mkRep r0 A) USERNAME = [] := by simp [strpInit, USERNAME, HOST, PASSWORD, PORT, QUERY]
  rw [hstrp]
  have hE2 := isEmpty_user r0 h
  have hE3 := isEmpty_pass r0 h
  simp only [USERNAME, PASSWORD] at hE2 hE3
  simp only [setSavePart, Rep.hasCredentials, USERNAME, PASSWORD, HOST, PORT, hE2, hE3,
    kPartStart, List.nil_append, if_true]
  by_cases c1 : t ≠ [] ∧ s2 = [] ∧ s3.length ≤ 1
  · obtain ⟨ht, h2, h3⟩ := c1
    subst h2
    simp [ht, h3, HOST_START]
    exact repl_span r0 h 2 1 t [64] (by omega) (by omega)
  · by_cases c2 : t = [] ∧ s3.length ≤ 1
    · obtain ⟨ht, h3⟩ := c2
      subst ht
      simp [h3, HOST_START]
      exact repl_span r0 h 2 1 [] [] (by omega) (by omega)
    · simp [c1, c2, replacePart1]
      exact (repl_one r0 h 2 t (by omega) (by omega)).imp fun _ k => k.2

theorem writePart_password_S (hhost : s5 ≠ []) (t : List Nat) :
    ∃ A', writePart (mkRep r0 A) PASSWORD t = mkRep r0 A' ∧
      Rp (if t ≠ [] ∧ s2 = [] ∧ s3.length ≤ 1 then
            [s0, s1, s2, 0x3A :: t, [0x40], s5, s6, s7, s8, s9, s10]
          else if t = [] ∧ s2 = [] then [s0, s1, s2, [], [], s5, s6, s7, s8, s9, s10]
          else [s0, s1, s2, (if t = [] then [] else 0x3A :: t), s4, s5, s6, s7, s8, s9, s10]) A' := by
  have hlo := h.lo
  have hne : (List.drop (PASSWORD + 1) [s0, s1, s2, s3, s4, s5, s6, s7, s8, s9, s10]).flatten ≠ [] := by
    simp [PASSWORD, hhost]
  unfold writePart
  rw [setStartPart_strp r0 h PASSWORD t hne]
  have hstrp : strpInit (mkRep r0 A) PASSWORD = [0x3A] := by
    simp [strpInit, HOST, PASSWORD, PORT]
  rw [hstrp]
  have hE2 := isEmpty_user r0 h
  have hE3 := isEmpty_pass r0 h
  simp only [USERNAME, PASSWORD] at hE2 hE3
  simp only [setSavePart, Rep.hasCredentials, USERNAME, PASSWORD, HOST, PORT, hE2, hE3,
    kPartStart, if_true]
  by_cases c1 : t ≠ [] ∧ s2 = [] ∧ s3.length ≤ 1
  · obtain ⟨ht, h2, h3⟩ := c1
    subst h2
    simp [ht, h3, HOST_START]
    exact repl_span r0 h 3 0 (58 :: t) [64] (by omega) (by omega)
  · by_cases c2 : t = [] ∧ s2 = []
    · obtain ⟨ht, h2⟩ := c2
      subst ht h2
      simp [HOST_START, hE2]
      exact repl_span r0 h 3 0 [] [] (by omega) (by omega)
    · simp [c1, c2, replacePart1, hE2]
      exact (repl_one r0 h 3 (if t = [] then [] else 58 :: t) (by omega) (by omega)).imp
        fun _ k => k.2
end

/-! ### username / password (record level) -/

theorem write_username (u : Url) (t : List Nat) {r : Rep} (h : Represents r u) {x : Host}
    (hh : u.host = some x) (hx : x.text ≠ []) :
    Represents (writePart r USERNAME t) { u with username := t } := by
  obtain ⟨A, hA, rfl⟩ := h
  unfold segsOf at hA
  obtain ⟨A', h1, h2⟩ := writePart_username_S (layout u) hA (by simp [Url.hostText, hh, hx]) t
  rw [h1]
  refine represents_of h2 ?_ rfl
  obtain ⟨scheme, username, password, host, port, hasOpaque, opaquePath, path, query, fragment⟩ := u
  subst hh
  cases t <;> cases username <;> cases password <;> rfl

theorem write_password (u : Url) (t : List Nat) {r : Rep} (h : Represents r u) {x : Host}
    (hh : u.host = some x) (hx : x.text ≠ []) :
    Represents (writePart r PASSWORD t) { u with password := t } := by
  obtain ⟨A, hA, rfl⟩ := h
  unfold segsOf at hA
  obtain ⟨A', h1, h2⟩ := writePart_password_S (layout u) hA (by simp [Url.hostText, hh, hx]) t
  rw [h1]
  refine represents_of h2 ?_ rfl
  obtain ⟨scheme, username, password, host, port, hasOpaque, opaquePath, path, query, fragment⟩ := u
  subst hh
  cases t <;> cases username <;> cases password <;> rfl

/-! ### host (segment level) -/

section
variable (r0 : Rep) {s0 s1 s2 s3 s4 s5 s6 s7 s8 s9 s10 : List Nat} {A : List (List Nat)}
  (h : Rp [s0, s1, s2, s3, s4, s5, s6, s7, s8, s9, s10] A)
include h

theorem isEmpty_prefix : (mkRep r0 A).isEmpty PATH_PREFIX = decide (s7 = []) :=
  (h.isEmpty r0 PATH_PREFIX (by decide)).trans (by cases s7 <;> rfl)

theorem partLen_sep : (mkRep r0 A).partLen SCHEME_SEP = s1.length := by
  unfold Rep.partLen
  rw [h.pe_lt r0 _ (by simp [SCHEME_SEP]), h.pe_lt r0 _ (by simp [SCHEME_SEP])]
  simp [off, SCHEME_SEP]

/-- `replace_part(PATH_PREFIX, np)` unless the prefix is as empty as `np` already: the step shared by
    `hostDone` (`np = ""`) and `adjust_path_prefix` (`np` = "/." or "").  Inserting needs the part started. -/
theorem setPrefix_S (np : List Nat) (hsame : s7 ≠ [] → np ≠ [] → s7 = np) (hst : np ≠ [] → 7 < A.length) :
    ∃ A', (if (mkRep r0 A).isEmpty PATH_PREFIX != np.isEmpty then replacePart1 (mkRep r0 A) PATH_PREFIX np
        else mkRep r0 A) = mkRep r0 A' ∧
      Rp [s0, s1, s2, s3, s4, s5, s6, np, s8, s9, s10] A' ∧ A'.length = A.length := by
  rw [isEmpty_prefix r0 h]
  by_cases e7 : s7 = [] <;> by_cases en : np = []
  · subst e7 en
    exact ⟨A, by simp, h, rfl⟩
  · subst e7
    obtain ⟨A', hl, h1, h2⟩ := repl_one r0 h 7 np (hst en) (by omega)
    exact ⟨A', by simpa [en, replacePart1, PATH_PREFIX] using h1, by simpa using h2, hl⟩
  · subst en
    -- a non-empty "/." segment is a started part
    have h7lt : 7 < A.length := by
      apply Classical.byContradiction
      intro hc
      have := h.drop_absent (n := 7) (by omega)
      simp at this
      exact e7 this.1
    obtain ⟨A', hl, h1, h2⟩ := repl_one r0 h 7 [] h7lt (by omega)
    exact ⟨A', by simpa [e7, replacePart1, PATH_PREFIX] using h1, by simpa using h2, hl⟩
  · have := hsame e7 en
    subst this
    exact ⟨A, by simp [e7], h, rfl⟩

/-- removal of the "/." prefix in `hostDone` -/
theorem removePrefix_S :
    ∃ A', (if !(mkRep r0 A).isEmpty PATH_PREFIX then replacePart1 (mkRep r0 A) PATH_PREFIX []
        else mkRep r0 A) = mkRep r0 A' ∧
      Rp [s0, s1, s2, s3, s4, s5, s6, [], s8, s9, s10] A' := by
  obtain ⟨A', h1, h2, _⟩ := setPrefix_S r0 h [] (fun _ hn => absurd rfl hn) (fun hn => absurd rfl hn)
  rw [List.isEmpty_nil, Bool.bne_true] at h1
  exact ⟨A', h1, h2⟩

theorem writePart_host_S (text : List Nat)
    (hok : s1.length < 3 → (s6 ++ s7 ++ s8 ++ s9 ++ s10) ≠ []) :
    ∃ A', writePart (mkRep r0 A) HOST text = mkRep r0 A' ∧
      Rp (if s1.length < 3 then [s0, [0x3A, 0x2F, 0x2F], [], [], [], text, s6, s7, s8, s9, s10]
          else [s0, s1, s2, s3, s4, text, s6, s7, s8, s9, s10]) A' := by
  by_cases hlast : (List.drop (HOST + 1) [s0, s1, s2, s3, s4, s5, s6, s7, s8, s9, s10]).flatten = []
  · have h3 : ¬ s1.length < 3 := by
      intro hc; apply hok hc
      simpa [HOST] using hlast
    rw [if_neg h3]
    obtain ⟨A', h1, h2⟩ := writePart_last r0 h HOST text (by simp [HOST]) (by simp [HOST]) hlast
    exact ⟨A', h1, by simpa [HOST, delim, PORT, QUERY, FRAGMENT] using h2⟩
  · unfold writePart
    rw [setStartPart_strp r0 h HOST text hlast]
    simp only [setSavePart, strpInit, partLen_sep r0 h, HOST, if_true]
    by_cases h3 : s1.length < 3
    · simp only [h3, if_true]
      exact repl_span r0 h 1 3 [0x3A, 0x2F, 0x2F] text (by omega) (by have := h.lo; omega)
    · simp only [h3, if_false, replacePart1, List.nil_append]
      exact (repl_one r0 h 5 text (by have := h.lo; omega) (by omega)).imp fun _ k => k.2

theorem writeHost_S (text : List Nat) (ht : Nat)
    (hok : s1.length < 3 → (s6 ++ s7 ++ s8 ++ s9 ++ s10) ≠ []) :
    ∃ A', writeHost (mkRep r0 A) text ht = mkRep (r0.setHostType ht) A' ∧
      Rp (if s1.length < 3 then [s0, [0x3A, 0x2F, 0x2F], [], [], [], text, s6, [], s8, s9, s10]
          else [s0, s1, s2, s3, s4, text, s6, [], s8, s9, s10]) A' := by
  obtain ⟨A1, h1, h2⟩ := writePart_host_S r0 h text hok
  unfold writeHost hostDone
  unfold writePart at h1
  simp only [h1, setHostType_mkRep]
  by_cases h3 : s1.length < 3
  · rw [if_pos h3] at h2 ⊢
    exact removePrefix_S _ h2
  · rw [if_neg h3] at h2 ⊢
    exact removePrefix_S _ h2
end

/-! ### host (record level) -/

/-- what the representation needs of a record, beyond `RecWF`:
    * a null host comes with a non-empty list path unless the path is opaque (the parser never
      produces "scheme:" with an empty non-opaque path: `path_start_state`/`path_state` append at
      least one segment when there is no host; `url_setter::start_part(HOST)` relies on it, see
      `C05b_host_null_empty_path_counterexample`);
    * an opaque path comes with a null host. -/
def RepOk (u : Url) : Prop :=
  RecWF u ∧ (u.host = none → u.hasOpaquePath = false → u.path ≠ []) ∧
    (u.hasOpaquePath = true → u.host = none)

instance (u : Url) : Decidable (RepOk u) := by unfold RepOk; infer_instance

theorem recWF_auth {u : Url} (wf : RecWF u) (hh : u.host.isSome) (un pw : List Nat) (po : Option Nat) :
    RecWF { u with username := un, password := pw, port := po } :=
  ⟨wf.1, fun hn => by
    rw [show ({ u with username := un, password := pw, port := po } : Url).host = u.host from rfl] at hn
    rw [hn] at hh; exact absurd hh (by decide)⟩

theorem recWF_host {u : Url} (wf : RecWF u) (hd : Host) : RecWF { u with host := some hd } :=
  ⟨wf.1, fun hn => by simp at hn⟩

theorem recWF_port_none {u : Url} (wf : RecWF u) : RecWF { u with port := none } :=
  ⟨wf.1, fun hn => ⟨(wf.2 hn).1, (wf.2 hn).2.1, rfl⟩⟩

theorem repOk_strip {u : Url} (ok : RepOk u) : RepOk (stripTrailingSpaces u) := by
  unfold stripTrailingSpaces
  split
  · exact ⟨ok.1, ok.2.1, ok.2.2⟩
  · exact ok

theorem pathText_ne_nil {u : Url} (ho : u.hasOpaquePath = false) (hp : u.path ≠ []) :
    pathText u ≠ [] := by
  unfold pathText
  rw [ho]
  cases hpp : u.path with
  | nil => exact absurd hpp hp
  | cons a b => simp

/-- no "//" yet (null host) ⇒ something follows the host: the path of a host-less list-path URL is not empty.
    The side condition of `writePart_host_S`. -/
theorem RepOk.follows_host {u : Url} (ok : RepOk u) (ho : u.hasOpaquePath = false) :
    (0x3A :: sepSeg u).length < 3 →
      (portSeg u ++ prefixSeg u ++ pathText u ++ querySeg u ++ fragSeg u) ≠ [] := by
  intro hlen
  cases hh : u.host with
  | some y => simp [sepSeg, hh] at hlen
  | none =>
    have := pathText_ne_nil ho (ok.2.1 hh ho)
    simp [this]

theorem write_host (u : Url) (hd : Host) {r : Rep} (ok : RepOk u) (h : Represents r u)
    (ho : u.hasOpaquePath = false) :
    Represents (writeHost r hd.text (hostKindCode hd.kind)) { u with host := some hd } := by
  obtain ⟨A, hA, rfl⟩ := h
  unfold segsOf at hA
  obtain ⟨A', h1, h2⟩ := writeHost_S (layout u) hA hd.text (hostKindCode hd.kind) (ok.follows_host ho)
  obtain ⟨wf, -, -⟩ := ok
  rw [h1]
  refine represents_of h2 ?_ rfl
  obtain ⟨scheme, username, password, host, port, hasOpaque, opaquePath, path, query, fragment⟩ := u
  cases host with
  | none =>
    obtain ⟨hu, hp, hport⟩ := wf.2 rfl
    subst hu hp hport
    rfl
  | some y => rfl

theorem set_empty_host (u : Url) {r : Rep} (h : Represents r u) (hh : u.host.isSome) :
    Represents (setEmptyHost r) { u with host := some emptyHost } := by
  obtain ⟨A, hA, rfl⟩ := h
  unfold segsOf at hA
  obtain ⟨y, hy⟩ := Option.isSome_iff_exists.mp hh
  have hok : (0x3A :: sepSeg u).length < 3 →
      (portSeg u ++ prefixSeg u ++ pathText u ++ querySeg u ++ fragSeg u) ≠ [] := by
    intro hlen; simp [sepSeg, hy] at hlen
  obtain ⟨A', h1, h2⟩ := writePart_host_S (layout u) hA [] hok
  unfold setEmptyHost
  rw [h1, setHostType_mkRep]
  refine represents_of h2 ?_ rfl
  obtain ⟨scheme, username, password, host, port, hasOpaque, opaquePath, path, query, fragment⟩ := u
  subst hy
  rfl

theorem empty_host (u : Url) {r : Rep} (h : Represents r u) (hh : u.host.isSome) :
    Represents (emptyHostRep r) { u with host := some emptyHost } := by
  obtain ⟨A, hA, rfl⟩ := h
  obtain ⟨y, hy⟩ := Option.isSome_iff_exists.mp hh
  have hlo := hA.lo
  unfold emptyHostRep emptyPart
  rw [if_pos (hA.pe_ne_zero _ (by simp only [HOST]; omega))]
  obtain ⟨A', _, h1, h2⟩ := repl_one (layout u) hA 5 [] (by omega) (by omega)
  unfold replacePart1
  simp only [HOST]
  rw [h1, setHostType_mkRep]
  refine represents_of h2 ?_ rfl
  obtain ⟨scheme, username, password, host, port, hasOpaque, opaquePath, path, query, fragment⟩ := u
  subst hy
  rfl

/-! ### path -/

theorem fillUnsetDown_app (Q : List Nat) (x n : Nat) (hx : x ≠ 0) (a : Nat) (T : List Nat) :
    fillUnsetDown (Q ++ [x] ++ List.replicate a 0 ++ T) n (Q.length + a) =
      Q ++ [x] ++ List.replicate a n ++ T := by
  induction a generalizing T with
  | zero =>
    simp only [List.replicate_zero, List.append_nil, Nat.add_zero]
    cases hQ : Q.length with
    | zero => rfl
    | succ m =>
      unfold fillUnsetDown
      rw [if_pos]
      rw [← hQ, List.append_assoc, getD_append_right (Nat.le_refl _)]
      simpa using hx
  | succ k ih =>
    have e : Q.length + (k + 1) = (Q.length + k) + 1 := by omega
    rw [e]
    unfold fillUnsetDown
    have hrep : List.replicate (k + 1) 0 = List.replicate k 0 ++ [0] := List.replicate_succ'
    have hlen : (Q ++ [x] ++ List.replicate k 0).length = Q.length + k + 1 := by simp; omega
    have hform : Q ++ [x] ++ List.replicate (k + 1) 0 ++ T =
        (Q ++ [x] ++ List.replicate k 0) ++ (0 :: T) := by
      rw [hrep]; simp
    rw [hform, if_neg, List.set_append_right _ _ (by omega)]
    · have e0 : Q.length + k + 1 - (Q ++ [x] ++ List.replicate k 0).length = 0 := by omega
      rw [e0, List.set_cons_zero, ih (n :: T), List.replicate_succ']
      simp
    · rw [getD_append_right (by omega)]
      have e0 : Q.length + k + 1 - (Q ++ [x] ++ List.replicate k 0).length = 0 := by omega
      rw [e0]; simp

/-- url.h:3009-3012 on a presented representation: the parts up to PATH count as started -/
theorem fillUnset_mkRep (r0 : Rep) {S A : List (List Nat)} (h : Rp S A) :
    ({ mkRep r0 A with partEnd := fillUnsetDown (mkRep r0 A).partEnd (mkRep r0 A).norm.length PATH } : Rep)
      = mkRep r0 (A ++ List.replicate (9 - A.length) []) ∧
    Rp S (A ++ List.replicate (9 - A.length) []) := by
  have hlo := h.lo
  by_cases h9 : 9 ≤ A.length
  · have e : 9 - A.length = 0 := by omega
    rw [e, List.replicate_zero, List.append_nil]
    refine ⟨?_, h⟩
    have : fillUnsetDown (mkRep r0 A).partEnd (mkRep r0 A).norm.length PATH = (mkRep r0 A).partEnd := by
      show fillUnsetDown _ _ (7 + 1) = _
      unfold fillUnsetDown
      rw [if_pos]
      exact h.pe_ne_zero r0 (i := 8) (by omega)
    rw [this]
  · constructor
    · apply rep_eq_mkRep <;> try rfl
      · simp
      · show fillUnsetDown (sums 0 A ++ List.replicate (11 - A.length) 0) A.flatten.length PATH = _
        have hAne : A ≠ [] := by intro hc; rw [hc] at hlo; simp at hlo
        obtain ⟨Q, hQ, hQs⟩ := sums_last 0 A hAne
        have hx : 0 + A.flatten.length ≠ 0 := by
          have := h.pos' (n := 11) (by omega)
          rw [← h.off, off, List.take_of_length_le (by omega)] at this
          omega
        have e1 : 11 - A.length = (9 - A.length) + 2 := by omega
        have e2 : PATH = Q.length + (9 - A.length) := by simp only [PATH]; omega
        rw [hQs, e1, ← List.replicate_append_replicate, ← List.append_assoc, e2,
          fillUnsetDown_app Q _ _ hx]
        rw [sums_append, hQs, sums_replicate_nil]
        simp only [List.length_append, List.length_replicate, Nat.zero_add]
        have e3 : 11 - (A.length + (9 - A.length)) = 2 := by omega
        rw [e3]
    · refine ⟨h.lenS, by simp; omega, by simp; omega, ?_, h.pos⟩
      conv => lhs; rw [h.pad]
      simp only [List.length_append, List.length_replicate, List.append_assoc,
        List.replicate_append_replicate]
      congr 2; omega


/-- the "/." decision of `adjust_path_prefix`: the test inside `Impl.adjustPathPrefix` under a name -/
def wantPrefix (hostNotNull : Bool) (n : Nat) (text : List Nat) : Bool :=
  !hostNotNull && decide (n > 1) &&
    (decide (text.length > 1) && text.getD 0 0 == 0x2F && text.getD 1 0 == 0x2F)

section
variable (r0 : Rep) {s0 s1 s2 s3 s4 s5 s6 s7 s8 s9 s10 : List Nat} {A : List (List Nat)}
  (h : Rp [s0, s1, s2, s3, s4, s5, s6, s7, s8, s9, s10] A)
include h

/-- `adjust_path_prefix` when the path was started -/
theorem adjust_S (h8 : 8 < A.length) (h7 : s7 = [] ∨ s7 = [0x2F, 0x2E]) :
    ∃ A', adjustPathPrefix (mkRep r0 A) = mkRep r0 A' ∧
      Rp [s0, s1, s2, s3, s4, s5, s6,
          (if wantPrefix r0.hostNotNull r0.segCount s8 then [0x2F, 0x2E] else []), s8, s9, s10] A' ∧
      A'.length = A.length := by
  unfold adjustPathPrefix
  rw [show (mkRep r0 A).partView PATH = s8 from h.partView r0 PATH (by decide)]
  refine setPrefix_S r0 h (if wantPrefix r0.hostNotNull r0.segCount s8 then [0x2F, 0x2E] else [])
    (fun e7 en => ?_) (fun _ => by omega)
  by_cases hw : wantPrefix r0.hostNotNull r0.segCount s8 = true
  · rw [if_pos hw]; exact h7.resolve_left e7
  · rw [if_neg hw] at en; exact absurd rfl en

theorem commitPath_S (text : List Nat) (n : Nat) (h7 : s7 = [] ∨ s7 = [0x2F, 0x2E]) :
    ∃ A', commitPath (mkRep r0 A) text n = mkRep { r0 with segCount := n } A' ∧
      Rp [s0, s1, s2, s3, s4, s5, s6,
          (if wantPrefix r0.hostNotNull n text then [0x2F, 0x2E] else []), text, s9, s10] A' := by
  have hlo := h.lo
  obtain ⟨hf1, hf2⟩ := fillUnset_mkRep r0 h
  obtain ⟨A2, h23, h21, h22⟩ := repl_one r0 hf2 8 text (by simp; omega) (by omega)
  obtain ⟨A3, h31, h32, _⟩ := adjust_S { r0 with segCount := n } h22 (by simp at h23; omega) h7
  refine ⟨A3, ?_, h32⟩
  unfold commitPath
  simp only [hf1, replacePart1, PATH, h21]
  exact h31
end


/-! ### path (record level) -/

/-- the C++ decides on the "/." prefix by looking at the first two characters of the serialised
    path (url.h:2721-2723); the record (and the Standard) by "first segment empty".  The two agree
    because a path segment never starts with "/" (segments are split at "/"). -/
theorem wantPrefix_eq (hostNotNull : Bool) (p : List (List Nat))
    (hp : p.head?.bind List.head? ≠ some 0x2F) :
    wantPrefix hostNotNull p.length (ptext p) =
      (!hostNotNull && decide (p.length > 1) && p.head? == some []) := by
  unfold wantPrefix ptext
  match p, hp with
  | [], _ => simp
  | [a], _ => simp
  | [] :: b :: rest, _ => simp
  | (c :: a) :: b :: rest, hp =>
    have : c ≠ 0x2F := by simpa using hp
    simp [this]

theorem commit_path (u : Url) (p : List (List Nat)) {r : Rep} (h : Represents r u)
    (ho : u.hasOpaquePath = false) (hp : p.head?.bind List.head? ≠ some 0x2F) :
    Represents (commitPath r (pathText { u with path := p }) p.length) { u with path := p } := by
  obtain ⟨A, hA, rfl⟩ := h
  unfold segsOf at hA
  have h7 : prefixSeg u = [] ∨ prefixSeg u = [0x2F, 0x2E] := by
    unfold prefixSeg; split <;> simp
  obtain ⟨A', h1, h2⟩ := commitPath_S (layout u) hA (pathText { u with path := p }) p.length h7
  rw [h1]
  have htext : pathText { u with path := p } = ptext p := pathText_ptext (u := { u with path := p }) ho
  rw [htext, wantPrefix_eq _ _ hp] at h2
  obtain ⟨scheme, username, password, host, port, hasOpaque, opaquePath, path, query, fragment⟩ := u
  subst ho
  refine represents_of h2 ?_ rfl
  cases host <;> rfl

/-! ### scheme -/

section
variable (r0 : Rep) {s0 s1 s2 s3 s4 s5 s6 s7 s8 s9 s10 : List Nat} {A : List (List Nat)}
  (h : Rp [s0, s1, s2, s3, s4, s5, s6, s7, s8, s9, s10] A)
include h

theorem partView_scheme : (mkRep r0 A).partView SCHEME = s0 :=
  (partView_scheme_mkRep r0 A (by have := h.lo; omega)).trans (h.getD 0)

theorem saveScheme_S (s : List Nat) (hs : s ≠ []) :
    ∃ A', saveScheme (mkRep r0 A) s = mkRep { r0 with schemeIdx := schemeIndex s } A' ∧
      Rp [s, s1, s2, s3, s4, s5, s6, s7, s8, s9, s10] A' := by
  obtain ⟨A', _, h1, h2⟩ := repl_one r0 h 0 s (by have := h.lo; omega) (fun _ => hs)
  simp only [List.take, List.drop, List.nil_append, List.cons_append] at h2
  refine ⟨A', ?_, h2⟩
  unfold saveScheme
  simp only [replacePart1, SCHEME, h1]
  have hp0 : (mkRep r0 A').pe 0 = s.length := by
    rw [h2.pe_lt r0 0 (by omega)]; simp [off]
  have hset : (mkRep r0 A').partEnd.set 0 s.length = (mkRep r0 A').partEnd := by
    have := set_getD_self (mkRep r0 A').partEnd 0 0
    rw [show (mkRep r0 A').partEnd.getD 0 0 = (mkRep r0 A').pe 0 from rfl, hp0] at this
    exact this
  rw [hset]
  have hv := partView_scheme r0 h2
  simp only [SCHEME] at hv
  show ({ mkRep r0 A' with schemeIdx := schemeIndex ((mkRep r0 A').partView 0) } : Rep) = _
  rw [hv]
  rfl
end

/-! ### scheme (record level) -/

theorem save_scheme (u : Url) (s : List Nat) {r : Rep} (h : Represents r u) (hs : s ≠ []) :
    Represents (saveScheme r s) { u with scheme := s } := by
  obtain ⟨A, hA, rfl⟩ := h
  unfold segsOf at hA
  obtain ⟨A', h1, h2⟩ := saveScheme_S (layout u) hA s hs
  rw [h1]
  refine represents_of h2 ?_ rfl
  rfl

/-! ### trailing spaces of an opaque path -/

theorem dropWhile_append_stop (f : Nat → Bool) (c : Nat) (hc : f c = false) (l1 l2 : List Nat) :
    (l1 ++ c :: l2).dropWhile f = l1.dropWhile f ++ c :: l2 := by
  induction l1 with
  | nil => simp [List.dropWhile, hc]
  | cons x xs ih =>
    simp only [List.cons_append, List.dropWhile]
    cases hx : f x
    · simp
    · simpa using ih

theorem lastNotSpaceLen_stop (p q : List Nat) (c : Nat) (hc : c ≠ 0x20) :
    lastNotSpaceLen (p ++ c :: q) = p.length + 1 + lastNotSpaceLen q := by
  unfold lastNotSpaceLen
  have : (p ++ c :: q).reverse = q.reverse ++ c :: p.reverse := by simp
  rw [this, dropWhile_append_stop _ c (by simpa using hc)]
  simp; omega

theorem strip_eq_take (l : List Nat) :
    (l.reverse.dropWhile (· == 0x20)).reverse = l.take (lastNotSpaceLen l) := by
  unfold lastNotSpaceLen
  have h := List.takeWhile_append_dropWhile (p := (· == 0x20)) (l := l.reverse)
  have h2 : l = (l.reverse.dropWhile (· == 0x20)).reverse ++ (l.reverse.takeWhile (· == 0x20)).reverse := by
    rw [← List.reverse_append, h, List.reverse_reverse]
  conv => rhs; rw [h2]
  rw [List.take_left' (by simp)]

theorem lastNotSpaceLen_le (l : List Nat) : lastNotSpaceLen l ≤ l.length := by
  unfold lastNotSpaceLen
  have h := List.takeWhile_append_dropWhile (p := (· == 0x20)) (l := l.reverse)
  have := congrArg List.length h
  rw [List.length_append, List.length_reverse] at this
  omega

section
variable (r0 : Rep) {s0 s8 : List Nat} {c : Nat} {A : List (List Nat)}
  (h : Rp [s0, [c], [], [], [], [], [], [], s8, [], []] A)
include h

theorem strip_S (hc : c ≠ 0x20) :
    ∃ A', ({ mkRep r0 A with
        norm := (mkRep r0 A).norm.take (lastNotSpaceLen (mkRep r0 A).norm),
        partEnd := (mkRep r0 A).partEnd.take PATH ++
          setWhileNonzero (lastNotSpaceLen (mkRep r0 A).norm) ((mkRep r0 A).partEnd.drop PATH) } : Rep)
        = mkRep r0 A' ∧
      Rp [s0, [c], [], [], [], [], [], [], s8.take (lastNotSpaceLen s8), [], []] A' := by
  have hlo := h.lo
  have hpos : 0 < s0.length := by simpa [off] using h.pos
  -- the string is `s0 ++ c :: s8`; it is cut inside `s8`, after the `c ≠ ' '`
  have hnorm : (mkRep r0 A).norm = s0 ++ c :: s8 := by rw [norm_mkRep, h.flatten]; simp
  have hoff : off A 8 = s0.length + 1 := by rw [h.off]; simp [off]
  have hk := lastNotSpaceLen_le s8
  have htk : (s0 ++ c :: s8).take (s0.length + 1 + lastNotSpaceLen s8) =
      s0 ++ c :: s8.take (lastNotSpaceLen s8) := by
    rw [show s0 ++ c :: s8 = (s0 ++ [c]) ++ s8 by simp, List.take_append, List.take_of_length_le (by simp)]
    simp
  have hpe := setFrom_mkRep r0 A 8 (s0.length + 1 + lastNotSpaceLen s8) (by omega)
  rw [hnorm, lastNotSpaceLen_stop _ _ _ hc, htk]
  by_cases h8 : 8 < A.length
  · -- PATH was started: its segment is cut, and the (empty) parts after it end where it ends; that the spliced
    -- lists are a presentation again is the second half of `replacePart_Rp`
    refine ⟨_, ?_, (replacePart_Rp r0 h 8 0 [s8.take (lastNotSpaceLen s8)] _ 0 h8 rfl (List.append_nil _) rfl
      (by simpa [off] using hpos)).2⟩
    have hrest : A.drop 9 = List.replicate (A.length - 9) [] := by
      have := eq_replicate_of_flatten_nil (A.drop 9) (by
        have := congrArg List.flatten (h.drop (n := 9) (by omega))
        simpa using this.symm)
      simpa using this
    have h8' : (A.take 8).flatten.length = s0.length + 1 := hoff
    apply rep_eq_mkRep <;> try rfl
    · rw [hrest, h.take (by omega)]; simp
    · refine hpe.trans ?_
      rw [hrest, show A.length - 8 = (A.length - 9) + 1 by omega, List.replicate_succ]
      simp [sums_append, sums_replicate_nil, h8', Nat.min_eq_left hk]
      omega
  · -- PATH was never started: there is no path text and nothing to overwrite
    have e8 : s8 = [] := (h.getD 8).symm.trans (getD_of_length_le (by omega))
    subst e8
    refine ⟨A, ?_, by simpa [lastNotSpaceLen] using h⟩
    apply rep_eq_mkRep <;> try rfl
    · rw [h.flatten]; simp [lastNotSpaceLen]
    · refine hpe.trans ?_
      rw [List.take_of_length_le (by omega), show A.length - 8 = 0 by omega]; simp
end


/-! ### trailing spaces (record level) -/

theorem strip_spaces (u : Url) {r : Rep} (ok : RepOk u) (h : Represents r u) :
    Represents (stripTrailingSpacesRep r) (stripTrailingSpaces u) := by
  obtain ⟨A, hA, rfl⟩ := h
  unfold stripTrailingSpacesRep stripTrailingSpaces
  have hflags : ((mkRep (layout u) A).opaquePath && !(mkRep (layout u) A).fragmentNotNull &&
      !(mkRep (layout u) A).queryNotNull) =
      (u.hasOpaquePath && u.fragment.isNone && u.query.isNone) := by
    show (u.hasOpaquePath && !u.fragment.isSome && !u.query.isSome) = _
    cases u.hasOpaquePath <;> cases u.fragment <;> cases u.query <;> rfl
  rw [hflags]
  by_cases hc : (u.hasOpaquePath && u.fragment.isNone && u.query.isNone) = true
  · rw [if_pos hc, if_pos hc]
    simp only [Bool.and_eq_true, Option.isNone_iff_eq_none] at hc
    obtain ⟨⟨ho, hf⟩, hq⟩ := hc
    have hh : u.host = none := ok.2.2 ho
    obtain ⟨scheme, username, password, host, port, hasOpaque, opaquePath, path, query, fragment⟩ := u
    subst ho hf hq hh
    obtain ⟨A', h1, h2⟩ := strip_S (s0 := scheme) (c := 0x3A) (s8 := opaquePath) _ hA (by decide)
    rw [h1]
    rw [← strip_eq_take] at h2
    exact represents_of h2 rfl rfl
  · rw [if_neg hc, if_neg hc]
    exact ⟨A, hA, rfl⟩


/-! ### the path buffer of the setter (`strp_`, `path_seg_end_`) -/

def slashed (p : List (List Nat)) : List (List Nat) := p.map (fun seg => 0x2F :: seg)

theorem slashed_flatten (p : List (List Nat)) :
    (slashed p).flatten = ptext p := by
  simp [slashed, ptext, List.flatMap]

theorem foldl_push (p : List (List Nat)) (b : PathBuf) :
    p.foldl PathBuf.push b =
      { strp := b.strp ++ (slashed p).flatten, segEnd := b.segEnd ++ sums b.strp.length (slashed p) } := by
  induction p generalizing b with
  | nil => simp [slashed]
  | cons s r ih =>
    rw [List.foldl_cons, ih]
    simp [PathBuf.push, slashed]

/-- `strp_` is the serialised path, `path_seg_end_` the end offset of every segment in it -/
theorem ofPath_eq (p : List (List Nat)) :
    PathBuf.ofPath p = { strp := (slashed p).flatten, segEnd := sums 0 (slashed p) } := by
  unfold PathBuf.ofPath
  rw [foldl_push]
  rfl

theorem sums_dropLast (acc : Nat) (A : List (List Nat)) :
    (sums acc A).dropLast = sums acc A.dropLast := by
  induction A generalizing acc with
  | nil => rfl
  | cons s r ih =>
    cases r with
    | nil => rfl
    | cons t r' =>
      have := ih (acc + s.length)
      simp only [sums_cons, List.dropLast_cons_cons] at this ⊢
      rw [this]

theorem sums_getLast (A : List (List Nat)) (hA : A ≠ []) :
    (sums 0 A).getLast?.getD 0 = A.flatten.length := by
  obtain ⟨I, _, hI⟩ := sums_last 0 A hA
  rw [hI]; simp

/-- the segment is a normalized Windows drive letter (`X:`) -/
def segDrive (seg : List Nat) : Bool :=
  match seg with
  | [a, b] => isNormalizedWindowsDrive a b
  | _ => false

/-- "shorten a path" on a list of segments (`url::get_shorten_path`, `Impl.shortenPath`) -/
def shortenList (isFile : Bool) (p : List (List Nat)) : List (List Nat) :=
  match p with
  | [] => []
  | [seg] => if isFile && segDrive seg then [seg] else []
  | _ => p.dropLast

theorem shortenPath_path (u : Url) : (shortenPath u).path = shortenList u.isFile u.path := by
  unfold shortenPath shortenList segDrive
  split
  · next h => simp [h]
  · next seg h =>
    simp only [h]
    split
    · next a b => split <;> simp [h]
    · simp
  · next h1 h2 =>
    split
    · next h => exact absurd h h1
    · next seg h => exact absurd h (h2 seg)
    · rfl

theorem shorten_list (isFile : Bool) (p : List (List Nat)) :
    (PathBuf.ofPath p).shorten isFile = PathBuf.ofPath (shortenList isFile p) := by
  rw [ofPath_eq, ofPath_eq]
  unfold PathBuf.shorten shortenList segDrive
  match p with
  | [] => simp [slashed]
  | [seg] =>
    simp only [slashed, List.map_cons, List.map_nil, sums_cons, sums_nil, List.length_cons,
      List.length_nil, List.flatten_cons, List.flatten_nil, List.append_nil, if_true]
    match seg with
    | [] => simp
    | [a] => simp
    | [a, b] =>
      cases isFile <;> cases hd : isNormalizedWindowsDrive a b <;> simp [hd]
    | a :: b :: c :: r => simp
  | s1 :: s2 :: rest =>
    have hlen : (sums 0 (slashed (s1 :: s2 :: rest))).length = rest.length + 2 := by simp [slashed]
    rw [if_neg (by rw [hlen]; omega), if_pos (by rw [hlen]; omega)]
    have hdl : (slashed (s1 :: s2 :: rest)).dropLast = slashed (s1 :: s2 :: rest).dropLast := by
      simp [slashed, List.map_dropLast]
    have hne' : slashed (s1 :: s2 :: rest).dropLast ≠ [] := by
      simp [slashed, List.dropLast]
    simp only [sums_dropLast, hdl, sums_getLast _ hne']
    have hsplit : (slashed (s1 :: s2 :: rest)).flatten =
        (slashed (s1 :: s2 :: rest).dropLast).flatten ++
          (0x2F :: (s1 :: s2 :: rest).getLast (by simp)) := by
      conv => lhs; rw [← List.dropLast_concat_getLast (l := s1 :: s2 :: rest) (by simp)]
      simp [slashed]
    rw [hsplit, List.take_left' rfl]

/-- `url_setter::shorten_path` on the buffer = `url::get_shorten_path` on the record's path -/
theorem shorten_ofPath (u : Url) :
    (PathBuf.ofPath u.path).shorten u.isFile = PathBuf.ofPath (shortenPath u).path := by
  rw [shortenPath_path]; exact shorten_list _ _

theorem commitPathBuf_ofPath (r : Rep) (u : Url) (p : List (List Nat)) (ho : u.hasOpaquePath = false) :
    commitPathBuf r (PathBuf.ofPath p) = commitPath r (pathText { u with path := p }) p.length := by
  rw [ofPath_eq]
  simp only [commitPathBuf, slashed_flatten, ptext, pathText, ho, sums_length]
  simp [slashed]

end Upa.Proofs.SetRep
