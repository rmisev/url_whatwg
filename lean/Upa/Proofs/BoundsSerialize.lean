import Upa.Impl.BoundsMisc
import Upa.Proofs.Bounds
import Upa.Proofs.Ipv6
/-
  The serializers of util.h / src/url_ip.cpp (`unsigned_to_str`, `ipv4_serialize`, `longest_zero_sequence`,
  `ipv6_serialize`), bounds-instrumented (`Upa/Impl/BoundsMisc.lean`): agreement with the list models of
  `Upa/Impl/Ip.lean`, from which in bounds / pointers in range / termination follow.
-/
namespace Upa.Impl.B
open Upa.Proofs.V6 (countZeros_zero countZeros_ne lzs_skip_all lzs_skip lzs_cons)

/-! ### util::unsigned_to_str -/

/-- the divider loop of `unsignedToStrM` runs in step with `Impl.digitCountLoop` (`divider *= base` does not
    wrap: `divider ≤ num / base`).  `fuelL` is the list model's fuel; the program has `extra` rounds more than it needs,
    and its counter runs `c` ahead of the model's (the one call: `fuelL := num + 1`, `extra := 0`, `c := outLen`, the
    count starting at 1 on both sides). -/
theorem dividerLoop_eq (base num0 : Nat) (hb : 2 ≤ base) (hn : num0 * base < 2 ^ 32) :
    ∀ fuelL divider count c extra, 1 ≤ divider → num0 < divider + fuelL →
      iter (fun (s : Nat × Nat) =>
          let (divider, count) := s
          if divider ≤ num0 then pure (.inl ((divider * base) % 2^32, count + 1))
          else pure (.inr count)) (fuelL + extra + 1) (divider, c + count)
        = .ok (c + Impl.digitCountLoop base num0 fuelL divider count) := by
  intro fuelL
  induction fuelL with
  | zero =>
    intro divider count c extra _ h2
    have hgt : ¬ divider ≤ num0 := Nat.not_le_of_lt h2
    simp only [iter, if_neg hgt, Impl.digitCountLoop]
    rfl
  | succ fuelL ih =>
    intro divider count c extra h1 h2
    by_cases hle : divider ≤ num0
    · have hmul : divider * base ≤ num0 * base := Nat.mul_le_mul_right _ hle
      -- `divider + 1 ≤ divider * base`: the measure `num0 + 1 - divider` goes down
      have hgt : divider + 1 ≤ divider * base :=
        Nat.le_trans (Nat.add_le_add_left h1 divider) (Nat.mul_two divider ▸ Nat.mul_le_mul_left _ hb)
      rw [Nat.add_right_comm fuelL 1 extra]
      simp only [iter, Impl.digitCountLoop, if_pos hle, Nat.mod_eq_of_lt (Nat.lt_of_le_of_lt hmul hn)]
      exact ih (divider * base) (count + 1) c extra (Nat.le_trans (Nat.le_add_left 1 divider) hgt)
        (Nat.lt_of_lt_of_le h2 (Nat.le_trans (Nat.le_of_eq (Nat.add_right_comm divider fuelL 1))
          (Nat.add_le_add_right hgt fuelL)))
    · simp only [iter, Impl.digitCountLoop, if_neg hle]
      rfl

theorem unsignedToStrM_agrees (num base outLen : Nat) (hn : num < 2 ^ 32) (hb2 : 2 ≤ base) (hb16 : base ≤ 16) :
    unsignedToStrM num base outLen = .ok (Impl.unsignedToStr base hexDigitLower num) := by
  have hpos : 0 < base := Nat.lt_of_lt_of_le (by decide) hb2
  have hdiv : num / base * base < 2 ^ 32 := Nat.lt_of_le_of_lt (Nat.div_mul_le_self num base) hn
  have hfuel : num / base < 1 + (num + 1) :=
    Nat.lt_of_le_of_lt (Nat.div_le_self num base) (Nat.lt_of_lt_of_le (Nat.lt_succ_self num) (Nat.le_add_left _ 1))
  refine R.eq_ok_of_sat (R.sat_bind_ok (dividerLoop_eq base (num / base) hb2 hdiv (num + 1) 1 1 outLen 0
    (Nat.le_refl _) hfuel) ?_)
  rw [Radix.unsignedToStr_eq hb2, Radix.digitCount_eq hb2]
  -- the digits of `n` are still to be written, in front of the cells from `count` on
  refine R.sat_bind (iter_sat _
    (fun (count, n, out) => count = outLen + (Radix.digits base n).length ∧
      out.size = outLen + (Radix.digits base num).length ∧ (Radix.digits base n).length ≤ (Radix.digits base num).length ∧
      (Radix.digits base n).map hexDigitLower ++ span out.get count (outLen + (Radix.digits base num).length) =
        (Radix.digits base num).map hexDigitLower)
    (fun s => s.2.1)
    (fun out => span out.get outLen (outLen + (Radix.digits base num).length) = (Radix.digits base num).map hexDigitLower)
    ?_ _ _ ⟨rfl, rfl, Nat.le_refl _, ?_⟩ (Nat.lt_succ_of_lt (Nat.lt_succ_self num))) ?_
  · intro ⟨count, n, out⟩ ⟨hc, i1, i2, i3⟩
    obtain ⟨d, r, hd, _⟩ := Radix.digits_head base n
    have hlen : (Radix.digits base n).length = r.length + 1 := congrArg List.length hd
    rw [hlen] at hc i2
    subst hc
    have hm : n % base < 17 := Nat.lt_of_lt_of_le (Nat.mod_lt n hpos) (Nat.le_succ_of_le hb16)
    refine R.sat_bind_ok (v := outLen + r.length) rfl
      (R.sat_bind_ok (idx_ok hm) (R.sat_bind_ok (Loc.wr_ok (by omega)) ?_))
    have hw := span_write out.get (outLen + r.length) (outLen + (Radix.digits base num).length)
      (hexDigitLower (n % base)) (Nat.add_lt_add_left (Nat.lt_of_succ_le i2) outLen)
    refine R.sat_if (fun hne => ?_) (fun hz => ?_)
    · have hbn : base ≤ n := Nat.le_of_not_lt fun hlt => hne (Nat.div_eq_of_lt hlt)
      have hlt : n / base < n := Nat.div_lt_self (Nat.lt_of_lt_of_le hpos hbn) hb2
      rw [Radix.digits_step hb2 hbn, List.length_append] at hlen
      rw [Radix.digits_step hb2 hbn, List.map_append, List.append_assoc] at i3
      refine R.sat_pure ⟨⟨congrArg (outLen + ·) (Nat.succ.inj hlen).symm, i1, ?_, ?_⟩, hlt⟩
      · rw [Nat.succ.inj hlen]
        exact Nat.le_of_succ_le i2
      · rw [hw]
        exact i3
    · have hlt : n < base := Nat.lt_of_div_eq_zero hpos (Decidable.not_not.mp hz)
      rw [Radix.digits_small hlt] at hd i3
      cases hd
      rw [Nat.mod_eq_of_lt hlt] at hw ⊢
      exact R.sat_pure (hw.trans i3)
  · intro out hout
    rw [span_eq_map_range, Nat.add_sub_cancel_left] at hout
    rw [Nat.add_sub_cancel_left]
    exact R.sat_pure hout
  · rw [span_nil _ _ _ (Nat.le_refl _)]
    exact List.append_nil _

theorem unsignedToStrM_sat (num base outLen : Nat) (hn : num < 2 ^ 32) (hb2 : 2 ≤ base) (hb16 : base ≤ 16) :
    (unsignedToStrM num base outLen).sat (fun _ => True) :=
  R.sat_of_eq_ok (unsignedToStrM_agrees num base outLen hn hb2 hb16)

/-! ### ipv4_serialize -/

theorem and_ff_lt (x : Nat) : x &&& 0xFF < 2 ^ 32 := by
  have : (0xFF : Nat) = 2 ^ 8 - 1 := by decide
  rw [this, Nat.and_two_pow_sub_one_eq_mod]; omega

theorem ipv4SerializeM_agrees (ipv4 : Nat) : ipv4SerializeM ipv4 = .ok (Impl.ipv4Serialize ipv4) := by
  have hu : ∀ x o, unsignedToStrM (x &&& 0xFF) 10 o = .ok (Impl.unsignedToStr 10 (fun d => 0x30 + d) (x &&& 0xFF)) := by
    intro x o
    rw [unsignedToStrM_agrees _ 10 o (and_ff_lt _) (by omega) (by omega), Radix.unsignedToStr_ten_hexDigitLower]
  unfold ipv4SerializeM
  -- the four rounds of the shift loop and its exit, unrolled
  have e5 : (5 : Nat) = 0 + 1 + 1 + 1 + 1 + 1 := rfl
  rw [e5]
  simp only [iter, hu, R.ok_bind, ne_eq, Nat.reduceEqDiff, not_false_eq_true, if_true, Nat.reduceSub,
    not_true_eq_false, if_false, R.pure_eq, Impl.ipv4Serialize]
  simp

theorem ipv4SerializeM_sat (ipv4 : Nat) : (ipv4SerializeM ipv4).sat (fun _ => True) :=
  R.sat_of_eq_ok (ipv4SerializeM_agrees ipv4)

/-! ### longest_zero_sequence -/

/-- what `longest_zero_sequence` guarantees about `(last_count, compress)` -/
def LzsPost (first last : Nat) (r : Nat × Option Nat) : Prop :=
  (∀ c, r.2 = some c → first ≤ c ∧ c + r.1 ≤ last ∧ 1 ≤ r.1) ∧ (r.2 = none → r.1 = 0)

/-- `compress` as an index into the pieces: the pointer minus `first`, `nullptr` as the list model's initial 0 -/
def cidx (first : Nat) (c : Option Nat) : Nat := match c with | some p => p - first | none => 0

theorem longestZeroSequenceM_spec (a : Array Nat) (first last : Nat) (h : first ≤ last) (hl : last ≤ a.size) :
    (longestZeroSequenceM a first last).sat (fun r => LzsPost first last r ∧
      (r.1, cidx first r.2) = Impl.longestZeroSeq (slice a first last) 0 0 0 0) := by
  refine scan_sat _ (·.1) first last (fun (it, lastCount, compress) => LzsPost first last (lastCount, compress) ∧
      Impl.longestZeroSeq (slice a it last) (it - first) 0 lastCount (cidx first compress) =
        Impl.longestZeroSeq (slice a first last) 0 0 0 0) _ ?_ _ _ (Nat.le_refl _) h ?_ (Nat.lt_succ_self _)
  · intro ⟨it, lastCount, compress⟩ h1 h2 ⟨h3, h4⟩
    refine R.sat_if (fun he => ?_) (fun he => ?_)
    · rw [he, slice_nil a last last (Nat.le_refl _)] at h4
      exact R.sat_pure ⟨h3, h4⟩
    have hlt : it < last := Nat.lt_of_le_of_ne h2 he
    have hstep : it - first + 1 = it + 1 - first := (Nat.sub_add_comm h1).symm
    rw [slice_cons a it last hlt hl, lzs_cons] at h4
    refine R.sat_read hl (R.sat_if_eq h4 (fun hz h4 => ?_) (fun hz h4 => ?_)) h1 hlt
    · refine R.sat_ptr ?_ (Nat.le_succ_of_le h1) hlt
      -- the inner loop stops at the end of the run of zeros that starts at `it`
      refine R.sat_bind (scan_sat _ id (it + 1) last
        (fun ite => it + Impl.countZeros (slice a it last) = ite + Impl.countZeros (slice a ite last))
        (fun ite => ite ≤ last ∧ ite = it + Impl.countZeros (slice a it last)) ?_ _ _ (Nat.le_refl _) hlt ?_
        (Nat.lt_succ_of_le (Nat.le_succ_of_le (Nat.sub_le_sub_left (Nat.le_succ_of_le h1) last)))) ?_
      · intro ite (g1 : it < ite) (g2 : ite ≤ last) g3
        have g0 : first ≤ ite := Nat.le_trans h1 (Nat.le_of_lt g1)
        refine R.sat_if (fun hne => ?_) (fun hne => ?_)
        · have hlt2 : ite < last := Nat.lt_of_le_of_ne g2 hne
          rw [slice_cons a ite last hlt2 hl] at g3
          refine R.sat_read hl (R.sat_if (fun hz2 => ?_) (fun hz2 => ?_)) g0 hlt2
          · rw [hz2, countZeros_zero, ← Nat.add_assoc, Nat.add_right_comm] at g3
            refine R.sat_ptr ?_ (Nat.le_succ_of_le g0) hlt2
            exact R.sat_pure ⟨Nat.lt_succ_self ite, hlt2, g3⟩
          · rw [countZeros_ne _ _ hz2] at g3
            exact R.sat_pure ⟨g2, g3.symm⟩
        · have hel : ite = last := Decidable.not_not.mp hne
          subst hel
          rw [slice_nil a ite ite (Nat.le_refl _)] at g3
          exact R.sat_pure ⟨g2, g3.symm⟩
      · rw [slice_cons a it last hlt hl, hz, countZeros_zero, ← Nat.add_assoc, Nat.add_right_comm]
      intro ite ⟨e2, e3⟩
      have hz1 : 1 ≤ Impl.countZeros (slice a it last) := by
        rw [slice_cons a it last hlt hl, hz, countZeros_zero]
        exact Nat.le_add_left 1 _
      rw [← slice_cons a it last hlt hl] at h4
      generalize Impl.countZeros (slice a it last) = z at e3 h4 hz1
      subst e3
      rw [Nat.add_sub_cancel_left]
      dsimp only
      -- the updated `(last_count, compress)`, on both sides
      have key : LzsPost first last (if lastCount < z then (z, some it) else (lastCount, compress)) ∧
          Impl.longestZeroSeq (slice a (it + 1) last) (it - first + 1) z
            (if lastCount < z then (z, some it) else (lastCount, compress)).1
            (cidx first (if lastCount < z then (z, some it) else (lastCount, compress)).2) =
          Impl.longestZeroSeq (slice a first last) 0 0 0 0 := by
        by_cases hc : lastCount < z
        · rw [if_pos hc]
          rw [if_pos hc, if_pos hc] at h4
          exact ⟨And.intro (fun c hcc => Option.some.inj hcc ▸ ⟨h1, e2, hz1⟩) (fun hn => nomatch hn), h4⟩
        · rw [if_neg hc]
          rw [if_neg hc, if_neg hc] at h4
          exact ⟨h3, h4⟩
      generalize (if lastCount < z then (z, some it) else (lastCount, compress)) = lc at key ⊢
      obtain ⟨k1, k2⟩ := key
      refine R.sat_if (fun hel => ?_) (fun hel => ?_)
      · rw [lzs_skip_all _ _ _ _ _ (by rw [slice_length a _ _ hl]; omega)] at k2
        exact R.sat_pure ⟨k1, k2⟩
      · have hlt3 : it + z < last := Nat.lt_of_le_of_ne e2 hel
        refine R.sat_ptr ?_ (Nat.le_succ_of_le (Nat.le_trans h1 (Nat.le_add_right it z))) hlt3
        have q1 : it + 1 + z = it + z + 1 := Nat.add_right_comm it 1 z
        have q2 : it - first + 1 + z = it + z + 1 - first := by
          rw [Nat.add_assoc, Nat.add_comm 1 z]
          exact (Nat.sub_add_comm h1).symm
        have hz : it + 1 + z ≤ last := Nat.le_trans (Nat.le_of_eq q1) hlt3
        rw [lzs_skip _ _ z _ _ (by rw [slice_length a _ _ hl]; exact Nat.le_sub_of_add_le' hz),
          slice_drop a last hl z (it + 1) hz, q1, q2] at k2
        exact R.sat_pure ⟨Nat.lt_succ_of_le (Nat.le_add_right it z), hlt3, k1, k2⟩
    · rw [hstep] at h4
      refine R.sat_ptr ?_ (Nat.le_succ_of_le h1) hlt
      exact R.sat_pure ⟨Nat.lt_succ_self it, hlt, h3, h4⟩
  · refine ⟨And.intro (fun c hc => nomatch hc) (fun _ => rfl), ?_⟩
    rw [Nat.sub_self]
    rfl

theorem longestZeroSequenceM_sat (a : Array Nat) (first last : Nat) (h : first ≤ last) (hl : last ≤ a.size) :
    (longestZeroSequenceM a first last).sat (LzsPost first last) :=
  (longestZeroSequenceM_spec a first last h hl).left

theorem longestZeroSequenceM_agrees (a : Array Nat) (first last : Nat) (h : first ≤ last) (hl : last ≤ a.size) :
    (longestZeroSequenceM a first last).sat (fun r =>
      (r.1, cidx first r.2) = Impl.longestZeroSeq (slice a first last) 0 0 0 0) :=
  (longestZeroSequenceM_spec a first last h hl).right

/-! ### ipv6_serialize -/

/-- The fuel of the list model's loop is existential in the invariant (at least the number of pieces left), so its
    defining equation is all that is used of it. -/
theorem ipv6SerializeM_spec (a : Array Nat) (first last : Nat) (h : first < last) (hl : last ≤ a.size) :
    (ipv6SerializeM a first last).sat (fun r => (∀ i, first ≤ i → i < last → a[i]! < 65536) →
      r = Impl.ipv6Serialize (slice a first last)) := by
  refine R.sat_bind (longestZeroSequenceM_spec a first last (Nat.le_of_lt h) hl) ?_
  intro ⟨len, compress0⟩ ⟨⟨hp1, hp0⟩, hag⟩
  -- `compress` as a pointer (model) and as an index (list model)
  have hc : ∀ c, (if len = 1 then none else compress0) = some c → first ≤ c ∧ c + len ≤ last := by
    intro c hcc
    by_cases h1 : len = 1
    · rw [if_pos h1] at hcc; exact nomatch hcc
    · rw [if_neg h1] at hcc; exact ⟨(hp1 c hcc).1, (hp1 c hcc).2.1⟩
  have hres : Impl.ipv6Serialize (slice a first last) =
      Impl.ipv6SerLoop ((if len = 1 then none else compress0).map (fun p => p - first)) len (last - first + 1)
        (slice a first last) 0 := by
    unfold Impl.ipv6Serialize
    rw [← hag, slice_length a first last hl]
    dsimp only
    congr 1
    by_cases hl1 : len = 1
    · rw [if_pos hl1, if_pos (Or.inr hl1)]; rfl
    · cases hc0 : compress0 with
      | none => rw [if_pos (Or.inl (hp0 hc0)), if_neg hl1]; rfl
      | some p =>
        have hne0 : ¬ len = 0 := Nat.ne_of_gt (hp1 p hc0).2.2
        rw [if_neg (fun hh => hh.elim hne0 hl1), if_neg hl1]
        rfl
  rw [hres]
  dsimp only
  generalize (if len = 1 then none else compress0) = compress at hc ⊢
  have hiff : ∀ it, first ≤ it → (compress.map (fun p => p - first) = some (it - first) ↔ compress = some it) := by
    intro it hit
    cases hcc : compress with
    | none => exact ⟨(fun hh => nomatch hh), (fun hh => nomatch hh)⟩
    | some c =>
      have := (hc c hcc).1
      rw [Option.map_some, Option.some.injEq, Option.some.injEq]
      omega
  generalize compress.map (fun p => p - first) = cL at hiff ⊢
  generalize hR : Impl.ipv6SerLoop cL len (last - first + 1) (slice a first last) 0 = res
  generalize hHB : (∀ i, first ≤ i → i < last → a[i]! < 65536) = HB
  refine scan_sat _ (·.1) first last (fun (it, out) => it < last ∧ (HB → ∃ fuel, last - it ≤ fuel ∧
      out ++ Impl.ipv6SerLoop cL len fuel (slice a it last) (it - first) = res)) _ ?_ _ _
    (Nat.le_refl _) (Nat.le_of_lt h) ⟨h, fun _ => ⟨_, Nat.le_succ _, by rw [Nat.sub_self]; exact hR⟩⟩ (Nat.lt_succ_self _)
  intro ⟨it, out⟩ h1 _ ⟨h2, h3⟩
  have h3 : HB → ∃ f, last - (it + 1) ≤ f ∧ out ++ (if cL = some (it - first) then
        match (slice a it last).drop len with
        | [] => (if it - first = 0 then [0x3A, 0x3A] else [0x3A])
        | b :: r' => (if it - first = 0 then [0x3A, 0x3A] else [0x3A]) ++ Impl.unsignedToStr 16 hexDigitLower b ++
            (if r' = [] then [] else 0x3A :: Impl.ipv6SerLoop cL len f r' (it - first + len + 1))
      else Impl.unsignedToStr 16 hexDigitLower a[it]! ++ (if slice a (it + 1) last = [] then [] else
        0x3A :: Impl.ipv6SerLoop cL len f (slice a (it + 1) last) (it - first + 1))) = res := fun hb => by
    obtain ⟨fuel, hf, h3⟩ := h3 hb
    obtain ⟨f, rfl⟩ : ∃ f, fuel = f + 1 :=
      ⟨fuel - 1, (Nat.sub_add_cancel (Nat.lt_of_lt_of_le (Nat.sub_pos_of_lt h2) hf)).symm⟩
    rw [slice_cons a it last h2 hl, Impl.ipv6SerLoop, ← slice_cons a it last h2 hl] at h3
    exact ⟨f, by omega, h3⟩
  -- after the optional `::`: at `it2` with `out2`, the piece at `it2` is still to be printed
  refine R.sat_bind (P := fun r => match r with
      | .inl (it2, out2) => it ≤ it2 ∧ it2 < last ∧ (HB → ∃ f, last - (it2 + 1) ≤ f ∧
          out2 ++ (Impl.unsignedToStr 16 hexDigitLower a[it2]! ++ (if slice a (it2 + 1) last = [] then [] else
            0x3A :: Impl.ipv6SerLoop cL len f (slice a (it2 + 1) last) (it2 + 1 - first))) = res)
      | .inr o => HB → o = res) ?_ ?_
  · refine R.sat_if (fun hci => ?_) (fun hci => ?_)
    · obtain ⟨c1, c2⟩ := hc it hci
      have e0 : (it - first = 0) = (it = first) :=
        propext ⟨fun hh => Nat.le_antisymm (Nat.sub_eq_zero_iff_le.mp hh) h1, fun hh => by rw [hh, Nat.sub_self]⟩
      refine R.sat_ptr (R.sat_if (fun hend => ?_) (fun hend => ?_)) (Nat.le_trans h1 (Nat.le_add_right _ _)) c2
      · refine R.sat_pure fun hb => ?_
        obtain ⟨f, _, h3⟩ := h3 hb
        have hend' : it + len = last := hend
        rw [if_pos ((hiff it h1).2 hci), slice_drop a last hl len it c2, hend', slice_nil a last last (Nat.le_refl _)] at h3
        simp only [e0] at h3
        exact h3
      · have hlt2 : it + len < last := Nat.lt_of_le_of_ne c2 hend
        refine R.sat_pure ⟨Nat.le_add_right _ _, hlt2, fun hb => ?_⟩
        obtain ⟨f, hf, h3⟩ := h3 hb
        have e1 : it - first + len + 1 = it + len + 1 - first := (Nat.sub_add_comm (m := len + 1) h1).symm
        rw [if_pos ((hiff it h1).2 hci), slice_drop a last hl len it c2, slice_cons a (it + len) last hlt2 hl, e1] at h3
        simp only [e0] at h3
        refine ⟨f, Nat.le_trans (Nat.sub_le_sub_left (Nat.succ_le_succ (Nat.le_add_right it len)) last) hf, ?_⟩
        rw [← h3]
        simp only [List.append_assoc]
    · refine R.sat_pure ⟨Nat.le_refl _, h2, fun hb => ?_⟩
      obtain ⟨f, hf, h3⟩ := h3 hb
      rw [if_neg (fun hh => hci ((hiff it h1).1 hh)), (Nat.sub_add_comm h1).symm] at h3
      exact ⟨f, hf, h3⟩
  intro r hr
  cases r with
  | inr o => exact R.sat_pure hr
  | inl s =>
    obtain ⟨it2, out2⟩ := s
    obtain ⟨g0, g2, g3⟩ := hr
    have g1 : first ≤ it2 := Nat.le_trans h1 g0
    refine R.sat_read hl (R.sat_bind_ok (unsignedToStrM_agrees _ 16 _
      (Nat.lt_trans (Nat.mod_lt _ (by decide)) (by decide)) (by decide) (by decide)) ?_) g1 g2
    have hd : HB → a[it2]! % 65536 = a[it2]! := fun hb => Nat.mod_eq_of_lt ((hHB ▸ hb : ∀ i, first ≤ i → i < last → a[i]! < 65536) it2 g1 g2)
    refine R.sat_ptr (R.sat_if (fun hend => ?_) (fun hend => ?_)) (Nat.le_succ_of_le g1) g2
    · refine R.sat_pure fun hb => ?_
      obtain ⟨f, _, g3⟩ := g3 hb
      rw [if_pos ((slice_eq_nil a _ last g2 hl).2 hend), List.append_nil] at g3
      rw [hd hb]
      exact g3
    · refine R.sat_pure ⟨Nat.lt_succ_of_le g0, g2, Nat.lt_of_le_of_ne g2 hend, fun hb => ?_⟩
      obtain ⟨f, hf, g3⟩ := g3 hb
      rw [if_neg (fun hh => hend ((slice_eq_nil a _ last g2 hl).1 hh)), ← List.append_assoc,
        ← List.singleton_append, ← List.append_assoc] at g3
      rw [hd hb]
      exact ⟨f, hf, g3⟩

theorem ipv6SerializeM_sat (a : Array Nat) (first last : Nat) (h : first < last) (hl : last ≤ a.size) :
    (ipv6SerializeM a first last).sat (fun _ => True) :=
  (ipv6SerializeM_spec a first last h hl).true

theorem ipv6SerializeM_agrees (a : Array Nat) (first last : Nat) (h : first < last) (hl : last ≤ a.size)
    (hb : ∀ i, first ≤ i → i < last → a[i]! < 65536) :
    ipv6SerializeM a first last = .ok (Impl.ipv6Serialize (slice a first last)) :=
  R.eq_ok_of_sat ((ipv6SerializeM_spec a first last h hl).mp hb)

end Upa.Impl.B
