import Upa.Proofs.SetRep
/-
  `Represents r u` is `r ≈ layout u ∧ r.wf` for `RecWF u` (`represents_iff`), and `≈` keeps every getter on well-formed
  offset tables (`fill_step`, `equiv_getters`).  Independent of the edits of the single parts (Proofs/SetRepOps.lean).
-/
namespace Upa.Proofs.SetRep
open Upa Upa.Impl Upa.Proofs.C05
open Upa.Proofs.SetRepExc (mkRepE)
open Upa.Proofs.ParseRep (ptext NoSlash pathText_ptext)
/-! ### `Represents` = `equiv` with the layout + `wf` -/

theorem fillTrailing_zeros (n m : Nat) : fillTrailing n (List.replicate m 0) = List.replicate m n := by
  induction m with
  | zero => rfl
  | succ k ih => simp [List.replicate_succ, fillTrailing, ih]

theorem trailing_decomp (l : List Nat) :
    ∃ P m, l = P ++ List.replicate m 0 ∧ (P = [] ∨ ∃ Q x, P = Q ++ [x] ∧ x ≠ 0) := by
  induction l with
  | nil => exact ⟨[], 0, rfl, Or.inl rfl⟩
  | cons a l ih =>
    obtain ⟨P, m, hl, hP⟩ := ih
    rcases hP with hP | ⟨Q, x, hQ, hx⟩
    · subst hP
      by_cases ha : a = 0
      · exact ⟨[], m + 1, by simp [hl, ha, List.replicate_succ], Or.inl rfl⟩
      · exact ⟨[a], m, by simp [hl], Or.inr ⟨[], a, rfl, ha⟩⟩
    · exact ⟨a :: P, m, by simp [hl], Or.inr ⟨a :: Q, x, by simp [hQ], hx⟩⟩

theorem fillTrailing_decomp (n : Nat) (Q : List Nat) (x m : Nat) (hx : x ≠ 0) :
    fillTrailing n (Q ++ [x] ++ List.replicate m 0) = Q ++ [x] ++ List.replicate m n := by
  induction Q with
  | nil => simp [fillTrailing, hx, fillTrailing_zeros]
  | cons a Q ih =>
    simp only [List.cons_append, fillTrailing]
    rw [if_neg]
    · simpa using ih
    · intro hc
      have := hc.2
      simp [hx] at this

theorem sums_nozero (acc : Nat) (A : List (List Nat)) (h : 0 < acc) : ∀ x ∈ sums acc A, x ≠ 0 := by
  intro x hx
  have := sums_ge acc A x hx
  omega

theorem fillTrailing_sums (n m : Nat) (A : List (List Nat)) (hA : A ≠ []) (hpos : 0 < off A 1) :
    fillTrailing n (sums 0 A ++ List.replicate m 0) = sums 0 A ++ List.replicate m n := by
  obtain ⟨Q, _, hQ⟩ := sums_last 0 A hA
  rw [hQ]
  apply fillTrailing_decomp
  have := off_succ_pos A hpos (n := A.length) (List.length_pos_iff.mpr hA)
  rw [off, List.take_of_length_le (Nat.le_refl _)] at this
  omega

/-- the ":" after the scheme makes the last offset positive, so no zero of a layout's table is trailing -/
theorem fill_layout (u : Url) : (layout u).fill = layout u := by
  have hp : fillTrailing (layout u).norm.length (layout u).partEnd = (layout u).partEnd := by
    rw [(layout_segs u).2]
    obtain ⟨Q, _, hQ⟩ := sums_last 0 (segsOf u) (by simp [segsOf])
    rw [hQ]
    have := fillTrailing_decomp (layout u).norm.length Q (0 + (segsOf u).flatten.length) 0
      (by simp [segsOf])
    simpa using this
  unfold Rep.fill
  rw [hp]

theorem Rp.ne_nil {S A : List (List Nat)} (h : Rp S A) : A ≠ [] := by
  intro hc; have := h.lo; rw [hc] at this; simp at this

/-- PORT is among the started parts `A` of a record whose port is non-null; `S`: any segment list
    that carries the port segment of `u` from index 6 on -/
theorem rp_port_started {u : Url} (wf : RecWF u) {S A : List (List Nat)} (hA : Rp S A)
    (hS : (S.drop 6).flatten = [] → portSeg u = []) : (layout u).portNotNull = true → 7 ≤ A.length := by
  intro hp
  have hp' : u.port.isSome = true := hp
  apply Classical.byContradiction
  intro hc
  rw [portSeg_eq_nil wf (hS (hA.drop_absent (by omega)))] at hp'
  simp at hp'

theorem segsOf_port {u : Url} (hd : ((segsOf u).drop 6).flatten = []) : portSeg u = [] := by
  simp [segsOf] at hd; exact hd.1

theorem represents_equiv (u : Url) {r : Rep} (wf : RecWF u) (h : Represents r u) :
    r.equiv (layout u) ∧ r.wf := by
  obtain ⟨A, hA, rfl⟩ := h
  have hlo := hA.lo
  have hhi := hA.hi
  have hposA := hA.posA
  constructor
  · unfold Rep.equiv
    rw [fill_layout u]
    conv => rhs; rw [← mkRep_segsOf u]
    unfold Rep.fill
    have hp : fillTrailing (mkRep (layout u) A).norm.length (mkRep (layout u) A).partEnd =
        (mkRep (layout u) (segsOf u)).partEnd := by
      show fillTrailing _ (sums 0 A ++ List.replicate (11 - A.length) 0) =
        sums 0 (segsOf u) ++ List.replicate (11 - (segsOf u).length) 0
      rw [fillTrailing_sums _ _ _ hA.ne_nil hposA]
      conv => rhs; rw [hA.pad, sums_append, sums_replicate_nil]
      simp
      omega
    have hn : (mkRep (layout u) A).norm = (mkRep (layout u) (segsOf u)).norm := by
      simp [hA.flatten]
    rw [hp]
    simp only [mkRep] at hn ⊢
    rw [hn]
  · refine ⟨by simp [mkRep]; omega, ?_, hA.pe_ne_zero _ (by simp only [HOST]; omega), ?_⟩
    · intro i hi hz
      have hge : A.length ≤ i + 1 := Nat.le_of_not_lt fun hc => (pe_mkRep_ne_zero_iff _ A hposA _).2 hc hz
      by_cases hi' : A.length ≤ i
      · left; exact pe_mkRep_ge _ _ _ hi'
      · right
        rw [pe_mkRep_lt _ _ _ (by omega), norm_mkRep, off]
        have : i + 1 = A.length := by omega
        rw [this, List.take_of_length_le (Nat.le_refl _)]
    · intro hport
      have := rp_port_started wf hA segsOf_port hport
      exact hA.pe_ne_zero _ (by simp only [PORT]; omega)


/-! ### the shape of a well-formed offset table -/

theorem getD_mid (Q : List Nat) (x : Nat) (T : List Nat) :
    (Q ++ [x] ++ T).getD Q.length 0 = x := by
  rw [List.append_assoc]; exact getD_at_length Q T x 0

theorem getD_tail_zero (Q : List Nat) (x m i : Nat) (hi : Q.length < i) :
    (Q ++ [x] ++ List.replicate m 0).getD i 0 = 0 := by
  rw [getD_append_right (by simp; omega), getD_replicate_zero]

theorem getD_tail_n (Q : List Nat) (x m n i : Nat) (hi : Q.length < i) (hi' : i < Q.length + 1 + m) :
    (Q ++ [x] ++ List.replicate m n).getD i 0 = n := by
  rw [getD_append_right (by simp; omega)]
  simp only [List.getD_eq_getElem?_getD, List.getElem?_replicate, List.length_append,
    List.length_cons, List.length_nil]
  rw [if_pos (by omega)]
  rfl

theorem wf_decomp (r : Rep) (h : r.wf) :
    ∃ Q x m, r.partEnd = Q ++ [x] ++ List.replicate m 0 ∧ x ≠ 0 ∧ Q.length + 1 + m = 11 ∧
      5 ≤ Q.length ∧ (0 < m → x = r.norm.length) ∧ (r.portNotNull = true → 6 ≤ Q.length) := by
  obtain ⟨hlen, htight, hhost, hport⟩ := h
  obtain ⟨P, m, hl, hP⟩ := trailing_decomp r.partEnd
  rcases hP with hP | ⟨Q, x, hQ, hx⟩
  · exfalso
    apply hhost
    unfold Rep.pe
    rw [hl, hP, List.nil_append, getD_replicate_zero]
  · subst hQ
    have hlen' : Q.length + 1 + m = 11 := by
      rw [hl] at hlen; simp at hlen; omega
    have h5 : 5 ≤ Q.length := by
      apply Classical.byContradiction
      intro hc
      apply hhost
      unfold Rep.pe
      rw [hl, getD_tail_zero _ _ _ _ (by simp only [HOST]; omega)]
    refine ⟨Q, x, m, hl, hx, hlen', h5, ?_, ?_⟩
    · intro hm
      have h1 := htight Q.length (by omega)
        (by unfold Rep.pe; rw [hl, getD_tail_zero _ _ _ _ (by omega)])
      unfold Rep.pe at h1
      rw [hl, getD_mid] at h1
      rcases h1 with h1 | h1
      · exact absurd h1 hx
      · exact h1
    · intro hp
      apply Classical.byContradiction
      intro hc
      apply hport hp
      unfold Rep.pe
      rw [hl, getD_tail_zero _ _ _ _ (by simp only [PORT]; omega)]

/-- `r.fill` against `r`, offset by offset: nothing changes up to HOST (and PORT, when the port is
    non-null); two neighbours are both unchanged, or the right one was never started and then both
    read as the string length in `r.fill` -/
theorem fill_step (r : Rep) (h : r.wf) :
    (∀ i, i ≤ 5 → r.fill.pe i = r.pe i) ∧ (r.portNotNull = true → r.fill.pe 6 = r.pe 6) ∧
    ∀ i, i < 10 → (r.fill.pe i = r.pe i ∧ r.fill.pe (i + 1) = r.pe (i + 1)) ∨
      (r.pe (i + 1) = 0 ∧ r.fill.pe (i + 1) = r.norm.length ∧ r.fill.pe i = r.norm.length) := by
  obtain ⟨Q, x, m, hl, hx, hlen, h5, hm, hp⟩ := wf_decomp r h
  have hfill : r.fill.partEnd = Q ++ [x] ++ List.replicate m r.norm.length := by
    show fillTrailing r.norm.length r.partEnd = _
    rw [hl, fillTrailing_decomp _ _ _ _ hx]
  have hlow : ∀ i, i ≤ Q.length → r.fill.pe i = r.pe i := fun i hi => by
    unfold Rep.pe
    rw [hfill, hl, getD_append_left (l₁ := Q ++ [x]) (by simp; omega), getD_append_left (l₁ := Q ++ [x]) (by simp; omega)]
  have hhigh : ∀ i, Q.length < i → i < 11 → r.pe i = 0 ∧ r.fill.pe i = r.norm.length := fun i hi hi' => by
    unfold Rep.pe; rw [hfill, hl]
    exact ⟨getD_tail_zero _ _ _ _ hi, getD_tail_n _ _ _ _ _ hi (by omega)⟩
  refine ⟨fun i hi => hlow i (by omega), fun hq => hlow 6 (hp hq), fun i hi => ?_⟩
  by_cases h1 : i + 1 ≤ Q.length
  · exact Or.inl ⟨hlow i (by omega), hlow _ h1⟩
  · refine Or.inr ⟨(hhigh _ (by omega) (by omega)).1, (hhigh _ (by omega) (by omega)).2, ?_⟩
    by_cases h2 : i = Q.length
    · rw [hlow i (by omega), h2]
      unfold Rep.pe; rw [hl, getD_mid]; exact hm (by omega)
    · exact (hhigh i (by omega) (by omega)).2

/-- a getter that reads two neighbouring offsets and cannot tell "never started" (`a, 0`) from "empty at the end of
    the string" (`n, n`) reads the same from `r.fill` as from `r` -/
theorem fill_pair {α : Type} (r : Rep) (h : r.wf) (m : Nat) (hm : m < 10) (F : Nat → Nat → α)
    (hF : ∀ a, F a 0 = F r.norm.length r.norm.length) :
    F (r.fill.pe m) (r.fill.pe (m + 1)) = F (r.pe m) (r.pe (m + 1)) := by
  rcases (fill_step r h).2.2 m hm with ⟨e1, e2⟩ | ⟨e1, e2, e3⟩
  · rw [e1, e2]
  · rw [e1, e2, e3, hF]

theorem fill_partView (r : Rep) (h : r.wf) (t : Nat) (ht1 : 1 ≤ t) (ht : t ≤ 10) :
    r.fill.partView t = r.partView t := by
  obtain ⟨m, rfl⟩ : ∃ m, t = m + 1 := ⟨t - 1, by omega⟩
  unfold Rep.partView
  rw [if_neg (Nat.succ_ne_zero m), if_neg (Nat.succ_ne_zero m)]
  exact fill_pair r h m (by omega)
    (fun a b => if b > a + kPartStart.getD (m + 1) 0 then slice r.norm (a + kPartStart.getD (m + 1) 0) b else [])
    (fun a => by rw [if_neg (by omega), if_neg (by omega)])

theorem fill_isEmpty (r : Rep) (h : r.wf) (t : Nat) (ht1 : 1 ≤ t) (ht : t ≤ 10) :
    r.fill.isEmpty t = r.isEmpty t := by
  obtain ⟨m, rfl⟩ : ∃ m, t = m + 1 := ⟨t - 1, by omega⟩
  unfold Rep.isEmpty
  rw [if_neg (Nat.succ_ne_zero m), if_neg (Nat.succ_ne_zero m)]
  exact fill_pair r h m (by omega) (fun a b => decide (a + kPartStart.getD (m + 1) 0 ≥ b)) (fun a => by simp)

theorem fill_view (r : Rep) (h : r.wf) (m : Nat) (hm : m < 10) :
    (if r.fill.isEmpty (m + 1) then [] else slice r.norm (r.fill.pe m) (r.fill.pe (m + 1))) =
      (if r.isEmpty (m + 1) then [] else slice r.norm (r.pe m) (r.pe (m + 1))) := by
  unfold Rep.isEmpty
  rw [if_neg (Nat.succ_ne_zero m), if_neg (Nat.succ_ne_zero m)]
  exact fill_pair r h m hm
    (fun a b => if decide (a + kPartStart.getD (m + 1) 0 ≥ b) then [] else slice r.norm a b) (fun a => by simp)

theorem fill_getters (r : Rep) (h : r.wf) :
    r.fill.href = r.href ∧ r.fill.protocol = r.protocol ∧ r.fill.username = r.username ∧
    r.fill.password = r.password ∧ r.fill.host = r.host ∧ r.fill.hostname = r.hostname ∧
    r.fill.port = r.port ∧ r.fill.pathname = r.pathname ∧ r.fill.path = r.path ∧
    r.fill.search = r.search ∧ r.fill.hash = r.hash ∧
    r.fill.serializeNoFragment = r.serializeNoFragment := by
  obtain ⟨hlow, hport, hstep⟩ := fill_step r h
  refine ⟨rfl, ?_, fill_partView r h 2 (by omega) (by omega), fill_partView r h 3 (by omega) (by omega),
    ?_, fill_partView r h 5 (by omega) (by omega), fill_partView r h 6 (by omega) (by omega),
    fill_partView r h 8 (by omega) (by omega), ?_, fill_view r h 8 (by omega), fill_view r h 9 (by omega), ?_⟩
  · unfold Rep.protocol
    show slice r.norm 0 _ = _
    rw [hlow 0 (by omega)]
  · unfold Rep.host
    show (if (!r.hostNotNull) = true then [] else
      slice r.norm (r.fill.pe HOST_START) (if (!r.portNotNull) = true then r.fill.pe HOST else r.fill.pe PORT)) = _
    rw [hlow HOST_START (by decide), hlow HOST (by decide)]
    cases hp : r.portNotNull
    · rfl
    · rw [hport hp]
  · unfold Rep.path
    show (if (if r.fill.pe 9 ≠ 0 then r.fill.pe 9 else r.fill.pe 8) ≠ 0 then
        slice r.norm (r.fill.pe 7) (if r.fill.pe 9 ≠ 0 then r.fill.pe 9 else r.fill.pe 8) else []) =
      (if (if r.pe 9 ≠ 0 then r.pe 9 else r.pe 8) ≠ 0 then
        slice r.norm (r.pe 7) (if r.pe 9 ≠ 0 then r.pe 9 else r.pe 8) else [])
    rcases hstep 8 (by omega) with ⟨a8, a9⟩ | ⟨z9, f9, f8⟩
    · rcases hstep 7 (by omega) with ⟨a7, _⟩ | ⟨z8, f8, _⟩
      · rw [a7, a8, a9]
      · -- PATH read as the string length and unchanged: the string is empty
        have hnil : r.norm = [] := List.eq_nil_of_length_eq_zero (by rw [← f8, a8, z8])
        simp [slice, hnil]
    · rcases hstep 7 (by omega) with ⟨a7, a8⟩ | ⟨z8, _, f7⟩
      · rw [a7, f9, z9, ← a8, f8]; simp
      · rw [f9, f8, f7, z9, z8]
        by_cases hn : r.norm.length = 0 <;> simp [hn, slice_self]
  · unfold Rep.serializeNoFragment
    show (if r.fill.pe 10 ≠ 0 then slice r.norm 0 (r.fill.pe 9) else r.norm) =
      (if r.pe 10 ≠ 0 then slice r.norm 0 (r.pe 9) else r.norm)
    rcases hstep 9 (by omega) with ⟨a9, a10⟩ | ⟨z10, f10, f9⟩
    · rw [a9, a10]
    · rw [z10, f10, f9]
      by_cases hn : r.norm.length = 0 <;> simp [hn, slice_all]

theorem equiv_getters (a b : Rep) (he : a.equiv b) (ha : a.wf) (hb : b.wf) :
    a.href = b.href ∧ a.protocol = b.protocol ∧ a.username = b.username ∧
    a.password = b.password ∧ a.host = b.host ∧ a.hostname = b.hostname ∧
    a.port = b.port ∧ a.pathname = b.pathname ∧ a.path = b.path ∧
    a.search = b.search ∧ a.hash = b.hash ∧
    a.serializeNoFragment = b.serializeNoFragment := by
  obtain ⟨a1, a2, a3, a4, a5, a6, a7, a8, a9, a10, a11, a12⟩ := fill_getters a ha
  obtain ⟨b1, b2, b3, b4, b5, b6, b7, b8, b9, b10, b11, b12⟩ := fill_getters b hb
  unfold Rep.equiv at he
  rw [← a1, ← a2, ← a3, ← a4, ← a5, ← a6, ← a7, ← a8, ← a9, ← a10, ← a11, ← a12,
    ← b1, ← b2, ← b3, ← b4, ← b5, ← b6, ← b7, ← b8, ← b9, ← b10, ← b11, ← b12, he]
  exact ⟨rfl, rfl, rfl, rfl, rfl, rfl, rfl, rfl, rfl, rfl, rfl, rfl⟩


/-! ### the converse: a well-formed representation equivalent to the layout is presented by segments -/

theorem sums_take (acc : Nat) (S : List (List Nat)) (k : Nat) :
    (sums acc S).take k = sums acc (S.take k) := by
  induction S generalizing acc k with
  | nil => simp
  | cons s ss ih =>
    cases k with
    | zero => simp
    | succ j => simp [ih]

theorem sums_drop (acc : Nat) (S : List (List Nat)) (k : Nat) :
    (sums acc S).drop k = sums (acc + (S.take k).flatten.length) (S.drop k) := by
  induction S generalizing acc k with
  | nil => simp
  | cons s ss ih =>
    cases k with
    | zero => simp
    | succ j => simp [ih, Nat.add_assoc]

theorem flatten_nil_of_sums_const (acc m : Nat) (L : List (List Nat))
    (h : sums acc L = List.replicate m acc) : L.flatten = [] := by
  induction L generalizing m with
  | nil => rfl
  | cons s ss ih =>
    cases m with
    | zero => simp at h
    | succ j =>
      simp only [sums_cons, List.replicate_succ, List.cons.injEq] at h
      have hs : s = [] := List.eq_nil_of_length_eq_zero (by omega)
      subst hs
      simp only [List.length_nil, Nat.add_zero] at h
      simp [ih j h.2]

theorem represents_of_equiv (u : Url) {r : Rep} (hs : u.scheme ≠ [])
    (he : r.equiv (layout u)) (hw : r.wf) : Represents r u := by
  unfold Rep.equiv at he
  rw [fill_layout u] at he
  have hnorm : r.norm = (layout u).norm := (congrArg Rep.norm he : r.fill.norm = _)
  have hpe : fillTrailing r.norm.length r.partEnd = sums 0 (segsOf u) := by
    have h1 : r.fill.partEnd = (layout u).partEnd := congrArg Rep.partEnd he
    have h2 : (layout u).partEnd = sums 0 (segsOf u) := by
      conv => lhs; rw [← mkRep_segsOf u]
      show sums 0 (segsOf u) ++ List.replicate (11 - (segsOf u).length) 0 = _
      have e : 11 - (segsOf u).length = 0 := rfl
      rw [e]; simp
    rw [← h2, ← h1]; rfl
  have hnS : (layout u).norm = (segsOf u).flatten := by
    conv => lhs; rw [← mkRep_segsOf u]
    rfl
  obtain ⟨Q, x, m, hl, hx, hlen, h5, hm, _⟩ := wf_decomp r hw
  rw [hl, fillTrailing_decomp _ _ _ _ hx] at hpe
  have hSlen : (segsOf u).length = 11 := rfl
  have hk : (Q ++ [x]).length = Q.length + 1 := by simp
  have htake : Q ++ [x] = sums 0 ((segsOf u).take (Q.length + 1)) := by
    have := congrArg (List.take (Q.length + 1)) hpe
    rw [List.take_left' hk, sums_take] at this
    exact this
  have hdrop : List.replicate m r.norm.length =
      sums (0 + ((segsOf u).take (Q.length + 1)).flatten.length) ((segsOf u).drop (Q.length + 1)) := by
    have := congrArg (List.drop (Q.length + 1)) hpe
    rw [List.drop_left' hk, sums_drop] at this
    exact this
  have hAne : (segsOf u).take (Q.length + 1) ≠ [] := by simp [segsOf]
  have hxoff : x = ((segsOf u).take (Q.length + 1)).flatten.length := by
    obtain ⟨I, hI, hIs⟩ := sums_last 0 _ hAne
    rw [hIs] at htake
    have := congrArg List.getLast? htake
    simpa using this
  have hrest : ((segsOf u).drop (Q.length + 1)).flatten = [] := by
    by_cases hm0 : m = 0
    · have : (segsOf u).drop (Q.length + 1) = [] := List.drop_of_length_le (by rw [hSlen]; omega)
      rw [this]; rfl
    · have hxn := hm (by omega)
      rw [Nat.zero_add, ← hxoff, hxn] at hdrop
      exact flatten_nil_of_sums_const _ _ _ hdrop.symm
  have hAlen : ((segsOf u).take (Q.length + 1)).length = Q.length + 1 := by
    rw [List.length_take, hSlen]; omega
  have hrp : Rp (segsOf u) ((segsOf u).take (Q.length + 1)) := by
    refine rp_of_tail (List.take_append_drop _ _).symm hrest rfl (by rw [hAlen]; omega) ?_
    simp [off, segsOf, List.take_take]; exact List.length_pos_iff.mpr hs
  refine ⟨_, hrp, ?_⟩
  apply rep_eq_mkRep
  · rw [hnorm, hnS, ← hrp.flatten]
  · rw [hl, htake, hAlen]
    congr 2; omega
  · exact (congrArg Rep.hostNotNull he : r.fill.hostNotNull = _)
  · exact (congrArg Rep.portNotNull he : r.fill.portNotNull = _)
  · exact (congrArg Rep.queryNotNull he : r.fill.queryNotNull = _)
  · exact (congrArg Rep.fragmentNotNull he : r.fill.fragmentNotNull = _)
  · exact (congrArg Rep.opaquePath he : r.fill.opaquePath = _)
  · exact (congrArg Rep.hostType he : r.fill.hostType = _)
  · exact (congrArg Rep.segCount he : r.fill.segCount = _)
  · exact (congrArg Rep.schemeIdx he : r.fill.schemeIdx = _)

/-- `Represents` (segments) is what the edits are proved on; `RepFor r u := r ≈ layout u ∧ r.wf` (Props/C05b.lean)
    speaks of offsets only, is decidable and is what the C05b–C05g statements use.  They agree for `RecWF u`. -/
theorem represents_iff (u : Url) (wf : RecWF u) (r : Rep) :
    Represents r u ↔ r.equiv (layout u) ∧ r.wf :=
  ⟨represents_equiv u wf, fun h => represents_of_equiv u wf.1 h.1 h.2⟩

end Upa.Proofs.SetRep
