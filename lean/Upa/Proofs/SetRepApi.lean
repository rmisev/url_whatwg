import Upa.Impl.SetRepApi
import Upa.Props.C05b
import Upa.Proofs.ParserRules
import Upa.Proofs.Scheme
/-
  On a representation of a record (`RepFor r u`) every getter the setters
  consult (`Impl/SetRepApi.lean`) returns what the record-level model (`Impl/Api.lean`,
  `Impl/Url.lean`) reads off the record; and the digits the port state writes are the decimal form
  of the port value (`port_digits`).  The lemmas here speak of `r.partView HOST`, `r.partView PORT`, as the model
  of the setters does; the getters of Props/C05b (`r.hostname`, `r.port`, …) are these by `rfl` (Impl/Rep.lean),
  which `rw` does not see through: `show` the one as the other first.
  Last, all getters at once: `Rep.toRecord` inverts `layout` on records whose unused path field is empty and whose path
  segments contain no "/" (`RecShape`).  `HostInv` and `RecShape` are the two hypotheses on a record, besides `RepOk`
  (Proofs/SetRepOps.lean), that the setters and the parser on the representation ask of it.
-/
namespace Upa.Proofs.SetRepApi
open Upa Upa.Impl Upa.Proofs.C05 Upa.Proofs.SetRep Upa.Props

/-! ### scheme table -/

/-- outside the six special schemes all three lookups are empty; on them the fixed table decides -/
theorem schemeIndex_table (s : List Nat) :
    (schemeIndex s == some 4) = isFileScheme s ∧
      schemeInfDefaultPort (schemeIndex s) = defaultPort s := by
  cases h : isSpecialScheme s
  · obtain ⟨a, b, c⟩ := Scheme.not_special s h
    rw [a, b, c]; exact ⟨rfl, rfl⟩
  · have hm := (Scheme.isSpecial_iff_mem s).mp h
    simp only [Impl.Scheme.modelSchemes, List.mem_cons, List.not_mem_nil, or_false] at hm
    rcases hm with rfl | rfl | rfl | rfl | rfl | rfl <;> decide +kernel

theorem schemeIndex_file (s : List Nat) : (schemeIndex s == some 4) = isFileScheme s :=
  (schemeIndex_table s).1

theorem schemeInfDefaultPort_eq (s : List Nat) : schemeInfDefaultPort (schemeIndex s) = defaultPort s :=
  (schemeIndex_table s).2

/-! ### the decisions that depend on the scheme index only -/

section idx
variable {r : Rep} {u : Url} (hr : r.schemeIdx = schemeIndex u.scheme)
include hr

theorem isSpecialScheme_of_idx : r.isSpecialScheme = u.isSpecial := by
  unfold Rep.isSpecialScheme Url.isSpecial
  rw [hr, Scheme.schemeIndex_isSome]

theorem isFileScheme_of_idx : r.isFileScheme = u.isFile := by
  unfold Rep.isFileScheme Url.isFile
  rw [hr, schemeIndex_file]

theorem defaultPort_of_idx : schemeInfDefaultPort r.schemeIdx = defaultPort u.scheme := by
  rw [hr, schemeInfDefaultPort_eq]

theorem schemeIdx_isNone_of_idx : r.schemeIdx.isNone = !u.isSpecial := by
  rw [← isSpecialScheme_of_idx hr]
  unfold Rep.isSpecialScheme
  cases r.schemeIdx <;> rfl

/-- the port state's test "not the scheme's default port" (url.h:2060): a default port means a special scheme -/
theorem portTest_of_idx (n : Nat) :
    (r.schemeIdx.isNone || schemeInfDefaultPort r.schemeIdx != some n) = (defaultPort u.scheme != some n) := by
  rw [schemeIdx_isNone_of_idx hr, defaultPort_of_idx hr]
  cases hs : u.isSpecial
  · simp [(Scheme.not_special u.scheme hs).2.2]
  · simp
end idx

/-! ### flags and scheme index of a representation -/

section flags
variable {r : Rep} {u : Url} (h : RepFor r u)
include h

theorem fill_eq : r.fill = layout u := by
  have := h.1
  unfold Rep.equiv at this
  rwa [fill_layout u] at this

theorem hostNotNull_eq : r.hostNotNull = u.host.isSome :=
  (congrArg Rep.hostNotNull (fill_eq h) : r.fill.hostNotNull = _)
theorem portNotNull_eq : r.portNotNull = u.port.isSome :=
  (congrArg Rep.portNotNull (fill_eq h) : r.fill.portNotNull = _)
theorem opaquePath_eq : r.opaquePath = u.hasOpaquePath :=
  (congrArg Rep.opaquePath (fill_eq h) : r.fill.opaquePath = _)
theorem schemeIdx_eq : r.schemeIdx = schemeIndex u.scheme :=
  (congrArg Rep.schemeIdx (fill_eq h) : r.fill.schemeIdx = _)

theorem isSpecialScheme_eq : r.isSpecialScheme = u.isSpecial := isSpecialScheme_of_idx (schemeIdx_eq h)
theorem isFileScheme_eq : r.isFileScheme = u.isFile := isFileScheme_of_idx (schemeIdx_eq h)
theorem defaultPort_eq : schemeInfDefaultPort r.schemeIdx = defaultPort u.scheme :=
  defaultPort_of_idx (schemeIdx_eq h)
theorem schemeIdx_isNone : r.schemeIdx.isNone = !u.isSpecial := schemeIdx_isNone_of_idx (schemeIdx_eq h)

theorem isEmpty_eq (t : Nat) (ht1 : 1 ≤ t) (ht : t ≤ 10) : r.isEmpty t = (layout u).isEmpty t := by
  rw [← fill_isEmpty r h.2 t ht1 ht, fill_eq h]

theorem partView_eq (t : Nat) (ht1 : 1 ≤ t) (ht : t ≤ 10) : r.partView t = (layout u).partView t := by
  rw [← fill_partView r h.2 t ht1 ht, fill_eq h]

theorem isEmpty_host : r.isEmpty HOST = decide (u.hostText = []) := by
  rw [isEmpty_eq h HOST (by decide) (by decide), isEmpty_layout u HOST (by decide)]
  show decide (u.hostText.length ≤ 0) = _
  cases u.hostText <;> rfl

theorem partView_host : r.partView HOST = u.hostText :=
  (partView_eq h HOST (by decide) (by decide)).trans (hostname_seg u)

theorem canHave_eq : r.canHaveUsernamePasswordPort = canHaveUsernamePasswordPort u := by
  unfold Rep.canHaveUsernamePasswordPort canHaveUsernamePasswordPort
  rw [isEmpty_host h, isFileScheme_eq h]

end flags

section getters
variable {r : Rep} {u : Url} (wf : RecWF u) (h : RepFor r u)
include wf h

-- `RecWF u` is not needed for the next two
set_option linter.unusedSectionVars false in
theorem queryNotNull_eq : r.queryNotNull = u.query.isSome :=
  (congrArg Rep.queryNotNull (fill_eq h) : r.fill.queryNotNull = _)
set_option linter.unusedSectionVars false in
theorem fragmentNotNull_eq : r.fragmentNotNull = u.fragment.isSome :=
  (congrArg Rep.fragmentNotNull (fill_eq h) : r.fill.fragmentNotNull = _)

/-! ### emptiness of parts -/

theorem isEmpty_username : r.isEmpty USERNAME = decide (u.username = []) := by
  rw [isEmpty_eq h USERNAME (by decide) (by decide), isEmpty_layout u USERNAME (by decide)]
  show decide ((userSeg u).length ≤ 0) = _
  rw [userSeg_eq u (fun hn => (wf.2 hn).1)]
  cases u.username <;> rfl

theorem isEmpty_password : r.isEmpty PASSWORD = decide (u.password = []) := by
  rw [isEmpty_eq h PASSWORD (by decide) (by decide), isEmpty_layout u PASSWORD (by decide)]
  show decide ((passSeg u).length ≤ 1) = _
  have e := congrArg List.length (passSeg_eq u (fun hn => (wf.2 hn).2.1))
  rw [List.length_drop] at e
  cases hp : u.password with
  | nil =>
    have : passSeg u = [] := by unfold passSeg; simp [hp]
    simp [this]
  | cons a t =>
    rw [hp, List.length_cons] at e
    simp only [reduceCtorEq, decide_false, decide_eq_false_iff_not]
    omega

theorem hasCredentials_eq : r.hasCredentials = u.hasCredentials := by
  unfold Rep.hasCredentials Url.hasCredentials
  rw [isEmpty_username wf h, isEmpty_password wf h]
  by_cases h1 : u.username = [] <;> by_cases h2 : u.password = [] <;> simp [h1, h2]

/-! ### host text and port value -/

theorem partView_port : r.partView PORT = getPort u :=
  (partView_eq h PORT (by decide) (by decide)).trans ((port_seg u).trans (portSeg_eq u fun hn => (wf.2 hn).2.2))

theorem portInt_eq : r.portInt = u.port := by
  unfold Rep.portInt
  simp only
  rw [partView_port wf h]
  unfold getPort
  cases hq : u.port with
  | none => rfl
  | some p =>
    have h1 := Radix.toDecimal_ne_nil p
    have h2 := Radix.decimalValue_toDecimal p
    simp [h1, h2]

end getters

/-- the digits the port state writes (url.h:2046, 2061) are the decimal form of the port value -/
theorem port_digits (digits : List Nat) (hne : digits ≠ []) (hd : ∀ c ∈ digits, isDigit c = true) :
    toDecimal (decimalValue (stripLeadingZeros digits)) = stripLeadingZeros digits := by
  obtain ⟨a, b, c⟩ := C08.strip_canon digits hne
  exact Radix.toDecimal_decimalValue _ a (fun x hx => hd x (b x hx)) c

end Upa.Proofs.SetRepApi

namespace Upa.Props

/-- a special URL has a (non-null) host -/
def HostInv (u : Url) : Prop := u.isSpecial = true → u.host.isSome = true

instance (u : Url) : Decidable (HostInv u) := by unfold HostInv; infer_instance

theorem HostInv.file {u : Url} (h : HostInv u) : u.isFile = true → u.host.isSome = true :=
  fun hf => h (Proofs.C08.file_special hf)

end Upa.Props

namespace Upa.Proofs.SetRepApi
open Upa Upa.Impl Upa.Proofs.C05 Upa.Proofs.SetRep Upa.Props

/-! ## `Rep.toRecord` inverts `layout` on records of the shape `RecShape` -/

/-- the shape of a record that `Rep.toRecord` can recover: the path field that `hasOpaquePath` does
    not select is empty (the parser writes only the selected one), and no segment of a list path
    contains "/" (segments are cut at "/"; a "/" inside a segment would be read back as a cut) -/
def RecShape (u : Url) : Prop :=
  (u.hasOpaquePath = true → u.path = []) ∧
  (u.hasOpaquePath = false → u.opaquePath = [] ∧ ∀ seg ∈ u.path, ∀ c ∈ seg, c ≠ 0x2F)

instance (u : Url) : Decidable (RecShape u) := by unfold RecShape; infer_instance

/-! ### splitting a serialised list path -/

/-- the list path in `RecShape`'s words -/
theorem RecShape.noSlash {u : Url} (sh : RecShape u) (ho : u.hasOpaquePath = false) : ParseRep.NoSlash u.path :=
  (sh.2 ho).2

theorem splitPathText_flatMap (p : List (List Nat)) (hp : ParseRep.NoSlash p) :
    splitPathText (ParseRep.ptext p) = p := by
  cases p with
  | nil => rfl
  | cons s t =>
    simp only [ParseRep.ptext, List.flatMap_cons, List.cons_append, splitPathText]
    exact C17.splitOnP_join _ 0x2F (by decide) t s (fun c hc => by simpa using hp s List.mem_cons_self c hc)
      (fun seg hseg c hc => by simpa using hp seg (List.mem_cons_of_mem _ hseg) c hc)

theorem hostKind_roundtrip (k : HostKind) : hostKindOfCode (hostKindCode k) = k := by
  cases k <;> rfl

/-! ### `toRecord` of a layout, of a representation -/

theorem toRecord_layout (u : Url) (wf : RecWF u) (sh : RecShape u) : (layout u).toRecord = u := by
  unfold Rep.toRecord
  simp only [fill_layout u]
  have e1 : (layout u).partView USERNAME = u.username := (username_seg u).trans (userSeg_eq u fun hn => (wf.2 hn).1)
  have e2 : (layout u).partView PASSWORD = u.password := (password_seg u).trans (passSeg_eq u fun hn => (wf.2 hn).2.1)
  have e3 : (layout u).partView HOST = u.hostText := hostname_seg u
  have e4 : (layout u).partView PORT = getPort u := partView_port wf (C05b_layout u wf)
  have e5 : (layout u).partView PATH = pathText u := pathname_seg u
  rw [partView_scheme_layout, e1, e2, e3, e4, e5, partView_query_layout, partView_fragment_layout]
  have f1 : (layout u).hostNotNull = u.host.isSome := rfl
  have f2 : (layout u).portNotNull = u.port.isSome := rfl
  have f3 : (layout u).queryNotNull = u.query.isSome := rfl
  have f4 : (layout u).fragmentNotNull = u.fragment.isSome := rfl
  have f5 : (layout u).opaquePath = u.hasOpaquePath := rfl
  have f6 : (layout u).hostType = match u.host with | some h => hostKindCode h.kind | none => 0 := rfl
  rw [f1, f2, f3, f4, f5, f6]
  obtain ⟨scheme, username, password, host, port, hasOpaque, opaquePath, path, query, fragment⟩ := u
  simp only [Url.mk.injEq, true_and]
  unfold RecShape at sh
  simp only at sh
  refine ⟨?_, ?_, ?_, ?_, ?_, ?_⟩
  · cases host with
    | none => rfl
    | some hd =>
      simp only [Option.isSome_some, if_true, Url.hostText, hostKind_roundtrip]
  · cases port with
    | none => rfl
    | some p =>
      simp only [Option.isSome_some, if_true, getPort, Radix.decimalValue_toDecimal p]
  · cases hasOpaque with
    | true => simp [pathText]
    | false => simp [(sh.2 rfl).1]
  · cases hasOpaque with
    | true => simp [sh.1 rfl]
    | false =>
      simp only [Bool.false_eq_true, if_false, pathText]
      exact splitPathText_flatMap path (sh.2 rfl).2
  · cases query with
    | none => rfl
    | some q => simp [querySeg]
  · cases fragment with
    | none => rfl
    | some f => simp [fragSeg]

theorem toRecord_of_repFor {r : Rep} {u : Url} (wf : RecWF u) (sh : RecShape u) (h : RepFor r u) :
    r.toRecord = u := by
  have hf := fill_eq h
  have : r.toRecord = (layout u).toRecord := by
    unfold Rep.toRecord
    simp only [hf, fill_layout u]
  rw [this, toRecord_layout u wf sh]

theorem RecShape.congr {u v : Url} (sh : RecShape u) (h1 : v.hasOpaquePath = u.hasOpaquePath)
    (h2 : v.opaquePath = u.opaquePath) (h3 : v.path = u.path) : RecShape v := by
  unfold RecShape at sh ⊢
  rw [h1, h2, h3]
  exact sh

end Upa.Proofs.SetRepApi
