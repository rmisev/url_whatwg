/-
  The models of buffer.h / util.h `add_sizes` and of str_view `remove_prefix` / `remove_suffix` subtract modulo 2^64
  as the machine does; `wrap_sub` is the one fact their proofs need: a subtraction within range does not wrap.
-/
namespace Upa

theorem wrap_sub {W a n : Nat} (ha : a < W) (hn : n ≤ a) : (a + W - n) % W = a - n := by
  rw [show a + W - n = a - n + W by omega, Nat.add_mod_right, Nat.mod_eq_of_lt (by omega)]

end Upa
