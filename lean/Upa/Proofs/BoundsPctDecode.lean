import Upa.Proofs.BoundsEncodeLoops
import Upa.Proofs.CharClass
/-
  C04b, C04e, C04h: the percent-DECODE loops (`decodeHexToByte`, `pctRun`, and the loop that append_percent_decoded
  and the second loop of parse_host share, `pctStep`) decode lazily while they scan the raw code units; the list
  models work on the eagerly decoded scalar values.  The common reference is the Standard's "string percent-decode"
  of the decoded input, `G e l = Spec.stringPercentDecode (Impl.decode e l)` (UTF-8 encode, percent-decode bytes); what
  a loop appends is `EC encC (G e units)`: `encC` of the UTF-8 decoding, with replacement, of the reference.  Also here:
  `convertUtf8ToUtf16M` (the repair routine of parse_host's loop) and `hostDecodeM`.
-/
namespace Upa.Impl.B
open Upa.Proofs.C10b
open Upa.Proofs.C14 (hex2 utf8EncodeChar_ascii scalar_le decode_scalar_split decode_scalar_cons
  spd_other spd_hex spd_pct)

/-- the reference of the percent-decode loops: the Standard's string percent-decode (bytes) of the decoded units -/
def G (e : Enc) (l : List Nat) : List Nat := Spec.stringPercentDecode (Impl.decode e l)

theorem G_nil (e : Enc) : G e [] = [] := by
  simp [G, Impl.decode_nil, Spec.stringPercentDecode, Spec.utf8Encode, Spec.percentDecodeBytes]

theorem decode_cons_hi (e : Enc) (x : Nat) (r : List Nat) (hx : ¬ x < 0x80) :
    Impl.decode e (x :: r) = cpOf (Impl.readChar e (x :: r)) :: Impl.decode e (Impl.readChar e (x :: r)).2.2 ∧
    ¬ cpOf (Impl.readChar e (x :: r)) < 0x80 := by
  have hne : x :: r ≠ [] := by simp
  refine ⟨decode_step e _ hne, fun hlt => ?_⟩
  have := readChar_cp_ascii e _ hne hlt
  simp only [List.cons.injEq] at this
  omega

theorem G_ascii (e : Enc) (x : Nat) (r : List Nat) (hx : x < 0x80) (h25 : x ≠ 0x25) : G e (x :: r) = x :: G e r := by
  unfold G
  rw [decode_cons_ascii e x r hx, spd_other x _ h25, utf8EncodeChar_ascii x hx]
  rfl

theorem G_pct_hex (e : Enc) (h1 h2 : Nat) (r : List Nat) (a1 : isHex h1 = true) (a2 : isHex h2 = true) :
    G e (0x25 :: h1 :: h2 :: r) = (hexVal h1 * 16 + hexVal h2) :: G e r := by
  unfold G
  rw [decode_cons_ascii e _ _ (by decide), decode_cons_ascii e h1 _ (isHex_lt h1 a1),
    decode_cons_ascii e h2 _ (isHex_lt h2 a2), spd_hex h1 h2 _ a1 a2]

theorem G_pct_nohex (e : Enc) (r : List Nat) (h : hex2 r = false) : G e (0x25 :: r) = 0x25 :: G e r := by
  unfold G
  rw [decode_cons_ascii e _ _ (by decide), spd_pct _ (by rw [(decode_asciiHom e).hex2_eq, h])]

theorem G_hi (e : Enc) (x : Nat) (r : List Nat) (hx : ¬ x < 0x80) :
    G e (x :: r) = Spec.utf8EncodeChar (cpOf (Impl.readChar e (x :: r))) ++ G e (Impl.readChar e (x :: r)).2.2 := by
  obtain ⟨hd, hc⟩ := decode_cons_hi e x r hx
  unfold G
  rw [hd, spd_other _ _ (by omega)]

/-- whatever follows a unit that is not `%`: UTF-8 decoding of `run ++ G …` splits after `run` -/
theorem decode_run_split (e : Enc) (run : List Nat) (l : List Nat) (hl : UOk e l)
    (hh : l = [] ∨ ∃ x r, l = x :: r ∧ x ≠ 0x25) :
    Impl.decode .u8 (run ++ G e l) = Impl.decode .u8 run ++ Impl.decode .u8 (G e l) := by
  rcases hh with rfl | ⟨x, r, rfl, hx⟩
  · rw [G_nil, List.append_nil, Impl.decode_nil, List.append_nil]
  · by_cases h80 : x < 0x80
    · rw [G_ascii e x r h80 hx, Impl.decode_ascii_split .u8 _ x h80 run, decode_cons_ascii .u8 x _ h80]
    · have hs := (readChar_cp e _ (List.cons_ne_nil x r) hl).1
      rw [G_hi e x r h80, decode_scalar_split _ hs, decode_scalar_cons _ hs]

theorem decodeHexToByte_eq (a : Array Nat) (first last : Nat) (h : first ≤ last) (hl : last ≤ a.size) :
    decodeHexToByte a first last = .ok (
      if last - first ≥ 2 ∧ isHex a[first]! = true ∧ isHex a[first + 1]! = true then
        some (hexVal a[first]! * 16 + hexVal a[first + 1]!, first + 2)
      else none) := by
  unfold decodeHexToByte
  by_cases h2 : last - first < 2
  · rw [if_pos h2, if_neg (by omega)]; rfl
  · rw [if_neg h2]
    simp only [rd_ok (Nat.le_refl first) (by omega : first < last) hl, R.ok_bind]
    cases c0 : isHex a[first]!
    · simp [R.pure_eq]
    · simp only [Bool.not_true, Bool.false_eq_true, if_false, rd_ok (by omega : first ≤ first + 1) (by omega : first + 1 < last) hl,
        R.ok_bind]
      cases c1 : isHex a[first + 1]!
      · simp [R.pure_eq]
      · have b0 := isHex_lt _ c0
        have b1 := isHex_lt _ c1
        simp only [Bool.not_true, Bool.false_eq_true, if_false, Nat.mod_eq_of_lt (by omega : a[first]! < 256),
          Nat.mod_eq_of_lt (by omega : a[first + 1]! < 256), idx_ok (by omega : a[first]! / 0x20 < 8),
          idx_ok (by omega : a[first + 1]! / 0x20 < 8), R.ok_bind]
        rw [mkptr_ok (by omega) (by omega), if_pos ⟨by omega, trivial, trivial⟩]
        rfl

theorem decodeHexToByte_sat (a : Array Nat) (first last : Nat) (h : first ≤ last) (hl : last ≤ a.size) :
    (decodeHexToByte a first last).sat (fun r => ∀ v p, r = some (v, p) → p = first + 2 ∧ p ≤ last) := by
  refine ⟨_, decodeHexToByte_eq a first last h hl, fun v p hp => ?_⟩
  split at hp
  · cases hp
    omega
  · cases hp

theorem hex2_slice (a : Array Nat) (first last : Nat) (h : first ≤ last) (hl : last ≤ a.size) :
    hex2 (slice a first last) = decide (last - first ≥ 2 ∧ isHex a[first]! = true ∧ isHex a[first + 1]! = true) := by
  by_cases h0 : first = last
  · rw [slice_nil a first last (by omega)]; simp [hex2]; omega
  · rw [slice_cons a first last (by omega) hl]
    by_cases h1 : first + 1 = last
    · rw [slice_nil a (first + 1) last (by omega)]; simp [hex2]; omega
    · rw [slice_cons a (first + 1) last (by omega) hl]
      simp [hex2]
      omega

theorem UOk_suffix {e : Enc} (a : Array Nat) (first p last : Nat) (h1 : first ≤ p) (hl : last ≤ a.size)
    (hu : UOk e (slice a first last)) : UOk e (slice a p last) :=
  hu.subset (slice_subset a first p last h1 hl)

theorem hexByte_lt (h1 h2 : Nat) (a1 : isHex h1 = true) (a2 : isHex h2 = true) : hexVal h1 * 16 + hexVal h2 < 256 := by
  have := hexVal_lt h1 a1
  have := hexVal_lt h2 a2
  omega

/-- the reference at a `%`, in the closed form of `decodeHexToByte_eq` -/
theorem G_slice_pct (e : Enc) (a : Array Nat) (it last : Nat) (hlt : it < last) (hl : last ≤ a.size)
    (hc : a[it]! = 0x25) :
    G e (slice a it last) =
      if last - (it + 1) ≥ 2 ∧ isHex a[it + 1]! = true ∧ isHex a[it + 1 + 1]! = true then
        (hexVal a[it + 1]! * 16 + hexVal a[it + 1 + 1]!) :: G e (slice a (it + 1 + 2) last)
      else 0x25 :: G e (slice a (it + 1) last) := by
  rw [slice_cons a it last hlt hl, hc]
  by_cases hcond : last - (it + 1) ≥ 2 ∧ isHex a[it + 1]! = true ∧ isHex a[it + 1 + 1]! = true
  · rw [if_pos hcond, slice_cons a (it + 1) last (by omega) hl, slice_cons a (it + 1 + 1) last (by omega) hl,
      G_pct_hex e _ _ _ hcond.2.1 hcond.2.2]
  · rw [if_neg hcond, G_pct_nohex e _]
    rw [hex2_slice a (it + 1) last (by omega) hl]
    exact decide_eq_false hcond

theorem lt256_snoc {l : List Nat} {c : Nat} (hl : ∀ x ∈ l, x < 256) (hc : c < 256) : ∀ x ∈ l ++ [c], x < 256 := by
  intro x hx
  rcases List.mem_append.1 hx with hx | hx
  · exact hl x hx
  · rw [List.mem_singleton.1 hx]; exact hc

/-- `while (it != last && *it == '%') { ++it; … }`: the loop stops at the end or in front of a unit that is not `%`,
    and appends bytes, a prefix of the string percent-decode of the rest -/
theorem pctRun_spec (e : Enc) (a : Array Nat) (first last : Nat) (hl : last ≤ a.size) (it0 : Nat) (buff0 : List Nat)
    (h1 : first ≤ it0) (h2 : it0 ≤ last) (fuel : Nat) (hf : last - it0 < fuel) :
    (pctRun a first last fuel (it0, buff0)).sat (fun r => it0 ≤ r.1 ∧ r.1 ≤ last ∧ (r.1 = last ∨ a[r.1]! ≠ 0x25) ∧
      ∃ run, r.2 = buff0 ++ run ∧ (∀ x ∈ run, x < 256) ∧ G e (slice a it0 last) = run ++ G e (slice a r.1 last)) := by
  unfold pctRun
  refine scan_sat _ (·.1) it0 last (fun s => ∃ run, s.2 = buff0 ++ run ∧ (∀ x ∈ run, x < 256) ∧
      G e (slice a it0 last) = run ++ G e (slice a s.1 last))
    _ ?_ _ _ (Nat.le_refl _) h2 ⟨[], by simp, by simp, by simp⟩ hf
  · intro ⟨it, buff⟩ i1 i2 ⟨run, hr1, hr2, hr3⟩
    simp only at i1 i2 hr1 hr3 ⊢
    refine R.sat_if (fun hit => R.sat_pure ⟨i1, i2, Or.inl hit, run, hr1, hr2, hr3⟩) (fun hit => ?_)
    have hlt : it < last := Nat.lt_of_le_of_ne i2 hit
    have hfi : first ≤ it := Nat.le_trans h1 i1
    refine R.sat_read hl ?_ hfi hlt
    refine R.sat_if (fun hc => R.sat_pure ⟨i1, i2, Or.inr hc, run, hr1, hr2, hr3⟩) (fun hc => ?_)
    have hc' : a[it]! = 0x25 := Classical.not_not.1 hc
    refine R.sat_ptr ?_ (Nat.le_succ_of_le hfi) hlt
    refine R.sat_range ?_ (Nat.le_succ_of_le hfi) hlt (Nat.le_refl _)
    refine R.sat_bind_ok (decodeHexToByte_eq a (it + 1) last hlt hl) ?_
    replace hr3 := hr3.trans (congrArg (run ++ ·) (G_slice_pct e a it last hlt hl hc'))
    by_cases hcond : last - (it + 1) ≥ 2 ∧ isHex a[it + 1]! = true ∧ isHex a[it + 1 + 1]! = true
    · simp only [if_pos hcond] at hr3 ⊢
      have h3 : it + 1 + 2 ≤ last := by omega
      have hstep : it < it + 1 + 2 := Nat.lt_of_lt_of_le (Nat.lt_succ_self it) (Nat.le_add_right _ 2)
      refine R.sat_pure ⟨hstep, h3, run ++ [hexVal a[it + 1]! * 16 + hexVal a[it + 1 + 1]!], ?_, ?_, ?_⟩
      · simp only []; rw [hr1, List.append_assoc]
      · exact lt256_snoc hr2 (hexByte_lt _ _ hcond.2.1 hcond.2.2)
      · simp only []
        rw [hr3]
        simp
    · simp only [if_neg hcond] at hr3 ⊢
      refine R.sat_pure ⟨Nat.lt_succ_self it, hlt, run ++ [0x25], ?_, ?_, ?_⟩
      · simp only []; rw [hr1, List.append_assoc]
      · exact lt256_snoc hr2 (by decide)
      · simp only []
        rw [hr3]
        simp


/-- the run after one decoded byte `v`: UTF-8 decoding of the reference splits behind the buffer, because the loop
    stops in front of a unit that is not `%` -/
theorem pctRun_byte (e : Enc) (a : Array Nat) (first last : Nat) (hl : last ≤ a.size) (it0 v : Nat) (hv : v < 256)
    (h1 : first ≤ it0) (h2 : it0 ≤ last) (fuel : Nat) (hf : last - it0 < fuel) :
    (pctRun a first last fuel (it0, [v])).sat (fun r => it0 ≤ r.1 ∧ r.1 ≤ last ∧ (∀ x ∈ r.2, x < 256) ∧
      (UOk e (slice a it0 last) → Impl.decode .u8 (v :: G e (slice a it0 last)) =
        Impl.decode .u8 r.2 ++ Impl.decode .u8 (G e (slice a r.1 last)))) := by
  refine R.sat_mono (pctRun_spec e a first last hl it0 [v] h1 h2 fuel hf) ?_
  intro ⟨it', b8⟩ ⟨r1, r2, r3, run, rb, rlt, rG⟩
  simp only at r1 r2 r3 rb rG ⊢
  subst rb
  refine ⟨r1, r2, ?_, fun hu => ?_⟩
  · intro x hx
    rcases List.mem_cons.1 hx with rfl | hx
    · exact hv
    · exact rlt x hx
  · rw [rG]
    refine decode_run_split e ([v] ++ run) _ (UOk_suffix a it0 it' last r1 hl hu) ?_
    by_cases hend : it' = last
    · exact Or.inl (by rw [hend, slice_nil a last last (Nat.le_refl _)])
    · exact Or.inr ⟨_, _, slice_cons a it' last (by omega) hl, r3.resolve_left hend⟩

/-- convert_utf8_to_utf16 reads through `read_code_point` on `char` only, which casts every unit to `unsigned char` -/
theorem convertUtf8ToUtf16M_spec (a : Array Nat) (first last : Nat) (h : first ≤ last) (hl : last ≤ a.size) :
    (convertUtf8ToUtf16M a first last).sat
      (fun r => r.2 = Impl.encodeUtf16 (Impl.decode .u8 (bytes a first last))) := by
  refine scan_sat _ (·.1) first last (fun s =>
      s.2.2 ++ Impl.encodeUtf16 (Impl.decode .u8 (bytes a s.1 last)) =
        Impl.encodeUtf16 (Impl.decode .u8 (bytes a first last))) _ ?_ _ _ (Nat.le_refl _) h rfl (Nat.lt_succ_self _)
  intro ⟨it, success, out⟩ i1 i2 i3
  refine R.sat_if (fun hit => ?_) (fun hit => ?_)
  · rw [bytes_nil a it last (Nat.le_of_not_lt hit)] at i3
    exact R.sat_pure ((List.append_nil out).symm.trans i3)
  have hlt : it < last := Decidable.not_not.mp hit
  refine R.sat_range (R.sat_bind (readU8_spec a it last hlt hl) ?_) i1 i2 (Nat.le_refl _)
  intro ⟨ok, cp, it'⟩ ⟨hpost, hag⟩
  have hne : bytes a it last ≠ [] := bytes_cons a it last hlt hl ▸ List.cons_ne_nil _ _
  rw [Impl.decode_step .u8 _ hne, Impl.cpOf, show Impl.readChar .u8 (bytes a it last) = _ from hag, encodeUtf16_cons, ← List.append_assoc] at i3
  exact R.sat_pure ⟨hpost.1, hpost.2, i3⟩

theorem convertUtf8ToUtf16M_sat (a : Array Nat) (first last : Nat) (h : first ≤ last) (hl : last ≤ a.size) :
    (convertUtf8ToUtf16M a first last).sat (fun _ => True) :=
  (convertUtf8ToUtf16M_spec a first last h hl).true

theorem convertUtf8ToUtf16M_agrees (a : Array Nat) (first last : Nat) (h : first ≤ last) (hl : last ≤ a.size)
    (hb : ByteUnits a first last) :
    (convertUtf8ToUtf16M a first last).sat
      (fun r => r.2 = Impl.encodeUtf16 (Impl.decode .u8 (slice a first last))) :=
  bytes_eq_slice a first last hl hb ▸ convertUtf8ToUtf16M_spec a first last h hl

theorem lt256_toArray (l : List Nat) (h : ∀ x ∈ l, x < 256) : ByteUnits l.toArray 0 l.length :=
  ByteUnits.of_slice (by simp) (by rw [slice_ofList]; exact h)

/-- what a percent-decode loop appends for the bytes `x`: they are decoded as UTF-8, with replacement, and every
    scalar value is encoded by `encC` (UTF-8 for append_percent_decoded, UTF-16 for parse_host) -/
def EC (encC : Nat → List Nat) (x : List Nat) : List Nat := (Impl.decode .u8 x).flatMap encC

theorem EC_nil (encC : Nat → List Nat) : EC encC [] = [] := by simp [EC, Impl.decode_nil]

theorem EC_ascii {encC : Nat → List Nat} (hasc : ∀ c, c < 0x80 → encC c = [c]) (x : Nat) (y : List Nat) (hx : x < 0x80) :
    EC encC (x :: y) = x :: EC encC y := by
  unfold EC
  rw [decode_cons_ascii .u8 x _ hx, List.flatMap_cons, hasc x hx]
  rfl

theorem EC_scalar (encC : Nat → List Nat) (c : Nat) (y : List Nat) (hc : Spec.isScalar c = true) :
    EC encC (Spec.utf8EncodeChar c ++ y) = encC c ++ EC encC y := by
  unfold EC
  rw [decode_scalar_cons c hc, List.flatMap_cons]

theorem readUtfChar_spec (e : Enc) (a : Array Nat) (first last it : Nat) (h1 : first ≤ it) (h2 : it < last)
    (hl : last ≤ a.size) :
    (readUtfChar e a first last it).sat (fun r => it < r.2 ∧ r.2 ≤ last ∧ (UOk e (slice a it last) →
      r.1 = cpOf (Impl.readChar e (slice a it last)) ∧ slice a r.2 last = (Impl.readChar e (slice a it last)).2.2)) := by
  refine R.sat_mono (readUtfChar_of e a first last it h1 (Nat.le_of_lt h2) (readChar_spec e a it last h2 hl)) ?_
  rintro _ ⟨⟨ok, cp, it'⟩, ⟨q1, q2, hag⟩, rfl⟩
  refine ⟨q1, q2, fun hu => ?_⟩
  rw [hag hu]
  exact ⟨rfl, rfl⟩

/-- one round of the loop that `append_percent_decoded` and the second loop of `parse_host` share; they differ in
    the character encoder `encC` and in the routine `fix` that repairs the buffered `%XX` run (result read by `proj`).
    The two model bodies ARE this step at their instances: `appendPercentDecoded_eq_iter`, `hostDecodeM_eq_iter`. -/
def pctStep {α : Type} (e : Enc) (a : Array Nat) (first last : Nat) (encC : Nat → List Nat) (fix : List Nat → R α)
    (proj : α → List Nat) (s : Nat × List Nat) : R ((Nat × List Nat) ⊕ List Nat) := do
  let (it, out) := s
  if it = last then pure (.inr out) else do
  let uch ← rd a first last it
  let it ← mkptr first last (it + 1)
  if uch < 0x80 then
    if uch ≠ 0x25 then pure (.inl (it, out ++ [uch]))
    else do
      sub first last it last
      match ← decodeHexToByte a it last with
      | some (uc8, it) =>
        if uc8 < 0x80 then pure (.inl (it, out ++ [uc8]))
        else do
          let (it, buff) ← pctRun a first last (last - it + 1) (it, [uc8])
          let fixed ← fix buff
          pure (.inl (it, out ++ proj fixed))
      | none => pure (.inl (it, out ++ [0x25]))
  else do
    let it ← mkptrSub first last it 1
    let (cp, it) ← readUtfChar e a first last it
    pure (.inl (it, out ++ encC cp))

theorem appendPercentDecoded_eq_iter (e : Enc) (a : Array Nat) (first last : Nat) :
    appendPercentDecoded e a first last =
      iter (pctStep e a first last Impl.encodeUtf8Char (fun b => checkFixUtf8 b.toArray 0 b.length) id)
        (last - first + 1) (first, []) := rfl

theorem hostDecodeM_eq_iter (e : Enc) (a : Array Nat) (first last ptr : Nat) :
    hostDecodeM e a first last ptr = (do
      let buff0 ← iter (fun (s : Nat × List Nat) => do
          let (it, buff) := s
          if it = ptr then pure (.inr buff) else do
          let c ← rd a first last it
          let it' ← mkptr first last (it + 1)
          pure (.inl (it', buff ++ [c]))) (last - first + 1) (first, [])
      iter (pctStep e a first last Impl.encodeUtf16Char (fun b => convertUtf8ToUtf16M b.toArray 0 b.length) Prod.snd)
        (last - first + 1) (ptr, buff0)) := rfl

/-- the shared loop: in bounds for any units; when the units have their width, the output is the encoding `encC`
    of the UTF-8 decoding of the string percent-decode of the input -/
theorem pctLoop_spec {α : Type} (e : Enc) (a : Array Nat) (first last : Nat) (encC : Nat → List Nat)
    (fix : List Nat → R α) (proj : α → List Nat) (hl : last ≤ a.size)
    (hasc : ∀ c, c < 0x80 → encC c = [c])
    (hfix : ∀ b8 : List Nat, (∀ x ∈ b8, x < 256) → (fix b8).sat (fun r => proj r = EC encC b8))
    (it0 : Nat) (buff0 : List Nat) (h1 : first ≤ it0) (h2 : it0 ≤ last) :
    (iter (pctStep e a first last encC fix proj) (last - first + 1) (it0, buff0)).sat
      (fun out => UOk e (slice a first last) → out = buff0 ++ EC encC (G e (slice a it0 last))) := by
  refine scan_sat _ (·.1) first last (fun s => UOk e (slice a first last) →
      s.2 ++ EC encC (G e (slice a s.1 last)) = buff0 ++ EC encC (G e (slice a it0 last)))
    _ ?_ _ _ h1 h2 (fun _ => rfl) (Nat.lt_succ_of_le (Nat.sub_le_sub_left h1 last))
  intro ⟨it, buff⟩ hfi i2 i3
  simp only [pctStep] at hfi i2 i3 ⊢
  refine R.sat_if (fun hit => ?_) (fun hit => ?_)
  · refine R.sat_pure fun hu => ?_
    have i3 := i3 hu
    rw [hit, slice_nil a last last (Nat.le_refl _), G_nil, EC_nil, List.append_nil] at i3
    exact i3
  have hlt : it < last := Nat.lt_of_le_of_ne i2 hit
  have hsuf : ∀ {p}, first ≤ p → UOk e (slice a first last) → UOk e (slice a p last) :=
    fun hp1 hu => UOk_suffix a first _ last hp1 hl hu
  refine R.sat_read hl ?_ hfi hlt
  refine R.sat_ptr ?_ (Nat.le_succ_of_le hfi) hlt
  refine R.sat_if (fun h80 => ?_) (fun h80 => ?_)
  · refine R.sat_if (fun h25 => ?_) (fun h25 => ?_)
    · refine R.sat_pure ⟨Nat.lt_succ_self it, hlt, fun hu => ?_⟩
      have i3 := i3 hu
      rw [slice_cons a it last hlt hl, G_ascii e _ _ h80 h25, EC_ascii hasc _ _ h80] at i3
      simp only []
      rw [← i3]; simp
    replace i3 := fun hu => (congrArg (fun g => buff ++ EC encC g) (G_slice_pct e a it last hlt hl
      (Classical.not_not.1 h25)).symm).trans (i3 hu)
    refine R.sat_range ?_ (Nat.le_succ_of_le hfi) hlt (Nat.le_refl _)
    refine R.sat_bind_ok (decodeHexToByte_eq a (it + 1) last hlt hl) ?_
    by_cases hcond : last - (it + 1) ≥ 2 ∧ isHex a[it + 1]! = true ∧ isHex a[it + 1 + 1]! = true
    · simp only [if_pos hcond] at i3 ⊢
      have h3 : it + 1 + 2 ≤ last := by omega
      have hstep : it < it + 1 + 2 := Nat.lt_of_lt_of_le (Nat.lt_succ_self it) (Nat.le_add_right _ 2)
      have hf3 : first ≤ it + 1 + 2 := Nat.le_trans hfi (Nat.le_of_lt hstep)
      refine R.sat_if (fun hv => ?_) (fun hv => ?_)
      · refine R.sat_pure ⟨hstep, h3, fun hu => ?_⟩
        have i3 := i3 hu
        rw [EC_ascii hasc _ _ hv] at i3
        simp only []
        rw [← i3]; simp
      · refine R.sat_bind (pctRun_byte e a first last hl (it + 1 + 2) _ (hexByte_lt _ _ hcond.2.1 hcond.2.2)
          hf3 h3 _ (Nat.lt_succ_self _)) ?_
        intro ⟨it', b8⟩ ⟨r1, r2, hb8, hdec⟩
        simp only at r1 r2 hb8 hdec ⊢
        have hii : it < it' := Nat.lt_of_lt_of_le hstep r1
        refine R.sat_bind (hfix b8 hb8) ?_
        intro r hr
        refine R.sat_pure ⟨hii, r2, fun hu => ?_⟩
        simp only []
        rw [← i3 hu, hr]
        unfold EC
        rw [hdec (hsuf hf3 hu), List.flatMap_append, List.append_assoc]
    · simp only [if_neg hcond] at i3 ⊢
      refine R.sat_pure ⟨Nat.lt_succ_self it, hlt, fun hu => ?_⟩
      have i3 := i3 hu
      rw [EC_ascii hasc _ _ (by decide)] at i3
      simp only []
      rw [← i3]; simp
  · refine R.sat_ptrSub ?_
    rw [Nat.add_sub_cancel]
    refine R.sat_bind (readUtfChar_spec e a first last it hfi hlt hl) ?_
    intro ⟨cp, it'⟩ ⟨q1, q2, hch⟩
    simp only at hch q1 q2 ⊢
    refine R.sat_pure ⟨q1, q2, fun hu => ?_⟩
    have i3 := i3 hu
    have hui := hsuf hfi hu
    obtain ⟨hcp, hrest⟩ := hch hui
    have hsl := slice_cons a it last hlt hl
    have hG := G_hi e a[it]! (slice a (it + 1) last) h80
    have hs := (readChar_cp e _ (List.cons_ne_nil _ _) (hsl ▸ hui)).1
    rw [← hsl, ← hcp, ← hrest] at hG
    rw [← hsl, ← hcp] at hs
    rw [hG, EC_scalar _ _ _ hs] at i3
    simp only []
    rw [← i3]
    simp

/-- the two loops that fill `buff_uc`: in bounds for any units and any `ptr`; the result when the units have their
    width and the prefix `[first, ptr)` is what `find_if_not(is_ascii_domain_char)` leaves (ASCII, no `%`) -/
theorem hostDecodeM_spec (e : Enc) (a : Array Nat) (first last ptr : Nat) (h1 : first ≤ ptr) (h2 : ptr ≤ last)
    (hl : last ≤ a.size) :
    (hostDecodeM e a first last ptr).sat (fun r => UOk e (slice a first last) →
      (∀ i, first ≤ i → i < ptr → a[i]! < 0x80 ∧ a[i]! ≠ 0x25) → r = EC Impl.encodeUtf16Char (G e (slice a first last))) := by
  rw [hostDecodeM_eq_iter]
  refine R.sat_bind (scan_sat _ (·.1) first ptr (fun s => s.2 = slice a first s.1)
    (fun b => b = slice a first ptr) ?_ _ _ (Nat.le_refl _) h1 ?_ ?_) ?_
  · intro ⟨it, buff⟩ i1 i2 i3
    simp only at i1 i2 i3 ⊢
    refine R.sat_if (fun hit => R.sat_pure (by rw [i3, hit])) (fun hit => ?_)
    · have hip : it < ptr := Nat.lt_of_le_of_ne i2 hit
      have hil : it < last := Nat.lt_of_lt_of_le hip h2
      refine R.sat_read hl ?_ i1 hil
      refine R.sat_ptr ?_ (Nat.le_succ_of_le i1) hil
      refine R.sat_pure ⟨Nat.lt_succ_self it, hip, ?_⟩
      simp only []
      rw [slice_snoc a first (it + 1) (Nat.lt_succ_of_le i1) (Nat.le_trans hil hl), i3]
      simp only [Nat.add_sub_cancel]
  · exact (slice_nil a first first (Nat.le_refl _)).symm
  · exact Nat.lt_succ_of_le (Nat.sub_le_sub_right h2 first)
  intro buff0 hb0
  subst hb0
  refine R.sat_mono (pctLoop_spec e a first last Impl.encodeUtf16Char (fun b => convertUtf8ToUtf16M b.toArray 0 b.length)
    Prod.snd hl encodeUtf16Char_ascii
    (fun b8 hb8 => by
      have := convertUtf8ToUtf16M_agrees b8.toArray 0 b8.length (Nat.zero_le _) (by simp) (lt256_toArray b8 hb8)
      rwa [slice_ofList] at this)
    ptr _ h1 h2) ?_
  intro r hr hu hpre
  -- the prefix is copied; it is ASCII without `%`, so it is its own decoding
  have hcopy : ∀ k p, first ≤ p → p + k = ptr →
      EC Impl.encodeUtf16Char (G e (slice a p last)) =
        slice a p ptr ++ EC Impl.encodeUtf16Char (G e (slice a ptr last)) := by
    intro k
    induction k with
    | zero =>
      intro p _ hp
      have : p = ptr := by omega
      subst this
      rw [slice_nil a p p (Nat.le_refl _)]; rfl
    | succ k ih =>
      intro p hp1 hp2
      have hpp := hpre p hp1 (by omega)
      rw [slice_cons a p last (by omega) hl, slice_cons a p ptr (by omega) (by omega),
        G_ascii e _ _ hpp.1 hpp.2, EC_ascii encodeUtf16Char_ascii _ _ hpp.1, ih (p + 1) (by omega) (by omega)]
      rfl
  rw [hr hu]
  exact (hcopy (ptr - first) first (Nat.le_refl _) (by omega)).symm

theorem hostDecodeM_sat (e : Enc) (a : Array Nat) (first last ptr : Nat) (h1 : first ≤ ptr) (h2 : ptr ≤ last)
    (hl : last ≤ a.size) : (hostDecodeM e a first last ptr).sat (fun _ => True) :=
  (hostDecodeM_spec e a first last ptr h1 h2 hl).true

theorem hostDecodeM_agrees (e : Enc) (a : Array Nat) (first last ptr : Nat) (h1 : first ≤ ptr) (h2 : ptr ≤ last)
    (hl : last ≤ a.size) (hu : UOk e (slice a first last))
    (hpre : ∀ i, first ≤ i → i < ptr → a[i]! < 0x80 ∧ a[i]! ≠ 0x25) :
    hostDecodeM e a first last ptr = .ok (EC Impl.encodeUtf16Char (G e (slice a first last))) :=
  R.eq_ok_of_sat (R.sat_mono (hostDecodeM_spec e a first last ptr h1 h2 hl) fun _ hr => hr hu hpre)

end Upa.Impl.B
