import Upa.Proofs.SetRepExcApi
import Upa.Impl.ParseRepExc
import Upa.Proofs.ObjRep
/-
  `url::do_parse` on an existing object (Upa/Impl/ParseRepExc.lean).  `new_url()` resets the record
  members exactly when they are `Resettable` (`parseRepOn_eq`: then the parse is that of a fresh object);
  every failure state of a setter or of `update()` has a non-empty string (`failStates_norm_ne`, from
  `leaves_setRepT`); every way the call can end is listed once (`Ends`, `doParseExc_ends`); without a
  failure, and on the states `RObj` stands for (`ObjR.Wf`), the call is `RObj.parse` (`doParse_refines`).
-/
namespace Upa.Proofs.C20c
open Upa Upa.Impl Upa.Impl.FaultRep Upa.Proofs.C05 Upa.Proofs.SetRep Upa.Proofs.SetRepApi
  Upa.Proofs.SetRepExc Upa.Props Upa.Proofs.ObjRep

/-- the record members `new_url` resets completely: a non-empty string, or nothing to reset -/
def Resettable (r : Rep) : Prop := r.norm ≠ [] ∨ r = Rep.cleared

instance (r : Rep) : Decidable (Resettable r) := by unfold Resettable; infer_instance

theorem newUrl_cleared : Rep.cleared.newUrl = Rep.cleared := rfl

theorem newUrl_eq_cleared_iff (r : Rep) : r.newUrl = Rep.cleared ↔ Resettable r := by
  unfold Rep.newUrl Rep.emptyUrl Resettable
  cases r.norm <;> simp

theorem newUrl_resettable {r : Rep} (h : Resettable r) : r.newUrl = Rep.cleared :=
  (newUrl_eq_cleared_iff r).mpr h

theorem parseRepOn_eq (idna : Idna) {r : Rep} (h : Resettable r) (e : Enc) (units : List Nat)
    (base : Option Rep) : parseRepOn idna r e units base = parseRep idna e units base := by
  unfold parseRepOn parseRep Ser.new
  rw [newUrl_resettable h]

theorem parseRepOn_cleared (idna : Idna) (e : Enc) (units : List Nat) (base : Option Rep) :
    parseRepOn idna Rep.cleared e units base = parseRep idna e units base := rfl

/-! ### the states with a non-empty string -/

theorem repFor_norm_ne {u : Url} {r : Rep} (wf : RecWF u) (h : RepFor r u) : r.norm ≠ [] :=
  Pt.norm_ne (ptS_of_repFor wf h).pt

theorem failStates_norm_ne (idna : Idna) (s : Setter) (e : Enc) (units : List Nat) {u : Url} {r : Rep}
    (ok : RepOk u) (h : RepFor r u) : ∀ r' ∈ failStates idna s e units r, r'.norm ≠ [] := by
  intro r' hr'
  rw [failStates_setter_eq] at hr'
  exact Pt.norm_ne (leaves_setRepT idna s e units ok h r' hr').1

theorem updateFailStates_norm_ne {u : Url} {r : Rep} (ok : RepOk u) (h : RepFor r u) (l : List BPair) :
    ∀ r' ∈ updateFailStates r l, r'.norm ≠ [] := by
  intro r' hr'
  unfold updateFailStates at hr'
  rw [failStates_eq] at hr'
  exact Pt.norm_ne (leaves_updateRepT ok h l r' hr').pt

theorem cleared_partView (t : Nat) : Rep.cleared.partView t = [] := by
  simp [Rep.partView, slice, Rep.cleared]

theorem objNewUrl_rep (o : ObjR) : o.newUrl.rep = o.rep.newUrl := by
  unfold ObjR.newUrl Rep.newUrl
  split <;> rfl

theorem objNewUrl_of_ne {o : ObjR} (h : o.rep.norm ≠ []) :
    o.newUrl = { rep := Rep.cleared, valid := false, sp := clearSp o.sp } := by
  unfold ObjR.newUrl Rep.emptyUrl
  cases hn : o.rep.norm with
  | nil => exact absurd hn h
  | cons a b => rfl

theorem objNewUrl_of_nil {o : ObjR} (h : o.rep.norm = []) : o.newUrl = o := by
  unfold ObjR.newUrl Rep.emptyUrl
  rw [h]; rfl

/-! ### how `do_parse` ends -/

/-- what the handler leaves: `reset_record()` forgets the record it is given -/
def emptied (o : ObjR) : ObjR := { rep := Rep.cleared, valid := false, sp := o.newUrl.sp }

theorem emptied_wf (o : ObjR) : (emptied o).Wf := ⟨nofun, fun _ => rfl⟩

/-- every way the library's `do_parse` on `o` can end, `res` being what `url_parse` returns -/
inductive Ends (o : ObjR) (res : Option Rep) : ObjR × ParseEnd → Prop
  | before : Ends o res (o, .threw)
  | inside : Ends o res (emptied o, .threw)
  | ok (r' : Rep) : res = some r' →
      Ends o res ({ rep := r', valid := true, sp := parseSp r' o.newUrl.sp }, .returned true)
  | error : res = none → Ends o res (emptied o, .returned false)

theorem parseFinish_ends (o : ObjR) (res : Option Rep) (b : Bool) :
    Ends o res (parseFinish ObjR.resetRecord o.newUrl res b) := by
  unfold parseFinish
  cases res with
  | none => exact .error rfl
  | some r' =>
    simp only
    split
    · exact .inside
    · exact .ok r' rfl

theorem doParseExc_ends (idna : Idna) (o : ObjR) (e : Enc) (units : List Nat) (base : Option (Option Rep))
    (pre : Nat) (trace : List Rep) (k : Option Nat) :
    Ends o (tryBodyT idna o.rep e units base trace).val (doParseExc idna o e units base pre trace k) := by
  unfold doParseExc doParseWith
  cases k with
  | none => exact parseFinish_ends ..
  | some i =>
    simp only
    split
    · exact .before
    · unfold X.run
      simp only
      cases (tryBodyT idna o.rep e units base trace).pts[i - pre]? with
      | none => exact parseFinish_ends ..
      | some half => exact .inside

theorem tryBodyT_of_base {base : Option (Option Rep)} (hb : base ≠ some none) (idna : Idna) (r : Rep) (e : Enc)
    (units : List Nat) (trace : List Rep) :
    tryBodyT idna r e units base trace = ⟨trace, parseRepOn idna r e units (base.bind id)⟩ := by
  rcases base with _ | _ | _
  · rfl
  · exact absurd rfl hb
  · rfl

/-- a failure inside the `try`: the handler runs on the half-built object -/
theorem doParseWith_inside (handler ph : ObjR → ObjR) (idna : Idna) (o : ObjR) (e : Enc) (units : List Nat)
    {base : Option (Option Rep)} (hb : base ≠ some none) (pre : Nat) (trace : List Rep) (k : Nat)
    (h1 : pre ≤ k) (h2 : k < pre + trace.length) :
    doParseWith handler ph idna o e units base pre trace (some k) =
      (handler { o.newUrl with rep := trace.getD (k - pre) Rep.cleared }, .threw) := by
  have hlt : k - pre < trace.length := by omega
  unfold doParseWith
  simp only
  rw [if_neg (by omega), tryBodyT_of_base hb, run_lt _ _ hlt, List.getD_eq_getElem?_getD,
    List.getElem?_eq_getElem hlt]
  rfl

/-- a failure of `parse_search_params()`: the parse succeeded, the object owns a params object, the
    primitive after the last one of `url_parse` fails -/
theorem doParseWith_params (handler ph : ObjR → ObjR) (idna : Idna) (o : ObjR) (e : Enc) (units : List Nat)
    {base : Option (Option Rep)} (hb : base ≠ some none) (pre : Nat) (trace : List Rep) (r' : Rep)
    (hp : parseRepOn idna o.rep e units (base.bind id) = some r') (hsp : o.newUrl.sp.isSome = true) :
    doParseWith handler ph idna o e units base pre trace (some (pre + trace.length)) =
      (ph { o.newUrl with rep := r', valid := true }, .threw) := by
  unfold doParseWith
  simp only
  rw [if_neg (by omega), tryBodyT_of_base hb, run_ge _ _ (by show trace.length ≤ _; omega)]
  simp only [hp, parseFinish, hsp, Nat.add_sub_cancel_left, beq_self_eq_true, Bool.and_self, if_true]

theorem cleared_norm : Rep.cleared.norm = [] := rfl

theorem wf_resettable {o : ObjR} (h : o.Wf) : Resettable o.rep := by
  cases hv : o.valid with
  | true => exact Or.inl (h.1 hv)
  | false => exact Or.inr (h.2 hv)

/-- the value of the try body is the parser's outcome as `RObj.parse` sees it -/
theorem tryBodyT_val (idna : Idna) {r : Rep} (h : Resettable r) (e : Enc) (units : List Nat)
    (base : Option (Option Rep)) (trace : List Rep) :
    (tryBodyT idna r e units base trace).val = rParseResult idna e units base := by
  rcases base with _ | _ | rb <;> simp [tryBodyT, rParseResult, parseRepOn_eq idna h] <;> rfl

theorem doParse_refines (idna : Idna) (o : ObjR) (hw : o.Wf) (e : Enc) (units : List Nat)
    (base : Option (Option Rep)) (pre : Nat) (trace : List Rep) :
    (doParseExc idna o e units base pre trace none).1.toRObj = (o.toRObj.parse idna e units base).1 ∧
    (doParseExc idna o e units base pre trace none).2 = .returned (o.toRObj.parse idna e units base).2 := by
  have hres := wf_resettable hw
  obtain ⟨rep, valid, sp⟩ := o
  -- after `new_url()` both models hold the reset record and the same params `sp1`
  obtain ⟨sp1, hn, hR⟩ : ∃ sp1, ObjR.newUrl ⟨rep, valid, sp⟩ = ⟨Rep.cleared, false, sp1⟩ ∧
      (if (ObjR.toRObj ⟨rep, valid, sp⟩).rep.isSome then (ObjR.toRObj ⟨rep, valid, sp⟩).clearParams
        else ObjR.toRObj ⟨rep, valid, sp⟩) = ⟨if valid then some rep else none, sp1⟩ := by
    cases valid with
    | true => exact ⟨clearSp sp, objNewUrl_of_ne (hw.1 rfl), by cases sp <;> rfl⟩
    | false =>
      have hc : rep = Rep.cleared := hw.2 rfl
      subst hc
      exact ⟨sp, objNewUrl_of_nil rfl, rfl⟩
  rw [rparse_eq]
  unfold doParseExc doParseWith rParseRes
  simp only [hn, hR, tryBodyT_val idna hres]
  cases rParseResult idna e units base <;> cases sp1 <;> exact ⟨rfl, rfl⟩

end Upa.Proofs.C20c
