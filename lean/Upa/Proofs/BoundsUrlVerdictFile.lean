import Upa.Proofs.BoundsUrlVerdict
import Upa.Proofs.ParserRules
/-
  C04f: the blocks of file_host_state, file_slash_state, file_state of the instrumented model against
  `Impl.fileHostState`, `Impl.fileSlashState`, `Impl.fileState` on the decoded rest (statement: `Fwd`, BoundsUrlVerdict).
  The Windows-drive test on decoded values is the test on the units by `AsciiHom.pred_eq` and `C08.isDrive2_ascii`.
-/
namespace Upa.Impl.B
open UP Upa.Proofs.C10b
open Upa.Proofs.C08 (fileHostState_eq isDrive2 isDrive2_ascii isDrive2_other)
open Upa.Proofs.C09 (isOk isOk_path isOk_pathStart isOk_fileDefault isOk_fileSlashDefault)

/-- "the buffer is a Windows drive letter": a test that accepts ASCII strings only, so it sees the units
    (`AsciiHom.pred_eq`), and there are two of them -/
theorem Dl_winDrive (e : Enc) (a : Array Nat) (p q : Nat) (hq : q ≤ a.size) :
    isDrive2 (Dl e a p q) = (decide (q - p = 2) && isWindowsDrive a[p]! a[p + 1]!) := by
  rw [Dl, (decode_asciiHom e).pred_eq isDrive2 isDrive2_ascii]
  by_cases h2 : q - p = 2
  · rw [slice_eq_map_range a q hq 2 p h2, decide_eq_true h2]; rfl
  · rw [decide_eq_false h2, isDrive2_other _ fun x y hxy => h2 ?_]
    · rfl
    · rw [← slice_length a p q hq, hxy]; rfl

section
variable (c : Ctx) (W : c.Wf)
include W

theorem fwd_fileHost (p : Nat) (sp fl : Bool) (u : Url) (hG : Sim c ⟨.fileHost, p, sp, fl⟩ u) :
    (bFileHost c.a c.first c.last c.ov c.ui c.orc ⟨.fileHost, p, sp, fl⟩).sat
      (Fwd c (rank .fileHost) (isOk (fileHostState c.idna c.ov u (c.D p)))) := by
  obtain ⟨h1, h2, h3, -⟩ := hG.inv
  have hl := W.hl
  unfold bFileHost
  dsimp only
  refine R.sat_range ?_
  refine R.sat_bind (findIf_toLast c.a c.first c.last isSpecialAuthorityEnd hl p h1 h2) ?_
  intro eoa heoa
  obtain ⟨-, hT, hD⟩ := Dl_firstAt c.e c.a isSpecialAuthorityEnd (authEnd_ascii true) p eoa c.last hl heoa
  obtain ⟨e1, e2, -, -⟩ := heoa
  have hnil := Dl_eq_nil_iff c.e c.a p eoa e1 (by omega)
  have hwd := Dl_winDrive c.e c.a p eoa (by omega)
  have hsub : sub c.first c.last p eoa = .ok () := sub_ok h1 e1 (by omega)
  rw [fileHostState_eq]
  simp only [Ctx.D, hT, hD]
  by_cases hpe : p = eoa
  · rw [if_pos hpe, if_pos (hnil.2 hpe)]
    split
    · exact R.sat_pure rfl
    · rw [isOk_pathStart]
      exact R.sat_pure (Fwd.tail ⟨h1, h2⟩)
  · rw [if_neg hpe, if_neg (fun hh => hpe (hnil.1 hh)), hwd]
    refine R.sat_bind
      (P := fun wd => wd = (c.ov.isNone && (decide (eoa - p = 2) && isWindowsDrive c.a[p]! c.a[p + 1]!))) ?_ ?_
    · refine R.sat_if (fun hov => ?_) (fun hov => R.sat_pure ?_)
      · exact R.sat_read hl (R.sat_read hl (R.sat_pure (by simp [hov.1, hov.2])))
      · cases h1 : c.ov.isNone
        · rfl
        · cases h2 : decide (eoa - p = 2)
          · rfl
          · exact absurd ⟨h1, of_decide_eq_true h2⟩ hov
    rintro wd rfl
    cases c.ov.isNone && (decide (eoa - p = 2) && isWindowsDrive c.a[p]! c.a[p + 1]!)
    · simp only [Bool.false_eq_true, if_false, hsub, R.ok_bind]
      show (_ : R (M ⊕ Bool)).sat _
      simp only [Ctx.orc_hostOk, Ctx.ui_needSave, Bool.not_true, Bool.or_false, h3]
      cases hph : parseHost c.idna (Dl c.e c.a p eoa) (!u.isSpecial) with
      | none =>
        simp only [Option.isSome_none, Bool.not_false, if_true]
        exact R.sat_pure rfl
      | some hh =>
        simp only [Option.isSome_some, Bool.not_true, Bool.false_eq_true, if_false]
        refine R.sat_if (fun ho => R.sat_pure (by rw [if_pos ho]; rfl)) (fun ho => R.sat_pure ?_)
        rw [if_neg ho, isOk_pathStart]
        exact Fwd.tail Bnd.of
    · simp only [if_true, isOk_path]
      exact R.sat_pure (Fwd.tail ⟨h1, h2⟩)

/-- the value `peekOr0B` returned at `p` is not a slash: the decoded rest is empty or starts with a value that is not -/
theorem D_not_slash (p ch : Nat) (hch : (p < c.last ∧ ch = c.a[p]!) ∨ (p = c.last ∧ ch = 0))
    (hsl : ¬ (ch = 0x5C ∨ ch = 0x2F)) : c.D p = [] ∨ ∃ x t, c.D p = x :: t ∧ isSlash x = false := by
  rcases hch with ⟨hp, hc⟩ | ⟨hp, -⟩
  · obtain ⟨x, t, hD, hk, -, -⟩ := c.D_peek W p hp
    have e1 := hk 0x2F (by omega)
    have e2 := hk 0x5C (by omega)
    refine Or.inr ⟨x, t, hD, ?_⟩
    simp only [isSlash, Bool.or_eq_false_iff, beq_eq_false_iff_ne, ne_eq, e1, e2]
    omega
  · exact Or.inl (hp ▸ c.D_end)

theorem fwd_fileSlash (p : Nat) (sp fl : Bool) (u : Url) (hG : Sim c ⟨.fileSlash, p, sp, fl⟩ u) :
    (bFileSlash c.a c.first c.last c.base c.ui ⟨.fileSlash, p, sp, fl⟩ 0).sat
      (Fwd c (rank .fileSlash) (isOk (fileSlashState c.idna c.baseU c.ov u (c.D p)))) := by
  obtain ⟨h1, h2, h3, h4⟩ := hG.inv
  have hl := W.hl
  unfold bFileSlash
  dsimp only
  refine R.sat_bind (peekOr0B_spec c.a c.first c.last p h1 h2 W.hl) ?_
  intro ch hch
  refine R.sat_if (fun hsl => ?_) (fun hsl => ?_)
  · have hp := peekOr0_ne0 hch (by omega)
    refine R.sat_ptr (R.sat_pure ?_)
    have hD := c.D_ascii W p hp.1 (by omega)
    have hslash : isSlash c.a[p]! = true := by
      simp only [isSlash, Bool.or_eq_true, beq_iff_eq]; omega
    have : fileSlashState c.idna c.baseU c.ov u (c.D p) = fileHostState c.idna c.ov u (c.D (p + 1)) := by
      rw [hD]; simp only [fileSlashState, hslash, if_true]
    rw [this]
    exact Fwd.goto (Sim.late h3 h4) rfl
  · -- no slash: the list model can only answer `ok` from here, so all that is left is that the block's reads succeed
    have hlist : isOk (fileSlashState c.idna c.baseU c.ov u (c.D p)) = true := by
      rcases D_not_slash c W p ch hch hsl with hD | ⟨x, t, hD, hns⟩
      · rw [hD]; simp only [fileSlashState]
        exact isOk_fileSlashDefault _ _ _ _
      · rw [hD]; simp only [fileSlashState, hns, Bool.false_eq_true, if_false]
        exact isOk_fileSlashDefault _ _ _ _
    rw [hlist]
    refine R.sat_if' (R.sat_range ?_) (R.sat_pure (Fwd.tail ⟨h1, h2⟩))
    exact R.sat_bind (startsWithWindowsDrive_sat c.a p c.last h2 hl) fun _ _ => R.sat_pure (Fwd.tail ⟨h1, h2⟩)

omit W in
/-- the record `fileState` goes on with is special and file, whatever `u` was (`urls.set_scheme("file")`) -/
theorem fileState_u (u : Url) :
    let u1 : Url := if (!u.isFile) = true then { u with scheme := sFile } else u
    u1.isSpecial = true ∧ u1.isFile = true := by
  cases hf : u.isFile with
  | true =>
    simp only [Bool.not_true, Bool.false_eq_true, if_false, hf, and_true]
    simp only [Url.isFile, isFileScheme, beq_iff_eq] at hf
    simp only [Url.isSpecial, hf]
    decide
  | false =>
    simp only [Bool.not_false, if_true]
    exact ⟨show isSpecialScheme sFile = true by decide, show isFileScheme sFile = true by decide⟩

theorem fwd_file (p : Nat) (sp fl : Bool) (u : Url) (hG : Sim c ⟨.file, p, sp, fl⟩ u) :
    (bFile c.a c.first c.last c.base ⟨.file, p, sp, fl⟩ 0).sat
      (Fwd c (rank .file) (isOk (fileState c.idna c.baseU c.ov u (c.D p)))) := by
  obtain ⟨h1, h2, -, -⟩ := hG.inv
  have hl := W.hl
  unfold bFile
  dsimp only
  refine R.sat_bind (peekOr0B_spec c.a c.first c.last p h1 h2 W.hl) ?_
  intro ch hch
  obtain ⟨hu1, hu2⟩ := fileState_u u
  refine R.sat_if (fun hsl => ?_) (fun hsl => ?_)
  · have hp := peekOr0_ne0 hch (by omega)
    refine R.sat_ptr (R.sat_pure ?_)
    have hD := c.D_ascii W p hp.1 (by omega)
    have hslash : isSlash c.a[p]! = true := by
      simp only [isSlash, Bool.or_eq_true, beq_iff_eq]; omega
    rw [hD]
    simp only [fileState, hslash, if_true]
    refine Fwd.goto ?_ rfl
    exact Sim.late hu1.symm hu2.symm
  · have hlist : isOk (fileState c.idna c.baseU c.ov u (c.D p)) = true := by
      rcases D_not_slash c W p ch hch hsl with hD | ⟨x, t, hD, hns⟩
      · rw [hD]; simp only [fileState]
        exact isOk_fileDefault _ _ _ _
      · rw [hD]; simp only [fileState, hns, Bool.false_eq_true, if_false]
        exact isOk_fileDefault _ _ _ _
    rw [hlist]
    have fin : ∀ st q, c.first ≤ q → q ≤ c.last → 15 ≤ rank st →
        (pure (.inl ⟨st, q, true, true⟩) : R (M ⊕ Bool)).sat (Fwd c (rank .file) true) :=
      fun st q h1 h2 hst => R.sat_pure (Fwd.tail ⟨h1, h2⟩ hst (Nat.lt_of_lt_of_le (by decide) hst))
    split
    · refine R.sat_if' ?_ (fin _ _ h1 h2 (by decide))
      refine R.sat_if (fun _ => R.sat_pure rfl) (fun hne => ?_)
      have hne : p ≠ c.last := hne
      refine R.sat_read hl ?_
      refine R.sat_if' (R.sat_ptr (fin _ _ (by omega) (by omega) (by decide))) <|
        R.sat_if' (R.sat_ptr (fin _ _ (by omega) (by omega) (by decide))) <| ?_
      refine R.sat_range ?_
      exact R.sat_bind (startsWithWindowsDrive_sat c.a p c.last h2 hl) fun _ _ => fin _ _ h1 h2 (by decide)
    · exact fin _ _ h1 h2 (by decide)

end

end Upa.Impl.B
