import Upa.Proofs.FilePathWin
import Upa.Proofs.ReparseParsed
/-
  C17b, UNC paths (`\\server\share\…`, `\\?\UNC\server\share\…`): is_unc_path on a text assembled from
  clean components (`isUncPath_join`), the way back (`unc_back`), round trip and fixed point
  (`roundtrip_unc_core`, `fixed_unc_core`), and what the host parser's result
  guarantees about the server name (`uncServerOk_of_parse`).
-/
namespace Upa.Proofs.C17
open Upa.Proofs.C14

theorem uncAux_step (f : Nat) (comp rest0 : List Nat) (n : Nat) (sh : Option (List Nat))
    (hne : comp ≠ []) (hc : Clean comp) (hrest : C02.StopsAt notWinSlash rest0) :
    Impl.isUncPathAux (f + 1) (comp ++ rest0) n sh =
      if uncBad (n + 1) comp = true then none
      else match rest0 with
        | [] => (if n + 1 = 2 then some rest0 else sh)
        | _ :: r => Impl.isUncPathAux f r (n + 1) (if n + 1 = 2 then some rest0 else sh) := by
  have hb : ∀ c ∈ comp, notWinSlash c = true := fun c h => by simp [notWinSlash, (hc c h).1]
  have ht := C02.takeWhile_scan notWinSlash comp rest0 hb hrest
  have hd := C02.dropWhile_scan notWinSlash comp rest0 hb hrest
  have hany : ¬ (comp.any (· == 0)) = true := fun ha => (hc 0 ((any_zero_iff _).1 ha)).2 rfl
  have hne' : comp ++ rest0 ≠ [] := fun e => hne (List.append_eq_nil_iff.1 e).1
  rw [uncAux_succ f _ n sh hne', ht, hd, if_neg hne, if_neg hany]
  cases rest0 <;> rfl

/-- `joinBs` without the leading `\\`: the text the loop scans behind the separator that follows the share name -/
def interc : List (List Nat) → List Nat
  | [] => []
  | t :: L => t ++ joinBs L

theorem joinBs_rest (L : List (List Nat)) : C02.StopsAt notWinSlash (joinBs L) := by
  cases L with
  | nil => trivial
  | cons t L' => exact (by decide : notWinSlash 0x5C = false)

/-- the converse of `unc_ge2`: on clean components joined by '\\', all but the last non-empty, the loop past the
    share name returns the share end it was given -/
theorem uncAux_tail (L : List (List Nat)) : ∀ (fuel n : Nat) (sh : Option (List Nat)),
    (interc L).length < fuel → 2 ≤ n → GoodTail L →
    Impl.isUncPathAux fuel (interc L) n sh = sh := by
  induction L with
  | nil =>
    intro fuel n sh hf _ _
    obtain ⟨f, rfl⟩ : ∃ f, fuel = f + 1 := ⟨fuel - 1, by omega⟩
    simp [interc, Impl.isUncPathAux]
  | cons t L' ih =>
    intro fuel n sh hf hn hg
    obtain ⟨f, rfl⟩ : ∃ f, fuel = f + 1 := ⟨fuel - 1, by omega⟩
    cases L' with
    | nil =>
      have hcl : Clean t := hg
      by_cases hte : t = []
      · subst hte; simp [interc, joinBs, Impl.isUncPathAux]
      · have := uncAux_step f t [] n sh hte hcl trivial
        simp only [List.append_nil] at this
        show Impl.isUncPathAux (f + 1) (t ++ joinBs []) n sh = sh
        have e : t ++ joinBs [] = t := by simp [joinBs]
        rw [e, this, uncBad_ge3 _ _ (by omega)]
        simp only [Bool.false_eq_true, if_false]
        rw [if_neg (by omega)]
    | cons t2 L'' =>
      obtain ⟨hcl, hte, hg'⟩ : Clean t ∧ t ≠ [] ∧ GoodTail (t2 :: L'') := hg
      show Impl.isUncPathAux (f + 1) (t ++ joinBs (t2 :: L'')) n sh = sh
      rw [joinBs_cons, uncAux_step f t (0x5C :: _) n sh hte hcl (by decide : notWinSlash 0x5C = false), uncBad_ge3 _ _ (by omega)]
      simp only [Bool.false_eq_true, if_false]
      rw [if_neg (by omega)]
      apply ih
      · have : (interc (t :: t2 :: L'')).length = t.length + 1 + (interc (t2 :: L'')).length := by
          show (t ++ joinBs (t2 :: L'')).length = _
          rw [joinBs_cons]; simp [interc]; omega
        omega
      · omega
      · exact hg'

theorem isUncPath_join (H w0 : List Nat) (W' : List (List Nat))
    (hH : H ≠ []) (hHc : Clean H) (hHb : uncBad 1 H = false)
    (hw : w0 ≠ []) (hwc : Clean w0) (hwb : uncBad 2 w0 = false) (hg : GoodTail W') :
    Impl.isUncPath (H ++ 0x5C :: (w0 ++ joinBs W')) = some (joinBs W') := by
  unfold Impl.isUncPath
  rw [uncAux_step _ H (0x5C :: _) 0 none hH hHc (by decide : notWinSlash 0x5C = false), hHb]
  simp only [Bool.false_eq_true, if_false, Nat.zero_add]
  rw [if_neg (by omega)]
  obtain ⟨f, hf⟩ : ∃ f, (H ++ 0x5C :: (w0 ++ joinBs W')).length = f + 1 := ⟨_, by simp; rfl⟩
  rw [hf, uncAux_step f w0 _ 1 none hw hwc (joinBs_rest W'), hwb]
  simp only [Bool.false_eq_true, if_false, if_true]
  cases W' with
  | nil => rfl
  | cons t L =>
    rw [joinBs_cons]
    simp only []
    have := uncAux_tail (t :: L) f 2 (some (0x5C :: (t ++ joinBs L))) ?_ (by omega) hg
    · exact this
    · have hl : (H ++ 0x5C :: (w0 ++ joinBs (t :: L))).length =
          H.length + 1 + w0.length + (1 + (interc (t :: L)).length) := by
        rw [joinBs_cons]; simp [interc]; omega
      have : 0 < H.length := List.length_pos_iff.2 hH
      omega

theorem goodTail_single (t : List Nat) (h : Clean t) : GoodTail [t] := h

theorem goodTail_winSegs (L : List (List Nat)) (h : GoodTail L) : GoodTail (winSegs L) := by
  induction L with
  | nil => exact True.intro
  | cons t rest ih =>
    cases rest with
    | nil =>
      simp only [winSegs]
      split
      · exact clean_nil
      · exact h
    | cons t2 r2 =>
      obtain ⟨hc, hne, hg⟩ : Clean t ∧ t ≠ [] ∧ GoodTail (t2 :: r2) := h
      rw [winSegs_cons2]
      split
      · exact ih hg
      · exact goodTail_cons _ _ hc hne (ih hg)

theorem goodTail_clean (L : List (List Nat)) (h : GoodTail L) : ∀ t ∈ L, Clean t := by
  induction L with
  | nil => intro t ht; simp at ht
  | cons a rest ih =>
    cases rest with
    | nil => intro t ht; simp at ht; subst ht; exact h
    | cons t2 r2 =>
      obtain ⟨hc, -, hg⟩ : Clean a ∧ a ≠ [] ∧ GoodTail (t2 :: r2) := h
      intro t ht
      rcases List.mem_cons.1 ht with rfl | ht
      · exact hc
      · exact ih hg t ht

theorem utf8Encode_append (a b : List Nat) :
    Spec.utf8Encode (a ++ b) = Spec.utf8Encode a ++ Spec.utf8Encode b := by
  simp [Spec.utf8Encode]

theorem utf8_joinBs (L : List (List Nat)) : Spec.utf8Encode (joinBs L) = joinBs (L.map Spec.utf8Encode) := by
  induction L with
  | nil => rfl
  | cons t L ih =>
    rw [joinBs_cons, List.map_cons, joinBs_cons, utf8Encode_ascii_cons _ (by omega), utf8Encode_append, ih]

theorem clean_utf8 (t : List Nat) (hc : Clean t) : Clean (Spec.utf8Encode t) := fun x hx => by
  rcases mem_utf8Encode t x hx with h | h
  · exact hc x h.1
  · refine ⟨?_, by omega⟩
    simp only [Impl.isWindowsSlash, Bool.or_eq_false_iff, beq_eq_false_iff_ne]; omega

/-- UTF-8 encoding is injective (`decode_encode`), so a string whose encoding is an ASCII word is that word -/
theorem utf8_eq_ascii (t a : List Nat) (hs : ∀ c ∈ t, Spec.isScalar c = true) (ha : ∀ c ∈ a, c < 0x80)
    (h : Spec.utf8Encode t = a) : t = a := by
  have h1 : Impl.decode .u8 (Spec.utf8Encode t) = t := Impl.decode_encode .u8 t hs
  have h2 : Impl.decode .u8 (Spec.utf8Encode a) = a :=
    Impl.decode_encode .u8 a (fun c hc => ascii_scalar c (ha c hc))
  rw [utf8Encode_ascii a ha] at h2
  rw [← h1, h, h2]

theorem utf8_eq_nil (t : List Nat) (h : Spec.utf8Encode t = []) : t = [] :=
  (C10b.encode_asciiHom .u8).eq_nil_iff.1 h

theorem uncBad2_utf8 (w : List Nat) (hs : ∀ c ∈ w, Spec.isScalar c = true)
    (h1 : w ≠ [0x2E]) (h2 : w ≠ dd) : uncBad 2 (Spec.utf8Encode w) = false :=
  (uncBad_two _).2 ⟨fun he => h1 (utf8_eq_ascii w _ hs (by decide) he),
    fun he => h2 (utf8_eq_ascii w _ hs (by decide) he)⟩

theorem goodTail_utf8 (L : List (List Nat)) (h : GoodTail L) : GoodTail (L.map Spec.utf8Encode) := by
  induction L with
  | nil => exact True.intro
  | cons t rest ih =>
    cases rest with
    | nil => exact clean_utf8 t h
    | cons t2 r2 =>
      obtain ⟨hc, hne, hg⟩ : Clean t ∧ t ≠ [] ∧ GoodTail (t2 :: r2) := h
      rw [List.map_cons]
      exact goodTail_cons _ _ (clean_utf8 t hc) (fun e => hne (utf8_eq_nil t e)) (ih hg)

theorem pathFromFileUrl_unc (u : Url) (hf : u.isFile = true) (H body : List Nat) (hh : u.hostText = H)
    (hne : H ≠ []) (hdot : H ≠ [0x2E]) (hb : winBody u = body)
    (hunc : (Impl.isUncPath (H ++ body)).isSome = true) (h0 : 0 ∉ H ++ body) :
    Impl.pathFromFileUrl u .windows = some (0x5C :: 0x5C :: (H ++ body)) := by
  have hany : ((0x5C :: 0x5C :: (H ++ body)).any (· == 0)) = false := by
    apply any_zero_false
    simp only [List.mem_cons, not_or]
    exact ⟨by omega, by omega, h0⟩
  rw [pathFromFileUrl_windows_eq u hf, hh, hb, if_pos hne,
    if_neg (fun hc => hc.elim hdot fun hn => by rw [Option.isNone_iff_eq_none.1 hn] at hunc; cases hunc)]
  simp only [hany, Bool.false_eq_true, if_false]

/-- the conditions on a host text that make it a UNC server name again -/
structure UncServerOk (H : List Nat) : Prop where
  ne : H ≠ []
  clean : Clean H
  notBad : uncBad 1 H = false
  ascii : ∀ c ∈ H, c < 0x80

theorem UncServerOk.notDot {H : List Nat} (h : UncServerOk H) : H ≠ [0x2E] := (uncBad_one h.notBad).2.1

/-- the segments kept for a UNC path: share name (non-empty, not "." / ".."), then a good tail -/
structure UncSegs (w0 : List Nat) (W' : List (List Nat)) : Prop where
  scalar0 : ∀ c ∈ w0, Spec.isScalar c = true
  scalar : ∀ t ∈ W', ∀ c ∈ t, Spec.isScalar c = true
  ne : w0 ≠ []
  clean : Clean w0
  notDot : w0 ≠ [0x2E]
  notDD : w0 ≠ dd
  tail : GoodTail W'

theorem clean_no2F {t : List Nat} (h : Clean t) : 0x2F ∉ t := by
  intro hm; have := (h _ hm).1; simp [Impl.isWindowsSlash] at this

/-- path_from_file_url on `file://H/w0/w1/…` -/
theorem unc_back (hst : Host) (w0 : List Nat) (W' : List (List Nat)) (hH : UncServerOk hst.text)
    (hW : UncSegs w0 W') :
    Impl.pathFromFileUrl { scheme := Impl.sFile, host := some hst, path := (w0 :: W').map encR } .windows =
      some (Spec.utf8Encode (0x5C :: 0x5C :: (hst.text ++ joinBs (w0 :: W')))) := by
  have hcl := goodTail_clean W' hW.tail
  have hWs : ∀ t ∈ w0 :: W', ∀ c ∈ t, Spec.isScalar c = true := by
    intro t ht
    rcases List.mem_cons.1 ht with rfl | ht
    · exact hW.scalar0
    · exact hW.scalar t ht
  have hWc : ∀ t ∈ w0 :: W', Clean t := by
    intro t ht
    rcases List.mem_cons.1 ht with rfl | ht
    · exact hW.clean
    · exact hcl t ht
  have hbody : winBody { scheme := Impl.sFile, host := some hst, path := (w0 :: W').map encR } =
      0x5C :: (Spec.utf8Encode w0 ++ joinBs (W'.map Spec.utf8Encode)) := by
    rw [winBody_segs _ (w0 :: W') rfl rfl (fun t ht c hc => ⟨hWs t ht c hc, fun e => clean_no2F (hWc t ht) (e ▸ hc)⟩),
      utf8_joinBs]
    rfl
  have hres : Spec.utf8Encode (0x5C :: 0x5C :: (hst.text ++ joinBs (w0 :: W'))) =
      0x5C :: 0x5C :: (hst.text ++ 0x5C :: (Spec.utf8Encode w0 ++ joinBs (W'.map Spec.utf8Encode))) := by
    rw [utf8Encode_ascii_cons _ (by omega), utf8Encode_ascii_cons _ (by omega), utf8Encode_append,
      utf8Encode_ascii _ hH.ascii, utf8_joinBs]
    rfl
  have hunc := isUncPath_join hst.text (Spec.utf8Encode w0) (W'.map Spec.utf8Encode) hH.ne hH.clean hH.notBad
    (fun e => hW.ne (utf8_eq_nil w0 e)) (clean_utf8 w0 hW.clean)
    (uncBad2_utf8 w0 hW.scalar0 hW.notDot hW.notDD) (goodTail_utf8 W' hW.tail)
  rw [hres]
  refine pathFromFileUrl_unc _ rfl hst.text _ rfl hH.ne hH.notDot hbody (by rw [hunc]; rfl) ?_
  intro hm
  rcases List.mem_append.1 hm with hm | hm
  · exact (hH.clean 0 hm).2 rfl
  · have hj := utf8_join_no_nul (w0 :: W') (fun t ht hm => (hWc t ht 0 hm).2 rfl)
    rw [utf8_joinBs] at hj
    exact hj hm

theorem winClassify_unc (H rest : List Nat) (hH : UncServerOk H) :
    winClassify (0x5C :: 0x5C :: (H ++ 0x5C :: rest)) = (H ++ 0x5C :: rest, true) := by
  have e : Impl.isWindowsSlash 0x5C = true := by decide
  cases hHH : H with
  | nil => exact absurd hHH hH.ne
  | cons x H' =>
    cases H' with
    | nil =>
      have hb := hH.notBad
      rw [hHH] at hb
      have hb' : (x == 0x3F || x == 0x2E) = false := by simpa [uncBad] using hb
      unfold winClassify
      simp [e, hb']
    | cons y H'' =>
      have hy : Impl.isWindowsSlash y = false := (hH.clean y (by rw [hHH]; simp)).1
      unfold winClassify
      simp [e, hy]

theorem uncRest_joinBs (W' : List (List Nat)) (hc : ∀ t ∈ W', Clean t) : uncRest (joinBs W') = W' := by
  cases W' with
  | nil => rfl
  | cons t L =>
    have := split_joinBs (t :: L) fun t ht c hc' => (hc t ht c hc').1
    rw [joinBs_cons, splitOnP_cons_sep _ _ _ (by decide)] at this
    rw [joinBs_cons]
    simpa [uncRest] using this

theorem dd_not_split_joinBs (W' : List (List Nat)) (hcl : ∀ t ∈ W', Clean t) (hdd : dd ∉ W') :
    dd ∉ splitOnP Impl.isWindowsSlash (joinBs W') := by
  rw [split_joinBs W' fun t ht c hc' => (hcl t ht c hc').1]
  intro hm
  rcases List.mem_cons.1 hm with h | h
  · simp [dd] at h
  · exact hdd h

theorem accept_unc (idna : Idna) (H w0 : List Nat) (W' : List (List Nat)) (hH : UncServerOk H)
    (hW : UncSegs w0 W') (hdd : dd ∉ W') :
    Impl.urlFromFilePath idna (0x5C :: 0x5C :: (H ++ joinBs (w0 :: W'))) .windows =
      Impl.rejectDotHost ((Impl.parseHost idna (encR H) false).map
        (fun h => Impl.parsePath (uncUrl h) (encR (w0 ++ joinBs W')))) := by
  have hcl := goodTail_clean W' hW.tail
  have hHb := hH.notBad
  have hwb : uncBad 2 w0 = false := (uncBad_two w0).2 ⟨hW.notDot, hW.notDD⟩
  have hj0 : 0 ∉ joinBs W' := fun hx =>
    join_all (P := fun x => x ≠ 0) _ (by omega) W' (fun t ht x hxt => (hcl t ht x hxt).2) 0 hx rfl
  have hjdd := dd_not_split_joinBs W' hcl hdd
  rw [joinBs_cons, urlFromFilePath_windows, if_neg (by simp), winClassify_unc H _ hH]
  simp only [if_true, List.append_nil]
  rw [isUncPath_join H w0 W' hH.ne hH.clean hHb hW.ne hW.clean hwb hW.tail]
  simp only []
  rw [if_neg (by simp [hjdd, hj0]),
    unc_forward idna H 0x5C _ hH.ne (fun c hc => (hH.clean c hc).1) (uncBad_drive hH.notBad) (by decide)]

theorem fixShare_idem (share : List Nat) : fixShare (fixShare share) = fixShare share := by
  rcases fixShare_cases share with ⟨-, h⟩ | ⟨a, b, -, hd, h⟩
  · rw [h]; exact h
  · rw [h]
    have : Impl.isWindowsDrive a 0x3A = true :=
      (isWindowsDrive_iff a 0x3A).2 ⟨((isWindowsDrive_iff a b).1 hd).1, Or.inl rfl⟩
    simp [fixShare, this]

theorem uncSegs_of (share r : List Nat) (hs : ∀ c ∈ share ++ r, Spec.isScalar c = true)
    (hne : share ≠ []) (hc : Clean share) (h1 : share ≠ [0x2E]) (h2 : share ≠ dd)
    (hg : GoodTail (uncRest r)) :
    UncSegs (fixShare share) (winSegs (uncRest r)) := by
  have hss : ∀ c ∈ share, Spec.isScalar c = true := fun c h => hs c (List.mem_append_left _ h)
  have hW' : ∀ t ∈ winSegs (uncRest r), ∀ c ∈ t, Spec.isScalar c = true := by
    intro t ht c hc'
    rcases winSegs_mem _ t ht with e | ⟨hm, -⟩
    · subst e; simp at hc'
    · apply hs; apply List.mem_append_right
      cases r with
      | nil => simp [uncRest] at hm
      | cons x r' =>
        simp only [uncRest] at hm
        exact List.mem_cons_of_mem _ (splitOnP_mem _ _ t hm c hc').1
  rcases fixShare_cases share with ⟨-, h⟩ | ⟨a, b, hsh, hd, h⟩
  · rw [h]
    exact ⟨hss, hW', hne, hc, h1, h2, goodTail_winSegs _ hg⟩
  · rw [h]
    obtain ⟨ha, -⟩ := (isWindowsDrive_iff a b).1 hd
    obtain ⟨ha1, -, ha3, ha0, ha2, -⟩ := alpha_facts a ha
    refine ⟨?_, hW', by simp, ?_, by simp, ?_, goodTail_winSegs _ hg⟩
    · intro c hc'
      simp only [List.mem_cons, List.not_mem_nil, or_false] at hc'
      rcases hc' with rfl | rfl
      · exact ascii_scalar _ ha1
      · decide
    · intro c hc'
      simp only [List.mem_cons, List.not_mem_nil, or_false] at hc'
      rcases hc' with rfl | rfl
      · exact ⟨ha3, ha0⟩
      · exact ⟨by decide, by omega⟩
    · intro e
      simp only [dd, List.cons.injEq] at e
      omega

theorem dd_not_uncRest (r : List Nat) (hr : C02.StopsAt notWinSlash r)
    (hdd : dd ∉ splitOnP Impl.isWindowsSlash r) : dd ∉ uncRest r := by
  rcases stopsAt_sep hr with rfl | ⟨x, r', rfl, hx⟩
  · simp [uncRest]
  · rw [splitOnP_cons_sep _ _ _ hx] at hdd
    exact fun h => hdd (List.mem_cons_of_mem _ h)

theorem split_pointer (host : List Nat) (sl : Nat) (share r : List Nat) (hh : Clean host) (hc : Clean share)
    (hsl : Impl.isWindowsSlash sl = true)
    (hr : C02.StopsAt notWinSlash r) :
    splitOnP Impl.isWindowsSlash (host ++ sl :: (share ++ r)) = host :: share :: uncRest r := by
  rw [splitOnP_append_nosep _ _ _ (fun c h => (hh c h).1), splitOnP_cons_sep _ _ _ hsl,
    split_share share r (fun c h => (hc c h).1) hr]
  simp

/-- the explicit normal form of a UNC path from its parsed server and its segments -/
def uncNorm (H share : List Nat) (rest : List (List Nat)) : List Nat :=
  0x5C :: 0x5C :: (H ++ joinBs (fixShare share :: winSegs rest))

/-- what acceptance of a UNC path gives: the components of the pointer (`host :: share :: rest`), the parsed
    server `hst` (never "."), the kept segments as `UncSegs`, and the way back to the normal form `uncNorm` once
    the server is not `localhost` and its text is a UNC server name again (`UncServerOk`, from `uncServerOk_of_parse`) -/
theorem roundtrip_unc_core (idna : Idna) (s : List Nat) (u : Url)
    (hs : ∀ c ∈ s, Spec.isScalar c = true)
    (h : Impl.urlFromFilePath idna s .windows = some u) (hcl : (winClassify s).2 = true) :
    ∃ host share rest hst,
      splitOnP Impl.isWindowsSlash (winClassify s).1 = host :: share :: rest ∧ host ≠ [] ∧
      Impl.parseHost idna (encR host) false = some hst ∧
      UncSegs (fixShare share) (winSegs rest) ∧ dd ∉ winSegs rest ∧ hst.text ≠ [0x2E] ∧
      (hst.text ≠ Impl.sLocalhost → UncServerOk hst.text →
        Impl.pathFromFileUrl u .windows = some (Spec.utf8Encode (uncNorm hst.text share rest))) := by
  obtain ⟨host, sl, share, r, hst, hP, -, hdd, hph, hu, hnd⟩ := from_path_unc idna s u h hcl
  have hps : ∀ c ∈ share ++ r, Spec.isScalar c = true := by
    intro c hc
    apply hs; apply pointer_sub s; rw [hP.eq]
    exact List.mem_append_right _ (List.mem_cons_of_mem _ hc)
  have hW := uncSegs_of share r hps hP.shareNe hP.shareClean hP.notDot hP.notDD hP.tail
  have hddr := dd_not_uncRest r hP.rest hdd
  refine ⟨host, share, uncRest r, hst, ?_, hP.hostNe, hph, hW, dd_not_winSegs _ hddr, hnd, ?_⟩
  · rw [hP.eq]; exact split_pointer host sl share r hP.hostClean hP.shareClean hP.slash hP.rest
  · intro hloc hH
    rw [hu, uncUrl_plain hst hloc,
      parsePath_segs _ rfl rfl rfl _ share _
        (split_share share r (fun c hc => (hP.shareClean c hc).1) hP.rest) hP.notDot
        (by simp only [List.mem_cons, not_or]; exact ⟨fun e => hP.notDD e.symm, hddr⟩)]
    exact unc_back hst _ _ hH hW

theorem fixed_unc_core (idna : Idna) (hst : Host) (w0 : List Nat) (W' : List (List Nat))
    (hH : UncServerOk hst.text) (hW : UncSegs w0 W') (hdd : dd ∉ W')
    (hloc : hst.text ≠ Impl.sLocalhost) (hfs : fixShare w0 = w0) (hws : winSegs W' = W')
    (hph : Impl.parseHost idna (encR hst.text) false = some hst) :
    rtWin idna (0x5C :: 0x5C :: (hst.text ++ joinBs (w0 :: W'))) =
      some (Spec.utf8Encode (0x5C :: 0x5C :: (hst.text ++ joinBs (w0 :: W')))) := by
  have hcl := goodTail_clean W' hW.tail
  unfold rtWin
  rw [accept_unc idna hst.text w0 W' hH hW hdd, hph]
  simp only [Option.map_some]
  rw [rejectDotHost_of_ne (by rw [uncUrl_hostText hst hloc]; exact hH.notDot)]
  simp only [Option.bind_some]
  rw [uncUrl_plain hst hloc,
    parsePath_segs _ rfl rfl rfl (w0 ++ joinBs W') w0 W'
      (splitOnP_join Impl.isWindowsSlash 0x5C (by decide) W' w0 (fun c hc => (hW.clean c hc).1)
        (fun t ht c hc => (hcl t ht c hc).1)) hW.notDot
      (by simp only [List.mem_cons, not_or]; exact ⟨fun e => hW.notDD e.symm, hdd⟩),
    hfs, hws]
  exact unc_back hst w0 W' hH hW

/-- a parsed host text is a UNC server name again: its characters pass `hostCharOk` (`C02.hostCharOk_facts`: no slash,
    NUL or `?`), it is no drive letter (`C02b.HostChars.not_drive`), and the host parser maps it to the same host
    (`hostN_of_parse`, `C02.parseHost_stable`) -/
theorem uncServerOk_of_parse (idna : Idna) (hi : C02b.IdnaStable idna) (s : List Nat) (h : Host)
    (hne : s ≠ []) (hh : Impl.parseHost idna s false = some h) (hdot : h.text ≠ [0x2E]) :
    UncServerOk h.text ∧ Impl.parseHost idna h.text false = some h := by
  obtain ⟨⟨-, hst⟩, hch, hne'⟩ := C02b.hostN_of_parse (sp := true) hi hh
  refine ⟨?_, C02.parseHost_stable idna true h hst fun _ => hne' hne⟩
  have hnd := hch.not_drive
  have hf := fun c hcm => C02.hostCharOk_facts (hch.1 c hcm).1
  refine ⟨hne' hne, fun c hcm => ?_, ?_, fun c hcm => by have := hf c hcm; omega⟩
  · obtain ⟨h0, -, h1, -, -, -, h2⟩ := hf c hcm
    exact ⟨by simp [Impl.isWindowsSlash, h1, h2 rfl], by omega⟩
  unfold uncBad
  rw [if_pos rfl]
  split
  · rename_i a he
    have h1 := (hf a (by rw [he]; simp)).2.2.2.1
    have h2 : a ≠ 0x2E := fun e => hdot (by rw [he, e])
    simp [h1, h2]
  · rename_i a b he
    rw [he] at hnd
    exact hnd
  · rfl

theorem uncNorm_scalar (H share : List Nat) (rest : List (List Nat)) (hH : UncServerOk H)
    (hW : UncSegs (fixShare share) (winSegs rest)) : ∀ x ∈ uncNorm H share rest, Spec.isScalar x = true := by
  intro x hx
  simp only [uncNorm, List.mem_cons, List.mem_append] at hx
  rcases hx with rfl | rfl | hx | hx
  · decide
  · decide
  · exact ascii_scalar x (hH.ascii x hx)
  · obtain ⟨t, ht, hxt⟩ := List.mem_flatMap.1 hx
    rcases List.mem_cons.1 hxt with rfl | hxt
    · decide
    · rcases List.mem_cons.1 ht with rfl | ht
      · exact hW.scalar0 x hxt
      · exact hW.scalar t ht x hxt

theorem split_uncNorm (H w0 : List Nat) (W' : List (List Nat)) (hH : UncServerOk H) (hW : UncSegs w0 W') :
    winClassify (0x5C :: 0x5C :: (H ++ joinBs (w0 :: W'))) = (H ++ 0x5C :: (w0 ++ joinBs W'), true) ∧
    splitOnP Impl.isWindowsSlash (H ++ 0x5C :: (w0 ++ joinBs W')) = H :: w0 :: W' := by
  have hcl := goodTail_clean W' hW.tail
  refine ⟨winClassify_unc H _ hH, ?_⟩
  have hrs := joinBs_rest W'
  rw [split_pointer H 0x5C w0 (joinBs W') hH.clean hW.clean (by decide) hrs, uncRest_joinBs W' hcl]

end Upa.Proofs.C17
