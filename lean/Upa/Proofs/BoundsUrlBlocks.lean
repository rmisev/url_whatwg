import Upa.Proofs.BoundsUrl
import Upa.Proofs.BoundsTrim
import Upa.Proofs.ParserRules
/-
  Every `if (state == X)` block of url_parse keeps the invariant `UInv` (`first ≤ pointer ≤ last`;
  `pointer < last` on entry to scheme_state; `base != nullptr` on entry to the blocks that dereference it) and
  runs without `.oob` / `.badptr` / `.hang` / `.abort`; so does the chain `urlParseB`, and url_parse with its
  whitespace removal (`urlParseWsB`).  From path_start_state on the blocks get the stronger postcondition
  `TPost` (they return `ok` or fall through to a later state; fragment_state, the last, to itself); authority_state, port_state and the host scan have
  their full specification in terms of the units (`bAuthority_spec`, `bPort_spec`, `hostLoopU`): the agreement with
  the list model (`BoundsUrlVerdict*`) starts from those; the equations of `stripLeadingZeros` and of
  `hostScan` they use are those of `Proofs/ParserRules`, that of `decimalValue` is `Radix.decimalValue_snoc`.
-/
namespace Upa.Impl.B
open UP

def UInv (first last : Nat) (base : Option BaseInfo) (m : M) : Prop :=
  first ≤ m.pointer ∧ m.pointer ≤ last ∧ (m.state = .scheme → m.pointer < last) ∧
  (m.state.needsBase = true → base.isSome = true)

def UPost (first last : Nat) (base : Option BaseInfo) (r : M ⊕ Bool) : Prop :=
  match r with
  | .inl m' => UInv first last base m'
  | .inr _ => True

section leaves
variable {first last : Nat} {base : Option BaseInfo} {st : St} {p : Nat} {sp fl : Bool}

theorem sat_goto (hs : st ≠ .scheme := by decide) (hb : st.needsBase = false := by rfl)
    (h1 : first ≤ p := by omega) (h2 : p ≤ last := by omega) :
    (pure (.inl ⟨st, p, sp, fl⟩) : R (M ⊕ Bool)).sat (UPost first last base) :=
  R.sat_pure ⟨h1, h2, fun h => absurd h hs, fun h => by rw [hb] at h; cases h⟩

theorem sat_goto_base (hbase : base.isSome = true) (hs : st ≠ .scheme := by decide)
    (h1 : first ≤ p := by omega) (h2 : p ≤ last := by omega) :
    (pure (.inl ⟨st, p, sp, fl⟩) : R (M ⊕ Bool)).sat (UPost first last base) :=
  R.sat_pure ⟨h1, h2, fun h => absurd h hs, fun _ => hbase⟩

theorem sat_ret {v : Bool} : (pure (.inr v) : R (M ⊕ Bool)).sat (UPost first last base) :=
  R.sat_pure trivial

end leaves

/-- the scan for the first non-'0' within `[p, eod - 1)` is `stripLeadingZeros` -/
theorem strip_slice (a : Array Nat) (eod : Nat) (he : eod ≤ a.size) :
    ∀ k p p', p + k = p' → p' < eod → (∀ i, p ≤ i → i < p' → a[i]! = 0x30) → (p' + 1 = eod ∨ a[p']! ≠ 0x30) →
      stripLeadingZeros (slice a p eod) = slice a p' eod := by
  intro k
  induction k with
  | zero =>
    intro p p' h1 h2 _ h4
    have : p = p' := by omega
    subst this
    rw [slice_cons a p eod h2 he]
    exact Upa.Proofs.C08.stripLeadingZeros_id _ _ (h4.symm.imp_right fun h => slice_nil a (p + 1) eod (by omega))
  | succ k ih =>
    intro p p' h1 h2 h3 h4
    rw [slice_cons a p eod (by omega) he, slice_cons a (p + 1) eod (by omega) he, h3 p (Nat.le_refl _) (by omega),
      Upa.Proofs.C08.strip_zero_cons_cons, ← slice_cons a (p + 1) eod (by omega) he]
    exact ih (p + 1) p' (by omega) h2 (fun i hi1 hi2 => h3 i (by omega) hi2) h4

/-- the loop body of `bHost`, word for word: `hostLoopU` is applied to the model's lambda by definitional unfolding,
    so the two texts have to stay identical (the same holds for the lambda in the statement of `schemeCopy_sat`) -/
def hostStep (a : Array Nat) (first last eoa : Nat) (s : Nat × Bool) : R ((Nat × Bool) ⊕ (Nat × Bool)) :=
  if s.1 < eoa then do
    let ch ← rd a first last s.1
    if ch = 0x3A ∧ s.2 = false then pure (.inr (s.1, true))
    else do
      let inBr := if ch = 0x3A then s.2 else if ch = 0x5B then true else if ch = 0x5D then false else s.2
      let it' ← mkptr first last (s.1 + 1)
      pure (.inl (it', inBr))
  else pure (.inr (s.1, false))

/-- host_state's scan for the port colon is `hostScan` on the units `[it, eoa)`.  `hostScan` recurses from the head,
    so the statement is about the scan FROM `it` for every `it` and bracket flag, by induction on the fuel (an
    invariant over the scanned prefix, as `iter_sat` wants it, would need `hostScan` on an append). -/
theorem hostLoopU (a : Array Nat) (first last eoa : Nat) (hl : last ≤ a.size) (he : eoa ≤ last) :
    ∀ fuel it inBr, first ≤ it → it ≤ eoa → eoa - it < fuel →
      (iter (hostStep a first last eoa) fuel (it, inBr)).sat (fun r =>
        it ≤ r.1 ∧ r.1 ≤ eoa ∧ (r.2 = true → r.1 < eoa) ∧
        hostScan (slice a it eoa) inBr = (slice a it r.1, if r.2 then some (slice a (r.1 + 1) eoa) else none)) := by
  intro fuel
  induction fuel with
  | zero => intro it inBr _ _ hf; omega
  | succ fuel ih =>
    intro it inBr h0 h2 hf
    by_cases hlt : it < eoa
    · have hrd : rd a first last it = .ok a[it]! := rd_ok (by omega) (by omega) hl
      have hmk : mkptr first last (it + 1) = .ok (it + 1) := mkptr_ok (by omega) (by omega)
      rw [slice_cons a it eoa hlt (by omega)]
      by_cases hcol : a[it]! = 0x3A ∧ inBr = false
      · have hst : hostStep a first last eoa (it, inBr) = .ok (.inr (it, true)) := by
          simp only [hostStep, if_pos hlt, hrd, R.ok_bind, if_pos hcol]; rfl
        simp only [iter, hst]
        refine R.sat_pure ⟨Nat.le_refl _, by omega, fun _ => hlt, ?_⟩
        rw [hcol.1, hcol.2, Upa.Proofs.C08.hostScan_colon, slice_nil a it it (Nat.le_refl _)]
        rfl
      · have hst : hostStep a first last eoa (it, inBr) = .ok (.inl (it + 1,
            if a[it]! = 0x3A then inBr else if a[it]! = 0x5B then true else if a[it]! = 0x5D then false else inBr)) := by
          simp only [hostStep, if_pos hlt, hrd, R.ok_bind, if_neg hcol, hmk]; rfl
        simp only [iter, hst]
        refine R.sat_mono (ih (it + 1) _ (by omega) (by omega) (by omega)) ?_
        intro r ⟨r1, r2, r3, r5⟩
        refine ⟨by omega, r2, r3, ?_⟩
        rw [Upa.Proofs.C08.hostScan_cons_go _ _ _ hcol, r5, slice_cons a it r.1 (by omega) (by omega)]
    · have hie : it = eoa := by omega
      subst hie
      have hst : hostStep a first last it (it, inBr) = .ok (.inr (it, false)) := by
        simp only [hostStep, if_neg hlt]; rfl
      simp only [iter, hst]
      refine R.sat_pure ⟨Nat.le_refl _, Nat.le_refl _, nofun, ?_⟩
      rw [slice_nil a it it (Nat.le_refl _)]
      rfl

/-- the copy loop of scheme_state: `str_scheme` = the units `[p, eos)` lower-cased -/
theorem schemeCopy_sat (a : Array Nat) (first last fuel p eos : Nat) (hl : last ≤ a.size)
    (h1 : first ≤ p) (h2 : p ≤ eos) (h3 : eos ≤ last) (hf : last - first < fuel) :
    (iter (fun (s : Nat × List Nat) =>
        if s.1 = eos then pure (.inr s.2) else do
        let c ← rd a first last s.1
        let it' ← mkptr first last (s.1 + 1)
        pure (.inl (it', s.2 ++ [c ||| 0x20]))) fuel (p, [])).sat
      (fun r => r = (slice a p eos).map (· ||| 0x20)) := by
  refine scan_sat _ (·.1) p eos (fun s => s.2 = (slice a p s.1).map (· ||| 0x20)) _ ?_ _ _ (Nat.le_refl _) h2
    (by rw [slice_nil a p p (Nat.le_refl _)]; rfl) (by show eos - p < fuel; omega)
  intro ⟨it, acc⟩ i1 i2 i3
  dsimp only at i1 i2 i3 ⊢
  refine R.sat_if (fun h => R.sat_pure (by rw [← h]; exact i3)) (fun h => ?_)
  refine R.sat_read hl (R.sat_ptr (R.sat_pure ⟨Nat.lt_succ_self _, by show it + 1 ≤ eos; omega, ?_⟩))
  rw [slice_succ a p it i1 (by omega), List.map_append, i3]
  rfl

section blocks
variable {a : Array Nat} {first last : Nat} {base : Option BaseInfo} (hl : last ≤ a.size)
include hl

theorem bSchemeStart_blk (ov : Option Override) (m : M) (hI : UInv first last base m) :
    (bSchemeStart a first last ov m).sat (UPost first last base) := by
  obtain ⟨h1, h2, -, -⟩ := hI
  refine R.sat_bind (P := fun b => b = true → m.pointer < last)
    (R.sat_if (fun hne => ?_) (fun _ => R.sat_pure nofun)) fun b hb => ?_
  · exact R.sat_read hl (R.sat_pure fun _ => by omega)
  · refine R.sat_if (fun hb' => ?_) (fun _ => R.sat_if' sat_goto sat_ret)
    exact R.sat_pure ⟨h1, h2, fun _ => hb hb', nofun⟩

theorem bScheme_blk (ov : Option Override) (ui : UrlInfo)
    (fuel : Nat) (hf : last - first < fuel) (m : M) (hI : UInv first last base m)
    (hs : m.state = .scheme) :
    (bScheme a first last ov base ui fuel m).sat (UPost first last base) := by
  obtain ⟨h1, h2, h3, -⟩ := hI
  have h3 := h3 hs
  refine R.sat_ptr (R.sat_range ?_)
  refine R.sat_bind (findIf_sat a first last _ hl _ (m.pointer + 1) (by omega) (by omega)) fun eos heos => ?_
  refine R.sat_bind (P := fun b => b = true → ov.isSome = false → eos < last)
    (R.sat_if (fun hne => ?_) (fun _ => R.sat_pure ?_)) fun isScheme hsch => ?_
  · exact R.sat_read hl (R.sat_pure fun _ _ => by omega)
  · intro hh hn; rw [hn] at hh; cases hh
  refine R.sat_if (fun hsc => ?_) (fun _ => R.sat_if' sat_goto sat_ret)
  refine R.sat_bind (schemeCopy_sat a first last fuel m.pointer eos hl h1 (by omega) (by omega) hf) fun scheme _ => ?_
  refine R.sat_if (fun _ => ?_) (fun hov => ?_)
  · exact R.sat_if' sat_ret <| R.sat_if' sat_ret <|
      R.sat_if' sat_ret <| sat_ret
  have hlt : eos < last := hsch hsc (by simpa using hov)
  refine R.sat_ptr ?_
  refine R.sat_if' sat_goto <| R.sat_if' ?_ <| ?_
  · cases base with
    | none => exact sat_goto
    | some b =>
      exact R.sat_if' (sat_goto_base rfl) sat_goto
  · exact peekIsB_if (by omega) hl (fun _ _ => R.sat_ptr sat_goto) (fun _ => sat_goto)

theorem bNoScheme_blk (m : M) (hI : UInv first last base m) :
    (bNoScheme a first last base m).sat (UPost first last base) := by
  obtain ⟨h1, h2, -, -⟩ := hI
  cases base with
  | none => exact sat_ret
  | some b =>
    refine R.sat_if' ?_ ?_
    · exact peekIsB_if h1 hl (fun _ _ => R.sat_ptr sat_goto) (fun _ => sat_ret)
    · cases b.file
      · exact sat_goto_base rfl
      · exact sat_goto

theorem bSpecialRelativeOrAuthority_blk (m : M) (hI : UInv first last base m) (hs : m.state = .specialRelativeOrAuthority) :
    (bSpecialRelativeOrAuthority a first last m).sat (UPost first last base) := by
  obtain ⟨h1, h2, -, h4⟩ := hI
  have hb : base.isSome = true := h4 (by rw [hs]; rfl)
  exact twoSlashesB_if h1 hl (fun _ _ _ => R.sat_ptr sat_goto) (fun _ => sat_goto_base hb)

theorem bPathOrAuthority_blk (m : M) (hI : UInv first last base m) :
    (bPathOrAuthority a first last m).sat (UPost first last base) := by
  obtain ⟨h1, h2, -, -⟩ := hI
  exact peekIsB_if h1 hl (fun _ _ => R.sat_ptr sat_goto) (fun _ => sat_goto)

theorem bRelative_blk (m : M) (hI : UInv first last base m) (hs : m.state = .relative) :
    (bRelative a first last base m).sat (UPost first last base) := by
  obtain ⟨h1, h2, -, h4⟩ := hI
  have hb : base.isSome = true := h4 (by rw [hs]; rfl)
  cases base with
  | none => cases hb
  | some b =>
    unfold bRelative
    dsimp only
    refine R.sat_if (fun _ => sat_ret) (fun hne => ?_)
    refine R.sat_read hl (R.sat_ptr ?_)
    refine R.sat_if' (sat_goto_base rfl) <|
      R.sat_if' sat_goto <|
      R.sat_if' sat_goto <|
      R.sat_if' (sat_goto_base rfl) <| ?_
    exact R.sat_ptrSub (sat_goto)

theorem bRelativeSlash_blk (m : M) (hI : UInv first last base m) (hs : m.state = .relativeSlash) :
    (bRelativeSlash a first last base m).sat (UPost first last base) := by
  obtain ⟨h1, h2, -, h4⟩ := hI
  have hb : base.isSome = true := h4 (by rw [hs]; rfl)
  refine R.sat_bind (peekOr0B_sat a first last m.pointer h1 h2 hl) fun c hc => ?_
  refine R.sat_if (fun h => ?_) fun _ => R.sat_if (fun h => ?_) fun _ => ?_
  · have := hc (by omega)
    refine R.sat_ptr ?_
    cases m.special <;> exact sat_goto
  · have := hc (by omega)
    exact R.sat_ptr (sat_goto)
  · cases base with
    | none => cases hb
    | some b => exact sat_goto

theorem bSpecialAuthoritySlashes_blk (m : M) (hI : UInv first last base m) :
    (bSpecialAuthoritySlashes a first last m).sat (UPost first last base) := by
  obtain ⟨h1, h2, -, -⟩ := hI
  exact twoSlashesB_if h1 hl (fun _ _ _ => R.sat_ptr sat_goto) (fun _ => sat_goto)

theorem bSpecialAuthorityIgnoreSlashes_blk (fuel : Nat) (hf : last - first < fuel) (m : M) (hI : UInv first last base m) :
    (bSpecialAuthorityIgnoreSlashes a first last fuel m).sat (UPost first last base) := by
  obtain ⟨h1, h2, -, -⟩ := hI
  refine R.sat_bind (scan_sat _ (fun it => it) first last (fun _ => True) (fun it => first ≤ it ∧ it ≤ last) ?_ _ _
    h1 h2 trivial (by show last - m.pointer < fuel; omega)) fun it hit => sat_goto
  intro it i1 i2 _
  refine R.sat_if (fun hlt => ?_) (fun _ => R.sat_pure ⟨i1, i2⟩)
  refine R.sat_read hl (R.sat_if' ?_ (R.sat_pure ⟨i1, i2⟩))
  exact R.sat_ptr (R.sat_pure ⟨by omega, by omega, trivial⟩)

theorem endOfAuthorityB_spec (pointer : Nat) (special : Bool) (h1 : first ≤ pointer)
    (h2 : pointer ≤ last) :
    (endOfAuthorityB a first last pointer special).sat (FirstAt a (Proofs.C08.authEnd special) pointer last) := by
  exact R.sat_range (findIf_toLast a first last (Proofs.C08.authEnd special) hl pointer h1 h2)

/-- where authority_state goes, given the end of the authority `eoa` and the last `@` before it (`eoa`: none) -/
def authorityNext (m : M) (eoa itEta : Nat) : M ⊕ Bool :=
  if itEta ≠ eoa then
    if eoa - itEta = 1 then .inr false else .inl { m with state := .host, pointer := itEta + 1 }
  else .inl { m with state := .host }

/-- authority_state in terms of the units.  (The credentials between `pointer` and the `@` are only
    percent-encoded into the serializer: no value is read back.) -/
theorem bAuthority_spec (e : Enc) (ui : UrlInfo) (m : M)
    (h1 : first ≤ m.pointer) (h2 : m.pointer ≤ last) :
    (bAuthority e a first last ui m).sat (fun r => ∃ eoa itEta,
      FirstAt a (Proofs.C08.authEnd m.special) m.pointer last eoa ∧ LastAt a 0x40 m.pointer eoa itEta ∧
      r = authorityNext m eoa itEta) := by
  refine R.sat_bind (endOfAuthorityB_spec hl m.pointer m.special h1 h2) fun eoa heoa => ?_
  obtain ⟨e1, e2, -, -⟩ := id heoa
  refine R.sat_range ?_
  refine R.sat_bind (findLastB_spec a m.pointer eoa 0x40 e1 (by omega)) fun itEta hEta => ?_
  refine R.sat_mono (P := fun r => r = authorityNext m eoa itEta) ?_ fun r hr => ⟨eoa, itEta, heoa, hEta, hr⟩
  have hb : itEta = eoa ∨ (m.pointer ≤ itEta ∧ itEta < eoa) := hEta.imp (·.1) fun h => ⟨h.1, h.2.1⟩
  refine R.sat_if (fun hne => ?_) (fun hne => R.sat_pure (if_neg hne).symm)
  refine R.sat_if (fun h1' => R.sat_pure (by rw [authorityNext, if_pos hne, if_pos h1'])) (fun h1' => ?_)
  have fin : (do let p ← mkptr first last (itEta + 1)
                 pure (.inl ⟨.host, p, m.special, m.file⟩) : R (M ⊕ Bool)).sat (fun r => r = authorityNext m eoa itEta) :=
    R.sat_ptr (R.sat_pure (by rw [authorityNext, if_pos hne, if_neg h1']))
  dsimp only
  refine R.sat_if' ?_ fin
  refine R.sat_range ?_
  refine R.sat_bind (findChOr_sat a first last 0x3A m.pointer itEta h1 (by omega) (by omega) hl) fun itColon hcol => ?_
  refine R.sat_if' ?_ fin
  refine R.sat_range ?_
  refine R.sat_bind (appendUtf8PctB_sat e a m.pointer itColon hcol.1 (by omega)) fun _ _ => ?_
  refine R.sat_if (fun hpw => ?_) (fun _ => fin)
  have hpw' : itEta - itColon > 1 := by simpa using hpw
  refine R.sat_ptr (R.sat_range ?_)
  exact R.sat_bind (appendUtf8PctB_sat e a (itColon + 1) itEta (by omega) (by omega)) fun _ _ => fin

theorem bAuthority_blk (e : Enc) (ui : UrlInfo) (m : M) (hI : UInv first last base m) :
    (bAuthority e a first last ui m).sat (UPost first last base) := by
  obtain ⟨h1, h2, -, -⟩ := hI
  refine R.sat_mono (bAuthority_spec hl e ui m h1 h2) ?_
  rintro r ⟨eoa, itEta, ⟨e1, e2, -, -⟩, hEta, rfl⟩
  have hb : itEta = eoa ∨ (m.pointer ≤ itEta ∧ itEta < eoa) := hEta.imp (·.1) fun h => ⟨h.1, h.2.1⟩
  unfold authorityNext
  split
  · split
    · trivial
    · exact ⟨by show first ≤ itEta + 1; omega, by show itEta + 1 ≤ last; omega, nofun, nofun⟩
  · exact ⟨h1, h2, nofun, nofun⟩

theorem bHost_blk (ov : Option Override) (ui : UrlInfo)
    (orc : Oracles) (fuel : Nat) (hf : last - first < fuel) (m : M)
    (hI : UInv first last base m) :
    (bHost a first last ov ui orc fuel m).sat (UPost first last base) := by
  obtain ⟨h1, h2, -, -⟩ := hI
  refine R.sat_if' sat_goto ?_
  refine R.sat_bind (endOfAuthorityB_spec hl m.pointer m.special h1 h2) fun eoa ⟨e1, e2, _, _⟩ => ?_
  refine R.sat_bind (hostLoopU a first last eoa hl e2 fuel m.pointer false h1 e1 (by omega)) ?_
  intro ⟨itHostEnd, isPort⟩ ⟨r1, r2, r3, _⟩
  dsimp only at r1 r2 r3 ⊢
  refine R.sat_if' sat_ret <| R.sat_if' sat_ret <| R.sat_if' sat_ret <| R.sat_range ?_
  refine R.sat_if' sat_ret <| R.sat_if (fun hp => ?_) fun _ => R.sat_if' sat_ret <| sat_goto
  have := r3 hp
  exact R.sat_ptr sat_goto

/-- port_out_of_range, as a function of the digits -/
def portBad (dg : List Nat) : Bool :=
  decide (dg ≠ []) &&
    (decide ((stripLeadingZeros dg).length > 5) || decide (decimalValue (stripLeadingZeros dg) > 0xFFFF))

/-- where port_state goes, given the end of the digits, the `isEnd` test and the range test -/
def portNext (ov : Option Override) (m : M) (eod : Nat) (isEnd bad : Bool) : M ⊕ Bool :=
  if isEnd = true ∨ ov.isSome then
    if bad then .inr false else if ov.isSome then .inr true else .inl { m with state := .pathStart, pointer := eod }
  else .inr false

theorem bPort_spec (ov : Option Override) (ui : UrlInfo) (orc : Oracles) (fuel : Nat) (hf : last - first < fuel) (m : M)
    (h1 : first ≤ m.pointer) (h2 : m.pointer ≤ last) :
    (bPort a first last ov ui orc fuel m).sat (fun r => ∃ eod,
      FirstAt a (fun c => !isDigit c) m.pointer last eod ∧
      r = portNext ov m eod (decide (eod = last) || isAuthorityEnd a[eod]! || (a[eod]! == 0x5C && m.special))
        (portBad (slice a m.pointer eod))) := by
  refine R.sat_range ?_
  refine R.sat_bind (findIf_toLast a first last (fun c => !isDigit c) hl m.pointer h1 h2) fun eod heod => ?_
  obtain ⟨e1, e2, -, -⟩ := id heod
  refine R.sat_bind
    (P := fun b => b = (decide (eod = last) || isAuthorityEnd a[eod]! || (a[eod]! == 0x5C && m.special))) ?_ ?_
  · refine R.sat_if (fun he => R.sat_pure ?_) fun he => ?_
    · have he : eod = last := he
      simp [he]
    · have he : eod ≠ last := he
      refine R.sat_read hl (R.sat_if (fun hc => R.sat_pure (by simp [hc])) fun hc => ?_)
      exact R.sat_read hl (R.sat_pure (by simp [hc, he]))
  rintro isEnd rfl
  refine R.sat_mono (P := fun r => r = portNext ov m eod _ (portBad (slice a m.pointer eod))) ?_
    fun r hr => ⟨eod, heod, hr⟩
  refine R.sat_if (fun hcond => ?_) fun hcond => R.sat_pure (by rw [portNext, if_neg hcond])
  refine R.sat_bind (P := fun b => b = portBad (slice a m.pointer eod)) ?_ ?_
  · refine R.sat_if (fun hlt => ?_) fun hlt => R.sat_pure ?_
    · refine R.sat_ptrSub (R.sat_range ?_)
      refine R.sat_bind (findIf_spec a first last _ hl _ m.pointer h1 (by omega)) ?_
      intro p' ⟨z1, z2, z3, z4⟩
      have hstrip : stripLeadingZeros (slice a m.pointer eod) = slice a p' eod :=
        strip_slice a eod (by omega) (p' - m.pointer) m.pointer p' (by omega) (by omega)
          (by intro i hi1 hi2; simpa using z3 i hi1 hi2)
          (by by_cases h : p' + 1 = eod
              · exact Or.inl h
              · right; simpa using z4 (by omega))
      have hne : slice a m.pointer eod ≠ [] := slice_ne_nil a m.pointer eod hlt (by omega)
      rw [portBad, hstrip, slice_length a p' eod (by omega)]
      refine R.sat_if (fun h5 => R.sat_pure (by simp [hne, h5])) (fun h5 => ?_)
      refine R.sat_bind (scan_sat _ (·.1) p' eod (fun s => s.2 = decimalValue (slice a p' s.1))
        (fun r => r = decimalValue (slice a p' eod)) ?_ _ _ (Nat.le_refl _) (by show p' ≤ eod; omega)
        (by rw [slice_nil a p' p' (Nat.le_refl _)]; rfl) (by show eod - p' < fuel; omega)) ?_
      · intro ⟨it, acc⟩ g1 g2 g3
        dsimp only at g1 g2 g3 ⊢
        refine R.sat_if (fun hlt => ?_) (fun hlt => ?_)
        · refine R.sat_read hl (R.sat_ptr (R.sat_pure ⟨Nat.lt_succ_self _, by show it + 1 ≤ eod; omega, ?_⟩))
          rw [slice_succ a p' it g1 (by omega), Radix.decimalValue_snoc, g3]
        · have : it = eod := by omega
          subst this
          exact R.sat_pure g3
      · rintro port rfl
        refine R.sat_if (fun h6 => R.sat_pure (by simp [hne, h6])) (fun h6 => ?_)
        exact R.sat_if' (R.sat_range (R.sat_pure (by simp [h5, h6]))) (R.sat_pure (by simp [h5, h6]))
    · rw [portBad, slice_nil a m.pointer eod (by omega)]
      rfl
  rintro bad rfl
  rw [portNext, if_pos hcond]
  exact R.sat_if (fun hb => R.sat_pure (by rw [if_pos hb])) fun hb =>
    R.sat_if (fun ho => R.sat_pure (by rw [if_neg hb, if_pos ho])) fun ho => R.sat_pure (by rw [if_neg hb, if_neg ho])

theorem bPort_blk (ov : Option Override) (ui : UrlInfo) (orc : Oracles) (fuel : Nat) (hf : last - first < fuel) (m : M)
    (hI : UInv first last base m) :
    (bPort a first last ov ui orc fuel m).sat (UPost first last base) := by
  obtain ⟨h1, h2, -, -⟩ := hI
  refine R.sat_mono (bPort_spec hl ov ui orc fuel hf m h1 h2) ?_
  rintro r ⟨eod, ⟨e1, e2, -, -⟩, rfl⟩
  unfold portNext
  split
  · split
    · trivial
    · split
      · trivial
      · exact ⟨by show first ≤ eod; omega, e2, nofun, nofun⟩
  · trivial

theorem bFile_blk (m : M) (hI : UInv first last base m) :
    (bFile a first last base m).sat (UPost first last base) := by
  obtain ⟨h1, h2, -, -⟩ := hI
  unfold bFile
  dsimp only
  refine R.sat_bind (peekOr0B_sat a first last m.pointer h1 h2 hl) fun c hc => ?_
  refine R.sat_if (fun h => ?_) (fun _ => ?_)
  · have := hc (by omega)
    exact R.sat_ptr (sat_goto)
  cases base with
  | none => exact sat_goto
  | some b =>
    refine R.sat_if' ?_ sat_goto
    refine R.sat_if (fun _ => sat_ret) (fun hne => ?_)
    refine R.sat_read hl ?_
    refine R.sat_if' (R.sat_ptr (sat_goto)) <|
      R.sat_if' (R.sat_ptr (sat_goto)) <| ?_
    refine R.sat_range ?_
    exact R.sat_bind (startsWithWindowsDrive_sat a m.pointer last h2 hl) fun _ _ => sat_goto

theorem bFileSlash_blk (ui : UrlInfo) (m : M) (hI : UInv first last base m) :
    (bFileSlash a first last base ui m).sat (UPost first last base) := by
  obtain ⟨h1, h2, -, -⟩ := hI
  refine R.sat_bind (peekOr0B_sat a first last m.pointer h1 h2 hl) fun c hc => ?_
  refine R.sat_if (fun h => ?_) (fun _ => ?_)
  · have := hc (by omega)
    exact R.sat_ptr (sat_goto)
  dsimp only
  refine R.sat_if' ?_ <| sat_goto
  refine R.sat_range ?_
  exact R.sat_bind (startsWithWindowsDrive_sat a m.pointer last h2 hl) fun _ _ => sat_goto

theorem bFileHost_blk (ov : Option Override)
    (ui : UrlInfo) (orc : Oracles) (m : M) (hI : UInv first last base m) :
    (bFileHost a first last ov ui orc m).sat (UPost first last base) := by
  obtain ⟨h1, h2, -, -⟩ := hI
  refine R.sat_range ?_
  refine R.sat_bind (findIf_sat a first last _ hl _ m.pointer h1 (by omega)) fun eoa heoa => ?_
  refine R.sat_if' (R.sat_if' sat_ret <| sat_goto) <| ?_
  refine R.sat_bind (P := fun _ => True) (R.sat_if (fun hwd => ?_) fun _ => R.sat_pure trivial) fun wd _ => ?_
  · exact R.sat_read hl (R.sat_read hl (R.sat_pure trivial))
  refine R.sat_if' sat_goto <| R.sat_range ?_
  exact R.sat_if' sat_ret <| R.sat_if' sat_ret <| sat_goto

/-- a block of the tail returns `ok` or falls through, pointer in range, to one of the states `S` -/
def TPost (first last : Nat) (S : List St) (r : M ⊕ Bool) : Prop :=
  match r with
  | .inl m' => first ≤ m'.pointer ∧ m'.pointer ≤ last ∧ m'.state ∈ S
  | .inr v => v = true

section tail
variable {first last : Nat} {S : List St}

omit hl in
theorem tsat_goto {st : St} {p : Nat} {sp fl : Bool} (hs : st ∈ S := by decide)
    (h1 : first ≤ p := by omega) (h2 : p ≤ last := by omega) :
    (pure (.inl ⟨st, p, sp, fl⟩) : R (M ⊕ Bool)).sat (TPost first last S) :=
  R.sat_pure ⟨h1, h2, hs⟩

omit hl in
theorem tsat_ret : (pure (.inr true) : R (M ⊕ Bool)).sat (TPost first last S) :=
  R.sat_pure rfl

omit hl in
theorem TPost.toUPost {base : Option BaseInfo} {x : R (M ⊕ Bool)} (h : x.sat (TPost first last S))
    (hS : ∀ s ∈ S, s ≠ .scheme ∧ s.needsBase = false := by decide) : x.sat (UPost first last base) := by
  refine R.sat_mono h fun r hr => ?_
  cases r with
  | inl m' => exact ⟨hr.1, hr.2.1, fun hs => absurd hs (hS _ hr.2.2).1, fun hb => by rw [(hS _ hr.2.2).2] at hb; cases hb⟩
  | inr v => trivial

end tail

theorem bPathStart_tail (ov : Option Override) (m : M)
    (h1 : first ≤ m.pointer) (h2 : m.pointer ≤ last) :
    (bPathStart a first last ov m).sat (TPost first last [.path, .query, .fragment]) := by
  have next : ∀ st, st ∈ [St.path, .query, .fragment] → m.pointer ≠ last →
      (do let p ← mkptr first last (m.pointer + 1)
          pure (.inl ⟨st, p, m.special, m.file⟩) : R (M ⊕ Bool)).sat (TPost first last [.path, .query, .fragment]) :=
    fun st hs hne => R.sat_ptr (tsat_goto hs)
  refine R.sat_if' ?_ (R.sat_if (fun hne => R.sat_if' ?_ <| ?_) fun _ => tsat_ret)
  · refine R.sat_if (fun hne => ?_) (fun _ => tsat_goto)
    exact R.sat_read hl (R.sat_if' (next _ (by decide) hne) <| tsat_goto)
  · refine R.sat_read hl ?_
    exact R.sat_if' (next _ (by decide) hne) <| R.sat_if' (next _ (by decide) hne) <|
      R.sat_if' (next _ (by decide) hne) <| tsat_goto
  · exact R.sat_read hl (R.sat_if' (next _ (by decide) hne) <| tsat_goto)

theorem afterPathB_tail (m : M)
    (eop : Nat) (h1 : first ≤ eop) (h2 : eop ≤ last) :
    (afterPathB a first last m eop).sat (TPost first last [.query, .fragment]) := by
  refine R.sat_if (fun _ => tsat_ret) (fun hne => ?_)
  refine R.sat_read hl (R.sat_ptr ?_)
  exact tsat_goto (by split <;> decide)

theorem endOfPathB_sat (pointer : Nat) (h1 : first ≤ pointer)
    (h2 : pointer ≤ last) :
    (endOfPathB a first last pointer).sat (fun q => pointer ≤ q ∧ q ≤ last) :=
  R.sat_range
    (R.sat_mono (findIf_sat a first last _ hl _ pointer h1 (by omega)) (fun v hv => by omega))

theorem bPath_tail (e : Enc) (ov : Option Override) (orc : Oracles) (m : M) (h1 : first ≤ m.pointer) (h2 : m.pointer ≤ last) :
    (bPath e a first last ov orc m).sat (TPost first last [.query, .fragment]) := by
  refine R.sat_bind (P := fun q => m.pointer ≤ q ∧ q ≤ last)
    (R.sat_if' (R.sat_pure ⟨h2, Nat.le_refl _⟩) <| endOfPathB_sat hl m.pointer h1 h2)
    fun eop heop => ?_
  refine R.sat_range ?_
  refine R.sat_bind (parsePathB_sat e a m.pointer eop m.special m.file orc.emptyPath heop.1 (by omega)) fun _ _ => ?_
  exact afterPathB_tail hl m eop (by omega) heop.2

theorem bOpaquePath_tail (e : Enc) (m : M)
    (h1 : first ≤ m.pointer) (h2 : m.pointer ≤ last) :
    (bOpaquePath e a first last m).sat (TPost first last [.query, .fragment]) := by
  refine R.sat_bind (endOfPathB_sat hl m.pointer h1 h2) fun eop heop => ?_
  refine R.sat_range ?_
  refine R.sat_bind (doSimplePathB_sat e a m.pointer eop heop.1 (by omega)) fun _ _ => ?_
  exact afterPathB_tail hl m eop (by omega) heop.2

theorem bQuery_tail (e : Enc) (ov : Option Override) (fuel : Nat) (hf : last - first < fuel) (m : M) (h1 : first ≤ m.pointer) (h2 : m.pointer ≤ last) :
    (bQuery e a first last ov fuel m).sat (TPost first last [.fragment]) := by
  refine R.sat_bind (P := fun q => m.pointer ≤ q ∧ q ≤ last)
    (R.sat_if' (R.sat_pure ⟨h2, Nat.le_refl _⟩) <| ?_) fun eoq heoq => ?_
  · exact R.sat_range (findChOr_sat a first last 0x23 m.pointer last h1 h2 (Nat.le_refl _) hl)
  refine R.sat_bind (encLoopB_sat e a first last _ _ eoq fuel m.pointer h1 heoq.1 heoq.2 hl (by omega)) fun _ _ => ?_
  refine R.sat_if (fun _ => tsat_ret) (fun hne => ?_)
  exact R.sat_ptr (tsat_goto)

theorem bFragment_tail (e : Enc) (fuel : Nat) (hf : last - first < fuel) (m : M) (h1 : first ≤ m.pointer) (h2 : m.pointer ≤ last)
    (hs : m.state = .fragment) :
    (bFragment e a first last fuel m).sat (TPost first last [.fragment]) := by
  refine R.sat_bind (encLoopB_sat e a first last _ _ last fuel m.pointer h1 h2 (Nat.le_refl _) hl (by omega)) ?_
  intro r (hr : r = last)
  exact tsat_goto (by rw [hs]; decide)

end blocks

theorem stepB_sat {first last : Nat} {base : Option BaseInfo} {c : St → Bool} {blk : M → R (M ⊕ Bool)}
    {k : M → R Bool}
    (hb : ∀ m, UInv first last base m → c m.state = true → (blk m).sat (UPost first last base))
    (hk : ∀ m, UInv first last base m → (k m).sat (fun _ => True)) :
    ∀ m, UInv first last base m → (stepB c blk k m).sat (fun _ => True) := by
  intro m hI
  unfold stepB
  split
  · rename_i hc
    refine R.sat_bind (hb m hI hc) ?_
    intro r hr
    cases r with
    | inl m' => exact hk m' hr
    | inr v => exact R.sat_pure trivial
  · exact hk m hI

theorem UInv_init (first last : Nat) (base : Option BaseInfo) (ov : Option Override) (sp fl : Bool)
    (h : first ≤ last) : UInv first last base ⟨St.ofOverride ov, first, sp, fl⟩ := by
  refine ⟨Nat.le_refl _, h, ?_, ?_⟩ <;>
  · intro hs
    cases ov with
    | none => cases hs
    | some o => cases o <;> cases hs

/-- url_parse (from `auto pointer = first;` on) runs to `.ok`: no out-of-range read, no pointer outside
    `[first, last]`, no loop out of fuel, no `*base` with `base == nullptr` -/
theorem urlParseB_sat (e : Enc) (a : Array Nat) (first last : Nat) (ov : Option Override) (base : Option BaseInfo)
    (ui : UrlInfo) (orc : Oracles) (fuel : Nat) (h : first ≤ last) (hl : last ≤ a.size) (hf : last - first < fuel) :
    (urlParseB e a first last ov base ui orc fuel).sat (fun _ => True) := by
  unfold urlParseB
  refine stepB_sat (fun m hI _ => bSchemeStart_blk hl ov m hI) ?_ _
    (UInv_init first last base ov _ _ h)
  refine stepB_sat
    (fun m hI hs => bScheme_blk hl ov ui fuel hf m hI (eq_of_beq hs)) ?_
  refine stepB_sat (fun m hI _ => bNoScheme_blk hl m hI) ?_
  refine stepB_sat
    (fun m hI hs => bSpecialRelativeOrAuthority_blk hl m hI (eq_of_beq hs)) ?_
  refine stepB_sat (fun m hI _ => bPathOrAuthority_blk hl m hI) ?_
  refine stepB_sat (fun m hI hs => bRelative_blk hl m hI (eq_of_beq hs)) ?_
  refine stepB_sat
    (fun m hI hs => bRelativeSlash_blk hl m hI (eq_of_beq hs)) ?_
  refine stepB_sat (fun m hI _ => bSpecialAuthoritySlashes_blk hl m hI) ?_
  refine stepB_sat
    (fun m hI _ => bSpecialAuthorityIgnoreSlashes_blk hl fuel hf m hI) ?_
  refine stepB_sat (fun m hI _ => bAuthority_blk hl e ui m hI) ?_
  refine stepB_sat (fun m hI _ => bHost_blk hl ov ui orc fuel hf m hI) ?_
  refine stepB_sat (fun m hI _ => bPort_blk hl ov ui orc fuel hf m hI) ?_
  refine stepB_sat (fun m hI _ => bFile_blk hl m hI) ?_
  refine stepB_sat (fun m hI _ => bFileSlash_blk hl ui m hI) ?_
  refine stepB_sat (fun m hI _ => bFileHost_blk hl ov ui orc m hI) ?_
  refine stepB_sat (fun m hI _ => R.sat_if' sat_ret (R.sat_pure hI)) ?_
  refine stepB_sat (fun m hI _ => TPost.toUPost (bPathStart_tail hl ov m hI.1 hI.2.1)) ?_
  refine stepB_sat (fun m hI _ => TPost.toUPost (bPath_tail hl e ov orc m hI.1 hI.2.1)) ?_
  refine stepB_sat (fun m hI _ => TPost.toUPost (bOpaquePath_tail hl e m hI.1 hI.2.1)) ?_
  refine stepB_sat (fun m hI _ => TPost.toUPost (bQuery_tail hl e ov fuel hf m hI.1 hI.2.1)) ?_
  refine stepB_sat
    (fun m hI hs => TPost.toUPost (bFragment_tail hl e fuel hf m hI.1 hI.2.1 (eq_of_beq hs))) ?_
  intro _ _
  exact R.sat_pure trivial

theorem urlParseWsB_sat (e : Enc) (a : Array Nat) (first last : Nat) (ov : Option Override) (base : Option BaseInfo)
    (ui : UrlInfo) (orc : Array Nat → Oracles) (h : first ≤ last) (hl : last ≤ a.size) :
    (urlParseWsB e a first last ov base ui orc).sat (fun _ => True) := by
  unfold urlParseWsB
  refine R.sat_bind (doRemoveWhitespaceB_sat a first last _ h hl (by omega)) ?_
  intro r _
  cases r with
  | none => exact urlParseB_sat e a first last ov base ui (orc a) _ h hl (by omega)
  | some buff =>
    exact urlParseB_sat e buff.toArray 0 buff.length ov base ui (orc buff.toArray) _ (Nat.zero_le _)
      (by simp) (by omega)

end Upa.Impl.B
