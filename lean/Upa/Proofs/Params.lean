import Upa.Proofs.ParamsCmp
import Upa.Proofs.Form
import Upa.Proofs.EvalFuel
/-
  C16, list part: `set` against the Standard's algorithm (the other list operations agree by `rfl`),
  the `is_sorted_` cache invariant over arbitrary histories, and `sort`.
-/
namespace Upa.Proofs.C16
open Upa Upa.Spec Upa.Impl


/-! ### `set`: the erase loop against the Standard's "set" -/

theorem setLoop_eq (n v : List Nat) : ∀ (l : List BPair) (m : Bool),
    setLoop n v l m = (Spec.spSet.go n v l m, m || l.any (fun x => x.1 = n)) := by
  intro l
  induction l with
  | nil => intro m; simp [setLoop, Spec.spSet.go]
  | cons x xs ih =>
    intro m
    by_cases hx : x.1 = n
    · cases m with
      | true => simp [setLoop, Spec.spSet.go, hx, ih]
      | false => simp [setLoop, Spec.spSet.go, hx, ih]
    · simp [setLoop, Spec.spSet.go, hx, ih]

theorem set_list (p : Params) (n v : List Nat) : (p.set n v).list = Spec.spSet p.list n v := by
  unfold Params.set Spec.spSet
  rw [setLoop_eq]
  simp only [Bool.false_or]
  by_cases h : (p.list.any fun x => decide (x.1 = n)) = true
  · simp [h]
  · simp only [Bool.not_eq_true] at h
    simp [h, Params.append]


/-! ### the `is_sorted_` cache -/

/-- what `is_sorted_ == true` promises: no later element is `nameLess` an earlier one -/
def Sorted (l : List BPair) : Prop := List.Pairwise (fun x y => nameLess y x = false) l

/-- the cache is truthful: when `is_sorted_` is set the list is sorted -/
def CacheOk (p : Params) : Prop := p.isSorted = true → Sorted p.list

/-- the mutating operations of url_search_params -/
inductive Ops where
  | append (n v : List Nat)
  | del (n : List Nat)
  | del2 (n v : List Nat)
  | set (n v : List Nat)
  | sort
  | clear
  | parse (remQmark : Bool) (bytes : List Nat)

def step (p : Params) : Ops → Params
  | .append n v => p.append n v
  | .del n => p.del n
  | .del2 n v => p.del2 n v
  | .set n v => p.set n v
  | .sort => p.sort
  | .clear => p.clear
  | .parse r b => p.parse r b

def run (p : Params) (ops : List Ops) : Params := ops.foldl step p

theorem sorted_iff_names (l : List BPair) :
    Sorted l ↔ List.Pairwise (fun a b => lexLt (key b) (key a) = false) (l.map (·.1)) := by
  unfold Sorted
  rw [List.pairwise_map]
  simp only [nameLess_eq]

theorem setLoop_names (n v : List Nat) : ∀ (l : List BPair) (m : Bool),
    List.Sublist ((setLoop n v l m).1.map (·.1)) (l.map (·.1)) := by
  intro l
  induction l with
  | nil => intro m; simp [setLoop]
  | cons x xs ih =>
    intro m
    by_cases hx : x.1 = n
    · cases m with
      | true =>
        simp only [setLoop, hx, if_true, List.map_cons]
        exact List.Sublist.cons _ (ih true)
      | false =>
        simp only [setLoop, hx, if_true, List.map_cons]
        exact List.Sublist.cons_cons _ (ih true)
    · simp only [setLoop, hx, if_false, List.map_cons]
      exact List.Sublist.cons_cons _ (ih m)

theorem sorted_mergeSort (l : List BPair) : Sorted (l.mergeSort nameLe) := by
  have := List.pairwise_mergeSort (le := nameLe) nameLe_trans nameLe_total l
  unfold Sorted
  refine List.Pairwise.imp ?_ this
  intro a b h
  simpa [nameLe] using h

theorem step_inv (p : Params) (o : Ops) (h : CacheOk p) : CacheOk (step p o) := by
  unfold CacheOk at h ⊢
  cases o with
  | append n v => intro hs; simp [step, Params.append] at hs
  | del n =>
    intro hs
    exact List.Pairwise.sublist List.filter_sublist (h hs)
  | del2 n v =>
    intro hs
    exact List.Pairwise.sublist List.filter_sublist (h hs)
  | set n v =>
    simp only [step, Params.set]
    have hsub := setLoop_names n v p.list false
    generalize setLoop n v p.list false = r at hsub
    obtain ⟨l, m⟩ := r
    cases m with
    | false => intro hs; simp [Params.append] at hs
    | true =>
      intro hs
      simp only [Bool.not_true, Bool.false_eq_true, if_false] at hs ⊢
      rw [sorted_iff_names]
      exact List.Pairwise.sublist hsub ((sorted_iff_names _).1 (h hs))
  | sort =>
    simp only [step, Params.sort]
    cases hf : p.isSorted with
    | true => intro _; simpa [hf] using h hf
    | false => intro _; exact sorted_mergeSort p.list
  | clear => intro _; exact List.Pairwise.nil
  | parse r b => intro hs; simp [step, Params.parse] at hs

theorem run_inv (p : Params) (ops : List Ops) (h : CacheOk p) : CacheOk (run p ops) := by
  induction ops generalizing p with
  | nil => exact h
  | cons o os ih => exact ih (step p o) (step_inv p o h)


theorem sort_flag (p : Params) : p.sort.isSorted = true := by
  unfold Params.sort
  cases h : p.isSorted <;> simp [h]

theorem sort_list_eq (p : Params) (hinv : CacheOk p) :
    p.sort.list = p.list.mergeSort nameLe := by
  unfold Params.sort
  cases hf : p.isSorted with
  | false => rfl
  | true =>
    simp only [Bool.not_true, Bool.false_eq_true, if_false]
    symm
    apply List.mergeSort_of_pairwise
    refine List.Pairwise.imp ?_ (hinv hf)
    intro a b h
    simp [nameLe, h]

theorem sort_perm (p : Params) (hinv : CacheOk p) :
    p.sort.list.Perm p.list := by
  rw [sort_list_eq p hinv]; exact List.mergeSort_perm _ _

theorem sort_sorted (p : Params) (hinv : CacheOk p) : Sorted p.sort.list := by
  rw [sort_list_eq p hinv]; exact sorted_mergeSort p.list

theorem sort_stable (p : Params) (hinv : CacheOk p) (c : List BPair)
    (hc : Sorted c) (hsub : List.Sublist c p.list) : List.Sublist c p.sort.list := by
  rw [sort_list_eq p hinv]
  apply List.sublist_mergeSort nameLe_trans nameLe_total _ hsub
  refine List.Pairwise.imp ?_ hc
  intro a b h
  simp [nameLe, h]

/-- the Standard's sort on a decoded view of the list -/
theorem sort_spec (g : List Nat → List Nat) (p : Params) (hinv : CacheOk p)
    (dl : List Spec.Pair) (hdl : ∀ x ∈ dl, ∀ c ∈ x.1, isScalar c = true)
    (hview : p.list = dl.map (fun x => (utf8Encode x.1, g x.2))) :
    p.sort.list = (Spec.spSort dl).map (fun x => (utf8Encode x.1, g x.2)) := by
  rw [sort_list_eq p hinv, hview]
  unfold Spec.spSort
  symm
  apply List.map_mergeSort
  intro a ha b hb
  simp only [nameLe, nameLess_eq, key_encode _ (hdl a ha), key_encode _ (hdl b hb)]

/-! ### an evaluated `do_parse` -/

/-- `do_parse(true, "?b=1&%F0%9F%98%80=2&%EF%BF%BD=3&a=4&b=5")` -/
theorem example_parse :
    Impl.formParse true [63, 98, 61, 49, 38, 37, 70, 48, 37, 57, 70, 37, 57, 56, 37, 56, 48, 61, 50, 38,
      37, 69, 70, 37, 66, 70, 37, 66, 68, 61, 51, 38, 97, 61, 52, 38, 98, 61, 53] =
    [([98], [49]), ([240, 159, 152, 128], [50]), ([239, 191, 189], [51]), ([97], [52]), ([98], [53])] := by
  rw [C15.formParse_eqK]
  decide +kernel

end Upa.Proofs.C16
