import Upa.Proofs.Bounds
import Upa.Proofs.Ipv6Parse
import Upa.Proofs.CharClass
/-
  C04b / C04h: `ipv6Parse` of `Upa/Impl/Bounds.lean` (url_ip.h:240-383, array + index,
  local array `address[8]`) computes `Impl.ipv6Parse` on `slice a first last`.
-/
namespace Upa.Impl.B
open Upa.Proofs.V6 (getHexL_zero getHexL_nil getHexL_cons getHexL_len v6DigL_nil v6DigL_cons v6ShiftL_succ stPut stCompress stV4
  mainLoop_step v4Body v4Loop_step v4Loop_nil implStart implStart_compress implStart_colon implStart_plain implV4 implFinal ipv6Parse_eq)

theorem hexAcc_lt {v h k : Nat} (hv : v < 16 ^ k) (hh : h < 16) : v * 16 + h < 16 ^ (k + 1) := by
  have := Nat.mul_le_mul_right 16 (Nat.succ_le_of_lt hv)
  rw [Nat.pow_succ]
  omega

/-- `get_hex_number(first, lim)` on a window of at most four units of `[first, L)` -/
theorem getHexNumber_spec (a : Array Nat) (first lim L : Nat) (h1 : first ≤ lim) (h2 : lim ≤ L) (hL : L ≤ a.size)
    (h4 : lim - first ≤ 4) :
    (getHexNumber a first lim).sat (fun r => first ≤ r.1 ∧ r.1 ≤ lim ∧
      Impl.getHexNumber (lim - first) (slice a first L) 0 0 = (r.2, r.1 - first, slice a r.1 L)) := by
  unfold getHexNumber
  -- the bound on the value is there only to drop the `uint16_t` cast (`% 65536`) of the code: at most four digits
  refine scan_sat _ (·.1) first lim (fun s => s.2 < 16 ^ (s.1 - first) ∧
      Impl.getHexNumber (lim - s.1) (slice a s.1 L) s.2 (s.1 - first) =
        Impl.getHexNumber (lim - first) (slice a first L) 0 0) _ ?_ _ _ (Nat.le_refl _) h1 ⟨by simp, by simp⟩
    (Nat.lt_succ_self _)
  intro ⟨p, value⟩ i1 i2 ⟨i3, i4⟩
  simp only at i1 i2 i3 i4 ⊢
  refine R.sat_if (fun hp => ?_) (fun hp => ?_)
  · subst hp
    rw [Nat.sub_self, getHexL_zero] at i4
    exact R.sat_pure ⟨i1, i2, i4.symm⟩
  have hpl : p < lim := Nat.lt_of_le_of_ne i2 hp
  refine R.sat_read (Nat.le_trans h2 hL) ?_ i1 hpl
  have e : lim - p = (lim - (p + 1)) + 1 := by omega
  rw [e, slice_cons a p L (by omega) hL, getHexL_cons] at i4
  refine R.sat_if_eq i4 (fun hx i4 => ?_) (fun hx i4 => ?_)
  · have hc := isHex_lt _ hx
    have hv := hexVal_lt _ hx
    simp only [Nat.mod_eq_of_lt (by omega : a[p]! < 256)]
    refine R.sat_bind_ok (idx_ok (by omega)) ?_
    refine R.sat_ptr ?_ (Nat.le_succ_of_le i1) hpl
    have e' : p + 1 - first = (p - first) + 1 := by omega
    have hnew : value * 0x10 + hexVal a[p]! < 16 ^ (p + 1 - first) := e' ▸ hexAcc_lt i3 hv
    have h64 : 16 ^ (p + 1 - first) ≤ 65536 :=
      Nat.pow_le_pow_right (n := 16) (by decide) (by omega : p + 1 - first ≤ 4)
    have hm := Nat.mod_eq_of_lt (Nat.lt_of_lt_of_le hnew h64)
    refine R.sat_pure ?_
    simp only []
    refine ⟨Nat.lt_succ_self _, hpl, ?_, ?_⟩
    · rw [hm]; exact hnew
    · rw [hm, e', ← i4]
  · refine R.sat_pure ⟨i1, i2, ?_⟩
    simp only []
    rw [← i4, slice_cons a p L (by omega) hL]

theorem v6AfterHex_eq (a : Array Nat) (first last p0 p : Nat) (hl : last ≤ a.size) (h1 : first ≤ p) (h2 : p ≤ last) :
    v6AfterHex a first last p0 p = .ok (
      if p ≠ last then
        (if a[p]! = 0x2E then (if p = p0 then .fail else .v4)
         else if a[p]! = 0x3A then (if p + 1 = last then .fail else .go (p + 1))
         else .fail)
      else .go p) := by
  unfold v6AfterHex
  by_cases hp : p ≠ last
  · simp only [if_pos hp, rd_ok h1 (by omega : p < last) hl, R.ok_bind]
    by_cases c1 : a[p]! = 0x2E
    · simp only [if_pos c1]
      split <;> rfl
    · simp only [if_neg c1]
      by_cases c2 : a[p]! = 0x3A
      · simp only [if_pos c2, mkptr_ok (by omega : first ≤ p + 1) (by omega : p + 1 ≤ last), R.ok_bind]
        split <;> rfl
      · simp only [if_neg c2]; rfl
  · simp only [if_neg hp]; rfl

def V6Inv (first last : Nat) (s : V6Main) : Prop :=
  first ≤ s.1 ∧ s.1 ≤ last ∧ s.2.1 ≤ 8 ∧ s.2.2.2.size = 8

/-- the state of the list model that corresponds to the loop state of the instrumented model -/
def toSt (pieceIndex compress : Nat) (address : Loc) : Impl.V6St :=
  { address := address.toList, pieceIndex := pieceIndex, compress := compress }

/-- the result of the list model's main loop that corresponds to a result of the instrumented one -/
def mainRes (a : Array Nat) (last : Nat) : Option (V6Main × Bool) → Option (Impl.V6St × Option (List Nat))
  | none => none
  | some ((pointer, pieceIndex, compress, address), isIpv4) =>
    some (toSt pieceIndex compress address, if isIpv4 then some (slice a pointer last) else none)

theorem v6MainLoop_spec (a : Array Nat) (first last : Nat) (hl : last ≤ a.size) (st : V6Main)
    (hst : V6Inv first last st) (F : Nat) (hF : last - st.1 < F) :
    (v6MainLoop a first last 8 (last - first + 1) st).sat (fun r => (∀ s b, r = some (s, b) → V6Inv first last s) ∧
      mainRes a last r = Impl.v6MainLoop F (slice a st.1 last) (toSt st.2.1 st.2.2.1 st.2.2.2)) := by
  unfold v6MainLoop
  -- `∃ f, …` in the invariant: the list model's own fuel, see the note at `scan_sat` (`Bounds.lean`)
  refine scan_sat _ (·.1) first last (fun s => s.2.1 ≤ 8 ∧ s.2.2.2.size = 8 ∧ ∃ f, last - s.1 < f ∧
      Impl.v6MainLoop f (slice a s.1 last) (toSt s.2.1 s.2.2.1 s.2.2.2) =
        Impl.v6MainLoop F (slice a st.1 last) (toSt st.2.1 st.2.2.1 st.2.2.2))
    _ ?_ _ _ hst.1 hst.2.1 ⟨hst.2.2.1, hst.2.2.2, F, hF, rfl⟩ (Nat.lt_succ_of_le (Nat.sub_le_sub_left hst.1 last))
  intro ⟨pointer, pieceIndex, compress, address⟩ h1 h2 ⟨h3, h4, f, hf, hT⟩
  simp only at h1 h2 h3 h4 hf hT ⊢
  obtain ⟨f0, rfl⟩ : ∃ f0, f = f0 + 1 := ⟨f - 1, by omega⟩
  refine R.sat_if (fun hlt => ?_) (fun hlt => ?_)
  · refine R.sat_pure ⟨fun _ _ e => by cases e; exact ⟨h1, h2, h3, h4⟩, ?_⟩
    rw [slice_nil a pointer last (Nat.le_of_not_lt hlt)] at hT
    rw [← hT]
    cases f0 <;> rfl
  have hlt' : pointer < last := Decidable.not_not.1 hlt
  have hf0 : last - pointer ≤ f0 := Nat.le_of_lt_succ hf
  have hsl := slice_cons a pointer last hlt' hl
  have hstep := fun value n p' hg => mainLoop_step f0 a[pointer]! (slice a (pointer + 1) last)
    (toSt pieceIndex compress address) value n p' hg
  rw [hsl] at hT
  refine R.sat_if (fun h8 => ?_) (fun h8 => ?_)
  · refine R.sat_pure ⟨nofun, ?_⟩
    rw [← hT]
    rcases hgx : Impl.getHexNumber 4 (a[pointer]! :: slice a (pointer + 1) last) 0 0 with ⟨v, n, p'⟩
    rw [hstep v n p' hgx, if_pos (by exact h8)]
    rfl
  refine R.sat_read hl ?_ h1 hlt'
  refine R.sat_if (fun hc => ?_) (fun hc => ?_)
  · rcases hgx : Impl.getHexNumber 4 (a[pointer]! :: slice a (pointer + 1) last) 0 0 with ⟨v, n, p'⟩
    rw [hstep v n p' hgx, if_neg (by exact h8), if_pos hc] at hT
    refine R.sat_if_eq hT (fun hcm hT => R.sat_pure ⟨nofun, hT⟩) (fun hcm hT => ?_)
    · refine R.sat_ptr ?_ (Nat.le_succ_of_le h1) hlt'
      exact R.sat_pure ⟨Nat.lt_succ_self _, hlt', Nat.lt_of_le_of_ne h3 h8, h4, f0,
        Nat.lt_of_lt_of_le (Nat.sub_succ_lt_self _ _ hlt') hf0, hT⟩
  refine R.sat_bind (P := fun lim => lim = (if last - pointer ≤ 4 then last else pointer + 4)) ?_ ?_
  · refine R.sat_if (fun h44 => ?_) (fun h44 => ?_)
    · exact R.sat_pure (if_pos h44).symm
    · exact ⟨_, mkptr_ok (by omega) (by omega), (if_neg h44).symm⟩
  intro lim hlim
  have hlim' : pointer ≤ lim ∧ lim ≤ last ∧ lim - pointer ≤ 4 := by rw [hlim]; split <;> omega
  refine R.sat_range ?_ h1 hlim'.1 hlim'.2.1
  refine R.sat_bind (getHexNumber_spec a pointer lim last hlim'.1 hlim'.2.1 hl hlim'.2.2) ?_
  intro ⟨p', value⟩ ⟨g1, g2, g3⟩
  simp only at g1 g2 g3 ⊢
  have hg4 : Impl.getHexNumber 4 (a[pointer]! :: slice a (pointer + 1) last) 0 0 =
      (value, p' - pointer, slice a p' last) := by
    rw [← hsl, ← g3]
    by_cases h44 : last - pointer ≤ 4
    · have : lim = last := by rw [hlim, if_pos h44]
      rw [this, getHexL_len _ 4 _ _ (by rw [slice_length a _ _ hl]; omega), slice_length a _ _ hl]
    · have : lim - pointer = 4 := by rw [hlim, if_neg h44]; omega
      rw [this]
  rw [hstep _ _ _ hg4, if_neg (by exact h8), if_neg hc] at hT
  have hpi : pieceIndex < 8 := Nat.lt_of_le_of_ne h3 h8
  have hfp : first ≤ p' := Nat.le_trans h1 g1
  have hpl : p' ≤ last := Nat.le_trans g2 hlim'.2.1
  refine R.sat_bind_ok (v6AfterHex_eq a first last pointer p' hl hfp hpl) ?_
  by_cases hpe : p' ≠ last
  · have hpl' : p' < last := Nat.lt_of_le_of_ne hpl hpe
    rw [slice_cons a p' last hpl' hl] at hT
    simp only [if_pos hpe]
    simp only [] at hT
    by_cases c1 : a[p']! = 0x2E
    · simp only [if_pos c1] at hT ⊢
      by_cases hpp : p' = pointer
      · rw [if_pos hpp]
        rw [if_pos (by omega)] at hT
        exact R.sat_pure ⟨nofun, hT⟩
      · rw [if_neg hpp]
        rw [if_neg (by omega)] at hT
        refine R.sat_pure ⟨fun _ _ e => by cases e; exact ⟨h1, h2, h3, h4⟩, ?_⟩
        simp only [mainRes, if_true]
        rw [← hT, hsl]
    · simp only [if_neg c1] at hT ⊢
      by_cases c2 : a[p']! = 0x3A
      · simp only [if_pos c2] at hT ⊢
        by_cases hend : p' + 1 = last
        · rw [if_pos hend]
          rw [if_pos ((slice_eq_nil_iff a _ _ hl).2 (by omega))] at hT
          exact R.sat_pure ⟨nofun, hT⟩
        · rw [if_neg hend]
          rw [if_neg (fun hh => hend (by have := (slice_eq_nil_iff a _ _ hl).1 hh; omega))] at hT
          refine R.sat_bind_ok (Loc.wr_ok (h4 ▸ hpi)) ?_
          refine R.sat_pure ?_
          simp only []
          have hpp : pointer < p' + 1 := Nat.lt_succ_of_le g1
          refine ⟨hpp, hpl', hpi, h4, f0, Nat.lt_of_lt_of_le (Nat.sub_lt_sub_left hlt' hpp) hf0, ?_⟩
          rw [← hT]
          simp only [toSt, stPut, Loc.toList_wr]
      · simp only [if_neg c2] at hT ⊢
        exact R.sat_pure ⟨nofun, hT⟩
  · have hpe : p' = last := Decidable.not_not.1 hpe
    simp only [if_neg (Decidable.not_not.2 hpe)]
    rw [hpe, slice_nil a last last (Nat.le_refl _)] at hT
    simp only [] at hT
    refine R.sat_bind_ok (Loc.wr_ok (h4 ▸ hpi)) ?_
    refine R.sat_pure ?_
    simp only []
    have hpp : pointer < p' := hpe ▸ hlt'
    refine ⟨hpp, hpl, hpi, h4, f0, Nat.lt_of_lt_of_le (Nat.sub_lt_sub_left hlt' hpp) hf0, ?_⟩
    rw [← hT, hpe, slice_nil a last last (Nat.le_refl _)]
    simp only [toSt, stPut, Loc.toList_wr]

theorem v6Digits_spec (a : Array Nat) (first last : Nat) (hl : last ≤ a.size) (p0 piece0 fuel : Nat)
    (h1 : first ≤ p0) (h2 : p0 ≤ last) (hf : last - p0 < fuel) :
    (v6Digits a first last fuel (p0, piece0)).sat
      (fun r => (∀ p piece, r = some (p, piece) → p0 ≤ p ∧ p ≤ last) ∧
        r.map (fun s => (s.2, slice a s.1 last)) = Impl.v6Digits (slice a p0 last) piece0) := by
  unfold v6Digits
  refine scan_sat _ (·.1) p0 last (fun s =>
      Impl.v6Digits (slice a s.1 last) s.2 = Impl.v6Digits (slice a p0 last) piece0) _ ?_ _ _ (Nat.le_refl _) h2 rfl hf
  intro ⟨p, piece⟩ i1 i2 i3
  simp only at i1 i2 i3 ⊢
  refine R.sat_if (fun hp => ?_) (fun hp => ?_)
  · subst hp
    rw [slice_nil a p p (Nat.le_refl _), v6DigL_nil] at i3
    refine R.sat_pure ⟨fun _ _ e => by cases e; exact ⟨i1, i2⟩, ?_⟩
    simp only [Option.map_some]
    rw [slice_nil a p p (Nat.le_refl _)]
    exact i3
  have hpl : p < last := Nat.lt_of_le_of_ne i2 hp
  have hfp : first ≤ p := Nat.le_trans h1 i1
  refine R.sat_read hl ?_ hfp hpl
  rw [slice_cons a p last hpl hl, v6DigL_cons] at i3
  refine R.sat_if_eq i3 (fun hd i3 => ?_) (fun hd i3 => ?_)
  · refine R.sat_if_eq i3 (fun h0 i3 => R.sat_pure ⟨nofun, i3⟩) (fun h0 i3 => ?_)
    refine R.sat_if_eq i3 (fun hbig i3 => R.sat_pure ⟨nofun, i3⟩) (fun hbig i3 => ?_)
    refine R.sat_ptr ?_ (Nat.le_succ_of_le hfp) hpl
    exact R.sat_pure ⟨Nat.lt_succ_self _, hpl, i3⟩
  · refine R.sat_pure ⟨fun _ _ e => by cases e; exact ⟨i1, i2⟩, ?_⟩
    simp only [Option.map_some]
    rw [← i3, slice_cons a p last hpl hl]

def v4Res (cmp : Nat) : Option V6V4 → Option Impl.V6St
  | none => none
  | some (_, ns, pi, addr) => if ns ≠ 4 then none else some (toSt pi cmp addr)

theorem v6V4Loop_spec (a : Array Nat) (first last : Nat) (hl : last ≤ a.size) (cmp pointer p0 : Nat) (address : Loc)
    (h1 : first ≤ pointer) (h2 : pointer ≤ last) (h3 : p0 ≤ 6) (h4 : address.size = 8) (F : Nat)
    (hF : last - pointer < F) :
    (v6V4Loop a first last (last - first + 1) (pointer, 0, p0, address)).sat
      (fun r => (∀ s, r = some s → s.2.2.1 ≤ 8 ∧ s.2.2.2.size = 8) ∧
        v4Res cmp r = Impl.v6V4Loop F (slice a pointer last) 0 (toSt p0 cmp address)) := by
  unfold v6V4Loop
  -- piece_index goes up after every second number, so it stays below `p0 + 2 ≤ 8`: `address[piece_index]` is in range
  refine scan_sat _ (·.1) first last (fun s => s.2.1 ≤ 4 ∧ s.2.2.1 = p0 + s.2.1 / 2 ∧ s.2.2.2.size = 8 ∧
      ∃ f, last - s.1 < f ∧ Impl.v6V4Loop f (slice a s.1 last) s.2.1 (toSt s.2.2.1 cmp s.2.2.2) =
        Impl.v6V4Loop F (slice a pointer last) 0 (toSt p0 cmp address))
    _ ?_ _ _ h1 h2 ⟨by simp, by simp, h4, F, hF, rfl⟩ (Nat.lt_succ_of_le (Nat.sub_le_sub_left h1 last))
  intro ⟨ptr, ns, pi, addr⟩ i1 i2 ⟨i3, i4, i5, f, hf, hT⟩
  simp only at i1 i2 i3 i4 i5 hf hT ⊢
  obtain ⟨f0, rfl⟩ : ∃ f0, f = f0 + 1 := ⟨f - 1, by omega⟩
  refine R.sat_if (fun hlt => ?_) (fun hlt => ?_)
  · refine R.sat_pure ⟨fun _ e => by cases e; exact ⟨by simp only []; omega, i5⟩, ?_⟩
    rw [slice_nil a ptr last (Nat.le_of_not_lt hlt), v4Loop_nil] at hT
    rw [← hT]
    rfl
  have hlt' : ptr < last := Decidable.not_not.1 hlt
  rw [slice_cons a ptr last hlt' hl, v4Loop_step] at hT
  refine R.sat_bind (P := fun r => match r with
    | none => none = Impl.v6V4Loop F (slice a pointer last) 0 (toSt p0 cmp address)
    | some p => ptr ≤ p ∧ p ≤ last ∧ ns ≤ 3 ∧
        v4Body f0 ns (toSt pi cmp addr) (slice a p last) =
          Impl.v6V4Loop F (slice a pointer last) 0 (toSt p0 cmp address)) ?_ ?_
  · refine R.sat_if (fun hns => ?_) (fun hns => ?_)
    · rw [if_pos hns] at hT
      refine R.sat_read hl ?_ i1 hlt'
      refine R.sat_if (fun hc => ?_) (fun hc => ?_)
      · rw [if_pos hc] at hT
        refine R.sat_ptr ?_ (Nat.le_succ_of_le i1) hlt'
        exact R.sat_pure ⟨Nat.le_succ _, hlt', Nat.le_of_lt_succ hc.2, hT⟩
      · rw [if_neg hc] at hT
        exact R.sat_pure hT
    · rw [if_neg hns, ← slice_cons a ptr last hlt' hl] at hT
      exact R.sat_pure ⟨Nat.le_refl _, i2, by omega, hT⟩
  intro p? hp?
  cases p? with
  | none => exact R.sat_pure ⟨nofun, hp?⟩
  | some p =>
    obtain ⟨q1, q2, q3, hB⟩ := hp?
    simp only
    refine R.sat_if (fun hpe => ?_) (fun hpe => ?_)
    · rw [hpe, slice_nil a last last (Nat.le_refl _)] at hB
      exact R.sat_pure ⟨nofun, hB⟩
    have hpl : p < last := Nat.lt_of_le_of_ne q2 hpe
    have hfp : first ≤ p := Nat.le_trans i1 q1
    refine R.sat_read hl ?_ hfp hpl
    rw [slice_cons a p last hpl hl] at hB
    simp only [v4Body] at hB
    refine R.sat_if_eq hB (fun hd hB => R.sat_pure ⟨nofun, hB⟩) (fun hd hB => ?_)
    refine R.sat_read hl ?_ hfp hpl
    refine R.sat_ptr ?_ (Nat.le_succ_of_le hfp) hpl
    have hfuel : last - (p + 1) < last - p + 1 := by omega
    refine R.sat_bind (v6Digits_spec a first last hl (p + 1) (a[p]! - 0x30) _ (Nat.le_succ_of_le hfp) hpl hfuel) ?_
    intro r ⟨hr, hag⟩
    rw [← hag] at hB
    cases r with
    | none => exact R.sat_pure ⟨nofun, hB⟩
    | some pp =>
      obtain ⟨p', piece⟩ := pp
      have hb := hr p' piece rfl
      simp only [Option.map_some] at hB
      have hpi : pi < 8 := by omega
      simp only []
      refine R.sat_bind_ok (Loc.rd_ok (i5 ▸ hpi)) ?_
      refine R.sat_bind_ok (Loc.wr_ok (i5 ▸ hpi)) ?_
      refine R.sat_pure ?_
      simp only []
      have hpp : ptr < p' := Nat.lt_of_le_of_lt q1 hb.1
      refine ⟨hpp, hb.2, Nat.succ_le_succ q3, ?_, i5, f0,
        Nat.lt_of_lt_of_le (Nat.sub_lt_sub_left hlt' hpp) (Nat.le_of_lt_succ hf), ?_⟩
      · split <;> omega
      · rw [← hB]
        simp only [toSt, stV4, Loc.toList_wr, Loc.toList_getD addr pi (i5 ▸ hpi)]

theorem v6Shift_agrees (diff compress pieceIndex : Nat) (address : Loc) (hc : 1 ≤ compress) (hp : pieceIndex ≤ 8)
    (hd : diff = 8 - pieceIndex) (h4 : address.size = 8) :
    (v6Shift diff compress 9 (pieceIndex - 1, address)).sat
      (fun r => r.toList = Impl.v6Shift diff compress (pieceIndex - compress) address.toList) := by
  unfold v6Shift
  refine iter_sat _ (fun s => s.1 ≤ pieceIndex - 1 ∧ s.2.size = 8 ∧
      Impl.v6Shift diff compress (s.1 + 1 - compress) s.2.toList =
        Impl.v6Shift diff compress (pieceIndex - compress) address.toList) (fun s => s.1) _ ?_ _ _ ?_ ?_
  · intro ⟨ind, addr⟩ ⟨i1, i2, i3⟩
    simp only at i1 i2 i3 ⊢
    refine R.sat_if (fun hge => ?_) (fun hge => ?_)
    · have hid : ind + diff < 8 := by omega
      have hi : ind < 8 := Nat.lt_of_le_of_lt (Nat.le_add_right _ _) hid
      have h1 : 1 ≤ ind := Nat.le_trans hc hge
      refine R.sat_bind_ok (Loc.rd_ok (i2 ▸ hi)) ?_
      refine R.sat_bind_ok (Loc.wr_ok (i2 ▸ hid)) ?_
      refine R.sat_bind_ok (Loc.wr_ok (i2 ▸ hi)) ?_
      refine R.sat_pure ?_
      simp only []
      refine ⟨⟨Nat.le_trans (Nat.sub_le _ _) i1, i2, ?_⟩, Nat.sub_lt h1 Nat.one_pos⟩
      have e : ind + 1 - compress = (ind - compress) + 1 := by omega
      have e2 : compress + (ind - compress) = ind := by omega
      have e3 : ind - 1 + 1 - compress = ind - compress := by omega
      rw [e, v6ShiftL_succ, e2] at i3
      rw [e3, ← i3]
      have hw := Loc.toList_wr (addr.put (ind + diff) (addr.get ind)) ind 0
      rw [hw, Loc.toList_wr, Loc.toList_getD addr ind (i2 ▸ hi)]
    · refine R.sat_pure ?_
      have e : ind + 1 - compress = 0 := by omega
      rw [e] at i3
      rw [← i3]
      rfl
  · refine ⟨Nat.le_refl _, h4, ?_⟩
    have e : pieceIndex - 1 + 1 - compress = pieceIndex - compress := by omega
    simp only [e]
  · exact Nat.lt_succ_of_le (Nat.le_trans (Nat.sub_le _ _) hp)

theorem ipv6Parse_agrees (a : Array Nat) (first last : Nat) (h : first ≤ last) (hl : last ≤ a.size) :
    ipv6Parse a first last = .ok (Impl.ipv6Parse (slice a first last)) := by
  apply R.eq_ok_of_sat
  rw [ipv6Parse_eq, slice_length a first last hl]
  unfold ipv6Parse
  simp only []
  refine R.sat_if (fun h2 => ?_) (fun h2 => ?_)
  · rw [if_pos h2]
    refine R.sat_if (fun _ => R.sat_pure rfl) (fun h0 => ?_)
    exact R.sat_read hl (R.sat_pure rfl) (Nat.le_refl first)
  rw [if_neg h2]
  have hlt : first < last := by omega
  have hlt1 : first + 1 < last := by omega
  refine R.sat_read hl ?_ (Nat.le_refl first) hlt
  refine R.sat_bind (P := fun r => match r with
    | none => implStart (slice a first last) = none
    | some s => V6Inv first last s ∧
        implStart (slice a first last) = some (slice a s.1 last, toSt s.2.1 s.2.2.1 s.2.2.2)) ?_ ?_
  · rw [slice_cons a first last hlt hl, slice_cons a (first + 1) last hlt1 hl]
    refine R.sat_if (fun hc0 => ?_) (fun hc0 => ?_)
    · refine R.sat_read hl ?_ (by omega) hlt1
      refine R.sat_if (fun hc1 => ?_) (fun hc1 => ?_)
      · refine R.sat_pure ?_
        rw [hc0, implStart_colon _ _ hc1]
      · refine R.sat_ptr ?_
        refine R.sat_pure ?_
        rw [hc0, Decidable.not_not.1 hc1, implStart_compress]
        exact ⟨⟨Nat.le_add_right first 2, (by omega : first + 2 ≤ last), (by decide : 1 ≤ 8), rfl⟩, rfl⟩
    · refine R.sat_pure ?_
      simp only []
      refine ⟨⟨Nat.le_refl _, h, Nat.zero_le _, rfl⟩, ?_⟩
      rw [implStart_plain _ _ hc0, slice_cons a first last hlt hl, slice_cons a (first + 1) last hlt1 hl]
      rfl
  intro start hstart
  cases start with
  | none =>
    simp only [] at hstart
    rw [hstart]
    exact R.sat_pure rfl
  | some st =>
    obtain ⟨hinv, hst⟩ := hstart
    rw [hst]
    simp only [Option.bind]
    refine R.sat_bind (v6MainLoop_spec a first last hl st hinv (last - first + 1) (by have := hinv.1; omega)) ?_
    intro r ⟨hr, hag⟩
    rw [← hag]
    cases r with
    | none => exact R.sat_pure rfl
    | some sb =>
      obtain ⟨⟨pointer, pieceIndex, compress, address⟩, isIpv4⟩ := sb
      obtain ⟨m1, m2, m3, m4⟩ := hr _ _ rfl
      simp only at m1 m2 m3 m4 ⊢
      refine R.sat_bind (P := fun r => (∀ pi ad, r = some (pi, ad) → pi ≤ 8 ∧ ad.size = 8) ∧
        r.map (fun pa => toSt pa.1 compress pa.2) =
          implV4 (last - first + 1) (mainRes a last (some ((pointer, pieceIndex, compress, address), isIpv4)))) ?_ ?_
      · refine R.sat_if (fun hv4 => ?_) (fun hv4 => ?_)
        · subst hv4
          refine R.sat_if (fun h6 => ?_) (fun h6 => ?_)
          · refine R.sat_pure ⟨(by intro _ _ hh; cases hh), ?_⟩
            simp only [mainRes, implV4, if_true, toSt, if_pos h6]
            rfl
          · refine R.sat_bind (v6V4Loop_spec a first last hl compress pointer pieceIndex address m1 m2 (by omega) m4
                (last - first + 1) (by omega)) ?_
            intro r4 ⟨hr4, hag4⟩
            have himp : implV4 (last - first + 1) (mainRes a last (some ((pointer, pieceIndex, compress, address), true))) =
                v4Res compress r4 := by
              rw [hag4]
              simp only [mainRes, implV4, if_true, toSt, if_neg h6]
            rw [himp]
            cases r4 with
            | none => exact R.sat_pure ⟨(by intro _ _ hh; cases hh), rfl⟩
            | some s4 =>
              obtain ⟨p4, ns4, pi4, ad4⟩ := s4
              have := hr4 _ rfl
              simp only at this ⊢
              refine R.sat_if (fun hns => ?_) (fun hns => ?_)
              · refine R.sat_pure ⟨(by intro _ _ hh; cases hh), ?_⟩
                simp only [v4Res, if_pos hns]
                rfl
              · refine R.sat_pure ⟨?_, ?_⟩
                · intro pi ad hh
                  simp only [Option.some.injEq, Prod.mk.injEq] at hh
                  rw [← hh.1, ← hh.2]
                  exact this
                · simp only [v4Res, if_neg hns]
                  rfl
        · have : isIpv4 = false := by simpa using hv4
          subst this
          refine R.sat_pure ⟨?_, ?_⟩
          · intro pi ad hh
            simp only [Option.some.injEq, Prod.mk.injEq] at hh
            rw [← hh.1, ← hh.2]
            exact ⟨m3, m4⟩
          · simp [mainRes, implV4]
      intro tail ⟨htail, htag⟩
      rw [← htag]
      cases tail with
      | none => exact R.sat_pure rfl
      | some pa =>
        obtain ⟨pi, ad⟩ := pa
        have ht := htail pi ad rfl
        simp only [Option.map_some, implFinal, toSt]
        refine R.sat_if (fun hcm => ?_) (fun hcm => ?_)
        · rw [if_pos hcm]
          refine R.sat_if (fun hdf => ?_) (fun hdf => ?_)
          · rw [if_pos hdf]
            refine R.sat_bind (v6Shift_agrees _ compress pi ad (by omega) ht.1 rfl ht.2) ?_
            intro r hr
            refine R.sat_pure ?_
            rw [hr]
          · rw [if_neg hdf]
            exact R.sat_pure rfl
        · rw [if_neg hcm]
          refine R.sat_if (fun h8 => ?_) (fun h8 => ?_)
          · rw [if_pos h8]
            exact R.sat_pure rfl
          · rw [if_neg h8]
            exact R.sat_pure rfl

theorem ipv6Parse_sat (a : Array Nat) (first last : Nat) (h : first ≤ last) (hl : last ≤ a.size) :
    (ipv6Parse a first last).sat (fun _ => True) :=
  R.sat_of_eq_ok (ipv6Parse_agrees a first last h hl)

end Upa.Impl.B
