import Upa.Impl.SetRepExc
/-
  The computations `X` of `Impl/SetRepExc.lean`: `run` threads a failure counter through `pure`, `>>=`,
  `mayThrow`, and the failure states are the points `pts`.  "Whichever primitive fails, the object is left
  in a state satisfying `P`" is `Leaves m P`, proved along the program from what each primitive leaves.
  `val` is a monad morphism to the plain functions of Impl/SetRep.lean, Impl/SetRepApi.lean, Impl/UpdateRep.lean.
-/
namespace Upa.Proofs.SetRepExc
open Upa Upa.Impl

@[simp] theorem pts_pure {α : Type} (a : α) : (pure a : X α).pts = [] := rfl
@[simp] theorem val_pure {α : Type} (a : α) : (pure a : X α).val = a := rfl
@[simp] theorem pts_bind {α β : Type} (m : X α) (f : α → X β) : (m >>= f).pts = m.pts ++ (f m.val).pts := rfl
@[simp] theorem val_bind {α β : Type} (m : X α) (f : α → X β) : (m >>= f).val = (f m.val).val := rfl
theorem X.bind_assoc {α β γ : Type} (m : X α) (f : α → X β) (g : β → X γ) :
    m >>= f >>= g = m >>= fun a => f a >>= g :=
  congrArg (X.mk · _) (List.append_assoc ..)
@[simp] theorem pts_mayThrow (r : Rep) : (mayThrow r).pts = [r] := rfl
@[simp] theorem pts_mayThrowN (n : Nat) (r : Rep) : (mayThrowN n r).pts = List.replicate n r := rfl

/-! ### the laws of `run` -/

theorem run_none {α : Type} (m : X α) : m.run none = (.done m.val, m.pts.length) := rfl

theorem run_lt {α : Type} (m : X α) (k : Nat) (h : k < m.pts.length) :
    m.run (some k) = (.threw m.pts[k], k) := by
  simp [X.run, List.getElem?_eq_getElem h]

theorem run_ge {α : Type} (m : X α) (k : Nat) (h : m.pts.length ≤ k) :
    m.run (some k) = (.done m.val, m.pts.length) := by
  simp [X.run, List.getElem?_eq_none h]

theorem run_pure {α : Type} (a : α) (k : Option Nat) : (pure a : X α).run k = (.done a, 0) := by
  cases k <;> rfl

theorem run_mayThrow (r : Rep) (k : Option Nat) :
    (mayThrow r).run k = if k = some 0 then (.threw r, 0) else (.done (), 1) := by
  cases k with
  | none => rfl
  | some k => cases k <;> rfl

theorem run_bind {α β : Type} (m : X α) (f : α → X β) (k : Option Nat) :
    (m >>= f).run k =
      match m.run k with
      | (.threw r, n) => (.threw r, n)
      | (.done a, n) =>
        let p := (f a).run (k.map (· - n))
        (p.1, n + p.2) := by
  cases k with
  | none => simp [run_none]
  | some k =>
    by_cases h : k < m.pts.length
    · simp [X.run, List.getElem?_append_left h, List.getElem?_eq_getElem h]
    · have h' : m.pts.length ≤ k := Nat.le_of_not_lt h
      simp only [X.run, pts_bind, val_bind, List.getElem?_append_right h', List.getElem?_eq_none h',
        Option.map_some]
      cases (f m.val).pts[k - m.pts.length]? with
      | none => simp
      | some r => simp; omega

theorem filterMap_range_eq {β : Type} (l : List β) (g : Nat → Option β)
    (h : ∀ k, k < l.length → g k = l[k]?) : (List.range l.length).filterMap g = l := by
  induction l generalizing g with
  | nil => rfl
  | cons a t ih =>
    rw [List.length_cons, List.range_succ_eq_map, List.filterMap_cons, h 0 (Nat.zero_lt_succ _),
      List.filterMap_map]
    exact congrArg (a :: ·) (ih _ fun k hk => h (k + 1) (Nat.succ_lt_succ hk))

theorem failStates_eq {α : Type} (m : X α) : m.failStates = m.pts :=
  filterMap_range_eq m.pts _ fun k hk => by
    rw [run_lt m k hk]
    exact (List.getElem?_eq_getElem hk).symm

theorem run_threw_mem {α : Type} (m : X α) (k : Option Nat) (r' : Rep) (h : (m.run k).1 = .threw r') :
    r' ∈ m.pts := by
  cases k with
  | none => simp [run_none] at h
  | some k =>
    by_cases hk : k < m.pts.length
    · rw [run_lt m k hk] at h
      simp only [Res.threw.injEq] at h
      rw [← h]; exact List.getElem_mem hk
    · rw [run_ge m k (by omega)] at h
      simp at h

theorem mem_run {α : Type} (m : X α) (r' : Rep) (h : r' ∈ m.pts) : ∃ k, m.run (some k) = (.threw r', k) := by
  obtain ⟨k, hk, e⟩ := List.getElem_of_mem h
  exact ⟨k, by rw [run_lt m k hk, e]⟩

/-- whichever throwing primitive of `m` fails, the object is left in a state satisfying `P` -/
def Leaves {α : Type} (m : X α) (P : Rep → Prop) : Prop := ∀ r ∈ m.pts, P r

theorem leaves_iff_run {α : Type} (m : X α) (P : Rep → Prop) :
    Leaves m P ↔ ∀ k r, (m.run k).1 = .threw r → P r :=
  ⟨fun h k r hk => h r (run_threw_mem m k r hk),
   fun h r hr => by obtain ⟨k, hk⟩ := mem_run m r hr; exact h (some k) r (by rw [hk])⟩

theorem leaves_pure {α : Type} {a : α} {P : Rep → Prop} : Leaves (pure a : X α) P :=
  fun _ h => nomatch h

theorem Leaves.bind {α β : Type} {m : X α} {f : α → X β} {P : Rep → Prop} (h1 : Leaves m P)
    (h2 : Leaves (f m.val) P) : Leaves (m >>= f) P :=
  fun r hr => (List.mem_append.mp hr).elim (h1 r) (h2 r)

theorem Leaves.map {α β : Type} {m : X α} {P : Rep → Prop} (h : Leaves m P) {g : α → β} :
    Leaves (m >>= fun x => pure (g x)) P :=
  h.bind leaves_pure

theorem leaves_mayThrow {r : Rep} {P : Rep → Prop} (h : P r) : Leaves (mayThrow r) P :=
  fun _ hr => List.mem_singleton.mp hr ▸ h

theorem leaves_mayThrowN (n : Nat) {r : Rep} {P : Rep → Prop} (h : P r) : Leaves (mayThrowN n r) P :=
  fun _ hr => (List.mem_replicate.mp hr).2 ▸ h

theorem leaves_ite {α : Type} {c : Prop} [Decidable c] {a b : X α} {P : Rep → Prop}
    (ha : c → Leaves a P) (hb : ¬ c → Leaves b P) : Leaves (if c then a else b) P := by
  by_cases h : c
  · rw [if_pos h]; exact ha h
  · rw [if_neg h]; exact hb h

/-- an exit before anything is written, on either side of a test -/
theorem leaves_exitOr {α : Type} {c : Prop} [Decidable c] {a : α} {m : X α} {P : Rep → Prop}
    (h : Leaves m P) : Leaves (if c then pure a else m) P :=
  leaves_ite (fun _ => leaves_pure) fun _ => h

theorem leaves_orExit {α : Type} {c : Prop} [Decidable c] {a : α} {m : X α} {P : Rep → Prop}
    (h : Leaves m P) : Leaves (if c then m else pure a) P :=
  leaves_ite (fun _ => h) fun _ => leaves_pure

theorem Leaves.mono {α : Type} {m : X α} {P Q : Rep → Prop} (h : Leaves m P) (hPQ : ∀ r, P r → Q r) :
    Leaves m Q :=
  fun r hr => hPQ r (h r hr)

theorem Leaves.of_eq {α : Type} {m : X α} {r : Rep} {P : Rep → Prop} (h : Leaves m (· = r)) (hr : P r) :
    Leaves m P :=
  h.mono fun _ e => e ▸ hr

theorem setRepX_threw_mem (idna : Idna) (s : Setter) (e : Enc) (units : List Nat) (r : Rep)
    (k : Option Nat) (r' : Rep) (h : (setRepX idna s e units r k).1 = .threw r') :
    r' ∈ (setRepT idna s e units r).pts := by
  unfold setRepX at h
  apply run_threw_mem _ k
  generalize (setRepT idna s e units r).run k = p at h ⊢
  obtain ⟨o, n⟩ := p
  cases o with
  | done x => simp at h
  | threw r2 => simpa using h

theorem setRepX_leaves {idna : Idna} {s : Setter} {e : Enc} {units : List Nat} {r : Rep} {P : Rep → Prop}
    (h : Leaves (setRepT idna s e units r) P) (k : Option Nat) :
    match (setRepX idna s e units r k).1 with
    | .done _ => True
    | .threw r' => P r' := by
  cases hk : (setRepX idna s e units r k).1 with
  | done _ => trivial
  | threw r' => exact h r' (setRepX_threw_mem idna s e units r k r' hk)

theorem setRepX_eq (idna : Idna) (s : Setter) (e : Enc) (units : List Nat) (r : Rep) (k : Option Nat) :
    setRepX idna s e units r k =
      match k with
      | none => (.done (setRepT idna s e units r).val.1, (setRepT idna s e units r).pts.length)
      | some k =>
        match (setRepT idna s e units r).pts[k]? with
        | some r' => (.threw r', k)
        | none => (.done (setRepT idna s e units r).val.1, (setRepT idna s e units r).pts.length) := by
  unfold setRepX X.run
  cases k with
  | none => rfl
  | some k =>
    simp only
    cases (setRepT idna s e units r).pts[k]? <;> rfl

theorem failStates_setter_eq (idna : Idna) (s : Setter) (e : Enc) (units : List Nat) (r : Rep) :
    failStates idna s e units r = (setRepT idna s e units r).pts := by
  unfold failStates
  rw [setRepX_eq]
  exact filterMap_range_eq _ _ fun k hk => by
    rw [setRepX_eq]
    simp only [List.getElem?_eq_getElem hk]

/-! ### without a failure: the functions of SetRep.lean -/

theorem rep_norm_append_nil (r : Rep) : ({ r with norm := r.norm ++ [] } : Rep) = r := by
  cases r; simp

@[simp] theorem appendNormX_val (r : Rep) (t : List Nat) :
    (appendNormX r t).val = { r with norm := r.norm ++ t } := rfl

@[simp] theorem appendNormX_pts (r : Rep) (t : List Nat) : (appendNormX r t).pts = [r] := rfl

@[simp] theorem appendUnitsX_val (r : Rep) (t : List Nat) :
    (appendUnitsX r t).val = { r with norm := r.norm ++ t } := by
  induction t generalizing r with
  | nil => exact (rep_norm_append_nil r).symm
  | cons c t ih =>
    simp only [appendUnitsX, val_bind, appendNormX_val, ih]
    simp

@[simp] theorem replacePartX_val (r : Rep) (l f : Nat) (s : List Nat) (n : Nat) :
    (replacePartX r l f s n).val = replacePart r l f s n := rfl

@[simp] theorem replacePartX_pts (r : Rep) (l f : Nat) (s : List Nat) (n : Nat) :
    (replacePartX r l f s n).pts = [r] := rfl

@[simp] theorem replacePart1X_val (r : Rep) (pt : Nat) (s : List Nat) :
    (replacePart1X r pt s).val = replacePart1 r pt s := rfl

@[simp] theorem replacePart1X_pts (r : Rep) (pt : Nat) (s : List Nat) :
    (replacePart1X r pt s).pts = [r] := rfl

/-- the second switch of `start_part` appends a delimiter or nothing -/
theorem appendNormX_unless_nil_val (r : Rep) (d : List Nat) :
    (if d = [] then pure r else appendNormX r d).val = { r with norm := r.norm ++ d } := by
  by_cases hd : d = []
  · rw [if_pos hd, hd]; exact (rep_norm_append_nil r).symm
  · rw [if_neg hd]; rfl

@[simp] theorem serStartPartX_val (r : Rep) (lastPt newPt : Nat) :
    (serStartPartX r lastPt newPt).val = serStartPart r lastPt newPt := by
  -- `↓`: the second switch as a whole, before `val` is pushed into its two branches
  simp only [serStartPartX, serStartPart, serSwitch1X, ↓appendNormX_unless_nil_val, apply_ite X.val, val_bind,
    val_pure, appendNormX_val]

@[simp] theorem setStartPartX_val (r : Rep) (newPt : Nat) :
    (setStartPartX r newPt).val = setStartPart r newPt := by
  simp only [setStartPartX, setStartPart, apply_ite X.val, val_bind, val_pure, serStartPartX_val]

@[simp] theorem appendX_val (o : Open) (t : List Nat) : (o.appendX t).val = o.append t := by
  unfold Open.appendX Open.append
  split
  · rfl
  · simp only [val_bind, val_pure, appendUnitsX_val]

@[simp] theorem setSavePartX_val (o : Open) : (setSavePartX o).val = setSavePart o := by
  unfold setSavePartX setSavePart
  simp only [apply_ite X.val, val_bind, val_pure, replacePartX_val, replacePart1X_val]

@[simp] theorem writePartX_val (r : Rep) (pt : Nat) (text : List Nat) :
    (writePartX r pt text).val = writePart r pt text := by
  simp only [writePartX, writePart, val_bind, setStartPartX_val, appendX_val, setSavePartX_val]

@[simp] theorem writePartFlagX_val (r : Rep) (pt : Nat) (text : List Nat) :
    (writePartFlagX r pt text).val = writePartFlag r pt text := by
  simp only [writePartFlagX, writePartFlag, val_bind, val_pure, writePartX_val]

@[simp] theorem clearPartX_val (r : Rep) (pt : Nat) : (clearPartX r pt).val = clearPart r pt := by
  unfold clearPartX clearPart
  split <;> rfl

@[simp] theorem emptyPartX_val (r : Rep) (pt : Nat) : (emptyPartX r pt).val = emptyPart r pt := by
  unfold emptyPartX emptyPart
  split <;> rfl

@[simp] theorem emptyHostRepX_val (r : Rep) : (emptyHostRepX r).val = emptyHostRep r := by
  simp only [emptyHostRepX, emptyHostRep, val_bind, val_pure, emptyPartX_val]

@[simp] theorem hostDoneX_val (o : Open) (ht : Nat) : (hostDoneX o ht).val = hostDone o ht := by
  unfold hostDoneX hostDone
  simp only [val_bind, setSavePartX_val, apply_ite X.val, val_pure, replacePart1X_val]

@[simp] theorem writeHostX_val (r : Rep) (text : List Nat) (ht : Nat) :
    (writeHostX r text ht).val = writeHost r text ht := by
  simp only [writeHostX, writeHost, val_bind, setStartPartX_val, appendX_val, hostDoneX_val]

@[simp] theorem setEmptyHostX_val (r : Rep) : (setEmptyHostX r).val = setEmptyHost r := by
  simp only [setEmptyHostX, setEmptyHost, val_bind, val_pure, writePartX_val]

@[simp] theorem adjustPathPrefixX_val (r : Rep) : (adjustPathPrefixX r).val = adjustPathPrefix r := by
  unfold adjustPathPrefixX adjustPathPrefix
  simp only [apply_ite X.val, val_pure, replacePart1X_val]

@[simp] theorem commitPathX_val (r : Rep) (t : List Nat) (n : Nat) :
    (commitPathX r t n).val = commitPath r t n := by
  simp only [commitPathX, commitPath, val_bind, replacePart1X_val, adjustPathPrefixX_val]

@[simp] theorem pushX_val (r : Rep) (b : PathBuf) (seg : List Nat) : (b.pushX r seg).val = b.push seg := rfl

@[simp] theorem commitPathBufX_val (r : Rep) (b : PathBuf) : (commitPathBufX r b).val = commitPathBuf r b := by
  simp only [commitPathBufX, commitPathBuf, commitPathX_val]

@[simp] theorem saveSchemeX_val (r : Rep) (s : List Nat) : (saveSchemeX r s).val = saveScheme r s := by
  simp only [saveSchemeX, saveScheme, val_bind, val_pure, replacePart1X_val]

/-! ### without a failure: the functions of SetRepApi.lean / UpdateRep.lean -/

@[simp] theorem val_mayThrow_bind {β : Type} (r : Rep) (f : Unit → X β) :
    (mayThrow r >>= f).val = (f ()).val := rfl

@[simp] theorem val_mayThrowN_bind {β : Type} (n : Nat) (r : Rep) (f : Unit → X β) :
    (mayThrowN n r >>= f).val = (f ()).val := rfl

@[simp] theorem val_preludeX_bind {β : Type} (r : Rep) (f : Unit → X β) :
    (preludeX r >>= f).val = (f ()).val := rfl

@[simp] theorem protocolRepX_val (r : Rep) (p : List Nat) : (protocolRepX r p).val = protocolRep r p := by
  unfold protocolRepX protocolRep
  cases p with
  | nil => rfl
  | cons c0 r0 =>
    simp only [apply_ite X.val, val_pure, val_bind, saveSchemeX_val, clearPartX_val]
    rfl

@[simp] theorem parseHostRepX_val (idna : Idna) (r : Rep) (s : List Nat) :
    (parseHostRepX idna r s).val = parseHostRep idna r s := by
  unfold parseHostRepX parseHostRep
  cases s with
  | nil => simp only [val_bind, val_pure, writeHostX_val]
  | cons c t =>
    simp only [val_bind]
    cases parseHost idna (c :: t) (!r.isSpecialScheme) with
    | none => rfl
    | some h => simp only [val_bind, val_pure, writeHostX_val]

@[simp] theorem portStateRepX_val (r : Rep) (p : List Nat) : (portStateRepX r p).val = portStateRep r p := by
  unfold portStateRepX portStateRep
  simp only [apply_ite X.val, val_pure, val_bind, writePartFlagX_val, clearPartX_val]

@[simp] theorem fileHostStateRepX_val (idna : Idna) (r : Rep) (p : List Nat) :
    (fileHostStateRepX idna r p).val = fileHostStateRep idna r p := by
  unfold fileHostStateRepX fileHostStateRep
  simp only [apply_ite X.val, val_pure, val_bind, setEmptyHostX_val, parseHostRepX_val, emptyHostRepX_val]

@[simp] theorem hostStateRepX_val (idna : Idna) (b : Bool) (r : Rep) (p : List Nat) :
    (hostStateRepX idna b r p).val = hostStateRep idna b r p := by
  unfold hostStateRepX hostStateRep
  simp only [apply_ite X.val, val_pure, val_bind, fileHostStateRepX_val, parseHostRepX_val]
  generalize hostScan _ false = sc
  obtain ⟨hp, pp⟩ := sc
  cases pp <;> simp only [val_pure, portStateRepX_val]

@[simp] theorem pathSegmentBufX_val (r : Rep) (isFile : Bool) (b : PathBuf) (seg : List Nat) (l : Bool) :
    (pathSegmentBufX r isFile b seg l).val = pathSegmentBuf isFile b seg l := by
  unfold pathSegmentBufX pathSegmentBuf
  simp only [apply_ite X.val, val_pure, pushX_val]
  congr 2
  rcases seg with _ | ⟨a, _ | ⟨c, _ | _⟩⟩
  · rfl
  · rfl
  · exact apply_ite ..
  · rfl

@[simp] theorem pathSegmentsBufX_val (r : Rep) (isFile : Bool) (b : PathBuf) (segs : List (List Nat)) :
    (pathSegmentsBufX r isFile b segs).val = pathSegmentsBuf isFile b segs := by
  induction segs generalizing b with
  | nil => rfl
  | cons seg rest ih =>
    cases rest with
    | nil => exact pathSegmentBufX_val r isFile b seg true
    | cons s2 r2 =>
      rw [pathSegmentsBufX, pathSegmentsBuf]
      · simp only [val_bind, pathSegmentBufX_val, ih]
      · simp
      · simp

@[simp] theorem parsePathBufX_val (r : Rep) (s : List Nat) : (parsePathBufX r s).val = parsePathBuf r s := by
  simp only [parsePathBufX, parsePathBuf, pathSegmentsBufX_val]

@[simp] theorem pathStartStateRepX_val (r : Rep) (p : List Nat) :
    (pathStartStateRepX r p).val = pathStartStateRep r p := by
  unfold pathStartStateRepX pathStartStateRep
  split
  · simp only [val_bind, val_pure, parsePathBufX_val, commitPathBufX_val]
    rfl
  · cases p with
    | nil => simp only [val_bind, val_pure, apply_ite X.val, pushX_val, commitPathBufX_val]
    | cons c rest => simp only [val_bind, val_pure, parsePathBufX_val, commitPathBufX_val]

@[simp] theorem queryStateRepX_val (r : Rep) (p : List Nat) : (queryStateRepX r p).val = queryStateRep r p := by
  simp only [queryStateRepX, queryStateRep, val_bind, val_pure, writePartFlagX_val]

@[simp] theorem fragmentStateRepX_val (r : Rep) (p : List Nat) :
    (fragmentStateRepX r p).val = fragmentStateRep r p := by
  simp only [fragmentStateRepX, fragmentStateRep, val_bind, val_pure, writePartFlagX_val]

theorem setRepT_val (idna : Idna) (s : Setter) (e : Enc) (units : List Nat) (r : Rep) :
    (setRepT idna s e units r).val = setRep idna s e units r := by
  unfold setRepT setRep
  cases s with
  | search | hash =>
    cases units <;> simp only [val_bind, val_pure, clearPartX_val, queryStateRepX_val, fragmentStateRepX_val]
  | _ =>
    simp only [apply_ite X.val, val_pure, val_bind, protocolRepX_val, writePartX_val, hostStateRepX_val, portStateRepX_val, clearPartX_val, pathStartStateRepX_val]

theorem updateRepT_val (r : Rep) (l : List BPair) : (updateRepT r l).val = updateRep r l := by
  unfold updateRepT updateRep
  simp only [apply_ite X.val, val_bind, val_pure, clearPartX_val, writePartFlagX_val]

theorem updateRepSerT_val (r : Rep) (ser : List Nat) : (updateRepSerT r ser).val = updateRepSer r ser := by
  unfold updateRepSerT updateRepSer
  simp only [apply_ite X.val, val_bind, val_pure, clearPartX_val, writePartFlagX_val]

/-! ### operations that touch the object by ONE `replace_part`, or not at all

  Whatever fails, the object is as it was on entry. -/

theorem leaves_replacePartX {r : Rep} {l f : Nat} {s : List Nat} {n : Nat} :
    Leaves (replacePartX r l f s n) (· = r) :=
  Leaves.bind (leaves_mayThrow rfl) leaves_pure

/-- at every throwing primitive of `save_part` the object is still `o.rep`: `strp_ += '@'` grows the
    temporary, and every branch ends in one `replace_part` -/
theorem leaves_setSavePartX {o : Open} : Leaves (setSavePartX o) (· = o.rep) := by
  unfold setSavePartX
  exact leaves_ite
    (fun _ => leaves_ite (fun _ => leaves_ite (fun _ => leaves_replacePartX) fun _ => leaves_replacePartX)
      fun _ => leaves_ite (fun _ => Leaves.bind (leaves_mayThrow rfl) leaves_replacePartX)
        fun _ => leaves_ite (fun _ => leaves_replacePartX) fun _ => leaves_replacePartX)
    fun _ => leaves_pure

theorem leaves_clearPartX {r : Rep} {pt : Nat} : Leaves (clearPartX r pt) (· = r) :=
  leaves_orExit (Leaves.map leaves_replacePartX)

theorem leaves_emptyPartX {r : Rep} {pt : Nat} : Leaves (emptyPartX r pt) (· = r) :=
  leaves_orExit leaves_replacePartX

theorem leaves_emptyHostRepX {r : Rep} : Leaves (emptyHostRepX r) (· = r) :=
  Leaves.map leaves_emptyPartX

theorem leaves_saveSchemeX {r : Rep} {s : List Nat} : Leaves (saveSchemeX r s) (· = r) :=
  Leaves.bind leaves_replacePartX leaves_pure

theorem leaves_adjustPathPrefixX {r : Rep} : Leaves (adjustPathPrefixX r) (· = r) :=
  leaves_orExit leaves_replacePartX

theorem leaves_preludeX {r : Rep} : Leaves (preludeX r) (· = r) := leaves_mayThrowN 3 rfl

/-! the new path is built in temporaries of the setter -/

theorem leaves_pushX {r : Rep} {b : PathBuf} {seg : List Nat} : Leaves (b.pushX r seg) (· = r) :=
  Leaves.bind (leaves_mayThrowN _ rfl) leaves_pure

theorem leaves_pathSegmentBufX {r : Rep} {isFile : Bool} {b : PathBuf} {seg : List Nat} {l : Bool} :
    Leaves (pathSegmentBufX r isFile b seg l) (· = r) := by
  unfold pathSegmentBufX
  refine leaves_ite (fun _ => leaves_orExit leaves_pushX)
    fun _ => leaves_ite (fun _ => leaves_orExit leaves_pushX) fun _ => ?_
  split
  · exact leaves_ite (fun _ => leaves_pushX) fun _ => leaves_pushX
  · exact leaves_pushX

theorem leaves_pathSegmentsBufX {r : Rep} {isFile : Bool} {b : PathBuf} {segs : List (List Nat)} :
    Leaves (pathSegmentsBufX r isFile b segs) (· = r) := by
  induction segs generalizing b with
  | nil => exact leaves_pure
  | cons seg rest ih =>
    cases rest with
    | nil => exact leaves_pathSegmentBufX
    | cons s2 r2 => exact Leaves.bind leaves_pathSegmentBufX ih

theorem leaves_appendUnitsX {P : Rep → Prop} (happ : ∀ (r : Rep) (t : List Nat), P r → P { r with norm := r.norm ++ t })
    {r : Rep} (h : P r) (t : List Nat) : Leaves (appendUnitsX r t) P := by
  induction t generalizing r with
  | nil => exact leaves_pure
  | cons c t ih => exact Leaves.bind (Leaves.bind (leaves_mayThrow h) leaves_pure) (ih (happ r [c] h))

end Upa.Proofs.SetRepExc
