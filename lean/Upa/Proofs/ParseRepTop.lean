import Upa.Proofs.ParseRepFile
import Upa.Proofs.ParseRepRel
/-
  The head of the parser (file states, the fragment-only reference against an opaque path, no_scheme
  and scheme states), for no base or a base given by any representation (`BaseRel`), and the assembled
  simulation for `parseRep`.
-/

namespace Upa.Proofs.ParseRep
open Upa Upa.Impl Upa.Proofs.C05 Upa.Proofs.SetRep Upa.Proofs.SetRepApi Upa.Props

/-! ### the base argument -/

/-- the base argument of the two parsers: none, or a record satisfying `BaseOk` and one of its representations -/
inductive BaseRel : Option Rep → Option Url → Prop
  | nobase : BaseRel none none
  | base {b : Url} {B : List (List Nat)} : BaseOk b → Rp (segsOf b) B → BaseRel (some (mkRep (layout b) B)) (some b)

theorem BaseRel.of_repFor {rb : Rep} {b : Url} (ok : BaseOk b) (hrb : RepFor rb b) : BaseRel (some rb) (some b) := by
  obtain ⟨B, hB, rfl⟩ := base_present ok hrb
  exact .base ok hB

/-! ### file_slash_state, file_state -/

theorem fileCopy5 (b : Url) : ({ scheme := sFile, host := b.host } : Url) = fileCopy b 5 := by
  simp [fileCopy, PATH, QUERY]

theorem fileCopy8 (b : Url) : ({ scheme := sFile, host := b.host, path := b.path } : Url) = fileCopy b 8 := by
  simp [fileCopy, PATH, QUERY]

theorem fileCopy9 (b : Url) :
    ({ scheme := sFile, host := b.host, path := b.path, query := b.query } : Url) = fileCopy b 9 := by
  simp [fileCopy, PATH, QUERY]

theorem sim_fileSlash (idna : Idna) {rbase : Option Rep} {base : Option Url} (hb : BaseRel rbase base) {s : Ser}
    (h : FileInv s { scheme := sFile, host := some emptyHost } emptyHost) (p : List Nat) :
    Agree (fileSlashStateSer idna rbase s p)
      (fileSlashState idna base none { scheme := sFile, host := some emptyHost } p) := by
  have hdef : Agree (fileSlashStateSer.fileSlashDefault rbase s p)
      (fileSlashState.fileSlashDefault base none { scheme := sFile, host := some emptyHost } p) := by
    unfold fileSlashStateSer.fileSlashDefault fileSlashState.fileSlashDefault
    cases hb with
    | nobase => exact sim_pathState h.hostPre.1.pathInv _
    | @base b B ok hB =>
    have hrb := ok.repFor hB
    simp only [isFileScheme_eq hrb]
    by_cases hfile : b.isFile = true
    · simp only [hfile, if_true, fileCopy5]
      have ho : b.hasOpaquePath = false := ok.special_list (Proofs.C08.file_special hfile)
      obtain ⟨k1, k2, _⟩ := file_copy ok hB hfile h 5 (by simp)
      have hpi : PathInv (s.appendParts (mkRep (layout b) B) HOST HOST none) (fileCopy b 5) :=
        k1.pathInv (Nat.lt_of_le_of_lt k2 (by decide)) rfl rfl rfl rfl
      apply sim_pathState
      by_cases hwd : startsWithWindowsDrive p = true
      · simp only [hwd, Bool.not_true, Bool.false_eq_true, if_false]
        exact hpi
      · simp only [hwd, Bool.not_false, if_true]
        obtain ⟨f1, f2⟩ := base_firstString ok hrb ho
        rw [f1]
        by_cases hd : headDrive b.path = true
        · obtain ⟨a, c, rest, hp, htk⟩ := f2 hd
          rw [if_pos hd, htk]
          have hdr : isNormalizedWindowsDrive a c = true := by
            rw [hp] at hd; exact hd
          have hns : ∀ x ∈ [a, c], x ≠ 0x2F := ok.noSlash ho [a, c] (by rw [hp]; simp)
          have := pathInv_push hpi [a, c] hns
          simp only [hp, hdr, if_true]
          have e : ({ scheme := sFile, host := b.host, path := [] ++ [[a, c]] } : Url) =
              { fileCopy b 5 with path := (fileCopy b 5).path ++ [[a, c]] } := by
            simp [fileCopy, PATH, QUERY]
          rw [e]
          exact this
        · rw [if_neg hd]
          split
          · next a c rest hp =>
            have : isNormalizedWindowsDrive a c = false := by
              rw [hp] at hd; simpa [headDrive] using hd
            simp only [this, Bool.false_eq_true, if_false]
            exact hpi
          · exact hpi
    · simp only [hfile, Bool.false_eq_true, if_false]
      exact sim_pathState h.hostPre.1.pathInv _
  unfold fileSlashStateSer fileSlashState
  cases p with
  | nil => exact hdef
  | cons c r => exact Agree.ite (fun _ => sim_fileHost idna h rfl _) fun _ => hdef

/-- `hS`, `hU`: the first line of file_state (`if (!is_file_scheme()) set_scheme("file")`) has been run on both
    sides.  It is entered from scheme_state with the scheme "file" just written, and from no_scheme_state on a
    fresh object. -/
theorem sim_file (idna : Idna) {rbase : Option Rep} {base : Option Url} (hb : BaseRel rbase base) {s : Ser} {u : Url}
    (hS : SchInv (if (!s.rep.isFileScheme) = true then s.setSchemeStr sFile else s) { scheme := sFile })
    (hU : (if (!u.isFile) = true then ({ u with scheme := sFile } : Url) else u) = { scheme := sFile })
    (p : List Nat) :
    Agree (fileStateSer idna rbase s p) (fileState idna base none u p) := by
  unfold fileStateSer fileState
  simp only [hU]
  generalize (if (!s.rep.isFileScheme) = true then s.setSchemeStr sFile else s) = s1 at hS ⊢
  have h1 := schInv_setEmptyHost hS rfl
  have hdef : Agree (fileStateSer.fileDefault rbase s1.setEmptyHost p)
      (fileState.fileDefault base none { scheme := sFile, host := some emptyHost } p) := by
    unfold fileStateSer.fileDefault fileState.fileDefault
    cases hb with
    | nobase => exact sim_pathState h1.hostPre.1.pathInv _
    | @base b B ok hB =>
    have hrb := ok.repFor hB
    simp only [isFileScheme_eq hrb]
    by_cases hfile : b.isFile = true
    · simp only [hfile, if_true]
      have ho : b.hasOpaquePath = false := ok.special_list (Proofs.C08.file_special hfile)
      obtain ⟨k1, k2, _⟩ := file_copy ok hB hfile h1 9 (by simp)
      obtain ⟨q1, q2, q3⟩ := file_copy ok hB hfile h1 8 (by simp)
      obtain ⟨g1, g2, _⟩ := file_copy ok hB hfile h1 5 (by simp)
      cases p with
      | nil =>
        simp only [fileCopy9]
        exact ⟨rfl, k1.final⟩
      | cons c r =>
        refine Agree.ite (fun _ => ?_) fun _ => Agree.ite (fun _ => ?_) fun _ => Agree.ite (fun _ => ?_) fun _ => ?_
        · rw [fileCopy8]
          exact sim_query q1 (Nat.lt_of_le_of_lt q2 (by decide)) _
        · rw [fileCopy9]
          exact sim_fragment k1 (Nat.lt_of_le_of_lt k2 (by decide)) _
        · rw [fileCopy8]
          have e0 : shortenPath (fileCopy b 8) =
              { fileCopy b 8 with path := opList .shorten b.isFile b.path } := by
            rw [shortenPath_eq]
            have : (fileCopy b 8).isFile = b.isFile := by rw [hfile]; rfl
            rw [this]
            rfl
          rw [e0]
          exact sim_pathState (q3 rfl .shorten) _
        · rw [fileCopy5]
          exact sim_pathState (g1.pathInv (Nat.lt_of_le_of_lt g2 (by decide)) rfl rfl rfl rfl) _
    · simp only [hfile, Bool.false_eq_true, if_false]
      exact sim_pathState h1.hostPre.1.pathInv _
  cases p with
  | nil => exact hdef
  | cons c r => exact Agree.ite (fun _ => sim_fileSlash idna hb h1 _) fun _ => hdef

/-! ### no_scheme_state: a fragment-only reference against a base with an opaque path -/

theorem sim_fragment_sch {s : Ser} {u : Url} (h : SchInv s u) (p : List Nat) :
    Agree (fragmentStateSer s p) (fragmentState u p) := by
  unfold fragmentStateSer fragmentState
  generalize percentEncode fragmentNoEnc p = t
  simp only [schInv_write h FRAGMENT t (by simp [FRAGMENT]) (by simp [FRAGMENT]), Ser.setFlag, setNotNull_mkRep, Agree]
  rw [sameFields_of_nil (r := (layout u).setNotNull FRAGMENT) (r' := layout { u with fragment := some t }) rfl]
  refine ⟨trivial, FRAGMENT, serInv_of_segs (u := { u with fragment := some t }) h.wf FRAGMENT (by simp [FRAGMENT])
    (by decide) (by decide) ?_⟩
  -- only the last segment of the record changes
  rw [show segsOf { u with fragment := some t } = (segsOf u).take 10 ++ [0x23 :: t] from rfl, h.segs]
  rfl

/-- the record of a fragment-only reference: scheme, path and query of the base -/
def opaqueCopy (b : Url) : Url :=
  { scheme := b.scheme, hasOpaquePath := b.hasOpaquePath, opaquePath := b.opaquePath, path := b.path,
    query := b.query }

theorem sim_noScheme_opaque {b : Url} (ok : BaseOk b) {B : List (List Nat)} (hB : Rp (segsOf b) B)
    (ho : b.hasOpaquePath = true) (r : List Nat) :
    Agree (fragmentStateSer ((Ser.new.setSchemeOf (mkRep (layout b) B)).appendParts (mkRep (layout b) B)
      PATH QUERY none) r) (fragmentState (opaqueCopy b) r) := by
  have hrb := ok.repFor hB
  have h := setSchemeOf_fresh ok hrb fresh_new
  have hhi := hB.hi
  have hlo := hB.lo
  have hh : b.host = none := ok.opaque_noHost ho
  have hif := apFirst_path (mkRep (layout b) B)
  by_cases h9 : 9 ≤ B.length
  · have hd := dest_scheme (layout ({ scheme := b.scheme } : Url)) (mkRep (layout b) B) b.scheme ok.scheme_ne
      PATH QUERY 8 (by simp)
    rw [← h.eq] at hd
    have key := copy_none (u' := opaqueCopy b) hB PATH QUERY (by simp [QUERY]) 8 hif rfl (by omega)
      (by simp [QUERY]) (by omega) (by simp only [QUERY]; omega) hd
      (by
        simp [opaqueCopy, segsOf, sepSeg, userSeg, passSeg, atSeg, portSeg, prefixSeg, querySeg, fragSeg, credOn,
          Url.hostText, pathText, needsPathPrefix, Url.hasCredentials, hh, ho, sepFor, HOST, QUERY, List.replicate])
      ⟨ok.scheme_ne, fun _ => ⟨rfl, rfl, rfl⟩⟩
      (by
        -- an opaque path has no segments, whichever side `path_segment_count_` is taken from
        have hsc : ∀ u : Url, u.hasOpaquePath = true → (layout u).segCount = 0 := fun u hu =>
          show (if u.hasOpaquePath = true then 0 else u.path.length) = 0 from if_pos hu
        intro A
        refine mkRep_congr rfl rfl rfl rfl rfl rfl ?_ rfl rfl
        show (if 8 ≤ PATH ∧ PATH ≤ ilastOf QUERY B then (layout b).segCount else 0) = _
        rw [hsc b ho, hsc (opaqueCopy b) ho, ite_self])
    exact sim_fragment key.2.2 (by rw [key.1]; exact Nat.lt_of_le_of_lt (ilastOf_le QUERY B) (by decide)) _
  · have e := appendParts_nothing (Ser.new.setSchemeOf (mkRep (layout b) B)) (layout b) hB PATH QUERY none
      (by rw [hif]; omega)
    rw [e]
    apply sim_fragment_sch
    have hpt : pathText b = [] := base_path_short hB (by omega)
    have hq : b.query = none := by
      have := hB.drop_absent (n := 9) (by omega)
      simp [segsOf] at this
      cases hq : b.query with
      | none => rfl
      | some q => simp [querySeg, hq] at this
    have hop : b.opaquePath = [] := by simpa [pathText, ho] using hpt
    refine ⟨ok.scheme_ne, h.last, ?_, rfl, rfl, rfl, rfl, ?_, hq, rfl⟩
    · simp only [h.rep, copyFlags_schemeRep]
      simp [schemeRep, copyFlags, opaqueCopy, layout, mkRep, hh, hq, ho, HOST, PORT, PATH, QUERY,
        FRAGMENT, needsPathPrefix, pathText]
    · simp [opaqueCopy, pathText, ho, hop]

/-! ### no_scheme_state, special_relative_or_authority_state, scheme_state -/

theorem sim_noScheme (idna : Idna) {rbase : Option Rep} {base : Option Url} (hb : BaseRel rbase base)
    (p : List Nat) :
    Agree (noSchemeStateSer idna rbase Ser.new p) (noSchemeState idna base none {} p) := by
  unfold noSchemeStateSer noSchemeState
  cases hb with
  | nobase => exact Agree.fail nofun
  | @base b B ok hB =>
  have hrb := ok.repFor hB
  simp only [opaquePath_eq hrb, isFileScheme_eq hrb]
  by_cases ho : b.hasOpaquePath = true
  · simp only [ho, if_true]
    split
    · next r =>
      have := sim_noScheme_opaque ok hB ho r
      exact this
    · split
      · exfalso; simp_all
      · exact Agree.fail nofun
  · have ho' : b.hasOpaquePath = false := by simpa using ho
    simp only [ho', Bool.false_eq_true, if_false]
    split
    · refine sim_file idna (.base ok hB) ?_ ?_ p
      · have : (!Ser.new.rep.isFileScheme) = true := rfl
        rw [if_pos this]
        exact setSchemeStr_fresh fresh_new sFile (by simp [sFile, asciiStr])
      · rfl
    · exact sim_relative idna ok hB ho' fresh_new {} rfl p

theorem SchInv.partView_scheme {s : Ser} {u : Url} (h : SchInv s u) : s.rep.partView SCHEME = u.scheme := by
  rw [h.rep]
  simp [Rep.partView, SCHEME, Rep.pe, schemeRep, slice]

theorem sim_specialRelativeOrAuthority (idna : Idna) {b : Url} (ok : BaseOk b) {B : List (List Nat)}
    (hB : Rp (segsOf b) B) {s : Ser} (h : SchInv s { scheme := b.scheme })
    (hsp : Url.isSpecial { scheme := b.scheme } = true) (p : List Nat) :
    Agree (specialRelativeOrAuthorityStateSer idna (mkRep (layout b) B) s p)
      (specialRelativeOrAuthorityState idna b none { scheme := b.scheme } p) := by
  have ho : b.hasOpaquePath = false := ok.special_list hsp
  unfold specialRelativeOrAuthorityStateSer specialRelativeOrAuthorityState
  split
  · exact sim_ignoreSlashes idna h rfl _
  · split
    · exfalso; simp_all
    · exact sim_relative idna ok hB ho h.fresh _ rfl p

theorem sim_scheme (idna : Idna) {rbase : Option Rep} {base : Option Url} (hb : BaseRel rbase base)
    (p : List Nat) :
    Agree (schemeStateSer idna rbase Ser.new p) (schemeState idna base none {} p) := by
  unfold schemeStateSer schemeState
  cases p with
  | nil => exact Agree.fail nofun
  | cons c0 r0 =>
    dsimp only
    -- both test "the scheme characters end with ':'" (url.h:1725-1728), named `B.isSch` in `ParserRules`
    show Agree (if Impl.B.isSch none (r0.dropWhile isSchemeChar) = true then _ else _)
      (if Impl.B.isSch none (r0.dropWhile isSchemeChar) = true then _ else _)
    by_cases hc : Impl.B.isSch none (r0.dropWhile isSchemeChar) = true
    · rw [if_pos hc, if_pos hc]
      simp only [Option.isSome_none, Bool.false_eq_true, if_false]
      generalize hsch : (c0 :: r0.takeWhile isSchemeChar).map (· ||| 0x20) = sch
      have hne : sch ≠ [] := by rw [← hsch]; simp
      have h := writeScheme_new sch hne
      have hsp := h.special
      have hfi := h.file
      rw [hfi, hsp]
      generalize List.drop 1 (List.dropWhile isSchemeChar r0) = q
      by_cases hf : Url.isFile { scheme := sch } = true
      · rw [if_pos hf, if_pos hf]
        have hsf : sch = sFile := (Proofs.C08.isFileScheme_iff _).1 hf
        subst hsf
        refine sim_file idna hb ?_ ?_ q
        · have : ¬ ((!(Ser.new.writeScheme sFile).rep.isFileScheme) = true) := by rw [hfi, hf]; simp
          rw [if_neg this]; exact h
        · have : ¬ ((!Url.isFile { scheme := sFile }) = true) := by rw [hf]; simp
          rw [if_neg this]
      · rw [if_neg hf, if_neg hf]
        by_cases hs : Url.isSpecial { scheme := sch } = true
        · rw [if_pos hs, if_pos hs]
          cases hb with
          | nobase => exact sim_specialAuthoritySlashes idna h rfl _
          | @base b B ok hB =>
          simp only
          rw [h.partView_scheme, base_scheme ok (ok.repFor hB)]
          by_cases heq : b.scheme = sch
          · subst heq
            have : (b.scheme == b.scheme) = true := by simp
            rw [if_pos this, if_pos rfl]
            exact sim_specialRelativeOrAuthority idna ok hB h hs _
          · have : ¬ ((sch == b.scheme) = true) := by
              intro hc; exact heq (eq_of_beq hc).symm
            rw [if_neg this, if_neg heq]
            exact sim_specialAuthoritySlashes idna h rfl _
        · rw [if_neg hs, if_neg hs]
          split
          · exact sim_pathOrAuthority idna h rfl _
          · split
            · exfalso; simp_all
            · apply sim_opaquePath _ rfl rfl
              exact ⟨hne, h.last, by rw [Ser.setHasOpaquePath, h.rep]; rfl, rfl, rfl, rfl, rfl, rfl, rfl, rfl⟩
    · rw [if_neg hc, if_neg hc]
      simp only [Option.isNone_none, if_true]
      exact sim_noScheme idna hb _

theorem sim_urlParse (idna : Idna) {rbase : Option Rep} {base : Option Url} (hb : BaseRel rbase base)
    (p : List Nat) :
    Agree (urlParseSer idna rbase Ser.new p) (urlParse idna base none {} p) := by
  unfold urlParseSer urlParse
  cases p with
  | nil =>
    simp only [Option.isNone_none, if_true]
    exact sim_noScheme idna hb _
  | cons c r =>
    simp only [Option.isNone_none, if_true]
    split
    · exact sim_scheme idna hb _
    · exact sim_noScheme idna hb _

/-- `parseRep` simulates the record-level parser, for no base or for any representation of a base -/
theorem parseRep_sim (idna : Idna) (e : Enc) (units : List Nat) {rbase : Option Rep} {base : Option Url}
    (hb : BaseRel rbase base) :
    Agree (parseRep idna e units rbase) (urlParse idna base none {} (prep e (doTrim units))) :=
  sim_urlParse idna hb _

end Upa.Proofs.ParseRep
