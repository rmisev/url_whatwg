import Upa.Proofs.OwnMap
/-
  C06b: four VIEWS of a heap — the two pointer fields (`sp`, `up`), the records (`recOf`) and
  the list contents (`cont`) — and what every primitive and every small building block of
  `Upa/Impl/Own.lean` does to them.  The invariant, the refinement and the lock-step proofs go through
  these views only.
-/
namespace Upa.Proofs.Own
open Upa Upa.Impl Upa.Impl.Own

/-- `search_params_ptr_` of the url at `u`: `none` dead, `some none` no params object, `some (some p)` -/
def sp (h : Heap) (u : Nat) : Option (Option Nat) := (h.getU u).map (·.spPtr)
/-- `url_ptr_` of the params object at `p`: `none` dead, `some none` FREE, `some (some u)` OWNED by `u` -/
def up (h : Heap) (p : Nat) : Option (Option Nat) := (h.getP p).map (·.urlPtr)
def cont (h : Heap) (p : Nat) : Option Params := (h.getP p).map (fun c => { list := c.list, isSorted := c.isSorted })

theorem spOf_eq (h : Heap) (u : Nat) : h.spOf u = (sp h u).join := by
  unfold Heap.spOf sp; cases h.getU u <;> rfl
theorem liveU_eq (h : Heap) (u : Nat) : h.liveU u = (sp h u).isSome := by
  unfold Heap.liveU sp; cases h.getU u <;> rfl
/-- liveness as the `_sim` lemmas and `pre` state it, turned into the form the `_views` lemmas take -/
theorem sp_of_liveU {h : Heap} {u : Nat} (hl : h.liveU u = true) : ∃ o, sp h u = some o :=
  Option.isSome_iff_exists.1 ((liveU_eq h u).symm.trans hl)
theorem urlPtrOf_eq (h : Heap) (p : Nat) : h.urlPtrOf p = (up h p).join := by
  unfold Heap.urlPtrOf up; cases h.getP p <;> rfl
theorem liveP_eq (h : Heap) (p : Nat) : h.liveP p = (up h p).isSome := by
  unfold Heap.liveP up; cases h.getP p <;> rfl
theorem listOf_eq (h : Heap) (p : Nat) : h.listOf p = ((cont h p).map (·.list)).getD [] := by
  unfold Heap.listOf cont; cases h.getP p <;> rfl
theorem sortedOf_eq (h : Heap) (p : Nat) : h.sortedOf p = ((cont h p).map (·.isSorted)).getD false := by
  unfold Heap.sortedOf cont; cases h.getP p <;> rfl
theorem spOf_eq_some {h : Heap} {u p : Nat} : h.spOf u = some p ↔ sp h u = some (some p) := by
  rw [spOf_eq, Option.join_eq_some_iff]
theorem urlPtrOf_eq_some {h : Heap} {p u : Nat} : h.urlPtrOf p = some u ↔ up h p = some (some u) := by
  rw [urlPtrOf_eq, Option.join_eq_some_iff]
theorem not_owned {h : Heap} {p : Nat} (hp : h.urlPtrOf p = none) (u : Nat) : up h p ≠ some (some u) :=
  fun hu => by rw [urlPtrOf_eq, hu] at hp; cases hp
theorem cont_isSome (h : Heap) (p : Nat) : (cont h p).isSome = (up h p).isSome := by
  unfold cont up; cases h.getP p <;> rfl
theorem cont_eq_none (h : Heap) (p : Nat) : cont h p = none ↔ up h p = none := by
  unfold cont up; cases h.getP p <;> simp
theorem cont_live {h : Heap} {p : Nat} {o : Option Nat} (hp : up h p = some o) : ∃ c, cont h p = some c := by
  have : (cont h p).isSome := by rw [cont_isSome, hp]; rfl
  exact Option.isSome_iff_exists.1 this
theorem recOf_dead (h : Heap) (u : Nat) (hd : sp h u = none) : h.recOf u = none := by
  unfold Heap.recOf; unfold sp at hd; cases hg : h.getU u <;> simp_all

/-! ## primitives -/

section prims
variable (h : Heap)

theorem sp_modU (u : Nat) (f : UCell → UCell) (u' : Nat) :
    sp (h.modU u f) u' = if u' = u then (h.getU u).map (fun c => (f c).spPtr) else sp h u' := by
  unfold sp; simp only [getU_modU]; split
  · simp only [Option.map_map]; rfl
  · rfl
theorem recOf_modU (u : Nat) (f : UCell → UCell) (u' : Nat) :
    (h.modU u f).recOf u' = if u' = u then (h.getU u).bind (fun c => (f c).url) else h.recOf u' := by
  unfold Heap.recOf; simp only [getU_modU]; split
  · cases h.getU u <;> rfl
  · rfl
theorem up_modU (u : Nat) (f : UCell → UCell) (p : Nat) : up (h.modU u f) p = up h p := by
  unfold up; simp
theorem cont_modU (u : Nat) (f : UCell → UCell) (p : Nat) : cont (h.modU u f) p = cont h p := by
  unfold cont; simp
theorem up_modP (p : Nat) (f : PCell → PCell) (p' : Nat) :
    up (h.modP p f) p' = if p' = p then (h.getP p).map (fun c => (f c).urlPtr) else up h p' := by
  unfold up; simp only [getP_modP]; split
  · simp only [Option.map_map]; rfl
  · rfl
theorem cont_modP (p : Nat) (f : PCell → PCell) (p' : Nat) :
    cont (h.modP p f) p' =
      if p' = p then (h.getP p).map (fun c => { list := (f c).list, isSorted := (f c).isSorted }) else cont h p' := by
  unfold cont; simp only [getP_modP]; split
  · simp only [Option.map_map]; rfl
  · rfl
theorem sp_modP (p : Nat) (f : PCell → PCell) (u : Nat) : sp (h.modP p f) u = sp h u := by
  unfold sp; simp
theorem recOf_modP (p : Nat) (f : PCell → PCell) (u : Nat) : (h.modP p f).recOf u = h.recOf u := by
  unfold Heap.recOf; simp

@[simp] theorem sp_setRec (u : Nat) (r : Option Url) (u' : Nat) : sp (h.setRec u r) u' = sp h u' := by
  rw [Heap.setRec, sp_modU]; split
  · subst_vars; rfl
  · rfl
@[simp] theorem up_setRec (u : Nat) (r : Option Url) (p : Nat) : up (h.setRec u r) p = up h p := up_modU ..
@[simp] theorem cont_setRec (u : Nat) (r : Option Url) (p : Nat) : cont (h.setRec u r) p = cont h p := cont_modU ..
@[simp] theorem next_setRec (u : Nat) (r : Option Url) : (h.setRec u r).next = h.next := by simp [Heap.setRec]
@[simp] theorem recOf_setRec (u : Nat) (r : Option Url) (u' : Nat) :
    (h.setRec u r).recOf u' = if u' = u then (if (sp h u).isSome then r else none) else h.recOf u' := by
  rw [Heap.setRec, recOf_modU]; split
  · unfold sp; cases h.getU u <;> rfl
  · rfl

@[simp] theorem sp_setSpPtr (u : Nat) (o : Option Nat) (u' : Nat) :
    sp (h.setSpPtr u o) u' = if u' = u then (sp h u).map (fun _ => o) else sp h u' := by
  rw [Heap.setSpPtr, sp_modU]; split
  · unfold sp; cases h.getU u <;> rfl
  · rfl
@[simp] theorem up_setSpPtr (u : Nat) (o : Option Nat) (p : Nat) : up (h.setSpPtr u o) p = up h p := up_modU ..
@[simp] theorem cont_setSpPtr (u : Nat) (o : Option Nat) (p : Nat) : cont (h.setSpPtr u o) p = cont h p := cont_modU ..
@[simp] theorem next_setSpPtr (u : Nat) (o : Option Nat) : (h.setSpPtr u o).next = h.next := by simp [Heap.setSpPtr]
@[simp] theorem recOf_setSpPtr (u : Nat) (o : Option Nat) (u' : Nat) : (h.setSpPtr u o).recOf u' = h.recOf u' := by
  rw [Heap.setSpPtr, recOf_modU]; split
  · subst_vars; rfl
  · rfl

@[simp] theorem sp_setContent (p : Nat) (l : List BPair) (s : Bool) (u : Nat) : sp (h.setContent p l s) u = sp h u :=
  sp_modP ..
@[simp] theorem up_setContent (p : Nat) (l : List BPair) (s : Bool) (p' : Nat) : up (h.setContent p l s) p' = up h p' := by
  rw [Heap.setContent, up_modP]; split
  · subst_vars; rfl
  · rfl
@[simp] theorem cont_setContent (p : Nat) (l : List BPair) (s : Bool) (p' : Nat) :
    cont (h.setContent p l s) p' = if p' = p then (cont h p).map (fun _ => { list := l, isSorted := s }) else cont h p' := by
  rw [Heap.setContent, cont_modP]; split
  · unfold cont; cases h.getP p <;> rfl
  · rfl
@[simp] theorem next_setContent (p : Nat) (l : List BPair) (s : Bool) : (h.setContent p l s).next = h.next := by
  simp [Heap.setContent]
@[simp] theorem recOf_setContent (p : Nat) (l : List BPair) (s : Bool) (u : Nat) : (h.setContent p l s).recOf u = h.recOf u :=
  recOf_modP ..

@[simp] theorem sp_setUrlPtr (p : Nat) (o : Option Nat) (u : Nat) : sp (h.setUrlPtr p o) u = sp h u := sp_modP ..
@[simp] theorem up_setUrlPtr (p : Nat) (o : Option Nat) (p' : Nat) :
    up (h.setUrlPtr p o) p' = if p' = p then (up h p).map (fun _ => o) else up h p' := by
  rw [Heap.setUrlPtr, up_modP]; split
  · unfold up; cases h.getP p <;> rfl
  · rfl
@[simp] theorem cont_setUrlPtr (p : Nat) (o : Option Nat) (p' : Nat) : cont (h.setUrlPtr p o) p' = cont h p' := by
  rw [Heap.setUrlPtr, cont_modP]; split
  · subst_vars; rfl
  · rfl
@[simp] theorem next_setUrlPtr (p : Nat) (o : Option Nat) : (h.setUrlPtr p o).next = h.next := by simp [Heap.setUrlPtr]
@[simp] theorem recOf_setUrlPtr (p : Nat) (o : Option Nat) (u : Nat) : (h.setUrlPtr p o).recOf u = h.recOf u :=
  recOf_modP ..

@[simp] theorem sp_allocU (c : UCell) (u : Nat) : sp (h.allocU c) u = if u = h.next then some c.spPtr else sp h u := by
  unfold sp; simp only [getU_allocU]; split <;> rfl
@[simp] theorem up_allocU (c : UCell) (p : Nat) : up (h.allocU c) p = up h p := rfl
@[simp] theorem cont_allocU (c : UCell) (p : Nat) : cont (h.allocU c) p = cont h p := rfl
@[simp] theorem recOf_allocU (c : UCell) (u : Nat) : (h.allocU c).recOf u = if u = h.next then c.url else h.recOf u := by
  unfold Heap.recOf; simp only [getU_allocU]; split <;> rfl

@[simp] theorem sp_allocP (c : PCell) (u : Nat) : sp (h.allocP c) u = sp h u := rfl
@[simp] theorem up_allocP (c : PCell) (p : Nat) : up (h.allocP c) p = if p = h.next then some c.urlPtr else up h p := by
  unfold up; simp only [getP_allocP]; split <;> rfl
@[simp] theorem cont_allocP (c : PCell) (p : Nat) :
    cont (h.allocP c) p = if p = h.next then some { list := c.list, isSorted := c.isSorted } else cont h p := by
  unfold cont; simp only [getP_allocP]; split <;> rfl
@[simp] theorem recOf_allocP (c : PCell) (u : Nat) : (h.allocP c).recOf u = h.recOf u := rfl

@[simp] theorem sp_delU (u u' : Nat) : sp (h.delU u) u' = if u' = u then none else sp h u' := by
  unfold sp; simp only [getU_delU]; split <;> rfl
@[simp] theorem up_delU (u p : Nat) : up (h.delU u) p = up h p := rfl
@[simp] theorem cont_delU (u p : Nat) : cont (h.delU u) p = cont h p := rfl
@[simp] theorem recOf_delU (u u' : Nat) : (h.delU u).recOf u' = if u' = u then none else h.recOf u' := by
  unfold Heap.recOf; simp only [getU_delU]; split <;> rfl

@[simp] theorem sp_delP (p u : Nat) : sp (h.delP p) u = sp h u := rfl
@[simp] theorem up_delP (p p' : Nat) : up (h.delP p) p' = if p' = p then none else up h p' := by
  unfold up; simp only [getP_delP]; split <;> rfl
@[simp] theorem cont_delP (p p' : Nat) : cont (h.delP p) p' = if p' = p then none else cont h p' := by
  unfold cont; simp only [getP_delP]; split <;> rfl
@[simp] theorem recOf_delP (p u : Nat) : (h.delP p).recOf u = h.recOf u := rfl

end prims

/-! ## views of the building blocks -/

@[simp] theorem sp_update (h : Heap) (p u : Nat) : sp (update h p) u = sp h u := by
  unfold update; split <;> simp
@[simp] theorem up_update (h : Heap) (p p' : Nat) : up (update h p) p' = up h p' := by
  unfold update; split <;> simp
@[simp] theorem cont_update (h : Heap) (p p' : Nat) : cont (update h p) p' = cont h p' := by
  unfold update; split <;> simp
@[simp] theorem next_update (h : Heap) (p : Nat) : (update h p).next = h.next := by
  unfold update; split <;> simp
/-- `update` writes into the record of the url `url_ptr_` names, and into no other -/
theorem recOf_update (h : Heap) (p u : Nat) :
    (update h p).recOf u = if (up h p).join = some u then recUpdate (h.recOf u) (h.listOf p) else h.recOf u := by
  unfold update
  rw [urlPtrOf_eq]
  cases hj : (up h p).join with
  | none => simp
  | some o =>
    simp only [recOf_setRec, Option.some.injEq]
    by_cases hu : u = o
    · subst hu
      simp only [if_true]
      cases hs : sp h u with
      | none => simp [recOf_dead h u hs, recUpdate]
      | some x => simp
    · simp [hu, Ne.symm hu]

@[simp] theorem sp_moveParams (h : Heap) (d s u : Nat) : sp (moveParams h d s) u = sp h u := by
  unfold moveParams; simp
@[simp] theorem up_moveParams (h : Heap) (d s p : Nat) : up (moveParams h d s) p = up h p := by
  unfold moveParams; simp
@[simp] theorem next_moveParams (h : Heap) (d s : Nat) : (moveParams h d s).next = h.next := by
  unfold moveParams; simp
@[simp] theorem recOf_moveParams (h : Heap) (d s u : Nat) : (moveParams h d s).recOf u = h.recOf u := by
  unfold moveParams; simp

@[simp] theorem sp_moveRecord (h : Heap) (d s u : Nat) : sp (moveRecord h d s) u = sp h u := by
  unfold moveRecord; dsimp only; split <;> simp
@[simp] theorem up_moveRecord (h : Heap) (d s p : Nat) : up (moveRecord h d s) p = up h p := by
  unfold moveRecord; dsimp only; split <;> simp
@[simp] theorem cont_moveRecord (h : Heap) (d s p : Nat) : cont (moveRecord h d s) p = cont h p := by
  unfold moveRecord; dsimp only; split <;> simp
@[simp] theorem next_moveRecord (h : Heap) (d s : Nat) : (moveRecord h d s).next = h.next := by
  unfold moveRecord; dsimp only; split <;> simp

@[simp] theorem recOf_moveRecord (h : Heap) (d s u : Nat) : (moveRecord h d s).recOf u =
    if u = d then (if (sp h d).isSome then h.recOf s else none) else if u = s then none else h.recOf u := by
  unfold moveRecord; dsimp only
  split
  · subst_vars; rw [recOf_setRec]; split <;> rfl
  · rename_i hsd
    rw [recOf_setRec, recOf_setRec, sp_setRec]
    split
    · subst_vars; rw [if_neg hsd]; split <;> rfl
    · rfl

@[simp] theorem sp_clearSearchParams (h : Heap) (u u' : Nat) : sp (clearSearchParams h u) u' = sp h u' := by
  unfold clearSearchParams; split <;> simp
@[simp] theorem up_clearSearchParams (h : Heap) (u p : Nat) : up (clearSearchParams h u) p = up h p := by
  unfold clearSearchParams; split <;> simp
@[simp] theorem next_clearSearchParams (h : Heap) (u : Nat) : (clearSearchParams h u).next = h.next := by
  unfold clearSearchParams; split <;> simp
@[simp] theorem recOf_clearSearchParams (h : Heap) (u u' : Nat) : (clearSearchParams h u).recOf u' = h.recOf u' := by
  unfold clearSearchParams; split <;> simp

@[simp] theorem sp_parseSearchParams (h : Heap) (u u' : Nat) : sp (parseSearchParams h u) u' = sp h u' := by
  unfold parseSearchParams; split <;> simp
@[simp] theorem up_parseSearchParams (h : Heap) (u p : Nat) : up (parseSearchParams h u) p = up h p := by
  unfold parseSearchParams; split <;> simp
@[simp] theorem next_parseSearchParams (h : Heap) (u : Nat) : (parseSearchParams h u).next = h.next := by
  unfold parseSearchParams; split <;> simp
@[simp] theorem recOf_parseSearchParams (h : Heap) (u u' : Nat) : (parseSearchParams h u).recOf u' = h.recOf u' := by
  unfold parseSearchParams; split <;> simp

@[simp] theorem cont_clearSearchParams (h : Heap) (u p : Nat) : cont (clearSearchParams h u) p =
    if some p = (sp h u).join then (cont h p).map (fun _ => { list := [], isSorted := true }) else cont h p := by
  unfold clearSearchParams
  rw [spOf_eq]
  rcases (sp h u).join with _ | q
  · simp
  · simp only [cont_setContent, Option.some.injEq]
    split
    · subst_vars; rfl
    · rfl

@[simp] theorem cont_parseSearchParams (h : Heap) (u p : Nat) : cont (parseSearchParams h u) p =
    if some p = (sp h u).join then
      (cont h p).map (fun _ => { list := formParse false (queryBytes (h.recOf u)), isSorted := false })
    else cont h p := by
  unfold parseSearchParams
  rw [spOf_eq]
  rcases (sp h u).join with _ | q
  · simp
  · simp only [cont_setContent, Option.some.injEq]
    split
    · subst_vars; rfl
    · rfl

/-! ## key uniqueness: every write keeps it, whatever is written -/

theorem NodupK.setRec {h : Heap} (hn : NodupK h) (u : Nat) (r : Option Url) : NodupK (h.setRec u r) := hn.modU _ _
theorem NodupK.setSpPtr {h : Heap} (hn : NodupK h) (u : Nat) (o : Option Nat) : NodupK (h.setSpPtr u o) := hn.modU _ _
theorem NodupK.setContent {h : Heap} (hn : NodupK h) (p : Nat) (l : List BPair) (s : Bool) :
    NodupK (h.setContent p l s) := hn.modP _ _
theorem NodupK.setUrlPtr {h : Heap} (hn : NodupK h) (p : Nat) (o : Option Nat) : NodupK (h.setUrlPtr p o) := hn.modP _ _

end Upa.Proofs.Own
