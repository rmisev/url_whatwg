import Upa.Impl.ParseRep
import Upa.Proofs.SetRepApi
/-
  The operations of `detail::url_serializer` as the parser drives them (`Impl/ParseRep.lean`) on a
  representation presented by segments (`mkRep`, `Proofs/Rep.lean`): each maps one of two shapes
  to the other, so the state blocks of `Proofs/ParseRepSim.lean` never look at offsets.

  * `mkRepE r0 X d`     — a part was started (`start_part`): the started parts are `X`, the text `d`
                           (a delimiter) is already appended, the offset of the new part is not saved yet
                           (`Proofs/SetRep.lean`, with `save_open`, `serStart_later`);
  * `mkRep r0 A`        — the parts `A` are written and saved, every later offset is `0`.

  `schemeRep r0 sch`, the state right after the scheme was written, is `mkRepE r0 [sch] [0x3A]` spelled
  as `save_scheme` leaves it ("sch:", only offset 0 set).
-/

namespace Upa.Proofs.ParseRep
open Upa Upa.Impl Upa.Proofs.C05 Upa.Proofs.SetRep Upa.Proofs.SetRepApi Upa.Props
open Upa.Proofs.SetRepExc (mkRepE)

/-- after `save_scheme` / `set_scheme`: "sch:" and `part_end_[SCHEME]` only -/
def schemeRep (r0 : Rep) (sch : List Nat) : Rep :=
  { r0 with norm := sch ++ [0x3A], partEnd := sch.length :: List.replicate 10 0 }

/-- the "//" `start_part` writes after the scheme when the new part is at most HOST -/
def sepFor (pt : Nat) : List Nat := if pt ≤ HOST then [0x2F, 0x2F] else []

/-! ### save_part -/

/-- `save_part` after more text was appended to the LAST saved part (continuing on the path,
    `start_part(HOST)` after `set_empty_host`) -/
theorem save_last (r0 : Rep) (X : List (List Nat)) (p t : List Nat) :
    serSavePart { mkRep r0 (X ++ [p]) with norm := (mkRep r0 (X ++ [p])).norm ++ t } X.length =
      mkRep r0 (X ++ [p ++ t]) := by
  apply rep_eq_mkRep <;> try rfl
  · show (X ++ [p]).flatten ++ t = _
    simp
  · show (sums 0 (X ++ [p]) ++ List.replicate (11 - (X ++ [p]).length) 0).set X.length
        ((X ++ [p]).flatten ++ t).length = _
    simp only [sums_append, sums_cons, sums_nil, Nat.zero_add, List.append_assoc]
    rw [List.set_append_right _ _ (by simp)]
    simp

/-! ### start_part -/

theorem start_scheme (r0 : Rep) (sch : List Nat) (pt : Nat) (h2 : 2 ≤ pt) (hpt : pt ≤ 10) :
    serStartPart (schemeRep r0 sch) SCHEME pt =
      mkRepE r0 ([sch, 0x3A :: sepFor pt] ++ List.replicate (pt - 2) []) (delim pt) := by
  have c1 : ¬ (SCHEME = PATH ∧ pt = PATH) := by simp [SCHEME, PATH]
  have hstart : serStartPart (schemeRep r0 sch) SCHEME pt =
      { schemeRep r0 sch with
        partEnd := fillRange (schemeRep r0 sch).partEnd 1 pt (sch ++ [0x3A] ++ sepFor pt).length,
        norm := sch ++ [0x3A] ++ sepFor pt ++ delim pt } := by
    unfold serStartPart
    rw [if_neg c1]
    simp only [if_true]
    unfold sepFor
    by_cases h5 : pt ≤ HOST
    · simp only [h5, if_true]; rfl
    · simp only [h5, if_false, List.append_nil]; rfl
  rw [hstart]
  have hsums : sums 0 ([sch, 0x3A :: sepFor pt] ++ List.replicate (pt - 2) []) =
      sch.length :: List.replicate (pt - 1) (sch.length + 1 + (sepFor pt).length) := by
    rw [sums_append, sums_replicate_nil]
    have e : pt - 1 = (pt - 2) + 1 := by omega
    rw [e, List.replicate_succ]
    simp [Nat.add_assoc, Nat.add_comm]
  unfold mkRepE mkRep
  rw [hsums]
  have hd : List.drop pt (sch.length :: List.replicate 10 0) = List.replicate (11 - pt) 0 := by
    obtain ⟨k, rfl⟩ : ∃ k, pt = k + 1 := ⟨pt - 1, by omega⟩
    simp only [List.drop_succ_cons, List.drop_replicate]
    congr 1; omega
  have hfill : fillRange (schemeRep r0 sch).partEnd 1 pt (sch ++ [0x3A] ++ sepFor pt).length =
      sch.length :: List.replicate (pt - 1) (sch.length + 1 + (sepFor pt).length) ++
        List.replicate (11 - ([sch, 0x3A :: sepFor pt] ++ List.replicate (pt - 2) []).length) 0 := by
    unfold fillRange
    rw [if_pos (by omega)]
    show List.take 1 (sch.length :: List.replicate 10 0) ++ _ ++ List.drop pt (sch.length :: List.replicate 10 0) = _
    rw [hd]
    simp only [List.take_succ_cons, List.take_zero, List.length_append, List.length_cons,
      List.length_nil, List.length_replicate, List.cons_append, List.nil_append]
    have e2 : 11 - (pt - 2 + 1 + 1) = 11 - pt := by omega
    rw [e2]
  rw [hfill]
  simp [schemeRep]

theorem start_same (r : Rep) (pt : Nat) (h : pt = HOST ∨ pt = PATH) :
    serStartPart r pt pt = r := by
  rcases h with h | h
  · subst h
    unfold serStartPart
    simp [HOST, PATH, SCHEME, USERNAME, PASSWORD, PORT, QUERY, FRAGMENT, fillRange]
  · subst h
    unfold serStartPart
    simp [PATH]

/-! ### start_part, text, save_part: a whole part -/

theorem writePart_open {s : Ser} {r0 : Rep} {X : List (List Nat)} {d : List Nat} {pt : Nat}
    (h : serStartPart s.rep s.lastPt pt = mkRepE r0 X d) (hX : X.length = pt) (hpt : pt ≤ 10) (t : List Nat) :
    s.writePart pt t = ⟨mkRep r0 (X ++ [d ++ t]), pt⟩ := by
  unfold Ser.writePart Ser.savePart Ser.append Ser.startPart
  simp only [h]
  exact congrArg (fun r => (⟨r, pt⟩ : Ser)) (hX ▸ save_open r0 X d t (hX ▸ hpt))

theorem writePart_scheme (r0 : Rep) (sch : List Nat) (pt : Nat) (t : List Nat) (h2 : 2 ≤ pt) (hpt : pt ≤ 10) :
    (⟨schemeRep r0 sch, SCHEME⟩ : Ser).writePart pt t =
      ⟨mkRep r0 ([sch, 0x3A :: sepFor pt] ++ List.replicate (pt - 2) [] ++ [delim pt ++ t]), pt⟩ :=
  writePart_open (start_scheme r0 sch pt h2 hpt) (by simp; omega) hpt t

theorem writePart_later (r0 : Rep) (X : List (List Nat)) (lastPt pt : Nat) (t : List Nat)
    (hX : X.length = lastPt + 1) (h4 : 4 ≤ lastPt) (hlt : lastPt < pt) (hpt : pt ≤ 10) :
    (⟨mkRep r0 X, lastPt⟩ : Ser).writePart pt t =
      ⟨mkRep r0 (X ++ List.replicate (pt - X.length) [] ++ [delim pt ++ t]), pt⟩ :=
  writePart_open (serStart_later r0 X lastPt pt hX h4 hlt hpt) (by simp; omega) hpt t

/-- writing on to the last saved part (HOST after `set_empty_host`, PATH while parsing the path) -/
theorem writePart_same (r0 : Rep) (X : List (List Nat)) (p t : List Nat) (pt : Nat)
    (hX : X.length = pt) (h : pt = HOST ∨ pt = PATH) :
    (⟨mkRep r0 (X ++ [p]), pt⟩ : Ser).writePart pt t = ⟨mkRep r0 (X ++ [p ++ t]), pt⟩ := by
  unfold Ser.writePart Ser.savePart Ser.append Ser.startPart
  simp only [start_same _ pt h]
  rw [← hX, save_last r0 X p t]

/-! ### push_segment -/

theorem pushSegment_eq (s : Ser) (seg : List Nat) :
    s.pushSegment seg =
      { (s.writePart PATH (0x2F :: seg)) with
        rep := { (s.writePart PATH (0x2F :: seg)).rep with
                 segCount := (s.writePart PATH (0x2F :: seg)).rep.segCount + 1 } } := by
  simp [Ser.pushSegment, Ser.writePart, Ser.append, Ser.savePart, List.append_assoc]

theorem setSeg_mkRep (r0 : Rep) (A : List (List Nat)) (n : Nat) :
    ({ mkRep r0 A with segCount := n } : Rep) = mkRep { r0 with segCount := n } A := rfl

theorem push_started (r0 : Rep) (X : List (List Nat)) (t seg : List Nat) (hX : X.length = 8) :
    (⟨mkRep r0 (X ++ [t]), PATH⟩ : Ser).pushSegment seg =
      ⟨mkRep { r0 with segCount := r0.segCount + 1 } (X ++ [t ++ 0x2F :: seg]), PATH⟩ := by
  rw [pushSegment_eq, writePart_same r0 X t (0x2F :: seg) PATH hX (Or.inr rfl)]
  rfl

theorem push_scheme (r0 : Rep) (sch seg : List Nat) :
    (⟨schemeRep r0 sch, SCHEME⟩ : Ser).pushSegment seg =
      ⟨mkRep { r0 with segCount := r0.segCount + 1 }
        ([sch, [0x3A], [], [], [], [], [], []] ++ [0x2F :: seg]), PATH⟩ := by
  rw [pushSegment_eq, writePart_scheme r0 sch PATH (0x2F :: seg) (by simp [PATH]) (by simp [PATH])]
  simp [sepFor, delim, PATH, HOST, PORT, QUERY, FRAGMENT, List.replicate, mkRep]

theorem push_later (r0 : Rep) (A : List (List Nat)) (lastPt : Nat) (seg : List Nat)
    (hA : A.length = lastPt + 1) (h4 : 4 ≤ lastPt) (hlt : lastPt < PATH) :
    (⟨mkRep r0 A, lastPt⟩ : Ser).pushSegment seg =
      ⟨mkRep { r0 with segCount := r0.segCount + 1 }
        (A ++ List.replicate (8 - A.length) [] ++ [0x2F :: seg]), PATH⟩ := by
  rw [pushSegment_eq, writePart_later r0 A lastPt PATH (0x2F :: seg) hA h4 hlt (by simp [PATH])]
  simp [delim, PATH, PORT, QUERY, FRAGMENT, mkRep]

/-! ### the last started part of `mkRep r0 (X ++ [t])` -/

theorem pe_before_last (r0 : Rep) (X : List (List Nat)) (t : List Nat) (n : Nat) (hX : X.length = n + 1) :
    (mkRep r0 (X ++ [t])).pe n = X.flatten.length := by
  rw [pe_mkRep_lt _ _ _ (by rw [List.length_append, hX]; omega)]
  unfold off
  rw [← hX, List.take_left' rfl]

theorem pe_last (r0 : Rep) (X : List (List Nat)) (t : List Nat) :
    (mkRep r0 (X ++ [t])).pe X.length = X.flatten.length + t.length := by
  rw [pe_mkRep_lt _ _ _ (by simp)]
  unfold off
  have : X.length + 1 = (X ++ [t]).length := by simp
  rw [this, List.take_of_length_le (Nat.le_refl _)]
  simp

theorem pe7_path (r0 : Rep) (X : List (List Nat)) (t : List Nat) (hX : X.length = 8) :
    (mkRep r0 (X ++ [t])).pe 7 = X.flatten.length := pe_before_last r0 X t 7 hX

theorem pe8_path (r0 : Rep) (X : List (List Nat)) (t : List Nat) (hX : X.length = 8) :
    (mkRep r0 (X ++ [t])).pe 8 = X.flatten.length + t.length := hX ▸ pe_last r0 X t

theorem partView_path_mk (r0 : Rep) (X : List (List Nat)) (t : List Nat) (hX : X.length = 8) :
    (mkRep r0 (X ++ [t])).partView PATH = t := by
  rw [partView_mkRep _ _ _ (by decide)]
  show ((X ++ [t]).getD 8 []).drop 0 = t
  rw [← hX]
  simp

theorem slice_path_mk (r0 : Rep) (X : List (List Nat)) (t : List Nat) (hX : X.length = 8) :
    slice (mkRep r0 (X ++ [t])).norm ((mkRep r0 (X ++ [t])).pe (PATH - 1)) ((mkRep r0 (X ++ [t])).pe PATH) = t := by
  simp only [PATH, pe7_path r0 X t hX, pe8_path r0 X t hX, norm_mkRep,
    List.flatten_append, List.flatten_cons, List.flatten_nil, List.append_nil]
  simp only [slice]
  rw [List.take_of_length_le (by simp), List.drop_left' rfl]

/-! ### shorten_path -/

/-- the position of the last "/" of a serialised list path whose segments contain no "/" -/
theorem lastSlash (q : List (List Nat)) (last : List Nat) (hl : ∀ c ∈ last, c ≠ 0x2F) :
    (((ptext (q ++ [last])).reverse.dropWhile (· != 0x2F)).length) = (ptext q).length + 1 := by
  rw [ptext_append, List.reverse_append, List.reverse_cons]
  have : (last.reverse ++ [0x2F] ++ (ptext q).reverse).dropWhile (· != 0x2F) = 0x2F :: (ptext q).reverse := by
    rw [List.append_assoc]
    have h1 : ∀ c ∈ last.reverse, (c != 0x2F) = true := by
      intro c hc; simpa using hl c (List.mem_reverse.1 hc)
    rw [List.dropWhile_append_of_pos h1]
    simp
  rw [this]; simp

theorem shortenList_single (isFile : Bool) (seg : List Nat) :
    shortenList isFile [seg] = if (isFile && segDrive seg) = true then [seg] else [] := rfl

/-- "base's path[0] is a normalized Windows drive letter" -/
def headDrive (p : List (List Nat)) : Bool :=
  match p with
  | [a, c] :: _ => isNormalizedWindowsDrive a c
  | _ => false

/-- the core of `get_path_first_string(2)`: `pv` is the path text after its first "/" -/
def bpOf (pv : List Nat) : List Nat :=
  if pv.length == 2 || (decide (pv.length > 2) && pv.getD 2 0 == 0x2F) then pv.take 2 else []

theorem bpOf_cases (pv : List Nat) : bpOf pv = [] ∨ (bpOf pv = pv.take 2 ∧ 2 ≤ pv.length) := by
  unfold bpOf
  split
  · right
    refine ⟨rfl, ?_⟩
    rename_i h
    simp only [Bool.or_eq_true, beq_iff_eq, Bool.and_eq_true, decide_eq_true_eq] at h
    omega
  · left; rfl

theorem notDrive_slash (a : Nat) : isNormalizedWindowsDrive a 0x2F = false := by
  simp [isNormalizedWindowsDrive]

theorem notDrive_slash0 (c : Nat) : isNormalizedWindowsDrive 0x2F c = false := by
  simp [isNormalizedWindowsDrive, isAlpha]

theorem firstString_core (seg0 tl : List Nat) (hs : ∀ c ∈ seg0, c ≠ 0x2F)
    (htl : tl = [] ∨ ∃ r, tl = 0x2F :: r) :
    ((bpOf (seg0 ++ tl)).length == 2 &&
      isNormalizedWindowsDrive ((bpOf (seg0 ++ tl)).getD 0 0) ((bpOf (seg0 ++ tl)).getD 1 0)) = segDrive seg0 ∧
    (segDrive seg0 = true → ∃ a c, seg0 = [a, c] ∧ (bpOf (seg0 ++ tl)).take 2 = [a, c]) := by
  match seg0, hs with
  | [], _ =>
    refine ⟨?_, by simp [segDrive]⟩
    rcases bpOf_cases ([] ++ tl) with h | ⟨h, h2⟩
    · rw [h]; simp [segDrive]
    · rw [h]
      rcases htl with rfl | ⟨r, rfl⟩
      · simp at h2
      · cases r with
        | nil => simp at h2
        | cons x r' => simp [segDrive, notDrive_slash0]
  | [a], _ =>
    refine ⟨?_, by simp [segDrive]⟩
    rcases bpOf_cases ([a] ++ tl) with h | ⟨h, h2⟩
    · rw [h]; simp [segDrive]
    · rw [h]
      rcases htl with rfl | ⟨r, rfl⟩
      · simp at h2
      · simp [segDrive, notDrive_slash]
  | [a, c], _ =>
    have hb : bpOf ([a, c] ++ tl) = [a, c] := by
      unfold bpOf
      rcases htl with rfl | ⟨r, rfl⟩
      · simp
      · simp
    rw [hb]
    refine ⟨by simp [segDrive], fun _ => ⟨a, c, rfl, by simp⟩⟩
  | a :: c :: d :: t, hs =>
    have hd : d ≠ 0x2F := hs d (by simp)
    have hb : bpOf ((a :: c :: d :: t) ++ tl) = [] := by
      unfold bpOf
      simp [hd]
    rw [hb]
    simp [segDrive]

theorem headDrive_cons (seg0 : List Nat) (rest : List (List Nat)) : headDrive (seg0 :: rest) = segDrive seg0 := by
  unfold headDrive segDrive
  match seg0 with
  | [] => rfl
  | [a] => rfl
  | [a, c] => rfl
  | a :: c :: d :: t => rfl

theorem firstString_ptext (p : List (List Nat)) (hns : NoSlash p) :
    ((if (ptext p).length == 0 || false then ptext p else bpOf ((ptext p).drop 1)).length == 2 &&
      isNormalizedWindowsDrive
        ((if (ptext p).length == 0 || false then ptext p else bpOf ((ptext p).drop 1)).getD 0 0)
        ((if (ptext p).length == 0 || false then ptext p else bpOf ((ptext p).drop 1)).getD 1 0)) =
      headDrive p ∧
    (headDrive p = true → ∃ a c rest, p = [a, c] :: rest ∧
      (if (ptext p).length == 0 || false then ptext p else bpOf ((ptext p).drop 1)).take 2 = [a, c]) := by
  cases p with
  | nil => simp [ptext, headDrive]
  | cons seg0 rest =>
    have hpt : ptext (seg0 :: rest) = 0x2F :: (seg0 ++ ptext rest) := by simp [ptext]
    have htl : ptext rest = [] ∨ ∃ r, ptext rest = 0x2F :: r := by
      cases rest with
      | nil => left; rfl
      | cons r0 rs => right; exact ⟨r0 ++ ptext rs, by simp [ptext]⟩
    obtain ⟨h1, h2⟩ := firstString_core seg0 (ptext rest) (hns seg0 (by simp)) htl
    rw [hpt, headDrive_cons]
    simp only [List.length_cons, Nat.add_eq_zero_iff, Nat.succ_ne_self, and_false, beq_iff_eq,
      Bool.or_false, List.drop_succ_cons, List.drop_zero, if_false]
    refine ⟨by simpa using h1, fun hd => ?_⟩
    obtain ⟨a, c, e1, e2⟩ := h2 hd
    exact ⟨a, c, rest, by rw [e1], by simpa using e2⟩

/-! ### the two path operations of `append_parts` as values -/

/-- the path after `get_path_rem_last` / `get_shorten_path` -/
def opList (o : PathOp) (isFile : Bool) (p : List (List Nat)) : List (List Nat) :=
  match o with
  | .remLast => p.dropLast
  | .shorten => shortenList isFile p

theorem getPathRemLast_mk (r0 : Rep) (X : List (List Nat)) (p : List (List Nat)) (hX : X.length = 8)
    (hn : r0.segCount = p.length) (hp : NoSlash p) (hne : p ≠ []) :
    (mkRep r0 (X ++ [ptext p])).getPathRemLast =
      some (X.flatten.length + (ptext p.dropLast).length, p.length - 1) := by
  have hsc : (mkRep r0 (X ++ [ptext p])).segCount = p.length := hn
  unfold Rep.getPathRemLast
  rw [hsc, if_pos (List.length_pos_iff.mpr hne)]
  simp only [slice_path_mk r0 X _ hX]
  have hdec : p = p.dropLast ++ [p.getLast hne] := (List.dropLast_concat_getLast hne).symm
  have hk := lastSlash p.dropLast (p.getLast hne) (hp _ (List.getLast_mem hne))
  rw [← hdec] at hk
  rw [hk]
  simp [PATH, pe7_path r0 X _ hX]

theorem getPathRemLast_nil (r0 : Rep) (A : List (List Nat)) (hn : r0.segCount = 0) :
    (mkRep r0 A).getPathRemLast = none := by
  have hsc : (mkRep r0 A).segCount = 0 := hn
  unfold Rep.getPathRemLast
  rw [hsc]; simp

/-- the value of the path operation: `none` (nothing to remove: the path stays) or the new end of
    the path and the new segment count -/
theorem pathOp_mk (o : PathOp) (r0 : Rep) (X : List (List Nat)) (p : List (List Nat)) (isFile : Bool)
    (hX : X.length = 8) (ho : r0.opaquePath = false) (hn : r0.segCount = p.length)
    (hf : r0.isFileScheme = isFile) (hp : NoSlash p) :
    ((mkRep r0 (X ++ [ptext p])).pathOp o = none ∧ opList o isFile p = p) ∨
    ((mkRep r0 (X ++ [ptext p])).pathOp o =
      some (X.flatten.length + (ptext (opList o isFile p)).length, (opList o isFile p).length)) := by
  have hsc : (mkRep r0 (X ++ [ptext p])).segCount = p.length := hn
  have hfs : (mkRep r0 (X ++ [ptext p])).isFileScheme = isFile := hf
  cases o with
  | remLast =>
    unfold Rep.pathOp opList
    cases p with
    | nil => left; exact ⟨getPathRemLast_nil _ _ hn, rfl⟩
    | cons a t =>
      right
      rw [getPathRemLast_mk r0 X _ hX hn hp (by simp)]
      simp
  | shorten =>
    unfold Rep.pathOp opList
    match p, hn, hp, hsc, hfs with
    | [], hn, hp, hsc, hfs =>
      left
      refine ⟨?_, rfl⟩
      unfold Rep.getShortenPath
      rw [hsc]; simp
    | [seg], hn, hp, hsc, hfs =>
      have hseg : ∀ c ∈ seg, c ≠ 0x2F := hp seg (by simp)
      have hpt : ptext [seg] = 0x2F :: seg := by simp [ptext]
      have hg : (mkRep r0 (X ++ [ptext [seg]])).getShortenPath =
          if (isFile && segDrive seg) = true then none
          else (mkRep r0 (X ++ [ptext [seg]])).getPathRemLast := by
        have hop : (mkRep r0 (X ++ [ptext [seg]])).opaquePath = false := ho
        have hdr : (((mkRep r0 (X ++ [ptext [seg]])).getPathFirstString 2).length == 2 &&
            isNormalizedWindowsDrive (((mkRep r0 (X ++ [ptext [seg]])).getPathFirstString 2).getD 0 0)
              (((mkRep r0 (X ++ [ptext [seg]])).getPathFirstString 2).getD 1 0)) = segDrive seg := by
          unfold Rep.getPathFirstString
          rw [partView_path_mk r0 X _ hX, hop, ← headDrive_cons seg []]
          exact (firstString_ptext [seg] hp).1
        unfold Rep.getShortenPath
        dsimp only
        rw [hsc, hfs, hdr]
        simp
      rw [hg, shortenList_single]
      by_cases hd : (isFile && segDrive seg) = true
      · left; rw [if_pos hd, if_pos hd]; exact ⟨rfl, rfl⟩
      · right
        rw [if_neg hd, if_neg hd, getPathRemLast_mk r0 X _ hX hn hp (by simp)]
        simp [ptext]
    | s1 :: s2 :: rest, hn, hp, hsc, hfs =>
      right
      have hg : (mkRep r0 (X ++ [ptext (s1 :: s2 :: rest)])).getShortenPath =
          (mkRep r0 (X ++ [ptext (s1 :: s2 :: rest)])).getPathRemLast := by
        unfold Rep.getShortenPath
        dsimp only
        rw [hsc]
        simp
      rw [hg, getPathRemLast_mk r0 X _ hX hn hp (by simp)]
      simp [shortenList]

theorem opList_prefix (o : PathOp) (isFile : Bool) (p : List (List Nat)) :
    ∃ q, p = opList o isFile p ++ q := by
  cases o with
  | remLast =>
    cases hp : p with
    | nil => exact ⟨[], rfl⟩
    | cons a t =>
      refine ⟨[(a :: t).getLast (by simp)], ?_⟩
      exact (List.dropLast_concat_getLast (by simp)).symm
  | shorten =>
    match p with
    | [] => exact ⟨[], rfl⟩
    | [seg] =>
      show ∃ q, [seg] = shortenList isFile [seg] ++ q
      rw [shortenList_single]
      split
      · exact ⟨[], by simp⟩
      · exact ⟨[seg], by simp⟩
    | s1 :: s2 :: rest =>
      refine ⟨[(s1 :: s2 :: rest).getLast (by simp)], ?_⟩
      show s1 :: s2 :: rest = (s1 :: s2 :: rest).dropLast ++ _
      exact (List.dropLast_concat_getLast (by simp)).symm

theorem ptext_take_prefix (o : PathOp) (isFile : Bool) (p : List (List Nat)) :
    (ptext p).take (ptext (opList o isFile p)).length = ptext (opList o isFile p) ∧
      (ptext (opList o isFile p)).length ≤ (ptext p).length := by
  obtain ⟨q, hq⟩ := opList_prefix o isFile p
  have : ptext p = ptext (opList o isFile p) ++ ptext q := by
    conv => lhs; rw [hq]
    simp [ptext]
  rw [this]
  exact ⟨List.take_left' rfl, by simp⟩

theorem shorten_started (r0 : Rep) (X : List (List Nat)) (p : List (List Nat)) (isFile : Bool)
    (hX : X.length = 8) (ho : r0.opaquePath = false) (hn : r0.segCount = p.length)
    (hf : r0.isFileScheme = isFile) (hp : NoSlash p) :
    (⟨mkRep r0 (X ++ [ptext p]), PATH⟩ : Ser).shortenPath =
      ⟨mkRep { r0 with segCount := (shortenList isFile p).length }
        (X ++ [ptext (shortenList isFile p)]), PATH⟩ := by
  unfold Ser.shortenPath
  rcases pathOp_mk .shorten r0 X p isFile hX ho hn hf hp with ⟨h1, h2⟩ | h1
  · -- nothing to remove
    have h2' : shortenList isFile p = p := h2
    rw [show (mkRep r0 (X ++ [ptext p])).getShortenPath = none from h1, h2', ← hn]
  · rw [show (mkRep r0 (X ++ [ptext p])).getShortenPath = some (X.flatten.length +
      (ptext (shortenList isFile p)).length, (shortenList isFile p).length) from h1]
    obtain ⟨htk, _⟩ := ptext_take_prefix .shorten isFile p
    have hpe : ∀ (l : List Nat) (v : Nat), l.length = 11 → (l.set PATH v).getD PATH 0 = v := by
      intro l v hl
      simp [PATH, hl]
    simp only
    congr 1
    apply rep_eq_mkRep <;> try rfl
    · show List.take (((mkRep r0 (X ++ [ptext p])).partEnd.set PATH _).getD PATH 0) (X ++ [ptext p]).flatten = _
      rw [hpe _ _ (by simp [mkRep, hX])]
      simp only [List.flatten_append, List.flatten_cons, List.flatten_nil, List.append_nil]
      rw [List.take_length_add_append]
      exact congrArg _ htk
    · show (sums 0 (X ++ [ptext p]) ++ List.replicate (11 - (X ++ [ptext p]).length) 0).set PATH _ = _
      simp only [sums_append, sums_cons, sums_nil, Nat.zero_add, List.append_assoc]
      rw [List.set_append_right _ _ (by simp [hX, PATH])]
      simp [hX, PATH]

theorem shortenList_subset (isFile : Bool) (p : List (List Nat)) : ∀ x ∈ shortenList isFile p, x ∈ p := by
  intro x hx
  match p, hx with
  | [], hx => exact hx
  | [seg], hx =>
    rw [shortenList_single] at hx
    split at hx
    · exact hx
    · simp at hx
  | a :: b :: r, hx => exact List.dropLast_subset _ hx

theorem opList_subset (o : PathOp) (isFile : Bool) (p : List (List Nat)) :
    ∀ x ∈ opList o isFile p, x ∈ p := by
  cases o with
  | remLast => exact fun x hx => List.dropLast_subset _ hx
  | shorten => exact shortenList_subset isFile p

/-! ### no "/." prefix to adjust (commit_path with a host, hostDone) -/

theorem adjust_none (r0 : Rep) {s0 s1 s2 s3 s4 s5 s6 s7 s8 s9 s10 : List Nat} {A : List (List Nat)}
    (h : Rp [s0, s1, s2, s3, s4, s5, s6, s7, s8, s9, s10] A) (hh : r0.hostNotNull = true) (h7 : s7 = []) :
    adjustPathPrefix (mkRep r0 A) = mkRep r0 A := by
  unfold adjustPathPrefix
  have hn : (mkRep r0 A).hostNotNull = true := hh
  rw [isEmpty_prefix _ h, hn]
  simp [h7]

/-- `hostDone` does not find a "/." prefix when nothing after PORT was started -/
theorem isEmpty_prefix_short (r0 : Rep) (A : List (List Nat)) (hA : A.length ≤ 7) :
    (mkRep r0 A).isEmpty PATH_PREFIX = true := by
  rw [isEmpty_mkRep r0 A _ (by decide), getD_of_length_le hA]; rfl

/-! ### credentials and host -/

theorem start_user_pass (r0 : Rep) (a b c : List Nat) :
    serStartPart (mkRep r0 [a, b, c]) USERNAME PASSWORD = mkRepE r0 [a, b, c] [0x3A] := by
  simp [serStartPart, mkRep, mkRepE, USERNAME, PASSWORD, PATH, SCHEME, PORT, QUERY, FRAGMENT, fillRange]

theorem start_user_host (r0 : Rep) (a b c : List Nat) :
    serStartPart (mkRep r0 [a, b, c]) USERNAME HOST = mkRepE r0 [a, b, c, [], [0x40]] [] := by
  simp [serStartPart, mkRep, mkRepE, USERNAME, PASSWORD, PATH, SCHEME, PORT, QUERY, FRAGMENT, HOST,
    HOST_START, fillRange, Nat.add_assoc]

theorem start_pass_host (r0 : Rep) (a b c d : List Nat) :
    serStartPart (mkRep r0 [a, b, c, d]) PASSWORD HOST = mkRepE r0 [a, b, c, d, [0x40]] [] := by
  simp [serStartPart, mkRep, mkRepE, USERNAME, PASSWORD, PATH, SCHEME, PORT, QUERY, FRAGMENT, HOST, fillRange,
    Nat.add_assoc]

theorem writePart_user_pass (r0 : Rep) (a b c t : List Nat) :
    (⟨mkRep r0 [a, b, c], USERNAME⟩ : Ser).writePart PASSWORD t = ⟨mkRep r0 [a, b, c, 0x3A :: t], PASSWORD⟩ :=
  writePart_open (s := ⟨mkRep r0 [a, b, c], USERNAME⟩) (start_user_pass r0 a b c) rfl (by decide) t

theorem writePart_user_host (r0 : Rep) (a b c t : List Nat) :
    (⟨mkRep r0 [a, b, c], USERNAME⟩ : Ser).writePart HOST t = ⟨mkRep r0 [a, b, c, [], [0x40], t], HOST⟩ :=
  writePart_open (s := ⟨mkRep r0 [a, b, c], USERNAME⟩) (start_user_host r0 a b c) rfl (by decide) t

theorem writePart_pass_host (r0 : Rep) (a b c d t : List Nat) :
    (⟨mkRep r0 [a, b, c, d], PASSWORD⟩ : Ser).writePart HOST t = ⟨mkRep r0 [a, b, c, d, [0x40], t], HOST⟩ :=
  writePart_open (s := ⟨mkRep r0 [a, b, c, d], PASSWORD⟩) (start_pass_host r0 a b c d) rfl (by decide) t

theorem writeHost_eq (s : Ser) (text : List Nat) (ht : Nat) :
    s.writeHost text ht =
      { (s.writePart HOST text) with
        rep := if !((s.writePart HOST text).rep.setHostType ht).isEmpty PATH_PREFIX
          then replacePart1 ((s.writePart HOST text).rep.setHostType ht) PATH_PREFIX []
          else (s.writePart HOST text).rep.setHostType ht } := rfl

/-- `hostStart` … `hostDone(ht)` when nothing after PORT was started: the host type is set, no "/."
    prefix is found -/
theorem writeHost_of_writePart {s : Ser} {r0 : Rep} {A : List (List Nat)} {text : List Nat}
    (h : s.writePart HOST text = ⟨mkRep r0 A, HOST⟩) (hA : A.length ≤ 7) (ht : Nat) :
    s.writeHost text ht = ⟨mkRep (r0.setHostType ht) A, HOST⟩ := by
  rw [writeHost_eq, h]
  simp only [setHostType_mkRep, isEmpty_prefix_short _ A hA, Bool.not_true, Bool.false_eq_true, if_false]

theorem setEmptyHost_of_writePart {s : Ser} {r0 : Rep} {A : List (List Nat)}
    (h : s.writePart HOST [] = ⟨mkRep r0 A, HOST⟩) :
    s.setEmptyHost = ⟨mkRep (r0.setHostType 0) A, HOST⟩ := by
  have e : s.setEmptyHost = { (s.writePart HOST []) with rep := (s.writePart HOST []).rep.setHostType 0 } := by
    simp [Ser.setEmptyHost, Ser.writePart, Ser.append]
  rw [e, h]
  rfl

theorem emptyHost_mk (r0 : Rep) (X : List (List Nat)) (t : List Nat) (hX : X.length = 5) :
    (⟨mkRep r0 (X ++ [t]), HOST⟩ : Ser).emptyHost = ⟨mkRep (r0.setHostType 0) (X ++ [[]]), HOST⟩ := by
  have h4 : (mkRep r0 (X ++ [t])).pe HOST_START = X.flatten.length := pe_before_last r0 X t 4 hX
  unfold Ser.emptyHost
  simp only [h4]
  congr 1
  apply rep_eq_mkRep <;> try rfl
  · show List.take X.flatten.length (X ++ [t]).flatten = _
    simp
  · show (sums 0 (X ++ [t]) ++ List.replicate (11 - (X ++ [t]).length) 0).set HOST X.flatten.length = _
    simp only [sums_append, sums_cons, sums_nil, Nat.zero_add, List.append_assoc]
    rw [List.set_append_right _ _ (by simp [hX, HOST])]
    simp [hX, HOST]

end Upa.Proofs.ParseRep
