import Upa.Proofs.Utf
import Upa.Spec.Form
import Upa.Impl.Form
/-
  C16, comparator part: `Impl.compareByCodeUnits` on UTF-8 byte strings orders them exactly as the
  UTF-16 code units of the decoded strings are ordered lexicographically (`Spec.lexLt`).
-/
namespace Upa.Proofs.C16
open Upa Upa.Spec Upa.Impl

/-! ### `lexLt` is the lexicographic order of core on code unit lists -/

theorem lexLt_iff : ∀ (a b : List Nat), lexLt a b = true ↔ a < b
  | [], [] => by simp [lexLt]
  | [], _ :: _ => by simp [lexLt]
  | _ :: _, [] => by simp [lexLt]
  | x :: xs, y :: ys => by
    rw [lexLt, List.cons_lt_cons_iff, ← lexLt_iff xs ys]
    by_cases h : x < y
    · simp [h]
    · by_cases h' : x > y
      · have : x ≠ y := by omega
        simp [h, h', this]
      · have : x = y := by omega
        simp [this]

theorem lexLt_append_left (p s t : List Nat) : lexLt (p ++ s) (p ++ t) = lexLt s t := by
  induction p with
  | nil => rfl
  | cons x xs ih => simp [lexLt, ih]

theorem lexLt_cons_ne {x y : Nat} (h : x ≠ y) (s t : List Nat) :
    lexLt (x :: s) (y :: t) = decide (x < y) := by
  simp only [lexLt]
  by_cases hxy : x < y
  · simp [hxy]
  · have : x > y := by omega
    simp [hxy, this]

/-! ### `read_utf_char` and the decode loop on UTF-8 -/

theorem readUtfChar_ascii (a : Nat) (ra : List Nat) (h : a < 0x80) :
    readUtfChar .u8 (a :: ra) = (a, ra) := by
  rw [readUtfChar_eq, show readChar .u8 (a :: ra) = (true, a, ra) from readU8_ascii a ra h]
  rfl

theorem readUtfChar_len (a : Nat) (ra : List Nat) :
    (readUtfChar .u8 (a :: ra)).2.length ≤ ra.length :=
  Nat.le_of_lt_succ (readChar_rest_length .u8 (a :: ra) (List.cons_ne_nil _ _))

theorem readUtfChar_ge (a : Nat) (ra : List Nat) (h : 0x80 ≤ a) :
    0x80 ≤ (readUtfChar .u8 (a :: ra)).1 ∧ isScalar (readUtfChar .u8 (a :: ra)).1 = true := by
  rw [readUtfChar_eq, cpOf]
  by_cases hok : (readChar .u8 (a :: ra)).1 = true
  · rw [if_pos hok]; exact readU8_ok_scalar a ra (by omega) hok
  · rw [if_neg hok]; exact ⟨show 0x80 ≤ 0xFFFD by decide, show isScalar 0xFFFD = true by decide⟩

theorem decode_nil : Impl.decode .u8 [] = [] := Impl.decode_nil .u8

theorem decode_cons (a : Nat) (ra : List Nat) :
    Impl.decode .u8 (a :: ra) =
      (readUtfChar .u8 (a :: ra)).1 :: Impl.decode .u8 (readUtfChar .u8 (a :: ra)).2 :=
  decode_step .u8 (a :: ra) (List.cons_ne_nil _ _)

/-- the UTF-16 code units of the string that a UTF-8 byte string decodes to (ill-formed
    subsequences are read as U+FFFD, exactly as `read_utf_char` does) -/
def key (x : List Nat) : List Nat := utf16Encode (Impl.decode .u8 x)

theorem key_nil : key [] = [] := rfl

theorem key_cons (a : Nat) (ra : List Nat) :
    key (a :: ra) = utf16EncodeChar (readUtfChar .u8 (a :: ra)).1 ++ key (readUtfChar .u8 (a :: ra)).2 := by
  simp [key, decode_cons, utf16Encode]

theorem key_encode (s : List Nat) (h : ∀ c ∈ s, isScalar c = true) :
    key (utf8Encode s) = utf16Encode s := by
  rw [key, show Impl.decode .u8 (utf8Encode s) = s from Impl.decode_encode .u8 s h]


/-! ### the comparator agrees with `lexLt` on the keys -/

/-- the sign of `r` is the three-way comparison of `kx` and `ky` -/
def Agrees (r : Int) (kx ky : List Nat) : Prop :=
  (r < 0 ↔ lexLt kx ky = true) ∧ (0 < r ↔ lexLt ky kx = true)

theorem agrees_heads {r : Int} {x y : Nat} (hne : x ≠ y) (hlt : r < 0 ↔ x < y) (hgt : 0 < r ↔ y < x)
    (s t : List Nat) : Agrees r (x :: s) (y :: t) := by
  simpa only [Agrees, lexLt_cons_ne hne, lexLt_cons_ne (Ne.symm hne), decide_eq_true_eq] using ⟨hlt, hgt⟩

theorem agrees_sub {x y : Nat} (h : x ≠ y) (s t : List Nat) :
    Agrees ((x : Int) - (y : Int)) (x :: s) (y :: t) :=
  agrees_heads h (by omega) (by omega) s t

theorem agrees_prefix {r : Int} {s t : List Nat} (p : List Nat) (h : Agrees r s t) :
    Agrees r (p ++ s) (p ++ t) := by
  simpa only [Agrees, lexLt_append_left] using h

/-- first code unit of a scalar value -/
def cuHead (c : Nat) : Nat := if c ≤ 0xFFFF then c else 0xD800 + (c - 0x10000) / 0x400
def cuTail (c : Nat) : List Nat := if c ≤ 0xFFFF then [] else [0xDC00 + (c - 0x10000) % 0x400]

theorem utf16EncodeChar_eq (c : Nat) : utf16EncodeChar c = cuHead c :: cuTail c := by
  unfold utf16EncodeChar cuHead cuTail; split <;> rfl

theorem cuHead_ge {c : Nat} (h : 0x80 ≤ c) : 0x80 ≤ cuHead c := by
  unfold cuHead; split <;> omega

theorem cuHead_shift {c : Nat} (h : c ≤ 0x10FFFF) :
    (if c ≤ 0xFFFF then c else (c >>> 10) + 0xD7C0) = cuHead c := by
  unfold cuHead; rw [shr10]; split <;> omega

/-- two different scalar values with the same first unit are supplementary, and that unit is a lead surrogate -/
theorem cuHead_eq {c d : Nat} (hc : isScalar c = true) (hd : isScalar d = true) (hne : c ≠ d)
    (hh : cuHead c = cuHead d) : (0xFFFF < c ∧ 0xFFFF < d ∧ c % 1024 ≠ d % 1024) ∧ cuHead c &&& 0xFFFFFC00 = 0xD800 := by
  rw [isScalar_iff] at hc hd
  rw [andHi10]
  unfold cuHead at hh ⊢
  split at hh <;> split at hh <;> simp only [*, if_true, if_false] <;> omega

/-- The code-unit comparison made when the two code points differ: by the first units if these differ;
    equal first units of different scalar values are lead surrogates, and the low ten bits order the
    trail surrogates. -/
theorem cmp_units {c d : Nat} (hc : isScalar c = true) (hd : isScalar d = true) (hne : c ≠ d)
    (s t : List Nat) :
    Agrees
      (if (if c ≤ 0xFFFF then c else (c >>> 10) + 0xD7C0) = (if d ≤ 0xFFFF then d else (d >>> 10) + 0xD7C0)
        then ((c &&& 0x3FF : Nat) : Int) - ((d &&& 0x3FF : Nat) : Int)
        else ((if c ≤ 0xFFFF then c else (c >>> 10) + 0xD7C0 : Nat) : Int) -
             ((if d ≤ 0xFFFF then d else (d >>> 10) + 0xD7C0 : Nat) : Int))
      (utf16EncodeChar c ++ s) (utf16EncodeChar d ++ t) := by
  have hsup := fun hh => (cuHead_eq hc hd hne hh).1
  rw [isScalar_iff] at hc hd
  rw [cuHead_shift hc.1, cuHead_shift hd.1, utf16EncodeChar_eq, utf16EncodeChar_eq, and3FF, and3FF]
  by_cases hh : cuHead c = cuHead d
  · have hsup := hsup hh
    unfold cuTail
    rw [if_pos hh, if_neg (by omega), if_neg (by omega), hh]
    refine agrees_prefix [_] ?_
    have e : ((c % 1024 : Nat) : Int) - ((d % 1024 : Nat) : Int) =
        ((0xDC00 + (c - 0x10000) % 0x400 : Nat) : Int) - ((0xDC00 + (d - 0x10000) % 0x400 : Nat) : Int) := by
      omega
    rw [e]
    exact agrees_sub (by omega) s t
  · rw [if_neg hh]
    exact agrees_sub hh _ _

theorem key_cons_ascii {a : Nat} (ra : List Nat) (h : a < 0x80) : key (a :: ra) = a :: key ra := by
  rw [key_cons, readUtfChar_ascii a ra h]
  simp only [utf16EncodeChar]
  rw [if_pos (by omega)]; rfl

theorem key_cons_head (a : Nat) (ra : List Nat) :
    ∃ u us, key (a :: ra) = u :: us ∧ (a < 0x80 → u = a) ∧ (0x80 ≤ a → 0x80 ≤ u) := by
  rw [key_cons, utf16EncodeChar_eq]
  refine ⟨_, _, rfl, fun h => ?_, fun h => cuHead_ge (readUtfChar_ge a ra h).1⟩
  rw [readUtfChar_ascii a ra h]; unfold cuHead; rw [if_pos (by omega)]

/-! ### the defining equations of `compareByCodeUnitsAux` -/

theorem cmpL_nil_nil (f : Nat) : compareByCodeUnitsAux (f + 1) [] [] = 0 := by
  simp [compareByCodeUnitsAux]
theorem cmpL_cons_nil (f x : Nat) (r : List Nat) : compareByCodeUnitsAux (f + 1) (x :: r) [] = 1 := by
  simp [compareByCodeUnitsAux]
theorem cmpL_nil_cons (f x : Nat) (r : List Nat) : compareByCodeUnitsAux (f + 1) [] (x :: r) = -1 := by
  simp [compareByCodeUnitsAux]

theorem cmpL_cons_ascii (f x : Nat) (rx : List Nat) (y : Nat) (ry : List Nat) (h : x < 0x80 ∨ y < 0x80) :
    compareByCodeUnitsAux (f + 1) (x :: rx) (y :: ry) =
      if x = y then compareByCodeUnitsAux f rx ry else (x : Int) - (y : Int) := by
  rw [compareByCodeUnitsAux, if_pos h]

theorem cmpL_cons_hi (f x : Nat) (rx : List Nat) (y : Nat) (ry : List Nat) (h : ¬ (x < 0x80 ∨ y < 0x80))
    {cp1 cp2 : Nat} {r1 r2 : List Nat} (e1 : readUtfChar .u8 (x :: rx) = (cp1, r1))
    (e2 : readUtfChar .u8 (y :: ry) = (cp2, r2)) :
    compareByCodeUnitsAux (f + 1) (x :: rx) (y :: ry) =
      if cp1 = cp2 then compareByCodeUnitsAux f r1 r2
      else
        let cu1 := if cp1 ≤ 0xFFFF then cp1 else (cp1 >>> 10) + 0xD7C0
        let cu2 := if cp2 ≤ 0xFFFF then cp2 else (cp2 >>> 10) + 0xD7C0
        if cu1 = cu2 then ((cp1 &&& 0x3FF : Nat) : Int) - ((cp2 &&& 0x3FF : Nat) : Int)
        else (cu1 : Int) - (cu2 : Int) := by
  rw [compareByCodeUnitsAux, if_neg h, e1, e2]

theorem cmpAux_agrees : ∀ (fuel : Nat) (x y : List Nat), x.length + y.length < fuel →
    Agrees (compareByCodeUnitsAux fuel x y) (key x) (key y) := by
  intro fuel
  induction fuel with
  | zero => intro x y h; omega
  | succ n ih =>
    intro x y hlen
    cases x with
    | nil =>
      cases y with
      | nil => rw [cmpL_nil_nil]; simp [Agrees, key_nil, lexLt]
      | cons b rb =>
        obtain ⟨u, us, hk, _⟩ := key_cons_head b rb
        simp [cmpL_nil_cons, Agrees, key_nil, hk, lexLt]
    | cons a ra =>
      cases y with
      | nil =>
        obtain ⟨u, us, hk, _⟩ := key_cons_head a ra
        simp [cmpL_cons_nil, Agrees, key_nil, hk, lexLt]
      | cons b rb =>
        simp only [List.length_cons] at hlen
        by_cases hasc : a < 0x80 ∨ b < 0x80
        · rw [cmpL_cons_ascii _ _ _ _ _ hasc]
          by_cases hab : a = b
          · subst hab
            have ha : a < 0x80 := by omega
            rw [if_pos rfl, key_cons_ascii ra ha, key_cons_ascii rb ha]
            exact agrees_prefix [a] (ih ra rb (by omega))
          · rw [if_neg hab]
            obtain ⟨u, us, hu, hu1, hu2⟩ := key_cons_head a ra
            obtain ⟨v, vs, hv, hv1, hv2⟩ := key_cons_head b rb
            rw [hu, hv]
            exact agrees_heads (by omega) (by omega) (by omega) _ _
        · have ha : 0x80 ≤ a := by omega
          have hb : 0x80 ≤ b := by omega
          have hl1 := readUtfChar_len a ra
          have hl2 := readUtfChar_len b rb
          have hs1 := (readUtfChar_ge a ra ha).2
          have hs2 := (readUtfChar_ge b rb hb).2
          rw [key_cons a ra, key_cons b rb]
          rcases e1 : readUtfChar .u8 (a :: ra) with ⟨cp1, r1⟩
          rcases e2 : readUtfChar .u8 (b :: rb) with ⟨cp2, r2⟩
          rw [cmpL_cons_hi n a ra b rb hasc e1 e2]
          rw [e1] at hl1 hs1
          rw [e2] at hl2 hs2
          simp only at hl1 hl2 hs1 hs2
          by_cases hcp : cp1 = cp2
          · subst hcp
            rw [if_pos rfl]
            exact agrees_prefix _ (ih r1 r2 (by omega))
          · rw [if_neg hcp]
            exact cmp_units hs1 hs2 hcp _ _


theorem cmp_agrees (x y : List Nat) : Agrees (compareByCodeUnits x y) (key x) (key y) :=
  cmpAux_agrees _ x y (Nat.lt_succ_self _)

theorem cmp_lt_iff (x y : List Nat) : compareByCodeUnits x y < 0 ↔ lexLt (key x) (key y) = true :=
  (cmp_agrees x y).1

theorem cmp_gt_iff (x y : List Nat) : compareByCodeUnits x y > 0 ↔ lexLt (key y) (key x) = true :=
  (cmp_agrees x y).2

theorem cmp_eq_iff (x y : List Nat) : compareByCodeUnits x y = 0 ↔ key x = key y := by
  have h := cmp_agrees x y
  simp only [Agrees, lexLt_iff] at h
  constructor
  · intro h0
    exact List.le_antisymm (List.not_lt.1 fun hl => by have := h.2.2 hl; omega)
      (List.not_lt.1 fun hl => by have := h.1.2 hl; omega)
  · intro hk
    rw [hk] at h
    have h1 : ¬ compareByCodeUnits x y < 0 := fun hh => List.lt_irrefl _ (h.1.1 hh)
    have h2 : ¬ 0 < compareByCodeUnits x y := fun hh => List.lt_irrefl _ (h.2.1 hh)
    omega

theorem utf16Encode_inj (a b : List Nat) (ha : ∀ c ∈ a, isScalar c = true) (hb : ∀ c ∈ b, isScalar c = true)
    (h : utf16Encode a = utf16Encode b) : a = b := by
  rw [← Impl.decode_encode .u16 a ha, ← Impl.decode_encode .u16 b hb]
  exact congrArg _ h

/-! ### `nameLess` is a strict weak order (on all byte strings) -/

theorem nameLess_eq (a b : BPair) : nameLess a b = lexLt (key a.1) (key b.1) := by
  unfold nameLess
  cases h : lexLt (key a.1) (key b.1) with
  | true => exact decide_eq_true ((cmp_lt_iff _ _).2 h)
  | false =>
    apply decide_eq_false
    intro hh
    rw [(cmp_lt_iff _ _).1 hh] at h; cases h

/-- `nameLess` is core's order on the keys, so it is a strict weak order because that is a linear order -/
theorem nameLess_iff (a b : BPair) : nameLess a b = true ↔ key a.1 < key b.1 := by
  rw [nameLess_eq, lexLt_iff]

theorem nameLess_false_iff (a b : BPair) : nameLess a b = false ↔ key b.1 ≤ key a.1 := by
  rw [← Bool.not_eq_true, nameLess_iff, List.not_lt]

theorem nameLess_irrefl (a : BPair) : nameLess a a = false :=
  (nameLess_false_iff a a).2 (List.le_refl _)

theorem nameLess_trans {a b c : BPair} (h1 : nameLess a b = true) (h2 : nameLess b c = true) :
    nameLess a c = true :=
  (nameLess_iff a c).2 (List.lt_trans ((nameLess_iff a b).1 h1) ((nameLess_iff b c).1 h2))

theorem nameLess_incomp_trans {a b c : BPair}
    (h1 : nameLess a b = false) (h1' : nameLess b a = false)
    (h2 : nameLess b c = false) (h2' : nameLess c b = false) :
    nameLess a c = false ∧ nameLess c a = false := by
  simp only [nameLess_false_iff] at *
  exact ⟨List.le_trans h2 h1, List.le_trans h1' h2'⟩

/-- the `le` handed to `mergeSort` -/
def nameLe (a b : BPair) : Bool := !nameLess b a

theorem nameLe_iff (a b : BPair) : nameLe a b = true ↔ key a.1 ≤ key b.1 := by
  rw [nameLe, Bool.not_eq_true', nameLess_false_iff]

theorem nameLe_total (a b : BPair) : (nameLe a b || nameLe b a) = true := by
  rw [Bool.or_eq_true, nameLe_iff, nameLe_iff]
  exact List.le_total _ _

theorem nameLe_trans (a b c : BPair) (h1 : nameLe a b = true) (h2 : nameLe b c = true) :
    nameLe a c = true := by
  rw [nameLe_iff] at *
  exact List.le_trans h1 h2

end Upa.Proofs.C16
