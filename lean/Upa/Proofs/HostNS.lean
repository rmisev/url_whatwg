import Upa.Impl.HostNS
/-
  Lemmas for C09b: the explicit validate-only host parser (`Upa.Impl.HostNS`) returns, for every
  input, the verdict of the saving host parser (`Impl.parseHost`), and so the `…NS'` blocks equal the
  `…NS` blocks of `Upa/Impl/CanParse.lean`.  No hypothesis on `idna` is used anywhere.
-/
namespace Upa.Proofs.HostNS
open Upa Upa.Impl Upa.Impl.HostNS

theorem ipv4_agree (s : List Nat) : hostParseIpv4NS s = (hostParseIpv4 s).isSome := by
  unfold hostParseIpv4NS hostParseIpv4
  cases ipv4Parse s <;> rfl

theorem ipv6_agree (s : List Nat) : hostParseIpv6NS s = (hostParseIpv6 s).isSome := by
  unfold hostParseIpv6NS hostParseIpv6
  cases ipv6Parse s <;> rfl

theorem opaque_agree (s : List Nat) : parseOpaqueHostNS s = (parseOpaqueHost s).isSome := by
  unfold parseOpaqueHostNS parseOpaqueHost
  rw [apply_ite Option.isSome]
  rfl

/-- the `ptr != last` branch (url_host.h:206-214): return failure / fall through to the IDNA path -/
theorem fast_cons (A B : Prop) [Decidable A] [Decidable B] (X : Bool) (Y : Option Host)
    (h : X = Y.isSome) :
    (match (if A then (if B then some false else none) else none : Option Bool) with
      | some v => v
      | none => X) =
    (match (if A then (if B then some none else none) else none : Option (Option Host)) with
      | some r => r
      | none => Y).isSome := by
  by_cases hA : A <;> by_cases hB : B <;> simp [hA, hB, h]

/-- the IDNA path behind `domain_to_ascii` (url_host.h:265-286) -/
theorem idnaTail_agree (r : Option (List Nat)) :
    (match r with
      | none => false
      | some ascii =>
        if ascii.any Spec.forbiddenDomain = true then false
        else if endsInNumber ascii = true then hostParseIpv4NS ascii else true) =
    (match r with
      | none => none
      | some ascii =>
        if ascii.any Spec.forbiddenDomain = true then none
        else if endsInNumber ascii = true then hostParseIpv4 ascii
        else some { kind := .domain, text := ascii }).isSome := by
  cases r with
  | none => rfl
  | some ascii =>
    simp only [apply_ite Option.isSome, ipv4_agree, Option.isSome_none, Option.isSome_some]

/-- the validate-only host parser and the saving one reach the same verdict, for every IDNA function,
    every input and both modes -/
theorem parseHostNS_agree (idna : Idna) (s : List Nat) (o : Bool) :
    HostNS.parseHostNS idna s o = (Impl.parseHost idna s o).isSome := by
  cases s with
  | nil => cases o <;> rfl
  | cons c0 r =>
    rw [HostNS.parseHostNS, Impl.parseHost]
    by_cases h5b : c0 = 0x5B
    · rw [if_pos h5b, if_pos h5b, apply_ite Option.isSome, ipv6_agree]
      rfl
    · rw [if_neg h5b, if_neg h5b]
      cases o with
      | true =>
        rw [if_pos rfl, if_pos rfl]
        exact opaque_agree _
      | false =>
        rw [if_neg Bool.false_ne_true, if_neg Bool.false_ne_true]
        -- a domain: all ASCII domain characters (fast path unless an `xn--` label), or an early verdict
        -- on the first other character, or the IDNA path
        cases List.dropWhile Spec.asciiDomainChar (c0 :: r) with
        | nil =>
          simp only []
          by_cases hx : hasXnLabel (c0 :: r) = true
          · simp only [hx, Bool.not_true, Bool.false_eq_true, if_false]
            exact idnaTail_agree _
          · simp only [hx, Bool.not_false, if_true, apply_ite Option.isSome, ipv4_agree,
              Option.isSome_some]
        | cons p rest =>
          exact fast_cons _ _ _ _ (idnaTail_agree _)

/-! Each `…NS'` block is the `…NS` block with `HostNS.parseHostNS` in place of `Impl.parseHostNS`, so the two are
the same function as soon as their callees are. -/

theorem parseHostNS_eq : HostNS.parseHostNS = Impl.parseHostNS :=
  funext fun idna => funext fun s => funext fun o => parseHostNS_agree idna s o

theorem fileHostStateNS_eq : fileHostStateNS' = fileHostStateNS := by
  delta fileHostStateNS' fileHostStateNS
  rw [parseHostNS_eq]
  rfl

theorem fileSlashStateNS_eq : fileSlashStateNS' = fileSlashStateNS := by
  delta fileSlashStateNS' fileSlashStateNS
  rw [fileHostStateNS_eq]
  rfl

theorem fileStateNS_eq : fileStateNS' = fileStateNS := by
  delta fileStateNS' fileStateNS
  rw [fileSlashStateNS_eq]
  rfl

theorem hostStateNS_eq : hostStateNS' = hostStateNS := by
  delta hostStateNS' hostStateNS
  rw [parseHostNS_eq]
  rfl

theorem authorityStateNS_eq : authorityStateNS' = authorityStateNS := by
  delta authorityStateNS' authorityStateNS
  rw [hostStateNS_eq]
  rfl

theorem ignoreSlashesStateNS_eq : ignoreSlashesStateNS' = ignoreSlashesStateNS := by
  delta ignoreSlashesStateNS' ignoreSlashesStateNS
  rw [authorityStateNS_eq]

theorem specialAuthoritySlashesStateNS_eq :
    specialAuthoritySlashesStateNS' = specialAuthoritySlashesStateNS := by
  delta specialAuthoritySlashesStateNS' specialAuthoritySlashesStateNS
  rw [ignoreSlashesStateNS_eq]
  rfl

theorem relativeSlashStateNS_eq : relativeSlashStateNS' = relativeSlashStateNS := by
  delta relativeSlashStateNS' relativeSlashStateNS
  rw [ignoreSlashesStateNS_eq, authorityStateNS_eq]
  rfl

theorem relativeStateNS_eq : relativeStateNS' = relativeStateNS := by
  delta relativeStateNS' relativeStateNS
  rw [relativeSlashStateNS_eq]
  rfl

theorem noSchemeStateNS_eq : noSchemeStateNS' = noSchemeStateNS := by
  delta noSchemeStateNS' noSchemeStateNS
  rw [fileStateNS_eq, relativeStateNS_eq]
  rfl

theorem schemeStateNS_eq : schemeStateNS' = schemeStateNS := by
  delta schemeStateNS' schemeStateNS
  rw [fileStateNS_eq, relativeStateNS_eq, ignoreSlashesStateNS_eq,
    specialAuthoritySlashesStateNS_eq, authorityStateNS_eq, noSchemeStateNS_eq]
  rfl

theorem canParseNS_eq : canParseNS' = canParse := by
  delta canParseNS' canParse
  rw [schemeStateNS_eq, noSchemeStateNS_eq]
  rfl

end Upa.Proofs.HostNS
