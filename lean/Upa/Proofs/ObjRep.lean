import Upa.Impl.ObjRep
import Upa.Proofs.ParseRepTop
import Upa.Props.C05d
import Upa.Props.C05f
import Upa.Proofs.Lockstep
/-
  C05g: the simulation between the representation-level object model (`RObj`,
  Impl/ObjRep.lean) and the record-level one (`UrlObj`, Impl/Api.lean), operation by operation.

  `Good idna u`  the invariant of the record of a valid object.  It is `NormX idna u` of C02b
                 (`Norm` without its two file-only clauses: `Norm idna u ∨ (NormX idna u ∧ FileExc u)`),
                 the one predicate every operation keeps, the protocol setter included, and it implies
                 everything the representation theorems ask for (`GoodS.ok`).
  `SpBytes sp`   the stored names and values of a params object are byte strings (< 256).
  `Sim idna ro o`  same params object, `SpBytes`, both invalid or `RepFor r u ∧ Good idna u`.

  Everything is proved for the two strengths `st : Bool` of the invariant at once (`GoodS idna st`:
  `Norm` for `st = true`, `NormX` for `st = false`; `SimS`, `SimS₂`): `Norm` is kept by every operation
  but the protocol setter, so histories without a protocol call never meet the file exception.
-/
namespace Upa.Proofs.ObjRep
open Upa Upa.Impl Upa.Props Upa.Proofs.C05 Upa.Proofs.SetRep Upa.Proofs.SetRepApi
open Upa.Proofs.C02b (IdnaStable)

/-! ## the invariant of a valid object's record -/

/-- the invariant on the record of a valid object, in two strengths: `Norm` of C02 (`st = true`), or
    `NormX` of C02b, i.e. `Norm` without its two file-only clauses (`st = false`) -/
def GoodS (idna : Idna) : Bool → Url → Prop
  | true, u => Norm idna u
  | false, u => NormX idna u

/-- the invariant every operation keeps: `NormX` of C02b -/
abbrev Good (idna : Idna) (u : Url) : Prop := GoodS idna false u

instance (idna : Idna) (st : Bool) (u : Url) : Decidable (GoodS idna st u) := by
  cases st <;> unfold GoodS <;> infer_instance

theorem GoodS.toAll {idna : Idna} {st : Bool} {u : Url} (h : GoodS idna st u) : Proofs.C02b.All idna st u := by
  cases st with
  | true => exact Proofs.C02b.all_of_normP (Norm.toNormP h)
  | false => exact NormX.toAll h

theorem GoodS.ofAll {idna : Idna} {st : Bool} {u : Url} (h : Proofs.C02b.All idna st u) : GoodS idna st u := by
  cases st with
  | true => exact Norm.ofNormP (Proofs.C02b.normP_of_all h)
  | false => exact NormX.ofAll h

theorem GoodS.weaken {idna : Idna} {st : Bool} {u : Url} (h : GoodS idna st u) : Good idna u :=
  GoodS.ofAll h.toAll.weaken

theorem GoodS.ok {idna : Idna} {st : Bool} {u : Url} (h : GoodS idna st u) :
    Proofs.ParseRep.BaseOk u := normx_ok h.weaken

theorem Good.ofNorm {idna : Idna} {u : Url} (h : Norm idna u) : Good idna u :=
  ((C02_norm_iff_normx idna u).1 h).1

theorem good_iff (idna : Idna) (u : Url) : Good idna u ↔ (Norm idna u ∨ (NormX idna u ∧ FileExc u)) := by
  constructor
  · intro h
    by_cases hf : FileExc u
    · exact Or.inr ⟨h, hf⟩
    · exact Or.inl ((C02_norm_iff_normx idna u).2 ⟨h, hf⟩)
  · rintro (h | h)
    · exact Good.ofNorm h
    · exact h.1

theorem GoodS.qbytes {idna : Idna} {st : Bool} {u : Url} (h : GoodS idna st u) :
    Proofs.C06.QBytes (some u) := by
  -- the fourteenth clause of `NormX`: the alphabet of the query
  obtain ⟨_, _, _, _, _, _, _, _, _, _, _, _, _, h15, _⟩ := h.weaken
  intro x hx
  have hx' : x ∈ u.query.getD [] := hx
  cases hq : u.query with
  | none => rw [hq] at hx'; simp at hx'
  | some q =>
    rw [hq] at hx'
    have := h15 q hq
    simp only [Proofs.C02.queryOk, List.all_eq_true] at this
    exact Nat.lt_trans (Proofs.C02.keeps_iff.1 (this x (by simpa using hx'))).1 (by decide)

/-- every setter keeps `Good` (`C02_set_normx`), and every setter but `protocol` keeps `Norm`
    (`C02_set_norm`): both are `set_all` of Proofs/ReparseParsed.lean -/
theorem good_set {idna : Idna} {st : Bool} (hi : IdnaStable idna) (s : Setter) (e : Enc) (units : List Nat)
    {u : Url} (hs : s = .protocol → st = false) (h : GoodS idna st u) :
    GoodS idna st (setValid idna s e units u).1 :=
  GoodS.ofAll (Proofs.C02b.set_all hi s e units u h.toAll hs)

/-- the parser returns good records, without a base or against a good base (`parse_all`) -/
theorem good_parse {idna : Idna} {st : Bool} (hi : IdnaStable idna) (e : Enc) (units : List Nat)
    (base : Option Url) (hb : ∀ b, base = some b → GoodS idna st b) {u : Url}
    (hp : parse idna e units base = some u) : GoodS idna st u :=
  GoodS.ofAll (Proofs.C02b.parse_all hi e units base (fun b hbb => (hb b hbb).toAll) u hp)

/-! ## the QUERY part view -/

/-- `get_part_view(QUERY)` of any representation of `u` is the query of `u` (null ↦ empty) -/
theorem queryView_eq {r : Rep} {u : Url} (h : RepFor r u) :
    rQueryView (some r) = queryBytes (some u) := by
  show r.partView QUERY = _
  rw [partView_eq h QUERY (by decide) (by decide), partView_query_layout]
  show (querySeg u).drop 1 = u.query.getD []
  unfold querySeg
  cases u.query <;> rfl

/-! ## byte strings in the params -/

/-- names and values are byte strings -/
def PairsBytes (l : List BPair) : Prop := ∀ pr ∈ l, (∀ b ∈ pr.1, b < 256) ∧ (∀ b ∈ pr.2, b < 256)

/-- … in the params object, if there is one -/
def SpBytes (sp : Option Params) : Prop := ∀ p, sp = some p → PairsBytes p.list

instance (l : List BPair) : Decidable (PairsBytes l) := by unfold PairsBytes; infer_instance
instance (sp : Option Params) : Decidable (SpBytes sp) :=
  match sp with
  | none => isTrue (fun _ h => by cases h)
  | some p =>
    if h : PairsBytes p.list then isTrue (fun q hq => by cases hq; exact h)
    else isFalse (fun hn => h (hn p rfl))

theorem pairsBytes_nil : PairsBytes [] := fun _ h => by cases h

theorem spBytes_none : SpBytes none := fun _ h => by cases h

theorem spBytes_some {p : Params} (h : PairsBytes p.list) : SpBytes (some p) :=
  fun q hq => by cases hq; exact h

theorem pairsBytes_formParse (r : Bool) (bytes : List Nat) (hb : ∀ x ∈ bytes, x < 256) :
    PairsBytes (formParse r bytes) :=
  fun pr hpr =>
    have := Proofs.C06.formParse_wfp' r bytes hb pr hpr
    ⟨this.1.2, this.2.2⟩

/-- the edits store old pairs and the strings they were given (`C06.append_all` …, for any property of pairs) -/
theorem pairsBytes_spOp (f : SpOp) (hf : f.WF) (p : Params) (h : PairsBytes p.list) :
    PairsBytes (f.fn p).list := by
  cases f with
  | append n v => exact Proofs.C06.append_all n v hf p h
  | set n v => exact Proofs.C06.set_all n v hf (fun _ hx => ⟨hx.1, hf.2⟩) p h
  | del n => exact Proofs.C06.filter_all _ p h
  | del2 n v => exact Proofs.C06.filter_all _ p h
  | remove n => exact Proofs.C06.filter_all _ p h
  | remove2 n v => exact Proofs.C06.filter_all _ p h
  | sort => exact Proofs.C06.sort_all p h
  | clear => exact pairsBytes_nil
  | parse q => exact pairsBytes_formParse true q hf

/-! ## the simulation relation -/

/-- the records: both invalid, or a representation of a good record -/
def RecSimS (idna : Idna) (st : Bool) : Option Rep → Option Url → Prop
  | some r, some u => RepFor r u ∧ GoodS idna st u
  | none, none => True
  | _, _ => False

/-- the objects: the same params object (of byte strings), and related records -/
def SimS (idna : Idna) (st : Bool) (ro : RObj) (o : UrlObj) : Prop :=
  ro.sp = o.sp ∧ SpBytes o.sp ∧ RecSimS idna st ro.rep o.url

/-- the two slots of `Impl.Op`, slot by slot -/
def SimS₂ (idna : Idna) (st : Bool) (rs : RObj × RObj) (us : UrlObj × UrlObj) : Prop :=
  SimS idna st rs.1 us.1 ∧ SimS idna st rs.2 us.2

/-- the relation every operation keeps (`st = false`: `Good` is `NormX`) -/
abbrev RecSim (idna : Idna) := RecSimS idna false
abbrev Sim (idna : Idna) := SimS idna false
abbrev Sim₂ (idna : Idna) := SimS₂ idna false

instance (idna : Idna) (st : Bool) (a : Option Rep) (b : Option Url) : Decidable (RecSimS idna st a b) := by
  cases a <;> cases b <;> unfold RecSimS <;> infer_instance
instance (idna : Idna) (st : Bool) (ro : RObj) (o : UrlObj) : Decidable (SimS idna st ro o) := by
  unfold SimS; infer_instance
instance (idna : Idna) (st : Bool) (rs : RObj × RObj) (us : UrlObj × UrlObj) : Decidable (SimS₂ idna st rs us) := by
  unfold SimS₂; infer_instance

theorem recSim_none (idna : Idna) (st : Bool) : RecSimS idna st none none := trivial

theorem recSim_some {idna : Idna} {st : Bool} {r : Rep} {u : Url} (h : RepFor r u) (g : GoodS idna st u) :
    RecSimS idna st (some r) (some u) := ⟨h, g⟩

@[elab_as_elim]
theorem RecSimS.elim {idna : Idna} {st : Bool} {motive : Option Rep → Option Url → Prop} {a : Option Rep}
    {b : Option Url} (h : RecSimS idna st a b) (none : motive none none)
    (some : ∀ r u, RepFor r u → GoodS idna st u → motive (some r) (some u)) : motive a b := by
  cases a <;> cases b
  · exact none
  · exact False.elim h
  · exact False.elim h
  · exact some _ _ h.1 h.2

@[elab_as_elim]
theorem SimS.elim {idna : Idna} {st : Bool} {motive : RObj → UrlObj → Prop} {ro : RObj} {o : UrlObj}
    (h : SimS idna st ro o)
    (k : ∀ a b sp, SpBytes sp → RecSimS idna st a b → motive ⟨a, sp⟩ ⟨b, sp⟩) : motive ro o := by
  obtain ⟨a, sp⟩ := ro
  obtain ⟨b, sp'⟩ := o
  obtain ⟨h1, h2, h3⟩ := h
  cases h1
  exact k a b sp h2 h3

theorem RecSimS.isSome {idna : Idna} {st : Bool} {a : Option Rep} {b : Option Url} (h : RecSimS idna st a b) :
    a.isSome = b.isSome := h.elim rfl fun _ _ _ _ => rfl

theorem RecSimS.query {idna : Idna} {st : Bool} {a : Option Rep} {b : Option Url} (h : RecSimS idna st a b) :
    rQueryView a = queryBytes b := h.elim rfl fun _ _ hr _ => queryView_eq hr

theorem RecSimS.qbytes {idna : Idna} {st : Bool} {a : Option Rep} {b : Option Url} (h : RecSimS idna st a b) :
    Proofs.C06.QBytes b := h.elim (fun x hx => by simp [queryBytes] at hx) fun _ _ _ hg => hg.qbytes

theorem SimS.valid {idna : Idna} {st : Bool} {ro : RObj} {o : UrlObj} (h : SimS idna st ro o) {r : Rep}
    (hr : ro.rep = some r) : ∃ u, o.url = some u ∧ RepFor r u ∧ GoodS idna st u := by
  have h3 := h.2.2
  rw [hr] at h3
  cases hu : o.url with
  | none => rw [hu] at h3; exact False.elim h3
  | some u => rw [hu] at h3; exact ⟨u, rfl, h3⟩

theorem sim_empty (idna : Idna) (st : Bool) : SimS idna st {} {} := ⟨rfl, spBytes_none, trivial⟩

theorem sim_mk {idna : Idna} {st : Bool} {a : Option Rep} {b : Option Url} {sp : Option Params}
    (h : RecSimS idna st a b) (hs : SpBytes sp) : SimS idna st ⟨a, sp⟩ ⟨b, sp⟩ := ⟨rfl, hs, h⟩

theorem spBytes_query {idna : Idna} {st : Bool} {a : Option Rep} {b : Option Url} (h : RecSimS idna st a b) (s : Bool) :
    SpBytes (some { list := formParse false (queryBytes b), isSorted := s }) :=
  spBytes_some (pairsBytes_formParse false _ h.qbytes)

/-! ## one-object operations -/

theorem sim_reparseParams {idna : Idna} {st : Bool} {ro : RObj} {o : UrlObj} (h : SimS idna st ro o) :
    SimS idna st ro.reparseParams o.reparseParams := by
  refine h.elim fun a b sp h2 h3 => ?_
  cases sp with
  | none => exact ⟨rfl, h2, h3⟩
  | some p =>
    simp only [RObj.reparseParams, UrlObj.reparseParams, h3.query]
    exact sim_mk h3 (spBytes_query h3 false)

theorem sim_clearParams {idna : Idna} {st : Bool} {ro : RObj} {o : UrlObj} (h : SimS idna st ro o) :
    SimS idna st ro.clearParams o.clearParams := by
  refine h.elim fun a b sp h2 h3 => ?_
  cases sp with
  | none => exact ⟨rfl, h2, h3⟩
  | some p => exact sim_mk h3 (spBytes_some pairsBytes_nil)

theorem sim_setRec {idna : Idna} {st : Bool} {ro : RObj} {o : UrlObj} (h : SimS idna st ro o)
    {a : Option Rep} {b : Option Url} (hab : RecSimS idna st a b) :
    SimS idna st { ro with rep := a } { o with url := b } := ⟨h.1, h.2.1, hab⟩

theorem sim_clear {idna : Idna} {st : Bool} {ro : RObj} {o : UrlObj} (h : SimS idna st ro o) :
    SimS idna st ro.clear o.clear :=
  sim_clearParams (sim_setRec h (recSim_none idna st))

theorem recSim_of_isSome {idna : Idna} {st : Bool} {a : Option Rep} {b : Option Url} (h : a.isSome = b.isSome)
    (hs : ∀ r u, a = some r → b = some u → RepFor r u ∧ GoodS idna st u) : RecSimS idna st a b := by
  cases a <;> cases b
  · trivial
  · exact absurd h (by simp)
  · exact absurd h (by simp)
  · exact hs _ _ rfl rfl

theorem RecSimS.baseRel {idna : Idna} {st : Bool} {a : Option Rep} {b : Option Url} (h : RecSimS idna st a b) :
    Proofs.ParseRep.BaseRel a b ∧ ∀ u, b = some u → GoodS idna st u := by
  refine h.elim ⟨.nobase, fun _ hc => by cases hc⟩ fun r u hr hg => ?_
  exact ⟨.of_repFor hg.ok hr, fun _ hc => by cases hc; exact hg⟩

theorem recSim_parse {idna : Idna} {st : Bool} (hi : IdnaStable idna) (e : Enc) (units : List Nat)
    {rb : Option Rep} {b : Option Url} (hb : RecSimS idna st rb b) :
    RecSimS idna st (parseRep idna e units rb) (parse idna e units b) := by
  obtain ⟨k1, k2⟩ := (Proofs.ParseRep.parseRep_sim idna e units hb.baseRel.1).parse
  exact recSim_of_isSome k1 fun r u hr hp => ⟨(k2 r u hr hp).1, good_parse hi e units b hb.baseRel.2 hp⟩

/-- related base arguments of `parse`: no base, or the records of two related objects -/
inductive BaseSimS (idna : Idna) (st : Bool) : Option (Option Rep) → Option (Option Url) → Prop
  | none : BaseSimS idna st none none
  | obj {rb : Option Rep} {b : Option Url} : RecSimS idna st rb b → BaseSimS idna st (some rb) (some b)

/-- what `parse(str, base)` hands to the object: `none` for a failure or an invalid base object
    (the twin of `Own.parseResult`) -/
def rParseResult (idna : Idna) (e : Enc) (units : List Nat) (base : Option (Option Rep)) : Option Rep :=
  match base with
  | some none => none
  | _ => parseRep idna e units (base.bind id)

/-- `RObj.parse` in terms of the parser's outcome (the twin of `C06.parseRes`) -/
def rParseRes (o : RObj) (res : Option Rep) : RObj :=
  let o := if o.rep.isSome then o.clearParams else o
  match res with
  | some r => ({ o with rep := some r } : RObj).reparseParams
  | none => { o with rep := none }

theorem rparse_eq (idna : Idna) (o : RObj) (e : Enc) (units : List Nat) (base : Option (Option Rep)) :
    o.parse idna e units base =
      (rParseRes o (rParseResult idna e units base), (rParseResult idna e units base).isSome) := by
  unfold RObj.parse rParseRes rParseResult
  rcases base with _ | _ | b <;> dsimp only <;> split <;> simp_all

/-- the record member after `parse` is the parser's outcome, whatever the object was -/
theorem rParseRes_rep (o : RObj) (res : Option Rep) : (rParseRes o res).rep = res := by
  cases res <;> simp [rParseRes, RObj.reparseParams] <;> split <;> rfl

theorem rObj_parse_fresh (idna : Idna) (e : Enc) (units : List Nat) :
    ({} : RObj).parse idna e units none =
      (⟨parseRep idna e units none, none⟩, (parseRep idna e units none).isSome) := by
  rw [rparse_eq, show rParseResult idna e units none = parseRep idna e units none from rfl]
  cases parseRep idna e units none <;> rfl

theorem recSim_parseResult {idna : Idna} {st : Bool} (hi : IdnaStable idna) (e : Enc) (units : List Nat)
    {rbase : Option (Option Rep)} {base : Option (Option Url)} (hb : BaseSimS idna st rbase base) :
    RecSimS idna st (rParseResult idna e units rbase) (Own.parseResult idna e units base) := by
  cases hb with
  | none => exact recSim_parse hi e units (recSim_none idna st)
  | @obj rb b hrb =>
    exact hrb.elim (recSim_none idna st) fun r u hr hg => recSim_parse hi e units (recSim_some hr hg)

theorem sim_parseRes {idna : Idna} {st : Bool} {ro : RObj} {o : UrlObj} (h : SimS idna st ro o)
    {x : Option Rep} {y : Option Url} (hxy : RecSimS idna st x y) :
    SimS idna st (rParseRes ro x) (Proofs.C06.parseRes o y) := by
  -- the object after `new_url()`
  have h1 : SimS idna st (if ro.rep.isSome then ro.clearParams else ro)
      (if o.url.isSome then o.clearParams else o) := by
    rw [h.2.2.isSome]
    split
    · exact sim_clearParams h
    · exact h
  exact hxy.elim (sim_setRec h1 (recSim_none idna st)) fun r u hr hg =>
    sim_reparseParams (sim_setRec h1 (recSim_some hr hg))

theorem sim_parse {idna : Idna} {st : Bool} (hi : IdnaStable idna) {ro : RObj} {o : UrlObj} (h : SimS idna st ro o)
    (e : Enc) (units : List Nat) {rbase : Option (Option Rep)} {base : Option (Option Url)}
    (hb : BaseSimS idna st rbase base) :
    SimS idna st (ro.parse idna e units rbase).1 (o.parse idna e units base).1 ∧
    (ro.parse idna e units rbase).2 = (o.parse idna e units base).2 := by
  have hr := recSim_parseResult hi e units hb
  rw [rparse_eq, Proofs.C06.parse_eq_parseRes]
  exact ⟨sim_parseRes h hr, hr.isSome⟩

/-- a string parsed into a fresh object, on both levels: the same verdict, related objects (the `href`
    setter and `parse(str, base_str)` both begin with it) -/
theorem sim_parse_fresh {idna : Idna} {st : Bool} (hi : IdnaStable idna) (e : Enc) (units : List Nat) :
    ∃ xf yf b, ({} : RObj).parse idna e units none = (xf, b) ∧ ({} : UrlObj).parse idna e units none = (yf, b) ∧
      SimS idna st xf yf := by
  have hf := sim_parse hi (sim_empty idna st) e units (BaseSimS.none (idna := idna) (st := st))
  generalize ({} : RObj).parse idna e units none = x at hf
  generalize ({} : UrlObj).parse idna e units none = y at hf
  obtain ⟨xf, xb⟩ := x
  obtain ⟨yf, yb⟩ := y
  obtain ⟨hf1, hf2⟩ := hf
  simp only at hf1 hf2
  subst hf2
  exact ⟨xf, yf, xb, rfl, rfl, hf1⟩

/-! ## safe_assign and the href setter -/

/-- assigning INTO an object: it gets the source's representation -/
theorem rCopyAssign_rep (dst src : RObj) : (rCopyAssign dst src).rep = src.rep := by
  unfold rCopyAssign; cases dst.sp <;> cases src.sp <;> rfl

theorem rSafeAssign_rep (dst src : RObj) : (rSafeAssign dst src).1.rep = src.rep := by
  unfold rSafeAssign; cases dst.sp <;> cases src.sp <;> rfl

theorem sim_safeAssign {idna : Idna} {st : Bool} {rd rs : RObj} {d s : UrlObj} (hd : SimS idna st rd d) (hs : SimS idna st rs s) :
    SimS idna st (rSafeAssign rd rs).1 (safeAssign d s).1 ∧ SimS idna st (rSafeAssign rd rs).2 (safeAssign d s).2 := by
  refine hd.elim fun da db dsp d2 d3 => hs.elim fun sa sb ssp s2 s3 => ?_
  constructor
  · cases dsp with
    | none => exact sim_mk s3 spBytes_none
    | some dp =>
      cases ssp with
      | none =>
        simp only [rSafeAssign, safeAssign, s3.query]
        exact sim_mk s3 (spBytes_query s3 false)
      | some p => exact sim_mk s3 (spBytes_some (s2 p rfl))
  · refine sim_mk (recSim_none idna st) ?_
    cases ssp with
    | none => exact spBytes_none
    | some p => exact spBytes_some pairsBytes_nil

/-- the href setter of the record-level model, as the C++ does it: parse into a fresh object, then
    `safe_assign` -/
theorem urlObj_set_href (idna : Idna) (o : UrlObj) (e : Enc) (units : List Nat) :
    o.set idna .href e units =
      match (({} : UrlObj).parse idna e units none) with
      | (fresh, true) => ((safeAssign o fresh).1, true)
      | (_, false) => (o, false) := by
  obtain ⟨u, sp⟩ := o
  simp only [UrlObj.set, UrlObj.parse, Option.isSome_none, Bool.false_eq_true, if_false, Option.bind_none]
  cases hp : parse idna e units none with
  | none => rfl
  | some u' =>
    cases sp <;> rfl

/-- the `href` setter on the representation-level object (the definition, with the fresh object named) -/
theorem rObj_set_href (idna : Idna) (o : RObj) (e : Enc) (units : List Nat) :
    o.set idna .href e units =
      match (({} : RObj).parse idna e units none) with
      | (fresh, true) => ((rSafeAssign o fresh).1, true)
      | (_, false) => (o, false) := by
  unfold RObj.set; rfl

/-- the twin of `Proofs.C06.set_invalid` -/
theorem rObj_set_invalid (idna : Idna) (sp : Option Params) (s : Setter) (e : Enc) (units : List Nat) (hs : s ≠ .href) :
    RObj.set idna ⟨none, sp⟩ s e units = (⟨none, sp⟩, false) := by
  cases s <;> first | exact absurd rfl hs | rfl

theorem rObj_set_search (idna : Idna) (e : Enc) (units : List Nat) (r : Rep) (sp : Option Params) :
    RObj.set idna ⟨some r, sp⟩ .search e units =
      (if units = [] then (⟨some (setRep idna .search e units r).1, sp⟩ : RObj).clearParams
        else (⟨some (setRep idna .search e units r).1, sp⟩ : RObj).reparseParams,
       (setRep idna .search e units r).2) := rfl

theorem rObj_set_other (idna : Idna) (s : Setter) (e : Enc) (units : List Nat) (r : Rep) (sp : Option Params)
    (h1 : s ≠ .href) (h2 : s ≠ .search) :
    RObj.set idna ⟨some r, sp⟩ s e units = (⟨some (setRep idna s e units r).1, sp⟩, (setRep idna s e units r).2) := by
  cases s <;> first | exact absurd rfl h1 | exact absurd rfl h2 | rfl

theorem sim_set {idna : Idna} {st : Bool} (hi : IdnaStable idna) {ro : RObj} {o : UrlObj} (h : SimS idna st ro o)
    (s : Setter) (e : Enc) (units : List Nat) (hsp : s = .protocol → st = false) :
    SimS idna st (ro.set idna s e units).1 (o.set idna s e units).1 ∧
    (ro.set idna s e units).2 = (o.set idna s e units).2 := by
  by_cases hs : s = .href
  · subst hs
    obtain ⟨xf, yf, xb, ex, ey, hf1⟩ := sim_parse_fresh (st := st) hi e units
    rw [urlObj_set_href, rObj_set_href, ex, ey]
    cases xb with
    | false => exact ⟨h, rfl⟩
    | true => exact ⟨(sim_safeAssign h hf1).1, rfl⟩
  · refine h.elim fun a b sp h2 h3 => h3.elim ?_ fun r u hr hg => ?_
    · rw [rObj_set_invalid idna sp s e units hs, Proofs.C06.set_invalid idna sp s e units hs]
      exact ⟨⟨rfl, h2, recSim_none idna st⟩, rfl⟩
    · obtain ⟨ok, hinv, _, _⟩ := hg.ok
      obtain ⟨k1, k2⟩ := C05d_setter idna s e units u r hs ok hinv.file hr
      have hg' := good_set hi s e units hsp hg
      have hrec : RecSimS idna st (some (setRep idna s e units r).1) (some (setValid idna s e units u).1) :=
        ⟨k1, hg'⟩
      by_cases hq : s = .search
      · subst hq
        rw [rObj_set_search, Proofs.C06.set_search]
        refine ⟨?_, k2⟩
        simp only
        split
        · exact sim_clearParams (sim_mk hrec h2)
        · exact sim_reparseParams (sim_mk hrec h2)
      · rw [rObj_set_other idna s e units r sp hs hq, Proofs.C06.set_other idna s e units u sp hs hq]
        exact ⟨sim_mk hrec h2, k2⟩

/-! ## the params object -/

theorem sim_searchParams {idna : Idna} {st : Bool} {ro : RObj} {o : UrlObj} (h : SimS idna st ro o) :
    SimS idna st ro.searchParams o.searchParams := by
  refine h.elim fun a b sp h2 h3 => ?_
  cases sp with
  | some p => exact ⟨rfl, h2, h3⟩
  | none =>
    simp only [RObj.searchParams, UrlObj.searchParams, h3.query]
    exact sim_mk h3 (spBytes_query h3 false)

theorem sim_update {idna : Idna} {st : Bool} {ro : RObj} {o : UrlObj} (h : SimS idna st ro o) :
    SimS idna st ro.update o.update := by
  refine h.elim fun a b sp h2 h3 => ?_
  refine h3.elim ⟨rfl, h2, recSim_none idna st⟩ fun r u hr hg => ?_
  cases sp with
  | none => exact ⟨rfl, h2, hr, hg⟩
  | some p =>
    obtain ⟨u', hu', hrep⟩ := C05f_update u p r hg.ok.1 hr
    have hg' : GoodS idna st u' :=
      GoodS.ofAll (Proofs.C02b.update_all ⟨some u, some p⟩
        (fun v hv => by cases hv; exact hg.toAll) (fun q hq => by cases hq; exact h2 p rfl) u' hu')
    rw [Proofs.C06.update_eq] at hu' ⊢
    simp only at hu'
    rw [hu']
    exact ⟨rfl, h2, hrep, hg'⟩

theorem sim_spApply {idna : Idna} {st : Bool} {ro : RObj} {o : UrlObj} (h : SimS idna st ro o) (f : Params → Params)
    (hf : ∀ p, PairsBytes p.list → PairsBytes (f p).list) (always : Bool) :
    SimS idna st (ro.spApply f always) (o.spApply f always) := by
  have h' := sim_searchParams h
  unfold RObj.spApply UrlObj.spApply
  simp only
  generalize ro.searchParams = ro1 at h'
  generalize o.searchParams = o1 at h'
  refine h'.elim fun a b sp h2 h3 => ?_
  cases sp with
  | none => exact ⟨rfl, h2, h3⟩
  | some p =>
    simp only
    have hn : SimS idna st ⟨a, some (f p)⟩ ⟨b, some (f p)⟩ := sim_mk h3 (spBytes_some (hf p (h2 p rfl)))
    split
    · exact sim_update hn
    · exact hn

/-- `search_params() &&`: the owned list is moved out on both levels, the record is not touched -/
theorem sim_searchParamsRvalue {idna : Idna} {st : Bool} {ro : RObj} {o : UrlObj} (h : SimS idna st ro o) :
    SimS idna st ro.searchParamsRvalue (uSearchParamsRvalue o) := by
  refine h.elim fun a b sp h2 h3 => ?_
  cases sp with
  | none => exact ⟨rfl, h2, h3⟩
  | some p => exact sim_mk h3 (spBytes_some pairsBytes_nil)

/-! ## copy / move -/

theorem sim_copyAssign {idna : Idna} {st : Bool} {rd rs : RObj} {d s : UrlObj} (hd : SimS idna st rd d) (hs : SimS idna st rs s) :
    SimS idna st (rCopyAssign rd rs) (copyAssign d s) := by
  refine hd.elim fun da db dsp d2 d3 => hs.elim fun sa sb ssp s2 s3 => ?_
  cases dsp with
  | none => exact sim_mk s3 spBytes_none
  | some dp =>
    cases ssp with
    | none => exact sim_reparseParams (sim_mk s3 d2)
    | some p => exact sim_mk s3 (spBytes_some (s2 p rfl))

theorem sim_copyConstruct {idna : Idna} {st : Bool} {rs : RObj} {s : UrlObj} (hs : SimS idna st rs s) :
    SimS idna st (rCopyConstruct rs) (copyConstruct s) :=
  sim_mk hs.2.2 spBytes_none

theorem sim_moveAssign {idna : Idna} {st : Bool} {rs : RObj} {s : UrlObj} (hs : SimS idna st rs s) :
    SimS idna st (rMoveAssign rs).1 (moveAssign s).1 ∧ SimS idna st (rMoveAssign rs).2 (moveAssign s).2 :=
  ⟨hs, sim_empty idna st⟩

theorem rSwap_eq (a b : RObj) : rSwap a b = (b, a) := rfl
theorem uSwap_eq (a b : UrlObj) : uSwap a b = (b, a) := rfl

/-! ## the two slots -/

theorem sim₂_get {idna : Idna} {st : Bool} {rs : RObj × RObj} {us : UrlObj × UrlObj} (h : SimS₂ idna st rs us) (k : Slot) :
    SimS idna st (getSlot rs k) (getSlot us k) := by
  cases k
  · exact h.1
  · exact h.2

theorem sim₂_set {idna : Idna} {st : Bool} {rs : RObj × RObj} {us : UrlObj × UrlObj} (h : SimS₂ idna st rs us) (k : Slot)
    {x : RObj} {y : UrlObj} (hxy : SimS idna st x y) : SimS₂ idna st (setSlot rs k x) (setSlot us k y) := by
  cases k
  · exact ⟨hxy, h.2⟩
  · exact ⟨h.1, hxy⟩

theorem sim_step {idna : Idna} {st : Bool} (hi : IdnaStable idna) (op : Op) (hop : op.WF)
    (hnp : st = true → op.NoProtocol)
    {rs : RObj × RObj} {us : UrlObj × UrlObj} (h : SimS₂ idna st rs us) :
    SimS₂ idna st (stepR idna op rs).1 (stepU idna op us).1 ∧ (stepR idna op rs).2 = (stepU idna op us).2 := by
  cases op with
  | parse k e units base =>
    have hk := sim₂_get h k
    cases base with
    | none =>
      obtain ⟨a, b⟩ := sim_parse hi hk e units (BaseSimS.none (idna := idna) (st := st))
      exact ⟨sim₂_set h k a, b⟩
    | other =>
      obtain ⟨a, b⟩ := sim_parse hi hk e units (BaseSimS.obj (sim₂_get h (!k)).2.2)
      exact ⟨sim₂_set h k a, b⟩
    | same =>
      obtain ⟨a, b⟩ := sim_parse hi hk e units (BaseSimS.obj hk.2.2)
      exact ⟨sim₂_set h k a, b⟩
    | str eb ub =>
      obtain ⟨xf, yf, xb, ex, ey, hf1⟩ := sim_parse_fresh (st := st) hi eb ub
      simp only [stepR, stepU, ex, ey]
      cases xb with
      | false =>
        obtain ⟨a, b⟩ := sim_parse hi hk e units (BaseSimS.obj (recSim_none idna st))
        exact ⟨sim₂_set h k a, b⟩
      | true =>
        obtain ⟨a, b⟩ := sim_parse hi hk e units (BaseSimS.obj hf1.2.2)
        exact ⟨sim₂_set h k a, b⟩
  | set k s e units =>
    have hsp : s = .protocol → st = false := by
      intro hs
      subst hs
      cases st with
      | false => rfl
      | true => exact absurd (hnp rfl) (by simp [Op.NoProtocol])
    obtain ⟨a, b⟩ := sim_set hi (sim₂_get h k) s e units hsp
    exact ⟨sim₂_set h k a, b⟩
  | searchParams k => exact ⟨sim₂_set h k (sim_searchParams (sim₂_get h k)), rfl⟩
  | sp k f =>
    exact ⟨sim₂_set h k (sim_spApply (sim₂_get h k) f.fn (pairsBytes_spOp f hop) f.always), rfl⟩
  | spAssign k list sorted =>
    have hl : PairsBytes list := hop
    exact ⟨sim₂_set h k (sim_spApply (sim₂_get h k) (fun _ => { list := list, isSorted := sorted })
      (fun _ _ => hl) true), rfl⟩
  | spSafeAssign k list sorted =>
    have hl : PairsBytes list := hop
    exact ⟨sim₂_set h k (sim_spApply (sim₂_get h k) (fun _ => { list := list, isSorted := sorted })
      (fun _ _ => hl) true), rfl⟩
  | searchParamsRvalue k => exact ⟨sim₂_set h k (sim_searchParamsRvalue (sim₂_get h k)), rfl⟩
  | clear k => exact ⟨sim₂_set h k (sim_clear (sim₂_get h k)), rfl⟩
  | copyAssign d s =>
    simp only [stepR, stepU]
    split
    · exact ⟨h, rfl⟩
    · exact ⟨sim₂_set h d (sim_copyAssign (sim₂_get h d) (sim₂_get h s)), rfl⟩
  | copyConstruct d s =>
    simp only [stepR, stepU]
    split
    · exact ⟨h, rfl⟩
    · exact ⟨sim₂_set h d (sim_copyConstruct (sim₂_get h s)), rfl⟩
  | moveAssign d s =>
    simp only [stepR, stepU]
    split
    · exact ⟨h, rfl⟩
    · obtain ⟨a, b⟩ := sim_moveAssign (sim₂_get h s)
      exact ⟨sim₂_set (sim₂_set h d a) s b, rfl⟩
  | safeAssign d s =>
    simp only [stepR, stepU]
    split
    · exact ⟨h, rfl⟩
    · obtain ⟨a, b⟩ := sim_safeAssign (sim₂_get h d) (sim₂_get h s)
      exact ⟨sim₂_set (sim₂_set h d a) s b, rfl⟩
  | swap => exact ⟨⟨h.2, h.1⟩, rfl⟩

theorem sim_run {idna : Idna} {st : Bool} (hi : IdnaStable idna) (ops : List Op) (hops : ∀ op ∈ ops, op.WF)
    (hnp : st = true → ∀ op ∈ ops, op.NoProtocol)
    {rs : RObj × RObj} {us : UrlObj × UrlObj} (h : SimS₂ idna st rs us) :
    SimS₂ idna st (runR idna ops rs) (runU idna ops us) ∧ retR idna ops rs = retU idna ops us := by
  induction ops generalizing rs us with
  | nil => exact ⟨h, rfl⟩
  | cons op ops ih =>
    obtain ⟨a, b⟩ := sim_step hi op (hops op List.mem_cons_self) (fun hst => hnp hst op List.mem_cons_self) h
    obtain ⟨c, d⟩ := ih (fun o ho => hops o (List.mem_cons_of_mem _ ho))
      (fun hst o ho => hnp hst o (List.mem_cons_of_mem _ ho)) a
    exact ⟨c, by simp only [retR, retU]; rw [b, d]⟩

/-! ## what can be observed of a valid object -/

/-- `Rep.equiv` (same string, flags, host type, segment count, scheme index, same offsets once the never-started
    trailing parts are read as "end of string"), the twelve getters and the record read back agree -/
def Indist (a b : Rep) : Prop :=
  a.equiv b ∧
  a.norm = b.norm ∧ a.hostNotNull = b.hostNotNull ∧ a.portNotNull = b.portNotNull ∧
  a.queryNotNull = b.queryNotNull ∧ a.fragmentNotNull = b.fragmentNotNull ∧ a.opaquePath = b.opaquePath ∧
  a.hostType = b.hostType ∧ a.segCount = b.segCount ∧ a.schemeIdx = b.schemeIdx ∧
  a.href = b.href ∧ a.protocol = b.protocol ∧ a.username = b.username ∧
  a.password = b.password ∧ a.host = b.host ∧ a.hostname = b.hostname ∧
  a.port = b.port ∧ a.pathname = b.pathname ∧ a.path = b.path ∧
  a.search = b.search ∧ a.hash = b.hash ∧ a.serializeNoFragment = b.serializeNoFragment ∧
  a.toRecord = b.toRecord

instance (a b : Rep) : Decidable (Indist a b) := by unfold Indist; infer_instance

theorem indist_of_repFor {a b : Rep} {u : Url} (wf : RecWF u) (sh : RecShape u)
    (ha : RepFor a u) (hb : RepFor b u) : Indist a b := by
  have he : a.equiv b := ha.1.trans hb.1.symm
  have hf : a.fill = b.fill := he
  obtain ⟨g1, g2, g3, g4, g5, g6, g7, g8, g9, g10, g11, g12⟩ := C05b_equiv_getters a b he ha.2 hb.2
  exact ⟨he, (congrArg Rep.norm hf : a.fill.norm = b.fill.norm),
    (congrArg Rep.hostNotNull hf : a.fill.hostNotNull = _), (congrArg Rep.portNotNull hf : a.fill.portNotNull = _),
    (congrArg Rep.queryNotNull hf : a.fill.queryNotNull = _),
    (congrArg Rep.fragmentNotNull hf : a.fill.fragmentNotNull = _),
    (congrArg Rep.opaquePath hf : a.fill.opaquePath = _), (congrArg Rep.hostType hf : a.fill.hostType = _),
    (congrArg Rep.segCount hf : a.fill.segCount = _), (congrArg Rep.schemeIdx hf : a.fill.schemeIdx = _),
    g1, g2, g3, g4, g5, g6, g7, g8, g9, g10, g11, g12,
    (C05d_toRecord u a wf sh ha).trans (C05d_toRecord u b wf sh hb).symm⟩

theorem flags_of_repFor {r : Rep} {u : Url} (h : RepFor r u) :
    r.hostNotNull = u.host.isSome ∧ r.portNotNull = u.port.isSome ∧ r.queryNotNull = u.query.isSome ∧
    r.fragmentNotNull = u.fragment.isSome ∧ r.opaquePath = u.hasOpaquePath ∧
    r.hostType = (match u.host with | some x => hostKindCode x.kind | none => 0) ∧
    r.segCount = (if u.hasOpaquePath then 0 else u.path.length) ∧ r.schemeIdx = schemeIndex u.scheme := by
  have hf : r.fill = layout u := fill_eq h
  exact ⟨(congrArg Rep.hostNotNull hf : r.fill.hostNotNull = _), (congrArg Rep.portNotNull hf : r.fill.portNotNull = _),
    (congrArg Rep.queryNotNull hf : r.fill.queryNotNull = _),
    (congrArg Rep.fragmentNotNull hf : r.fill.fragmentNotNull = _),
    (congrArg Rep.opaquePath hf : r.fill.opaquePath = _), (congrArg Rep.hostType hf : r.fill.hostType = _),
    (congrArg Rep.segCount hf : r.fill.segCount = _), (congrArg Rep.schemeIdx hf : r.fill.schemeIdx = _)⟩

/-- a fresh parse of the href of a representation of a normal-form record, with no base or against
    any related base, is again a representation of that record (`C02_reparse`, then `recSim_parse`) -/
theorem fresh_parse {idna : Idna} {st : Bool} (hi : IdnaStable idna) {r : Rep} {u : Url} (hr : RepFor r u)
    (hn : Norm idna u) {rb : Option Rep} {b : Option Url} (hb : RecSimS idna st rb b) :
    ∃ r', parseRep idna .u8 r.href rb = some r' ∧ RepFor r' u := by
  have wf := (Good.ofNorm hn).ok.wf
  have hh : r.href = serialize u := (C05b_getters u r wf hr).1
  have hp : parse idna .u8 (serialize u) b = some u := C02_reparse idna u hn b (by cases b <;> simp)
  rw [hh]
  -- with the input a variable, nothing tries to evaluate the parser on `serialize u`
  generalize serialize u = x at hp ⊢
  have hs := recSim_parse hi .u8 x hb
  rw [hp] at hs
  cases hq : parseRep idna .u8 x rb with
  | none => rw [hq] at hs; exact absurd hs (by simp [RecSimS])
  | some r' => rw [hq] at hs; exact ⟨r', rfl, hs.1⟩

theorem GoodS.norm {idna : Idna} {st : Bool} {u : Url} (h : GoodS idna st u) (hx : ¬ FileExc u) : Norm idna u :=
  (C02_norm_iff_normx idna u).2 ⟨h.weaken, hx⟩

theorem GoodS.not_fileExc {idna : Idna} {u : Url} (h : GoodS idna true u) : ¬ FileExc u :=
  ((C02_norm_iff_normx idna u).1 h).2

end Upa.Proofs.ObjRep
