import Upa.Proofs.Setters
import Upa.Proofs.Canon
/-
  C03 — an invariant of the setters that implies `RecOk`:

    RecInv u  :=  a special URL has a host, and a host whose serialization is empty is the empty host

  kept by every setter (and true of every URL parsed without a base, and of every canonical record:
  `parse_recInv`, `canon_recInv`) provided ToASCII never returns the empty string
  (`IdnaNonEmpty`, Upa/Proofs/Canon.lean, beside `C08.parseHost_text` which is all that is drawn from it; weaker
  than `IdnaCanon` of C08).  `RecInv` depends on `key u = (scheme, host)` alone,
  which every tail block keeps (`C03.kept_*` with `key_of_kept`, Upa/Proofs/ParserRules.lean); the host blocks keep the scheme and either keep the
  host or store one produced by the host parser, which makes `RecInv` hold whatever the record was before.
  The walk over the blocks is that of Upa/Proofs/ParserRules.lean, with `Good` for "or the run failed".
-/
namespace Upa.Proofs.C03
open Upa.Impl
open Upa.Proofs.C08 (Good good_fail)

/-- a host whose serialization is empty is the empty host -/
def hostGood (h : Host) : Bool := h.text != [] || h.kind == .empty

def RecInv (u : Url) : Bool :=
  match u.host with
  | none => !u.isSpecial
  | some h => hostGood h

/-- `RecInv` as a predicate, for `Good` -/
abbrev Inv (u : Url) : Prop := RecInv u = true

theorem RecInv.recOk {u : Url} (h : RecInv u = true) : RecOk u = true := by
  unfold RecInv at h
  unfold RecOk
  cases hh : u.host with
  | none =>
    rw [hh] at h
    cases hf : u.isFile with
    | false => rfl
    | true => rw [show u.isSpecial = true from C08.file_special hf] at h; exact h
  | some x => rw [hh] at h; exact h

theorem RecInv.of_key {u v : Url} (hk : key v = key u) (h : RecInv u = true) : RecInv v = true := by
  simp only [key, Prod.mk.injEq] at hk
  unfold RecInv Url.isSpecial at *
  rw [hk.1, hk.2]; exact h

theorem hostGood_of_ne {h : Host} (hne : h.text ≠ []) : hostGood h = true := by
  simp [hostGood, hne]

theorem parseHost_good {idna : Idna} (hi : IdnaNonEmpty idna) (s : List Nat) (o : Bool) (h : Host)
    (hh : parseHost idna s o = some h) : hostGood h = true := by
  cases s with
  | nil => rw [(C08.parseHost_text hi hh).2 rfl]; rfl
  | cons c r => exact hostGood_of_ne ((C08.parseHost_text hi hh).1 (List.cons_ne_nil _ _))

/-- once a good host is stored the invariant holds whatever the record was, and the tail keeps it -/
theorem recInv_stored (ov : Option Override) (u : Url) {x : Host} (hx : hostGood x = true) (q : List Nat) :
    RecInv (if ov.isSome then (⟨.ok, { u with host := some x }⟩ : Res)
      else pathStartState ov { u with host := some x } q).url = true :=
  C08.ite_prop (P := fun r : Res => RecInv r.url = true) hx (RecInv.of_key (key_of_kept (kept_pathStartState _ _ _)) hx)

theorem fileHostState_recInv {idna : Idna} (hi : IdnaNonEmpty idna) (ov : Option Override) {u : Url}
    (p : List Nat) (h : RecInv u = true) : RecInv (fileHostState idna ov u p).url = true :=
  C08.fileHostState_rule (G := fun r => RecInv r.url = true) idna ov u p h
    (fun _ => RecInv.of_key (key_of_kept (kept_pathState _ _ _)) h)
    (fun _ hx => recInv_stored ov u (hx.elim (fun e => e ▸ rfl) fun ⟨_, hp, _⟩ => parseHost_good hi _ _ _ hp))

/-- the host block refuses and leaves the record alone, or ends with the invariant established -/
theorem hostState_good {idna : Idna} (hi : IdnaNonEmpty idna) (ov : Option Override) (u : Url)
    (p : List Nat) (hu : ov.isSome = true → RecInv u = true) : Good Inv ov (hostState idna ov u p) :=
  C08.hostState_cases idna ov u p (fun ho _ => Or.inl (fileHostState_recInv hi ov p (hu ho))) (good_fail hu)
    (fun _ _ _ hp q =>
      have hx := parseHost_good hi _ _ _ hp
      ⟨Or.inl (recInv_stored ov u hx q), Or.inl (RecInv.of_key (key_portState _ _ _) hx)⟩)

theorem authorityState_good {idna : Idna} (hi : IdnaNonEmpty idna) (u : Url) (p : List Nat) :
    Good Inv none (authorityState idna none u p) :=
  C08.authorityState_rule idna none u p (good_fail nofun _ (by decide)) (hostState_good hi none u p nofun)
    (fun _ _ _ _ _ _ _ => hostState_good hi none _ _ nofun)

/-- A special scheme leaves a record without host, which does not satisfy the invariant: there a
    successful run has gone through the host block. -/
theorem parse_recInv {idna : Idna} (hi : IdnaNonEmpty idna) (e : Enc) (units : List Nat) (u : Url)
    (h : parse idna e units none = some u) : RecInv u = true := by
  have fresh : ∀ s, isSpecialScheme s = false → RecInv { scheme := s } = true :=
    fun s hs => by show (!isSpecialScheme s) = true; rw [hs]; rfl
  refine C08.parse_of_good (A := Inv) ?_ h
  -- the premises of `urlParse_rule` in its order: failure; authority; path and opaque path of a non-special
  -- scheme; the file record (file host, path); the three cases with a base, absent here
  exact C08.urlParse_rule (G := Good Inv none) idna none _ (good_fail nofun _ (by decide))
    (fun _ q _ _ => authorityState_good hi _ q)
    (fun s _ _ hs => Or.inl (RecInv.of_key (key_of_kept (kept_pathState _ _ _)) (fresh s hs)))
    (fun s _ _ hs _ _ => Or.inl (RecInv.of_key (u := { scheme := s, hasOpaquePath := true }) (key_of_kept (kept_opaquePathState _ _ _)) (fresh s hs)))
    (fun q => ⟨Or.inl (fileHostState_recInv hi none q rfl), Or.inl (RecInv.of_key (key_of_kept (kept_pathState _ _ _)) rfl)⟩)
    (fun _ hb => nomatch hb) (fun _ hb => nomatch hb) (fun _ hb => nomatch hb)

/-- every setter keeps `RecInv` (also when it reports failure) -/
theorem setValid_recInv {idna : Idna} (hi : IdnaNonEmpty idna) (s : Setter) (e : Enc) (units : List Nat)
    (u : Url) (h : RecInv u = true) : RecInv (setValid idna s e units u).1 = true :=
  have upd : ∀ {v : Url}, key v = key u → RecInv v = true := fun hk => RecInv.of_key hk h
  C08.setValid_rule (P := Inv) idna s e units u h
    (fun _ => parse_recInv hi e units)                                                   -- href
    (fun _ sc _ hsp _ _ => by                     -- protocol: the scheme changes, but not from special to non-special or back
      have h' : RecInv ({ u with scheme := sc } : Url) = true := by
        unfold RecInv Url.isSpecial at h ⊢
        rw [hsp]; exact h
      exact RecInv.of_key (u := { u with scheme := sc }) (key_ite rfl rfl) h')
    -- username and password; port: removed, or the port state
    (fun _ => ⟨fun _ _ => upd rfl, fun _ _ => upd rfl, fun _ => ⟨upd rfl, fun _ => upd (key_portState _ _ _)⟩⟩)
    -- host and hostname: the host state under either override; pathname: path start on the emptied path
    (fun _ p => ⟨fun _ o => (hostState_good hi (some o) u p fun _ => h).resolve_right (fun hn => nomatch hn.1),
      fun _ => upd (key_of_kept (kept_pathStartState _ { u with path := [] } _))⟩)
    (fun _ => ⟨upd (key_stripTrailingSpaces _), fun _ => upd (key_of_kept (kept_queryState _ _ _))⟩)     -- search
    (fun _ => ⟨upd (key_stripTrailingSpaces _), fun _ => upd (key_of_kept (kept_fragmentState _ _))⟩)    -- hash

theorem hostGood_of_hostOk {h : Host} (hk : Impl.hostOk h = true) : hostGood h = true := by
  obtain ⟨k, t⟩ := h
  cases t with
  | cons a t => rfl
  | nil =>
    cases k with
    | empty => rfl
    | _ => exact absurd hk (by decide)

theorem canon_recInv (u : Url) (h : Impl.Canon u = true) : RecInv u = true := by
  obtain ⟨ha, _, _, _⟩ := (C08.canon_iff u).1 h
  unfold RecInv
  cases hh : u.host with
  | some h' => exact hostGood_of_hostOk (ha.host h' hh)
  | none =>
    cases hs : u.isSpecial with
    | false => rfl
    | true =>
      cases hf : u.isFile with
      | false =>
        obtain ⟨h', hh', _⟩ := ha.spHost hs hf
        rw [hh] at hh'; cases hh'
      | true =>
        obtain ⟨h', hh'⟩ := ha.fileHost hf
        rw [hh] at hh'; cases hh'

#print axioms parse_recInv
#print axioms setValid_recInv
end Upa.Proofs.C03
