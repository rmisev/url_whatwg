import Upa.Proofs.BoundsIpv4Parse
import Upa.Proofs.BoundsIpv6Parse
import Upa.Proofs.BoundsPctDecode
import Upa.Proofs.BoundsOpaqueHost
import Upa.Proofs.AsciiHom
import Upa.Proofs.BoundsSerialize
import Upa.Proofs.ListScan
import Upa.Proofs.Host
/-
  C04e, C04h: `parseHostM` (url_host.h:158-287, instrumented) and its parts `parseIpv4M`, `parseIpv6M`,
  `hostFastPathM`: in bounds for any units, and `Impl.parseHost` on the decoded input, every branch, when the units
  are in the range of their character type (`parseHostM_spec`).
-/
namespace Upa.Impl.B
open Upa.Proofs.C10b
open Upa.Proofs.V6 (parse_good parse_ascii)

/-- `buff_uc` of the list model = UTF-16 of the UTF-8 decoding (with replacement) of the Standard's string
    percent-decode -/
theorem buffUc_eq (D : List Nat) (hs : ∀ c ∈ D, Spec.isScalar c = true) :
    Impl.encodeUtf16 (Impl.decode .u8 (Impl.percentDecode D)) = EC Impl.encodeUtf16Char (Spec.stringPercentDecode D) := by
  have hb := Upa.Proofs.C14.spd_lt D hs
  rw [Proofs.C07.implBuf_eq D hs]
  unfold Proofs.C07.specBuf EC
  rw [← Impl.decode_u8_eq_spec _ hb, ← Impl.encodeUtf16_eq _ (Impl.decode_u8_scalar _ hb)]
  rfl

theorem parseIpv4M_agrees (a : Array Nat) (first last : Nat) (h : first ≤ last) (hl : last ≤ a.size) :
    parseIpv4M a first last = .ok (Impl.hostParseIpv4 (slice a first last)) := by
  unfold parseIpv4M Impl.hostParseIpv4
  rw [ipv4Parse_agrees a first last h hl]
  simp only [R.ok_bind]
  cases Impl.ipv4Parse (slice a first last) with
  | none => rfl
  | some n =>
    simp only [ipv4SerializeM_agrees, R.ok_bind]
    rfl

theorem parseIpv4M_sat (a : Array Nat) (first last : Nat) (h : first ≤ last) (hl : last ≤ a.size) :
    (parseIpv4M a first last).sat (fun _ => True) :=
  R.sat_of_eq_ok (parseIpv4M_agrees a first last h hl)

theorem range8_getD (l : List Nat) (h : l.length = 8) : (List.range 8).map (fun i => l.getD i 0) = l := by
  rcases l with _ | ⟨x0, _ | ⟨x1, _ | ⟨x2, _ | ⟨x3, _ | ⟨x4, _ | ⟨x5, _ | ⟨x6, _ | ⟨x7, _ | ⟨x8, t⟩⟩⟩⟩⟩⟩⟩⟩⟩ <;>
    simp at h
  rfl

theorem parseIpv6M_agrees (a : Array Nat) (first last : Nat) (h : first ≤ last) (hl : last ≤ a.size) :
    parseIpv6M a first last = .ok (Impl.hostParseIpv6 (slice a first last)) := by
  unfold parseIpv6M Impl.hostParseIpv6
  rw [ipv6Parse_agrees a first last h hl]
  simp only [R.ok_bind]
  cases hp : Impl.ipv6Parse (slice a first last) with
  | none => rfl
  | some addr =>
    obtain ⟨h8, hlt⟩ := parse_good _ _ hp
    simp only [range8_getD addr h8]
    have hsl : slice addr.toArray 0 8 = addr := by rw [← h8]; exact slice_ofList addr
    rw [ipv6SerializeM_agrees addr.toArray 0 8 (by decide) (by simp [h8]) (by
      intro i _ hi
      have : addr.toArray[i]! ∈ addr := by
        rw [getElem!_pos addr.toArray i (by simp [h8]; exact hi)]
        simp
      exact hlt _ this)]
    simp only [R.ok_bind, hsl]
    rfl

theorem parseIpv6M_sat (a : Array Nat) (first last : Nat) (h : first ≤ last) (hl : last ≤ a.size) :
    (parseIpv6M a first last).sat (fun _ => True) :=
  R.sat_of_eq_ok (parseIpv6M_agrees a first last h hl)

theorem ipv6Parse_decode (e : Enc) (l : List Nat) :
    Impl.ipv6Parse (Impl.decode e l) = Impl.ipv6Parse l :=
  (decode_asciiHom e).fun_eq Impl.ipv6Parse none (fun s h => by
    obtain ⟨r, hr⟩ := Option.ne_none_iff_exists'.1 h
    exact parse_ascii s r hr) l

/-! ### the fast-path decision on raw units = on decoded text -/

theorem forbiddenDomain_ascii : AsciiPred Spec.forbiddenDomain := by
  intro c h
  simp only [Spec.forbiddenDomain, Bool.or_eq_true, beq_iff_eq, decide_eq_true_eq] at h
  rcases h with ((h | h) | h) | h
  · exact forbiddenHost_ascii c h
  · omega
  · omega
  · omega

/-- the look-ahead of the fast path reads the same on the units and on the decoded text -/
theorem exemptNext_decode (e : Enc) (rest : List Nat) :
    Proofs.C07.exemptNext (Impl.decode e rest) = Proofs.C07.exemptNext rest := by
  cases rest with
  | nil => rw [Impl.decode_nil]
  | cons n t =>
    by_cases hn : n < 0x80
    · rw [decode_cons_ascii e n t hn]; rfl
    · obtain ⟨hd, hc⟩ := decode_cons_hi e n t hn
      rw [hd]
      have h1 : cpOf (Impl.readChar e (n :: t)) ≥ 0x80 := by omega
      have h2 : n ≥ 0x80 := by omega
      simp [Proofs.C07.exemptNext, h1, h2]

theorem headTest_decode (e : Enc) (rest : List Nat) (hu : UOk e rest) :
    (match Impl.decode e rest with | n :: _ => decide (n ≥ 0x80) || n == 0x25 | [] => false) =
    (match rest with | n :: _ => decide (n ≥ 0x80) || n == 0x25 | [] => false) := by
  cases rest with
  | nil => exact exemptNext_decode e []
  | cons n t => exact exemptNext_decode e (n :: t)

theorem hostFastL_decode (e : Enc) (l : List Nat) : hostFastL (Impl.decode e l) = hostFastL l := by
  rw [hostFastL_eq_implFast, hostFastL_eq_implFast]
  unfold Proofs.C07.implFast
  rw [dropWhile_decode e asciiDomainChar_ascii l]
  cases htail : l.dropWhile Spec.asciiDomainChar with
  | nil =>
    have hall : ∀ c ∈ l, c < 0x80 := by
      intro c hc
      have := dropWhile_eq_nil_iff.1 htail c hc
      exact asciiDomainChar_ascii c this
    rw [Impl.decode_nil, decode_of_ascii e l hall]
  | cons p rest =>
    by_cases hp : p < 0x80
    · rw [decode_cons_ascii e p rest hp]
      simp only []
      rw [exemptNext_decode]
    · obtain ⟨hd, hc⟩ := decode_cons_hi e p rest hp
      rw [hd]
      simp only []
      rw [if_neg (fun hh => hc hh.1), if_neg (fun hh => hp hh.1)]

/-- the decision before the IDNA path: the pointer, the ASCII-domain prefix, and the verdict of the list model -/
theorem hostFastPathM_spec (a : Array Nat) (first last : Nat) (h : first ≤ last) (hl : last ≤ a.size) :
    (hostFastPathM a first last).sat (fun r => first ≤ r.1 ∧ r.1 ≤ last ∧
      (∀ i, first ≤ i → i < r.1 → Spec.asciiDomainChar a[i]! = true) ∧
      slice a r.1 last = (slice a first last).dropWhile Spec.asciiDomainChar ∧
      r.2 = hostFastL (slice a first last)) := by
  unfold hostFastPathM
  have hpred : ∀ c, (do let b ← charInSetM Spec.asciiDomainChar c; pure (!b) : R Bool) =
      .ok (!Spec.asciiDomainChar c) := by
    intro c
    rw [charInSetM_ascii _ asciiDomainChar_ascii c]
    rfl
  refine R.sat_bind (findIfM_spec a first last _ (fun c => !Spec.asciiDomainChar c) hpred hl (last - first) first
    (Nat.le_refl _) (by omega)) ?_
  intro ptr hq
  rw [Nat.add_sub_cancel' h] at hq
  have hdw := (hq.slice hl).2
  simp only [Bool.not_not] at hdw
  obtain ⟨p1, p2, p3, _⟩ := hq
  have hpre : ∀ i, first ≤ i → i < ptr → Spec.asciiDomainChar a[i]! = true :=
    fun i hi1 hi2 => by simpa using p3 i hi1 hi2
  refine R.sat_if (fun hpl => ?_) (fun hpl => ?_)
  · subst hpl
    have hnil : (slice a first ptr).dropWhile Spec.asciiDomainChar = [] := by
      rw [hdw, slice_nil a ptr ptr (by omega)]
    refine R.sat_bind_ok (hasXnLabel_agrees a first ptr h hl) ?_
    refine R.sat_if (fun hxn => ?_) (fun hxn => ?_)
    · rw [hostFastL_nil _ hnil ((Bool.not_eq_true' _).mp hxn)]
      refine R.sat_bind_ok (endsInNumber_agrees a first ptr h hl) ?_
      refine R.sat_if (fun hnum => ?_) (fun hnum => ?_)
      · refine R.sat_bind_ok (parseIpv4M_agrees a first ptr h hl) ?_
        exact R.sat_pure ⟨p1, Nat.le_refl _, hpre, hdw.symm, by rw [if_pos hnum]⟩
      · refine R.sat_range ?_ (Nat.le_refl first) h (Nat.le_refl ptr)
        exact R.sat_pure ⟨p1, Nat.le_refl _, hpre, hdw.symm, by rw [if_neg hnum]; rfl⟩
    · rw [hostFastL_xn _ hnil ((Bool.not_eq_false' _).mp ((Bool.not_eq_true _).mp hxn))]
      exact R.sat_pure ⟨p1, Nat.le_refl _, hpre, hdw.symm, rfl⟩
  · have hlt : ptr < last := by omega
    refine R.sat_bind_ok (hostForbiddenCheckM_agrees a first last ptr p1 hlt hl) ?_
    rw [hostFastL_cons _ _ _ (hdw.trans (slice_cons a ptr last hlt hl))]
    refine R.sat_if (fun hB => ?_) (fun hB => ?_)
    · rw [if_pos hB]
      exact R.sat_pure ⟨p1, by omega, hpre, hdw.symm, rfl⟩
    · rw [if_neg hB]
      exact R.sat_pure ⟨p1, by omega, hpre, hdw.symm, rfl⟩

theorem hostFastPathM_agrees (a : Array Nat) (first last : Nat) (h : first ≤ last) (hl : last ≤ a.size) :
    (hostFastPathM a first last).sat (fun r =>
      slice a r.1 last = (slice a first last).dropWhile Spec.asciiDomainChar ∧
      (r.2 = none ↔ hostFastL (slice a first last) = none) ∧
      (r.1 ≠ last → r.2 = hostFastL (slice a first last))) :=
  R.sat_mono (hostFastPathM_spec a first last h hl)
    (fun _ hr => ⟨hr.2.2.2.1, by rw [hr.2.2.2.2], fun _ => hr.2.2.2.2⟩)

/-- `parse_host`: in bounds for any units, any `domain_to_ascii`; `Impl.parseHost` on the decoded input when the
    units are in the range of their character type.  The scans, the IP parsers and everything behind
    `domain_to_ascii` run on the raw units and need no hypothesis; only `parse_opaque_host` and the loops that fill
    `buff_uc` decode. -/
theorem parseHostM_spec (idna : Idna) (e : Enc) (a : Array Nat) (first last : Nat) (isOpaque : Bool)
    (h : first ≤ last) (hl : last ≤ a.size) :
    (parseHostM idna e a first last isOpaque).sat (fun r => UOk e (slice a first last) →
      r = Impl.parseHost idna (Impl.decode e (slice a first last)) isOpaque) := by
  refine R.sat_if (fun hfl => R.sat_pure fun _ => ?_) (fun hfl => ?_)
  · rw [hfl, slice_nil a last last (Nat.le_refl _), Impl.decode_nil]
    rfl
  have hlt : first < last := Nat.lt_of_le_of_ne h hfl
  have hsl := slice_cons a first last hlt hl
  have hne : slice a first last ≠ [] := hsl ▸ List.cons_ne_nil _ _
  -- the decoded text starts with `[` only if the units do: an ASCII scalar value is decoded from itself
  have hhead : a[first]! ≠ 0x5B → ∃ c0 t, Impl.decode e (slice a first last) = c0 :: t ∧ c0 ≠ 0x5B := fun hb => by
    refine ⟨_, _, decode_step e _ hne, fun hh => ?_⟩
    have := readChar_cp_ascii e _ hne (hh ▸ by decide)
    rw [hh, hsl] at this
    exact hb (List.cons.inj this).1
  refine R.sat_read hl ?_ (Nat.le_refl first) hlt
  refine R.sat_if (fun hb => ?_) (fun hb => R.sat_if (fun hop => ?_) (fun hop => ?_))
  · have hdec : Impl.decode e (slice a first last) = 0x5B :: Impl.decode e (slice a (first + 1) last) := by
      rw [hsl, hb, decode_cons_ascii e _ _ (by decide)]
    have hsn := slice_snoc a first last hlt hl
    refine R.sat_readPrev hl (R.sat_if (fun hcl => ?_) (fun hcl => R.sat_pure fun _ => ?_)) hlt (Nat.le_refl last)
    · -- `[` and `]` are different units, so `first + 1 ≤ last - 1`
      have h2 : first + 1 ≤ last - 1 := by
        apply Nat.le_sub_one_of_lt
        refine Nat.lt_of_le_of_ne hlt (fun heq => ?_)
        rw [← heq, Nat.add_sub_cancel, hb] at hcl
        exact absurd hcl (by decide)
      have hl1 : last - 1 ≤ last := Nat.sub_le _ _
      refine R.sat_ptr (R.sat_ptrSub (R.sat_range ?_ (Nat.le_succ _) h2 hl1) hlt hl1) (Nat.le_succ _) hlt
      rw [parseIpv6M_agrees a (first + 1) (last - 1) h2 (Nat.le_trans hl1 hl)]
      refine R.sat_pure fun _ => ?_
      have hmid : slice a (first + 1) last = slice a (first + 1) (last - 1) ++ [0x5D] := by
        rw [slice_snoc a (first + 1) last (Nat.lt_of_le_of_lt h2 (Nat.sub_lt (Nat.lt_of_le_of_lt (Nat.zero_le _) hlt)
          Nat.one_pos)) hl, hcl]
      rw [hdec, hmid, decode_concat_ascii e _ _ (by decide), Proofs.C08.parseHost_bracket,
        if_pos (by rw [← List.cons_append, List.getLast?_concat]), List.dropLast_concat]
      unfold Impl.hostParseIpv6
      rw [ipv6Parse_decode e _]
    · rw [hdec, Proofs.C08.parseHost_bracket, if_neg]
      intro hlast
      rw [← hdec] at hlast
      have := decode_last e _ 0x5D hlast (by decide)
      rw [hsn, List.getLast?_concat] at this
      exact hcl (Option.some.inj this)
  · refine R.sat_mono (parseOpaqueHostM_spec e a first last h hl) fun r hr hu => ?_
    obtain ⟨c0, t, hD, hc0⟩ := hhead hb
    rw [hr hu, hop, hD, Proofs.C08.parseHost_opaque _ _ _ hc0]
  · -- the list model, with the fast-path decision and `buff_uc` in terms of the raw units
    have hP : UOk e (slice a first last) → Impl.parseHost idna (Impl.decode e (slice a first last)) isOpaque =
        match hostFastL (slice a first last) with
        | some r => r
        | none => Proofs.C07.implFinish (idna (EC Impl.encodeUtf16Char (G e (slice a first last)))) := fun hu => by
      obtain ⟨c0, t, hD, hc0⟩ := hhead hb
      rw [hD, Proofs.C07.impl_cons, if_neg hc0, if_neg hop, ← hostFastL_eq_implFast, ← hD,
        buffUc_eq _ (decode_scalars e _ hu), hostFastL_decode e _]
      rfl
    refine R.sat_bind (hostFastPathM_spec a first last h hl) ?_
    intro ⟨ptr, fast⟩ ⟨p1, p2, p3, _, (hfast : fast = _)⟩
    cases fast with
    | some r => exact R.sat_pure fun hu => by rw [hP hu, ← hfast]
    | none =>
      refine R.sat_bind (hostDecodeM_spec e a first last ptr p1 p2 hl) fun buffUc hbuf => ?_
      -- everything behind `domain_to_ascii` runs on its output
      refine R.sat_mono (P := fun r => r = Proofs.C07.implFinish (idna buffUc)) ?_ fun r hr hu => by
        rw [hr, hP hu, ← hfast, hbuf hu fun i hi1 hi2 => Proofs.C07.adc_plain _ (p3 i hi1 hi2)]
      rw [Proofs.C07.implFinish.eq_def]
      cases idna buffUc with
      | none => exact R.sat_pure rfl
      | some ascii =>
        dsimp only
        have hsz : ascii.length ≤ ascii.toArray.size := Nat.le_of_eq (by simp)
        have hany := findIfM_any ascii.toArray 0 ascii.length (charInSetM Spec.forbiddenDomain) Spec.forbiddenDomain
          (charInSetM_ascii _ forbiddenDomain_ascii) (Nat.zero_le _) hsz
        rw [Nat.sub_zero, slice_ofList] at hany
        refine R.sat_bind hany fun p hp => R.sat_if (fun hpne => ?_) (fun hpne => ?_)
        · exact R.sat_pure (if_pos (hp.1 hpne)).symm
        · rw [if_neg (fun hh => hpne (hp.2 hh))]
          refine R.sat_bind_ok (endsInNumber_agrees ascii.toArray 0 ascii.length (Nat.zero_le _) hsz) ?_
          rw [slice_ofList]
          refine R.sat_if (fun hnum => ?_) (fun hnum => R.sat_pure (if_neg hnum).symm)
          rw [parseIpv4M_agrees ascii.toArray 0 ascii.length (Nat.zero_le _) hsz, slice_ofList, if_pos hnum]
          exact R.sat_pure rfl

theorem parseHostM_sat (idna : Idna) (e : Enc) (a : Array Nat) (first last : Nat) (isOpaque : Bool)
    (h : first ≤ last) (hl : last ≤ a.size) : (parseHostM idna e a first last isOpaque).sat (fun _ => True) :=
  (parseHostM_spec idna e a first last isOpaque h hl).true

theorem parseHostM_agrees (idna : Idna) (e : Enc) (a : Array Nat) (first last : Nat) (isOpaque : Bool)
    (h : first ≤ last) (hl : last ≤ a.size) (hu : UOk e (slice a first last)) :
    parseHostM idna e a first last isOpaque =
      .ok (Impl.parseHost idna (Impl.decode e (slice a first last)) isOpaque) :=
  R.eq_ok_of_sat ((parseHostM_spec idna e a first last isOpaque h hl).mp hu)

end Upa.Impl.B
