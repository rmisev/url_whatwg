import Upa.Impl.BoundsMisc
import Upa.Proofs.Bounds
import Upa.Proofs.Utf
import Upa.Proofs.EncIndep
import Upa.Proofs.Percent
/-
  The percent-ENCODE side of `Upa/Impl/BoundsMisc.lean` (C04e, C10d): `append_percent_encoded_byte`, `append_utf8`,
  and the loops of url_percent_encode.h / url.h, which decode LAZILY (one `read_utf_char` per non-ASCII position)
  while the list models run on the eagerly decoded scalar values.  Each function has ONE specification: it stays in
  bounds whatever the units are, and when the units are in the range of their character type (`UOk`) its value is the
  list model's on `Impl.decode e units`, ill-formed input included.  `encLoopM_spec` is the loop invariant; the three
  loops of the C++ are instances of it.  (`cpsetGetM_sat` states the exact value of the table lookup; `cpsetGetM_ascii`
  is what the loop needs of it.)
-/
namespace Upa.Impl.B
open Upa.Proofs.C10b
open Upa.Proofs.C14 (encOne)

/-! ### `code_point_set::operator[]`, `append_percent_encoded_byte`, `append_utf8` -/

/-- the table indices and the lead bytes below are bounded by this -/
theorem shr_lt {c k : Nat} (n : Nat) (h : c < 2 ^ n * k) : c >>> n < k := by
  rw [Nat.shiftRight_eq_div_pow]
  exact Nat.div_lt_of_lt_mul h

theorem shr4_lt (c : Nat) (h : c < 256) : c >>> 4 < 16 := shr_lt 4 h

theorem cpsetGetM_sat (set : Nat → Bool) (c : Nat) : (cpsetGetM set c).sat (fun b => b = (decide (c ≤ 0xFF) && set c)) := by
  refine R.sat_if (fun h => R.sat_bind_ok (idx_ok (shr_lt 3 (Nat.lt_succ_of_le h))) (R.sat_pure ?_)) (fun h => R.sat_pure ?_)
  · rw [decide_eq_true h, Bool.true_and]
  · rw [decide_eq_false h, Bool.false_and]

theorem and_f_lt (x : Nat) : x &&& 0xF < 16 := by
  rw [Impl.andF]; exact Nat.mod_lt _ (by decide)

theorem appendPercentEncodedByteM_eq (uc : Nat) (h : uc < 256) :
    appendPercentEncodedByteM uc = .ok (pctByte uc) := by
  refine R.eq_ok_of_sat (R.sat_bind_ok (idx_ok (shr_lt 4 h)) (R.sat_bind_ok (idx_ok (and_f_lt uc)) (R.sat_pure ?_)))
  rw [Impl.shr4, Impl.andF]
  rfl

/-- a byte assembled from two bytes by `|` needs no `static_cast<uint8_t>` -/
theorem or_mod_256 {x y : Nat} (hx : x < 256) (hy : y < 256) : (x ||| y) % 256 = x ||| y :=
  Nat.mod_eq_of_lt (Nat.or_lt_two_pow (n := 8) hx hy)

/-- the lead byte `(cp >> n) | m` of a sequence, for `cp` of at most `n + 8` bits -/
theorem byte_lead (n m : Nat) {cp b : Nat} (h : cp ≤ b) (hb : b < 2 ^ n * 256) (hm : m < 256) :
    ((cp >>> n) ||| m) % 256 = (cp >>> n) ||| m :=
  or_mod_256 (shr_lt n (Nat.lt_of_le_of_lt h hb)) hm

theorem byte_80 (x : Nat) : ((x &&& 0x3F) ||| 0x80) % 256 = (x &&& 0x3F) ||| 0x80 :=
  or_mod_256 (Nat.and_lt_two_pow x (n := 8) (by decide)) (by decide)

/-- `append_utf8<…, append_percent_encoded_byte>` = `%XX` for every UTF-8 byte (any `cp`) -/
theorem appendUtf8PctM_eq (cp : Nat) : appendUtf8PctM cp = .ok (Impl.pctEncodeChar cp) := by
  have hb : ∀ x : Nat, appendPercentEncodedByteM (x % 256) = .ok (pctByte (x % 256)) :=
    fun x => appendPercentEncodedByteM_eq _ (Nat.mod_lt _ (by decide))
  unfold appendUtf8PctM Impl.pctEncodeChar Impl.encodeUtf8Char
  by_cases h1 : cp ≤ 0x7F
  · rw [if_pos h1, if_pos h1, hb, Nat.mod_eq_of_lt (Nat.lt_of_le_of_lt h1 (by decide))]
    simp only [List.flatMap_cons, List.flatMap_nil, List.append_nil]
  rw [if_neg h1, if_neg h1]
  by_cases h2 : cp ≤ 0x7FF
  · rw [if_pos h2, if_pos h2, hb, hb, byte_lead 6 0xC0 h2 (by decide) (by decide), byte_80]
    simp only [R.ok_bind, R.pure_eq, List.flatMap_cons, List.flatMap_nil, List.append_nil]
  rw [if_neg h2, if_neg h2]
  by_cases h3 : cp ≤ 0xFFFF
  · rw [if_pos h3, if_pos h3, hb, hb, hb, byte_lead 12 0xE0 h3 (by decide) (by decide), byte_80, byte_80]
    simp only [R.ok_bind, R.pure_eq, List.flatMap_cons, List.flatMap_nil, List.append_nil, List.append_assoc]
  rw [if_neg h3, if_neg h3, hb, hb, hb, hb, byte_80, byte_80, byte_80]
  simp only [R.ok_bind, R.pure_eq, List.flatMap_cons, List.flatMap_nil, List.append_nil, List.append_assoc]

theorem appendPercentEncodedByteM_sat (uc : Nat) (h : uc < 256) :
    (appendPercentEncodedByteM uc).sat (fun _ => True) :=
  R.sat_of_eq_ok (appendPercentEncodedByteM_eq uc h)

theorem appendUtf8PctM_sat (cp : Nat) : (appendUtf8PctM cp).sat (fun _ => True) :=
  R.sat_of_eq_ok (appendUtf8PctM_eq cp)

/-! ### `read_utf_char` on the array = on the slice -/

theorem readChar_spec (e : Enc) (a : Array Nat) (first last : Nat) (h : first < last) (hl : last ≤ a.size) :
    (readChar e a first last).sat (fun r => first < r.2.2 ∧ r.2.2 ≤ last ∧ (UOk e (slice a first last) →
      Impl.readChar e (slice a first last) = (r.1, r.2.1, slice a r.2.2 last))) := by
  cases e
  · exact R.sat_mono (readU8_agrees a first last h hl) fun r hr =>
      ⟨hr.1.1, hr.1.2, fun hu => hr.2 (ByteUnits.of_slice hl hu)⟩
  · exact R.sat_mono (readU16_spec a first last h hl) fun r hr => ⟨hr.1.1, hr.1.2, fun _ => hr.2⟩
  · exact R.sat_mono (readU32_spec a first last h hl) fun r hr => ⟨hr.1.1, hr.1.2, fun _ => hr.2⟩

theorem appendUtf8PercentEncodedCharM_spec (e : Enc) (a : Array Nat) (first last it : Nat) (h1 : first ≤ it)
    (h2 : it < last) (hl : last ≤ a.size) :
    (appendUtf8PercentEncodedCharM e a first last it).sat (fun (_, it', s) => it < it' ∧ it' ≤ last ∧
      (UOk e (slice a it last) → ∃ c, s = Impl.pctEncodeChar c ∧ (c < 0x80 → a[it]! = c) ∧
        Impl.decode e (slice a it last) = c :: Impl.decode e (slice a it' last))) := by
  have hsl := slice_cons a it last h2 hl
  have hne : slice a it last ≠ [] := hsl ▸ List.cons_ne_nil _ _
  refine R.sat_range ?_ h1 (Nat.le_of_lt h2) (Nat.le_refl _)
  refine R.sat_bind (readChar_spec e a it last h2 hl) ?_
  rintro ⟨ok, cp, it'⟩ ⟨hlt, hle, hag⟩
  refine R.sat_bind_ok (appendUtf8PctM_eq _) (R.sat_pure ⟨hlt, hle, fun hu => ⟨_, rfl, ?_, ?_⟩⟩)
  · have hcp := (readChar_cp e _ hne hu).2
    rw [hag hu] at hcp
    exact fun hc => (List.cons.inj (hsl.symm.trans (hcp hc))).1
  · have hdec := decode_step e _ hne
    rwa [hag hu] at hdec

theorem appendUtf8PercentEncodedCharM_sat (e : Enc) (a : Array Nat) (first last it : Nat) (h1 : first ≤ it)
    (h2 : it < last) (hl : last ≤ a.size) :
    (appendUtf8PercentEncodedCharM e a first last it).sat (fun r => it < r.2.1 ∧ r.2.1 ≤ last) :=
  R.sat_mono (appendUtf8PercentEncodedCharM_spec e a first last it h1 h2 hl) fun _ hr => ⟨hr.1, hr.2.1⟩

/-! ### the three encode loops -/

/-- the loop `while (pointer < last) { uch = *pointer; if (uch >= hi) read_utf_char … }` that the three encoders
    share, over its threshold `hi` and its test `keep`; one round appends `C14.encOne hi kf` (Percent) -/
theorem encLoopM_spec (e : Enc) (hi : Nat) (keep : Nat → R Bool) (kf : Nat → Bool) (hhi : hi ≤ 0x80)
    (hk : ∀ c, (keep c).sat (fun b => c < 0x80 → b = kf c))
    (a : Array Nat) (first last : Nat) (h : first ≤ last) (hl : last ≤ a.size) :
    (encLoopM e hi keep a first last).sat (fun r => UOk e (slice a first last) →
      r.2 = (Impl.decode e (slice a first last)).flatMap (encOne hi kf)) := by
  refine scan_sat _ (·.1) first last (fun s => UOk e (slice a first last) →
      s.2.2 ++ (Impl.decode e (slice a s.1 last)).flatMap (encOne hi kf) =
        (Impl.decode e (slice a first last)).flatMap (encOne hi kf)) _ ?_ _ _
    (Nat.le_refl _) h (fun _ => List.nil_append _) (Nat.lt_succ_self _)
  rintro ⟨p, success, out⟩ h1 h2 h3
  refine R.sat_if (fun hge => R.sat_pure fun hu => ?_) (fun hlt => ?_)
  · have hp : last = p := Nat.le_antisymm (Nat.le_of_not_lt hge) h2
    subst hp
    have h3 := h3 hu
    rwa [slice_nil a last last (Nat.le_refl _), Impl.decode_nil, List.flatMap_nil, List.append_nil] at h3
  have hpl : p < last := Decidable.of_not_not hlt
  refine R.sat_read hl (R.sat_if (fun hge => ?_) (fun hlo => ?_)) h1 hpl
  · refine R.sat_bind (appendUtf8PercentEncodedCharM_spec e a first last p h1 hpl hl) ?_
    rintro ⟨ok, p', s⟩ ⟨hlt', hle, hs⟩
    refine R.sat_pure ⟨hlt', hle, fun hu => ?_⟩
    obtain ⟨c, hs, hasc, hdec⟩ := hs (hu.subset (slice_subset a first p last h1 hl))
    -- the list model takes the same branch for `c` as the loop took for the unit
    have hc : c ≥ hi := by
      by_cases hc80 : c < 0x80
      · exact hasc hc80 ▸ hge
      · exact Nat.le_trans hhi (Nat.le_of_not_lt hc80)
    have h3 := h3 hu
    rwa [hdec, List.flatMap_cons, ← List.append_assoc, encOne, if_pos hc, ← hs] at h3
  · have hasc : a[p]! < 0x80 := Nat.lt_of_lt_of_le (Nat.lt_of_not_le hlo) hhi
    rw [Nat.mod_eq_of_lt (Nat.lt_trans hasc (by decide))]
    refine R.sat_bind (hk _) fun k hkf => ?_
    refine R.sat_bind (P := fun s => s = if kf a[p]! = true then [a[p]!] else pctByte a[p]!) ?_ ?_
    · rw [hkf hasc]
      refine R.sat_if (fun hkf => ?_) (fun hkf => ?_)
      · rw [if_pos hkf]
        exact R.sat_pure rfl
      · rw [if_neg hkf]
        exact R.sat_of_eq (appendPercentEncodedByteM_eq _ (Nat.lt_trans hasc (by decide)))
    · intro s hs
      subst hs
      refine R.sat_ptr ?_ (Nat.le_succ_of_le h1) hpl
      refine R.sat_pure ⟨Nat.lt_succ_self p, hpl, fun hu => ?_⟩
      have h3 := h3 hu
      rwa [slice_cons a p last hpl hl, decode_cons_ascii e _ _ hasc, List.flatMap_cons, ← List.append_assoc, encOne,
        if_neg hlo] at h3

theorem cpsetGetM_ascii (set : Nat → Bool) (c : Nat) : (cpsetGetM set c).sat (fun b => c < 0x80 → b = set c) :=
  R.sat_mono (cpsetGetM_sat set c) fun b hb hc => by
    rw [hb, decide_eq_true (Nat.le_of_lt (Nat.lt_trans hc (by decide))), Bool.true_and]

/-- `detail::append_utf8_percent_encoded` (= `upa::percent_encode`) -/
theorem appendUtf8PercentEncodedM_spec (e : Enc) (noEnc : Nat → Bool) (a : Array Nat) (first last : Nat)
    (h : first ≤ last) (hl : last ≤ a.size) :
    (appendUtf8PercentEncodedM e noEnc a first last).sat (fun r => UOk e (slice a first last) →
      r = Impl.percentEncode noEnc (Impl.decode e (slice a first last))) := by
  refine R.sat_bind (encLoopM_spec e 0x80 _ noEnc (Nat.le_refl _) (cpsetGetM_ascii noEnc) a first last h hl) ?_
  rintro ⟨ok, out⟩ hout
  rw [Upa.Proofs.C14.percentEncode_flatMap, Upa.Proofs.C14.pctPiece_eq_encOne]
  exact R.sat_pure hout

/-- `url_parser::do_path_segment` -/
theorem pathSegmentEncM_spec (e : Enc) (a : Array Nat) (first last : Nat) (h : first ≤ last) (hl : last ≤ a.size) :
    (pathSegmentEncM e a first last).sat (fun r => UOk e (slice a first last) →
      r.2 = Impl.percentEncode Impl.pathNoEnc (Impl.decode e (slice a first last))) := by
  rw [Upa.Proofs.C14.percentEncode_flatMap, Upa.Proofs.C14.pctPiece_eq_encOne]
  exact encLoopM_spec e 0x80 _ Impl.pathNoEnc (Nat.le_refl _) (cpsetGetM_ascii _) a first last h hl

/-- `url_parser::do_simple_path` (and the loop of `parse_opaque_host`) -/
theorem simplePathM_spec (e : Enc) (a : Array Nat) (first last : Nat) (h : first ≤ last) (hl : last ≤ a.size) :
    (simplePathM e a first last).sat (fun r => UOk e (slice a first last) →
      r.2 = Impl.percentEncodeC0 (Impl.decode e (slice a first last))) := by
  rw [Upa.Proofs.C14.percentEncodeC0_flatMap]
  exact encLoopM_spec e 0x7F _ (fun c => decide (¬ c ≤ 0x1F)) (by decide) (fun c => R.sat_pure fun _ => rfl)
    a first last h hl

theorem appendUtf8PercentEncodedM_sat (e : Enc) (noEnc : Nat → Bool) (a : Array Nat) (first last : Nat)
    (h : first ≤ last) (hl : last ≤ a.size) : (appendUtf8PercentEncodedM e noEnc a first last).sat (fun _ => True) :=
  (appendUtf8PercentEncodedM_spec e noEnc a first last h hl).true

theorem pathSegmentEncM_sat (e : Enc) (a : Array Nat) (first last : Nat) (h : first ≤ last) (hl : last ≤ a.size) :
    (pathSegmentEncM e a first last).sat (fun _ => True) :=
  (pathSegmentEncM_spec e a first last h hl).true

theorem simplePathM_sat (e : Enc) (a : Array Nat) (first last : Nat) (h : first ≤ last) (hl : last ≤ a.size) :
    (simplePathM e a first last).sat (fun _ => True) :=
  (simplePathM_spec e a first last h hl).true

end Upa.Impl.B
