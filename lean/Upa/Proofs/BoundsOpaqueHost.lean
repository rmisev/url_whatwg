import Upa.Proofs.BoundsMisc
/-
  `parseOpaqueHostM` (url_host.h:292-333; C04e, C04g): in bounds for any units, and `Impl.parseOpaqueHost` on the
  decoded input when the units are in the range of their character type; with it what the scans of parse_host for
  forbidden code points share: `std::any_of` as a `find_if` (`findIfM_any`), and that the tests are for ASCII
  characters (`forbiddenHost_ascii`, `asciiDomainChar_ascii`), so that `AsciiHom.any_eq` carries them from the units to
  the decoded text.
-/
namespace Upa.Impl.B
open Upa.Proofs.C10b

theorem forbiddenHost_ascii : AsciiPred Spec.forbiddenHost := by
  intro c h
  simp only [Spec.forbiddenHost, Bool.or_eq_true, beq_iff_eq] at h
  omega

theorem asciiDomainChar_ascii : AsciiPred Spec.asciiDomainChar := fun c h => (Proofs.C07.adc_plain c h).1

/-- `std::any_of(first, last, pred)` as `find_if(…) != last` -/
theorem findIfM_any (a : Array Nat) (first last : Nat) (pred : Nat → R Bool) (f : Nat → Bool)
    (hp : ∀ c, pred c = .ok (f c)) (h : first ≤ last) (hl : last ≤ a.size) :
    (findIfM a first last pred (last - first) first).sat (fun q =>
      (q ≠ last ↔ (slice a first last).any f = true)) := by
  refine R.sat_mono (findIfM_spec a first last pred f hp hl (last - first) first (Nat.le_refl _)
    (Nat.le_of_eq (Nat.add_sub_cancel' h))) ?_
  intro q ⟨q1, q2, q3, q4⟩
  rw [Nat.add_sub_cancel' h] at q2 q4
  rw [List.any_eq_true]
  constructor
  · intro hne
    have hq : q < last := Nat.lt_of_le_of_ne q2 hne
    exact ⟨a[q]!, slice_mem_of_idx a first last q q1 hq hl, q4 hq⟩
  · intro ⟨x, hx, hfx⟩ hq
    obtain ⟨i, hi1, hi2, rfl⟩ := mem_slice a first last x hl hx
    rw [q3 i hi1 (hq ▸ hi2)] at hfx
    cases hfx

theorem charInSetM_ascii (set : Nat → Bool) (hs : AsciiPred set) (c : Nat) : charInSetM set c = .ok (set c) :=
  R.eq_ok_of_sat (R.sat_mono (charInSetM_sat set c) fun b hb => by
    cases hsc : set c with
    | false => rw [hb, hsc, Bool.and_false]
    | true => rw [hb, hsc, decide_eq_true (Nat.le_trans (Nat.le_of_lt (hs c hsc)) (by decide)), Bool.and_true])

theorem parseOpaqueHostM_spec (e : Enc) (a : Array Nat) (first last : Nat) (h : first ≤ last) (hl : last ≤ a.size) :
    (parseOpaqueHostM e a first last).sat (fun r => UOk e (slice a first last) →
      r = Impl.parseOpaqueHost (Impl.decode e (slice a first last))) := by
  refine R.sat_bind
    (findIfM_any a first last _ Spec.forbiddenHost (charInSetM_ascii _ forbiddenHost_ascii) h hl) fun p hp => ?_
  refine R.sat_if (fun hpl => R.sat_pure fun hu => ?_) (fun hpl => ?_)
  · rw [Impl.parseOpaqueHost, (decode_asciiHom e).any_eq forbiddenHost_ascii, if_pos (hp.1 hpl)]
  · refine R.sat_bind (simplePathM_spec e a first last h hl) fun ⟨ok, s⟩ hs => R.sat_pure fun hu => ?_
    rw [Impl.parseOpaqueHost, (decode_asciiHom e).any_eq forbiddenHost_ascii, if_neg (fun hh => hpl (hp.2 hh)), ← hs hu]

theorem parseOpaqueHostM_sat (e : Enc) (a : Array Nat) (first last : Nat) (h : first ≤ last) (hl : last ≤ a.size) :
    (parseOpaqueHostM e a first last).sat (fun _ => True) :=
  (parseOpaqueHostM_spec e a first last h hl).true

end Upa.Impl.B
