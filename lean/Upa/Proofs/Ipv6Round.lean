import Upa.Proofs.Ipv6
import Upa.Proofs.Ipv6Parse
/-
  C12 — round trip: the parser reads back the two shapes the serializer prints (`parse_joinC`,
  `parse_compressed`); the state while reading is "pieces read so far, then zeros" (`mk`), and the final
  shift puts the zero run back (`shift_closed`).
-/
namespace Upa.Proofs.V6
open Upa

theorem getHex_stop (max : Nat) (tail : List Nat) (v n : Nat)
    (ht : tail = [] ∨ ∃ t r, tail = t :: r ∧ isHex t = false) :
    Impl.getHexNumber max tail v n = (v, n, tail) := by
  cases max with
  | zero => simp [getHexL_zero]
  | succ m =>
    rcases ht with rfl | ⟨t, r, rfl, ht⟩
    · simp [getHexL_nil]
    · simp [getHexL_cons, ht]

/-- a character of the hex table is a hex digit and reads back as its index -/
theorem hexDigit_facts : ∀ d, d < 16 →
    isHex (hexDigitLower d) = true ∧ hexVal (hexDigitLower d) = d := by
  decide

theorem getHex_map : ∀ (l : List Nat) (m : Nat) (tail : List Nat) (v n : Nat), (∀ d ∈ l, d < 16) →
    Impl.getHexNumber (m + l.length) (l.map hexDigitLower ++ tail) v n =
      Impl.getHexNumber m tail (l.foldl (fun a d => a * 16 + d) v) (n + l.length) := by
  intro l
  induction l with
  | nil => intro m tail v n _; rfl
  | cons d l ih =>
    intro m tail v n h
    have hf := hexDigit_facts d (h d List.mem_cons_self)
    rw [List.length_cons, ← Nat.add_assoc, List.map_cons, List.cons_append, getHexL_cons, if_pos hf.1,
      hf.2, ih m tail _ _ (fun x hx => h x (List.mem_cons_of_mem _ hx)), List.foldl_cons, Nat.add_assoc,
      Nat.add_comm 1]

theorem getHex_toHex (x : Nat) (hx : x < 65536) (tail : List Nat)
    (ht : tail = [] ∨ ∃ t r, tail = t :: r ∧ isHex t = false) :
    ∃ n, Impl.getHexNumber 4 (toHexLower x ++ tail) 0 0 = (x, n, tail) := by
  have hL := Radix.digits_length_le (b := 16) x 3 hx
  have h := getHex_map (Radix.digits 16 x) (4 - (Radix.digits 16 x).length) tail 0 0 (Radix.digits_lt (by omega) x)
  rw [show 4 - (Radix.digits 16 x).length + (Radix.digits 16 x).length = 4 by omega, getHex_stop _ _ _ _ ht,
    ← Radix.toHexLower_eq] at h
  exact ⟨_, h.trans (by rw [show List.foldl _ 0 (Radix.digits 16 x) = Radix.ofDigits 16 (Radix.digits 16 x) from rfl,
    Radix.ofDigits_digits])⟩

theorem toHex_head (x : Nat) : ∃ c r, toHexLower x = c :: r ∧ c ≠ 0x3A := by
  cases e : toHexLower x with
  | nil => exact absurd e (Radix.toHexLower_ne_nil x)
  | cons c r =>
    have := Radix.toHexLower_chars x c (e ▸ List.mem_cons_self)
    rw [isDigit_iff] at this
    exact ⟨c, r, rfl, by omega⟩

theorem mainLoop_piece_colon (f x : Nat) (rest : List Nat) (st : Impl.V6St) (hx : x < 65536)
    (hrest : rest ≠ []) (h8 : st.pieceIndex ≠ 8) :
    Impl.v6MainLoop (f + 1) (toHexLower x ++ 0x3A :: rest) st = Impl.v6MainLoop f rest (stPut st x) := by
  obtain ⟨c, r, hc, hne⟩ := toHex_head x
  obtain ⟨n, hgg⟩ := getHex_toHex x hx (0x3A :: rest) (Or.inr ⟨0x3A, rest, rfl, by decide⟩)
  rw [hc, List.cons_append] at hgg ⊢
  rw [mainLoop_step f c _ st _ _ _ hgg]
  simp [h8, hne, hrest]

theorem mainLoop_piece_end (f x : Nat) (st : Impl.V6St) (hx : x < 65536) (h8 : st.pieceIndex ≠ 8) :
    Impl.v6MainLoop (f + 1 + 1) (toHexLower x) st = some (stPut st x, none) := by
  obtain ⟨c, r, hc, hne⟩ := toHex_head x
  obtain ⟨n, hgg⟩ := getHex_toHex x hx [] (Or.inl rfl)
  rw [List.append_nil, hc] at hgg
  rw [hc, mainLoop_step (f + 1) c _ st _ _ _ hgg]
  simp [h8, hne, Impl.v6MainLoop]

/-- parser state while reading back: the pieces read so far, filled up with zeros to eight -/
def mk (done : List Nat) (cmp : Nat) : Impl.V6St :=
  { address := done ++ List.replicate (8 - done.length) 0, pieceIndex := done.length, compress := cmp }

theorem stPut_mk (done : List Nat) (cmp x : Nat) (h : done.length < 8) :
    stPut (mk done cmp) x = mk (done ++ [x]) cmp := by
  obtain ⟨m, hm⟩ : ∃ m, 8 - done.length = m + 1 := ⟨7 - done.length, by omega⟩
  have hm' : 8 - (done.length + 1) = m := by omega
  simp only [stPut, mk, hm, hm', List.replicate_succ, set_at_length, List.length_append, List.length_singleton,
    List.append_assoc, List.cons_append, List.nil_append]

theorem stCompress_mk (done : List Nat) (cmp : Nat) (h : done.length < 8) :
    stCompress (mk done cmp) = mk (done ++ [0]) (done.length + 1) := by
  obtain ⟨m, hm⟩ : ∃ m, 8 - done.length = m + 1 := ⟨7 - done.length, by omega⟩
  have hm' : 8 - (done.length + 1) = m := by omega
  simp only [stCompress, mk, hm, hm', List.replicate_succ, List.length_append, List.length_singleton,
    List.append_assoc, List.cons_append, List.nil_append]

theorem length_colonEach (ps : List Nat) : 2 * ps.length ≤ (colonEach ps).length := by
  induction ps with
  | nil => simp
  | cons x r ih =>
    have h1 := List.length_pos_iff.2 (Radix.toHexLower_ne_nil x)
    simp [colonEach]; omega

theorem length_joinC (ps : List Nat) : ps.length ≤ (joinC ps).length := by
  induction ps with
  | nil => simp
  | cons x r ih =>
    have h1 := List.length_pos_iff.2 (Radix.toHexLower_ne_nil x)
    rw [joinC]
    by_cases hr : r = []
    · subst hr; simp; omega
    · simp [hr]; omega

theorem mainLoop_colonEach (rest : List Nat) (hrest : rest ≠ []) (cmp : Nat) :
    ∀ (ps done : List Nat) (f : Nat), (∀ x ∈ ps, x < 65536) → done.length + ps.length ≤ 8 →
    Impl.v6MainLoop (f + ps.length) (colonEach ps ++ rest) (mk done cmp) =
      Impl.v6MainLoop f rest (mk (done ++ ps) cmp) := by
  intro ps
  induction ps with
  | nil => intro done f _ _; simp [colonEach]
  | cons x ps ih =>
    intro done f hx hlen
    simp only [List.length_cons] at hlen
    have hne : colonEach ps ++ rest ≠ [] := by simp [hrest]
    simp only [colonEach, List.append_assoc, List.cons_append]
    rw [List.length_cons, ← Nat.add_assoc,
      mainLoop_piece_colon (f + ps.length) x _ _ (hx x (by simp)) hne (by simp only [mk]; omega),
      stPut_mk _ _ _ (by omega), ih (done ++ [x]) f (fun y hy => hx y (by simp [hy])) (by simp; omega)]
    simp only [List.append_assoc, List.cons_append, List.nil_append]

theorem joinC_snoc (y : Nat) : ∀ ps : List Nat, joinC (ps ++ [y]) = colonEach ps ++ toHexLower y
  | [] => by simp [joinC, colonEach]
  | x :: ps => by simp [joinC, colonEach, joinC_snoc y ps]

theorem mainLoop_joinC (cmp : Nat) (post done : List Nat) (fuel : Nat) (hx : ∀ x ∈ post, x < 65536)
    (hlen : done.length + post.length ≤ 8) (hf : post.length + 1 ≤ fuel) :
    Impl.v6MainLoop fuel (joinC post) (mk done cmp) = some (mk (done ++ post) cmp, none) := by
  by_cases hp : post = []
  · subst hp
    obtain ⟨f, rfl⟩ : ∃ f, fuel = f + 1 := ⟨fuel - 1, by simp at hf; omega⟩
    simp [joinC, Impl.v6MainLoop]
  · obtain ⟨init, y, rfl⟩ := snoc_cases post hp
    simp only [List.length_append, List.length_singleton] at hlen hf
    obtain ⟨f, rfl⟩ : ∃ f, fuel = f + 1 + 1 + init.length := ⟨fuel - 2 - init.length, by omega⟩
    rw [joinC_snoc, mainLoop_colonEach _ (Radix.toHexLower_ne_nil y) cmp init done _ (fun x h => hx x (by simp [h])) (by omega),
      mainLoop_piece_end f y _ (hx y (by simp)) (by simp only [mk, List.length_append]; omega),
      stPut_mk _ _ _ (by simp; omega), List.append_assoc]

theorem shift_closed (P : List Nat) (d : Nat) : ∀ (k : Nat) (mid tail : List Nat), mid.length = k →
    Impl.v6Shift (d + 1) P.length k (P ++ (mid ++ (List.replicate (d + 1) 0 ++ tail))) =
      P ++ (List.replicate (d + 1) 0 ++ (mid ++ tail)) := by
  intro k
  induction k with
  | zero =>
    intro mid tail hm
    have : mid = [] := List.eq_nil_of_length_eq_zero hm
    subst this
    rfl
  | succ k ih =>
    intro mid tail hm
    have hne : mid ≠ [] := by intro h; subst h; simp at hm
    obtain ⟨mid', x, rfl⟩ := snoc_cases mid hne
    have hm' : mid'.length = k := by simp at hm; exact hm
    rw [v6ShiftL_succ]
    -- the source position is right after `P ++ mid'`
    have eL1 : P.length + k = (P ++ mid').length := by simp [hm']
    -- the target position is the last zero of the gap
    have eL2 : P.length + k + (d + 1) = (P ++ (mid' ++ (x :: List.replicate d 0))).length := by
      simp [hm']; omega
    have form1 : P ++ ((mid' ++ [x]) ++ (List.replicate (d + 1) 0 ++ tail)) =
        (P ++ mid') ++ x :: (List.replicate (d + 1) 0 ++ tail) := by simp
    have form2 : (P ++ mid') ++ x :: (List.replicate (d + 1) 0 ++ tail) =
        (P ++ (mid' ++ (x :: List.replicate d 0))) ++ 0 :: tail := by
      simp [List.replicate_succ']
    have form3 : (P ++ (mid' ++ (x :: List.replicate d 0))) ++ x :: tail =
        (P ++ mid') ++ x :: (List.replicate d 0 ++ x :: tail) := by simp
    have form4 : (P ++ mid') ++ 0 :: (List.replicate d 0 ++ x :: tail) =
        P ++ (mid' ++ (List.replicate (d + 1) 0 ++ (x :: tail))) := by
      simp [List.replicate_succ]
    have hget : (P ++ ((mid' ++ [x]) ++ (List.replicate (d + 1) 0 ++ tail))).getD (P.length + k) 0 = x := by
      rw [form1, eL1, getD_at_length]
    rw [hget]
    have hset : ((P ++ ((mid' ++ [x]) ++ (List.replicate (d + 1) 0 ++ tail))).set (P.length + k + (d + 1)) x).set
        (P.length + k) 0 = P ++ (mid' ++ (List.replicate (d + 1) 0 ++ (x :: tail))) := by
      rw [form1, form2, eL2, set_at_length, form3, eL1, set_at_length, form4]
    rw [hset, ih mid' (x :: tail) hm']
    simp

theorem mainLoop_colon (f : Nat) (r : List Nat) (st : Impl.V6St) (h8 : st.pieceIndex ≠ 8)
    (hc : st.compress = 0) :
    Impl.v6MainLoop (f + 1) (0x3A :: r) st = Impl.v6MainLoop f r (stCompress st) := by
  generalize hg : Impl.getHexNumber 4 (0x3A :: r) 0 0 = g
  obtain ⟨value, n, p'⟩ := g
  rw [mainLoop_step f 0x3A r st value n p' hg]
  simp [h8, hc]

theorem final_compressed (P post : List Nat) (d : Nat) (hP : P.length + post.length + (d + 1) = 8)
    (hP1 : 1 ≤ P.length) :
    implFinal (mk (P ++ post) P.length) = some (P ++ (List.replicate (d + 1) 0 ++ post)) := by
  have h1 : P.length ≠ 0 := by omega
  have h2 : 8 - (P ++ post).length = d + 1 := by simp; omega
  have h3 : (P ++ post).length - P.length = post.length := by simp
  have h4 := shift_closed P d post.length post [] rfl
  simp only [List.append_nil] at h4
  simp only [implFinal, mk, h1, h2, h3, ne_eq, not_false_eq_true, if_true, Nat.add_one_ne_zero,
    List.append_assoc, h4]

theorem parse_joinC (a : List Nat) (h8 : a.length = 8) (hx : ∀ x ∈ a, x < 65536) :
    Impl.ipv6Parse (joinC a) = some a := by
  have hlen := length_joinC a
  rw [ipv6Parse_eq, if_neg (by omega)]
  match a, h8 with
  | x :: a', h8 =>
    obtain ⟨c, r, hc, hne⟩ := toHex_head x
    have hs : ∃ r', joinC (x :: a') = c :: r' := by
      rw [joinC, hc]; exact ⟨_, rfl⟩
    obtain ⟨r', hr'⟩ := hs
    have hstart : implStart (joinC (x :: a')) = some (joinC (x :: a'), mk [] 0) := by
      rw [hr', implStart_plain c r' hne]; rfl
    rw [hstart]
    simp only [Option.bind_some]
    rw [mainLoop_joinC 0 (x :: a') [] _ hx (by simp at h8 ⊢; omega) (by omega)]
    simp only [implV4, Option.bind_some, List.nil_append]
    simp [implFinal, mk, h8]

theorem parse_compressed (pre post : List Nat) (len : Nat) (h8 : pre.length + len + post.length = 8)
    (hlen : 2 ≤ len) (hpre : ∀ x ∈ pre, x < 65536) (hpost : ∀ x ∈ post, x < 65536) :
    Impl.ipv6Parse (colonEach pre ++ (marker pre.length ++ joinC post)) =
      some (pre ++ (List.replicate len 0 ++ post)) := by
  obtain ⟨d, rfl⟩ : ∃ d, len = d + 2 := ⟨len - 2, by omega⟩
  have hlp := length_joinC post
  have hlc := length_colonEach pre
  rw [ipv6Parse_eq]
  cases pre with
  | nil =>
    simp only [List.length_nil, Nat.zero_add] at h8
    have e : colonEach [] ++ (marker ([] : List Nat).length ++ joinC post) = 0x3A :: 0x3A :: joinC post := rfl
    rw [e, if_neg (by simp)]
    have hstart : implStart (0x3A :: 0x3A :: joinC post) = some (joinC post, mk [0] 1) := by
      rw [implStart_compress]; rfl
    rw [hstart]
    simp only [Option.bind_some]
    rw [mainLoop_joinC 1 post [0] _ hpost (by simp; omega) (by simp; omega)]
    simp only [implV4, Option.bind_some]
    have := final_compressed [0] post d (by simp; omega) (by simp)
    simp only [List.length_singleton] at this
    rw [this]
    simp [List.replicate_succ]
  | cons x pre' =>
    simp only [List.length_cons] at h8
    have e : colonEach (x :: pre') ++ (marker (x :: pre').length ++ joinC post) =
        colonEach (x :: pre') ++ (0x3A :: joinC post) := by simp [marker]
    rw [e]
    obtain ⟨c, r, hc, hne⟩ := toHex_head x
    obtain ⟨r', hr'⟩ : ∃ r', colonEach (x :: pre') ++ (0x3A :: joinC post) = c :: r' := by
      rw [colonEach, hc]; exact ⟨_, rfl⟩
    have hslen : (x :: pre').length + post.length + 1 ≤
        (colonEach (x :: pre') ++ (0x3A :: joinC post)).length := by
      simp at hlc ⊢; omega
    rw [if_neg (by simp at hslen ⊢; omega)]
    have hstart : implStart (colonEach (x :: pre') ++ (0x3A :: joinC post)) =
        some (colonEach (x :: pre') ++ (0x3A :: joinC post), mk [] 0) := by
      rw [hr', implStart_plain c r' hne]; rfl
    rw [hstart]
    simp only [Option.bind_some]
    obtain ⟨f, hf⟩ : ∃ f, (colonEach (x :: pre') ++ (0x3A :: joinC post)).length + 1 =
        f + 1 + (x :: pre').length :=
      ⟨(colonEach (x :: pre') ++ (0x3A :: joinC post)).length - (x :: pre').length, by omega⟩
    rw [hf, mainLoop_colonEach (0x3A :: joinC post) (by simp) 0 (x :: pre') [] _ hpre (by simp; omega),
      List.nil_append, mainLoop_colon f _ _ (by simp [mk]; omega) rfl,
      stCompress_mk _ _ (by simp; omega),
      mainLoop_joinC _ post ((x :: pre') ++ [0]) f hpost (by simp; omega) (by omega)]
    simp only [implV4, Option.bind_some]
    have := final_compressed ((x :: pre') ++ [0]) post d (by simp; omega) (by simp)
    simp only [List.length_append, List.length_singleton] at this
    rw [this]
    simp [List.replicate_succ]

theorem roundtrip (a : List Nat) (h8 : a.length = 8) (hx : ∀ x ∈ a, x < 65536) :
    Impl.ipv6Parse (Impl.ipv6Serialize a) = some a := by
  rcases serialize_form a h8 with ⟨h1, _⟩ | ⟨pre, len, post, ha, hlen, h1, _⟩
  · rw [h1]
    exact parse_joinC a h8 hx
  · rw [h1]
    have hl : pre.length + len + post.length = 8 := by
      have := congrArg List.length ha
      simp at this; omega
    have hpre : ∀ x ∈ pre, x < 65536 := fun x h => hx x (by rw [ha]; simp [h])
    have hpost : ∀ x ∈ post, x < 65536 := fun x h => hx x (by rw [ha]; simp [h])
    rw [parse_compressed pre post len hl hlen hpre hpost, ← ha]

end Upa.Proofs.V6
