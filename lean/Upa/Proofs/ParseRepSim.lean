import Upa.Proofs.ParseRepOps
import Upa.Proofs.EncHead
/-
  The state blocks of `parseRep` (Impl/ParseRep.lean) simulate the state blocks of the record-level
  parser `urlParse` (Impl/Url.lean) without state override: one invariant per stretch of the state
  graph (`SchInv` after the scheme, `CredInv` in the authority, `FileInv` in the file states, `PathInv`
  in the path loop, `SerInv` from the host on, `HostPre` between host and path), each block proved to
  `Agree` with its record-level twin by descending the graph.  Nothing here reads a base URL: what
  `append_parts` copies from one is in `ParseRepAppend`, `ParseRepBase`, `ParseRepFile`, the blocks that
  call it in `ParseRepRel` and `ParseRepTop`.
-/

namespace Upa.Proofs.ParseRep
open Upa Upa.Impl Upa.Proofs.C05 Upa.Proofs.SetRep Upa.Proofs.SetRepApi Upa.Props

/-! ### the invariant once the host (or the path) is written -/

/-- the serializer state `s` presents the record `u`: the parts up to `last_pt_` are those of the
    from-scratch layout of `u`, every later offset is `0` (and `u` has no text there): `RecWF u` and
    `SetRep.Represents s.rep u` by segments `A` with `|A| = last_pt_ + 1` -/
def SerInv (s : Ser) (u : Url) : Prop :=
  RecWF u ∧ ∃ A, Rp (segsOf u) A ∧ s.rep = mkRep (layout u) A ∧ A.length = s.lastPt + 1

/-- what a finished parse leaves -/
def Final (r : Rep) (u : Url) : Prop := ∃ l, SerInv ⟨r, l⟩ u

/-- the result of a state block of `parseRep` against the result of the block of `urlParse` -/
def Agree (x : Option Rep) (y : Res) : Prop :=
  match x with
  | none => y.out ≠ .ok
  | some r => y.out = .ok ∧ Final r y.url

/-- both parsers fail -/
theorem Agree.fail {y : Res} (h : y.out ≠ .ok) : Agree none y := h

/-- both parsers branch on the same tests -/
theorem Agree.ite {c : Prop} [Decidable c] {x x' : Option Rep} {y y' : Res} (h : c → Agree x y)
    (h' : ¬ c → Agree x' y') : Agree (if c then x else x') (if c then y else y') := by
  by_cases hc : c
  · rw [if_pos hc, if_pos hc]; exact h hc
  · rw [if_neg hc, if_neg hc]; exact h' hc

theorem SerInv.final {s : Ser} {u : Url} (h : SerInv s u) : Final s.rep u := ⟨s.lastPt, h⟩

theorem SerInv.repFor {s : Ser} {u : Url} (h : SerInv s u) : RepFor s.rep u := by
  obtain ⟨wf, A, hA, hr, _⟩ := h
  exact represents_equiv u wf ⟨A, hA, hr⟩

theorem SerInv.lastPt_ge {s : Ser} {u : Url} (h : SerInv s u) : 5 ≤ s.lastPt := by
  obtain ⟨_, A, hA, _, hl⟩ := h
  have := hA.lo; omega

theorem SerInv.lastPt_le {s : Ser} {u : Url} (h : SerInv s u) : s.lastPt ≤ 10 := by
  obtain ⟨_, A, hA, _, hl⟩ := h
  have := hA.hi; omega

theorem SerInv.special {s : Ser} {u : Url} (h : SerInv s u) : s.rep.isSpecialScheme = u.isSpecial :=
  isSpecialScheme_eq h.repFor

theorem SerInv.file {s : Ser} {u : Url} (h : SerInv s u) : s.rep.isFileScheme = u.isFile :=
  isFileScheme_eq h.repFor

/-- the constructor of `SerInv`: the segments of `u` are the started parts `A`, and nothing after them -/
theorem serInv_of_segs {u : Url} {A : List (List Nat)} (wf : RecWF u) (l : Nat) (hl : A.length = l + 1)
    (h5 : 5 ≤ l) (h10 : l ≤ 10) (hsegs : segsOf u = A ++ List.replicate (10 - l) []) :
    SerInv ⟨mkRep (layout u) A, l⟩ u := by
  refine ⟨wf, A, ⟨rfl, by omega, by omega, ?_, ?_⟩, rfl, hl⟩
  · rw [hsegs]; congr 2; omega
  · simpa [off, segsOf] using List.length_pos_iff.mpr wf.1

/-! ### appending a part after the last started one -/

theorem Rp_write {S A : List (List Nat)} (h : Rp S A) (pt : Nat) (seg : List Nat)
    (hlt : A.length ≤ pt) (hpt : pt ≤ 10) :
    Rp (S.take pt ++ [seg] ++ S.drop (pt + 1)) (A ++ List.replicate (pt - A.length) [] ++ [seg]) := by
  have hlo := h.lo
  have hlenS := h.lenS
  have htake : S.take pt = A ++ List.replicate (pt - A.length) [] := by
    rw [h.take_pad pt (by omega), List.take_of_length_le hlt]
  refine rp_of_tail (by rw [htake]) (h.drop_absent (by omega)) ?_ ?_ ?_
  · simp only [List.length_append, List.length_take, List.length_drop, List.length_cons, List.length_nil, hlenS]
    omega
  · simp only [List.length_append, List.length_replicate, List.length_cons, List.length_nil]
    omega
  · have : off (A ++ List.replicate (pt - A.length) [] ++ [seg]) 1 = off A 1 := by
      unfold off
      rw [List.append_assoc, List.take_append_of_le_length (by omega)]
    rw [this]
    exact h.posA

theorem serInv_write {s : Ser} {u : Url} (h : SerInv s u) (pt : Nat) (t : List Nat)
    (hlt : s.lastPt < pt) (hpt : pt ≤ 10) :
    ∃ A', s.writePart pt t = ⟨mkRep (layout u) A', pt⟩ ∧ A'.length = pt + 1 ∧
      Rp ((segsOf u).take pt ++ [delim pt ++ t] ++ (segsOf u).drop (pt + 1)) A' := by
  obtain ⟨_, A, hA, hr, hl⟩ := h
  obtain ⟨rep, lastPt⟩ := s
  simp only at hr hl hlt
  subst hr
  have hlo := hA.lo
  refine ⟨_, writePart_later (layout u) A lastPt pt t hl (by omega) hlt hpt, by simp; omega,
    Rp_write hA pt _ (by omega) hpt⟩

/-- `start_part(pt)`, text, `save_part()`, `set_flag(pt)` (PORT, QUERY, FRAGMENT): the state presents any record
    whose segment `pt` is the delimiter and the text, the other segments being those of `u` -/
theorem SerInv.setPart {s : Ser} {u u' : Url} (h : SerInv s u) (pt : Nat) (t : List Nat) (hlt : s.lastPt < pt)
    (hpt : pt ≤ 10) (wf : RecWF u')
    (hsegs : segsOf u' = (segsOf u).take pt ++ [delim pt ++ t] ++ (segsOf u).drop (pt + 1))
    (hfl : SameFields ((layout u).setNotNull pt) (layout u')) :
    SerInv ((s.writePart pt t).setFlag pt) u' ∧ ((s.writePart pt t).setFlag pt).lastPt = pt := by
  obtain ⟨A', h1, h2, h3⟩ := serInv_write h pt t hlt hpt
  rw [h1]
  exact ⟨⟨wf, A', hsegs ▸ h3, (setNotNull_mkRep _ _ _).trans (hfl _), h2⟩, rfl⟩

/-! ### fragment_state, query_state -/

theorem sim_fragment {s : Ser} {u : Url} (h : SerInv s u) (hl : s.lastPt < FRAGMENT) (p : List Nat) :
    Agree (fragmentStateSer s p) (fragmentState u p) := by
  unfold fragmentStateSer fragmentState
  exact ⟨rfl, SerInv.final (h.setPart (u' := { u with fragment := some (percentEncode fragmentNoEnc p) })
    FRAGMENT (percentEncode fragmentNoEnc p) hl (by decide) h.1 rfl fun _ => rfl).1⟩

theorem sim_query {s : Ser} {u : Url} (h : SerInv s u) (hl : s.lastPt < QUERY) (p : List Nat) :
    Agree (queryStateSer s p) (queryState none u p) := by
  unfold queryStateSer queryState
  simp only [Option.isSome_none, Bool.false_eq_true, if_false, h.special]
  generalize hq : percentEncode (if u.isSpecial = true then specialQueryNoEnc else queryNoEnc)
    (p.takeWhile (· != 0x23)) = q
  obtain ⟨hinv, hlast⟩ := h.setPart (u' := { u with query := some q }) QUERY q hl (by decide) h.1 rfl fun _ => rfl
  cases hrest : p.dropWhile (· != 0x23) with
  | nil => exact ⟨rfl, SerInv.final hinv⟩
  | cons c r => exact sim_fragment hinv (by rw [hlast]; decide) r

theorem sim_afterPath {s : Ser} {u : Url} (h : SerInv s u) (hl : s.lastPt < QUERY) (rest : List Nat) :
    Agree (afterPathSer s rest) (afterPath none u rest) := by
  unfold afterPathSer afterPath
  cases rest with
  | nil => exact ⟨rfl, s.lastPt, h⟩
  | cons c r =>
    exact Agree.ite (fun _ => sim_query h hl r) fun _ => sim_fragment h (Nat.lt_trans hl (by decide)) r

/-! ### the invariant right after the scheme -/

/-- only "scheme:" is written; the record has the scheme (and possibly the opaque-path flag) only -/
structure SchInv (s : Ser) (u : Url) : Prop where
  sch : u.scheme ≠ []
  last : s.lastPt = SCHEME
  rep : s.rep = schemeRep (layout u) u.scheme
  host : u.host = none
  user : u.username = []
  pass : u.password = []
  port : u.port = none
  path : pathText u = []
  query : u.query = none
  frag : u.fragment = none

theorem SchInv.wf {s : Ser} {u : Url} (h : SchInv s u) : RecWF u :=
  ⟨h.sch, fun _ => ⟨h.user, h.pass, h.port⟩⟩

theorem SchInv.eq {s : Ser} {u : Url} (h : SchInv s u) : s = ⟨schemeRep (layout u) u.scheme, SCHEME⟩ := by
  obtain ⟨rep, lastPt⟩ := s
  have h1 := h.last; have h2 := h.rep
  simp only at h1 h2
  rw [h1, h2]

theorem SchInv.special {s : Ser} {u : Url} (h : SchInv s u) : s.rep.isSpecialScheme = u.isSpecial :=
  isSpecialScheme_of_idx (congrArg Rep.schemeIdx h.rep)

theorem SchInv.file {s : Ser} {u : Url} (h : SchInv s u) : s.rep.isFileScheme = u.isFile :=
  isFileScheme_of_idx (congrArg Rep.schemeIdx h.rep)

theorem needsPathPrefix_of_pathText_nil {u : Url} (h : pathText u = []) : needsPathPrefix u = false := by
  unfold needsPathPrefix
  cases ho : u.hasOpaquePath with
  | true => simp
  | false =>
    have : u.path = [] := ptext_eq_nil (by rw [← pathText_ptext ho]; exact h)
    simp [this]

theorem SchInv.segs {s : Ser} {u : Url} (h : SchInv s u) :
    segsOf u = [u.scheme, [0x3A], [], [], [], [], [], [], [], [], []] := by
  simp [segsOf, sepSeg, userSeg, passSeg, atSeg, portSeg, prefixSeg, querySeg, fragSeg, credOn,
    Url.hostText, h.host, h.path, h.query, h.frag, needsPathPrefix_of_pathText_nil h.path]

theorem schInv_write {s : Ser} {u : Url} (h : SchInv s u) (pt : Nat) (t : List Nat) (h2 : 2 ≤ pt) (hpt : pt ≤ 10) :
    s.writePart pt t =
      ⟨mkRep (layout u) ([u.scheme, 0x3A :: sepFor pt] ++ List.replicate (pt - 2) [] ++ [delim pt ++ t]), pt⟩ := by
  rw [h.eq]
  exact writePart_scheme _ _ pt t h2 hpt

/-! ### opaque_path_state -/

theorem sim_opaquePath {s : Ser} {u : Url} (h : SchInv s u) (ho : u.hasOpaquePath = true)
    (hop : u.opaquePath = []) (p : List Nat) :
    Agree (opaquePathStateSer s p) (opaquePathState none u p) := by
  unfold opaquePathStateSer opaquePathState
  dsimp only
  generalize percentEncodeC0 (p.takeWhile (fun c => !isQorH c)) = t
  rw [schInv_write h PATH t (by simp [PATH]) (by simp [PATH]),
    sameFields_of_nil (r := layout u) (r' := layout { u with opaquePath := u.opaquePath ++ t }) rfl]
  have hinv := serInv_of_segs (u := { u with opaquePath := u.opaquePath ++ t }) (l := PATH)
    (A := [u.scheme, 0x3A :: sepFor PATH] ++ List.replicate (PATH - 2) [] ++ [delim PATH ++ t])
    h.wf (by simp [PATH]) (by decide) (by decide) (by
      rw [show segsOf { u with opaquePath := u.opaquePath ++ t } = (segsOf u).take 8 ++
        [pathText { u with opaquePath := u.opaquePath ++ t }] ++ (segsOf u).drop 9 from rfl, h.segs]
      simp [pathText, ho, hop, sepFor, delim, PATH, HOST, PORT, QUERY, FRAGMENT, List.replicate])
  exact sim_afterPath hinv (by simp [PATH, QUERY]) _

/-! ### the path -/

/-- the invariant of the `while (true)` loop of `parse_path` (and of the states that copy the base's
    path before it): the path is a list, nothing after it is written, and either no segment was
    written yet, or the path is the last started part — the "/." prefix, if any, is the one of the
    base (`append_parts`), it is fixed by `commit_path` -/
def PathInv (s : Ser) (u : Url) : Prop :=
  u.hasOpaquePath = false ∧ RecWF u ∧ NoSlash u.path ∧ u.query = none ∧ u.fragment = none ∧
  ((u.path = [] ∧ (SchInv s u ∨ (SerInv s u ∧ s.lastPt < PATH))) ∨
   (s.lastPt = PATH ∧ ∃ pfx, (pfx = [] ∨ pfx = [0x2F, 0x2E]) ∧
      s.rep = mkRep (layout u) ((segsOf u).take 7 ++ [pfx] ++ [ptext u.path])))

theorem noSlash_nil : NoSlash [] := fun _ hx => absurd hx List.not_mem_nil

theorem SerInv.pathInv {s : Ser} {u : Url} (h : SerInv s u) (hl : s.lastPt < PATH)
    (ho : u.hasOpaquePath = false) (hp : u.path = []) (hq : u.query = none) (hf : u.fragment = none) :
    PathInv s u :=
  ⟨ho, h.1, hp ▸ noSlash_nil, hq, hf, Or.inl ⟨hp, Or.inr ⟨h, hl⟩⟩⟩

theorem segs_take7 (u : Url) (p : List (List Nat)) :
    (segsOf { u with path := p }).take 7 = (segsOf u).take 7 := by
  simp [segsOf, sepSeg, userSeg, passSeg, atSeg, portSeg, credOn, Url.hostText, Url.hasCredentials]

theorem PathInv.file {s : Ser} {u : Url} (h : PathInv s u) : s.rep.isFileScheme = u.isFile := by
  obtain ⟨_, _, _, _, _, h | h⟩ := h
  · rcases h.2 with h | h
    · exact h.file
    · exact h.1.file
  · obtain ⟨_, pfx, _, hr⟩ := h
    exact isFileScheme_of_idx (congrArg Rep.schemeIdx hr)

theorem PathInv.special {s : Ser} {u : Url} (h : PathInv s u) : s.rep.isSpecialScheme = u.isSpecial := by
  obtain ⟨_, _, _, _, _, h | h⟩ := h
  · rcases h.2 with h | h
    · exact h.special
    · exact h.1.special
  · obtain ⟨_, pfx, _, hr⟩ := h
    exact isSpecialScheme_of_idx (congrArg Rep.schemeIdx hr)

theorem segCount_layout {u : Url} (ho : u.hasOpaquePath = false) : (layout u).segCount = u.path.length := by
  show (if u.hasOpaquePath = true then 0 else u.path.length) = _
  rw [ho]
  rfl

theorem PathInv.segCount {s : Ser} {u : Url} (h : PathInv s u) : s.rep.segCount = u.path.length := by
  obtain ⟨ho, _, _, _, _, h | h⟩ := h
  · rcases h.2 with h | h
    · rw [h.rep]; exact segCount_layout ho
    · obtain ⟨_, A, _, hr, _⟩ := h.1
      rw [hr]; exact segCount_layout ho
  · obtain ⟨_, pfx, _, hr⟩ := h
    rw [hr]; exact segCount_layout ho

theorem PathInv.isEmptyPath {s : Ser} {u : Url} (h : PathInv s u) : s.isEmptyPath = u.path.isEmpty := by
  unfold Ser.isEmptyPath
  rw [h.segCount]
  cases u.path <;> simp

theorem noSlash_append {p : List (List Nat)} {seg : List Nat} (hp : NoSlash p) (hs : ∀ c ∈ seg, c ≠ 0x2F) :
    NoSlash (p ++ [seg]) := by
  intro x hx
  rcases List.mem_append.1 hx with h | h
  · exact hp x h
  · rw [List.mem_singleton.1 h]; exact hs

theorem pathInv_push {s : Ser} {u : Url} (h : PathInv s u) (seg : List Nat) (hs : ∀ c ∈ seg, c ≠ 0x2F) :
    PathInv (s.pushSegment seg) { u with path := u.path ++ [seg] } := by
  obtain ⟨ho, wf, hns, hq, hf, hc⟩ := h
  refine ⟨ho, wf, noSlash_append hns hs, hq, hf, Or.inr ?_⟩
  have hcong : ∀ A, mkRep { layout u with segCount := (layout u).segCount + 1 } A =
      mkRep (layout { u with path := u.path ++ [seg] }) A := by
    intro A
    refine mkRep_congr rfl rfl rfl rfl rfl rfl ?_ rfl rfl
    show (layout u).segCount + 1 = _
    rw [segCount_layout ho, segCount_layout (u := { u with path := u.path ++ [seg] }) ho, List.length_append]
    rfl
  rcases hc with ⟨hp, hc⟩ | ⟨hl, pfx, hpfx, hr⟩
  · rcases hc with hc | ⟨hc, hl⟩
    · -- right after the scheme
      rw [hc.eq, push_scheme]
      refine ⟨rfl, [], Or.inl rfl, ?_⟩
      simp only
      rw [hcong, segs_take7 u (u.path ++ [seg]), hc.segs, hp]
      simp [ptext]
    · -- after the host / port
      obtain ⟨_, A, hA, hr, hlen⟩ := hc
      obtain ⟨rep, lastPt⟩ := s
      simp only at hr hlen hl
      subst hr
      have hlo := hA.lo
      rw [push_later _ A lastPt seg hlen (by omega) hl]
      refine ⟨rfl, [], Or.inl rfl, ?_⟩
      simp only
      rw [hcong, segs_take7 u (u.path ++ [seg]), hp]
      have htk : (segsOf u).take 8 = A ++ List.replicate (8 - A.length) [] := by
        rw [hA.take_pad 8 (by omega), List.take_of_length_le (by simp only [PATH] at hl; omega)]
      have h8 : (segsOf u).take 8 = (segsOf u).take 7 ++ [[]] := by
        have hpt : pathText u = [] := by rw [pathText_ptext ho, hp]; rfl
        simp [segsOf, prefixSeg, needsPathPrefix_of_pathText_nil hpt]
      rw [← htk, h8]
      simp [ptext]
  · obtain ⟨rep, lastPt⟩ := s
    simp only at hr hl
    subst hr hl
    have hX : ((segsOf u).take 7 ++ [pfx]).length = 8 := by simp [segsOf]
    rw [push_started _ _ _ seg hX]
    refine ⟨rfl, pfx, hpfx, ?_⟩
    simp only
    rw [hcong, segs_take7 u (u.path ++ [seg]), ptext_append]

theorem shortenPath_eq (u : Url) : shortenPath u = { u with path := shortenList u.isFile u.path } := by
  obtain ⟨p, hp, -⟩ := Proofs.C08.shortenPath_spec u
  rw [← shortenPath_path, hp]

theorem noSlash_shorten {p : List (List Nat)} (isFile : Bool) (hp : NoSlash p) : NoSlash (shortenList isFile p) :=
  fun x hx => hp x (shortenList_subset isFile p x hx)

theorem shortenList_nil (isFile : Bool) : shortenList isFile [] = [] := rfl

theorem pathInv_shorten {s : Ser} {u : Url} (h : PathInv s u) : PathInv s.shortenPath (shortenPath u) := by
  rw [shortenPath_eq]
  have hsc := h.segCount
  have hfile := h.file
  obtain ⟨ho, wf, hns, hq, hf, hc⟩ := h
  rcases hc with ⟨hp, hc⟩ | ⟨hl, pfx, hpfx, hr⟩
  · -- no segment yet: nothing to shorten
    have e1 : s.shortenPath = s := by
      unfold Ser.shortenPath Rep.getShortenPath
      rw [hsc, hp]
      simp
    have e2 : ({ u with path := shortenList u.isFile u.path } : Url) = u := by
      rw [hp, shortenList_nil, ← hp]
    rw [e1, e2]
    exact ⟨ho, wf, hns, hq, hf, Or.inl ⟨hp, hc⟩⟩
  · refine ⟨ho, wf, noSlash_shorten _ hns, hq, hf, Or.inr ?_⟩
    obtain ⟨rep, lastPt⟩ := s
    simp only at hr hl hsc hfile
    subst hr hl
    have hX : ((segsOf u).take 7 ++ [pfx]).length = 8 := by simp [segsOf]
    rw [shorten_started (layout u) _ u.path u.isFile hX ho hsc hfile hns]
    refine ⟨rfl, pfx, hpfx, ?_⟩
    simp only
    rw [segs_take7 u (shortenList u.isFile u.path)]
    exact mkRep_congr rfl rfl rfl rfl rfl rfl
      (segCount_layout (u := { u with path := shortenList u.isFile u.path }) ho).symm rfl rfl

theorem enc_noSlash (seg : List Nat) (hs : ∀ c ∈ seg, c ≠ 0x2F) :
    ∀ c ∈ percentEncode pathNoEnc seg, c ≠ 0x2F := fun c hc => by
  rcases Proofs.C14.mem_percentEncode hc with ⟨h, -⟩ | rfl | h
  · exact hs c h
  · decide
  · rintro rfl; exact absurd h (by decide)

/-- one iteration of the loop of `parse_path` -/
theorem pathInv_segment {s : Ser} {u : Url} (h : PathInv s u) (seg : List Nat) (l : Bool)
    (hs : ∀ c ∈ seg, c ≠ 0x2F) :
    PathInv (pathSegmentSer s seg l) (pathSegment u seg l) ∧
      (l = true → (pathSegment u seg l).path ≠ []) := by
  have hnil : ∀ c ∈ ([] : List Nat), c ≠ 0x2F := by simp
  have henc : PathInv (s.pushSegment (percentEncode pathNoEnc seg))
      { u with path := u.path ++ [percentEncode pathNoEnc seg] } ∧
      (l = true → ({ u with path := u.path ++ [percentEncode pathNoEnc seg] } : Url).path ≠ []) :=
    ⟨pathInv_push h _ (enc_noSlash seg hs), fun _ => by simp⟩
  unfold pathSegmentSer pathSegment
  by_cases hdd : doubleDot seg = true
  · -- ".."
    rw [if_pos hdd, if_pos hdd]
    have h2 := pathInv_shorten h
    cases l with
    | true => exact ⟨pathInv_push h2 [] hnil, fun _ => by simp⟩
    | false => exact ⟨h2, fun hc => by simp at hc⟩
  · rw [if_neg hdd, if_neg hdd]
    by_cases hsd : singleDot seg = true
    · -- "."
      rw [if_pos hsd, if_pos hsd]
      cases l with
      | true => exact ⟨pathInv_push h [] hnil, fun _ => by simp⟩
      | false => exact ⟨h, fun hc => by simp at hc⟩
    · rw [if_neg hsd, if_neg hsd]
      match seg, hs, henc with
      | [], _, henc => exact henc
      | [a], _, henc => exact henc
      | a :: b :: c :: r, _, henc => exact henc
      | [a, c], hs, henc =>
        simp only
        rw [h.file, h.isEmptyPath]
        split
        · next hc =>
          simp only [Bool.and_eq_true, isWindowsDrive] at hc
          refine ⟨pathInv_push h [a, 0x3A] ?_, fun _ => by simp⟩
          intro x hx
          simp only [List.mem_cons, List.not_mem_nil, or_false] at hx
          rcases hx with rfl | rfl
          · have := (isAlpha_iff x).1 hc.2.1
            omega
          · decide
        · exact henc

theorem pathInv_segments : ∀ (segs : List (List Nat)) {s : Ser} {u : Url}, PathInv s u → segs ≠ [] →
    (∀ seg ∈ segs, ∀ c ∈ seg, c ≠ 0x2F) →
    PathInv (pathSegmentsSer s segs) (pathSegments u segs) ∧ (pathSegments u segs).path ≠ [] := by
  intro segs
  induction segs with
  | nil => intro s u _ h; exact absurd rfl h
  | cons seg rest ih =>
    intro s u h _ hsegs
    cases rest with
    | nil =>
      have := pathInv_segment h seg true (hsegs seg List.mem_cons_self)
      exact ⟨by simpa [pathSegmentsSer, pathSegments] using this.1,
        by simpa [pathSegments] using this.2 rfl⟩
    | cons s2 rest =>
      have h1 := (pathInv_segment h seg false (hsegs seg List.mem_cons_self)).1
      have := ih h1 (by simp) (fun sg hsg => hsegs sg (List.mem_cons_of_mem _ hsg))
      simpa [pathSegmentsSer, pathSegments] using this

theorem pathInv_parsePath {s : Ser} {u : Url} (h : PathInv s u) (str : List Nat) :
    PathInv (parsePathSer s str) (parsePath u str) ∧ (parsePath u str).path ≠ [] := by
  have e : parsePathSer s str = pathSegmentsSer s (splitOnP (Proofs.C08.pathSep u.isSpecial) str) := by
    unfold parsePathSer
    rw [h.special]
    cases u.isSpecial
    · rw [Proofs.C08.pathSep_false]; rfl
    · rw [Proofs.C08.pathSep_true]; rfl
  rw [e, Proofs.C08.parsePath_eq]
  exact pathInv_segments _ h (Proofs.C17.splitOnP_ne_nil _ str) fun seg hseg c hc hc2 => by
    have := (Proofs.C17.splitOnP_mem (Proofs.C08.pathSep u.isSpecial) str seg hseg c hc).2
    simp [Proofs.C08.pathSep, hc2] at this

/-- `commit_path` after the loop: the nine started segments, with the prefix `pfx` they happen to have, are an
    `Rp` of themselves; `adjust_S` replaces `pfx` by the prefix `wantPrefix` asks for, and with no "/" inside a
    segment that is the prefix of the from-scratch layout, so the result presents `u` -/
theorem pathInv_commit {s : Ser} {u : Url} (h : PathInv s u) (hne : u.path ≠ []) :
    SerInv s.commitPath u ∧ s.commitPath.lastPt = PATH := by
  obtain ⟨ho, wf, hns, hq, hf, hc⟩ := h
  rcases hc with ⟨hp, _⟩ | ⟨hl, pfx, hpfx, hr⟩
  · exact absurd hp hne
  · obtain ⟨rep, lastPt⟩ := s
    simp only at hr hl
    subst hr hl
    have hpos : 0 < u.scheme.length := List.length_pos_iff.mpr wf.1
    have hlen : ((segsOf u).take 7 ++ [pfx] ++ [ptext u.path]).length = 9 := rfl
    have hRp : Rp [u.scheme, 0x3A :: sepSeg u, userSeg u, passSeg u, atSeg u, u.hostText, portSeg u, pfx,
        ptext u.path, [], []]
        ((segsOf u).take 7 ++ [pfx] ++ [ptext u.path]) :=
      ⟨rfl, by rw [hlen]; decide, by rw [hlen]; decide, rfl, by simpa [off] using hpos⟩
    obtain ⟨A', h1, h2, h3⟩ := adjust_S (layout u) hRp (by rw [hlen]; decide) hpfx
    -- `commitPath` unfolded by hand (left folded, checking `h1` against it evaluates `adjustPathPrefix`: slow)
    show SerInv ⟨adjustPathPrefix (mkRep (layout u) ((segsOf u).take 7 ++ [pfx] ++ [ptext u.path])), PATH⟩ u ∧
      PATH = PATH
    refine ⟨⟨wf, A', ?_, h1, h3.trans hlen⟩, rfl⟩
    have hw := wantPrefix_eq (layout u).hostNotNull u.path hns.head
    have hsc : (layout u).segCount = u.path.length := segCount_layout ho
    have e : segsOf u = [u.scheme, 0x3A :: sepSeg u, userSeg u, passSeg u, atSeg u, u.hostText, portSeg u,
        (if wantPrefix (layout u).hostNotNull (layout u).segCount (ptext u.path) then [0x2F, 0x2E] else []),
        ptext u.path, [], []] := by
      rw [hsc, hw]
      unfold ptext
      cases hh : u.host <;>
      simp [segsOf, prefixSeg, querySeg, fragSeg, pathText, needsPathPrefix, layout, ho, hq, hf, hh]
    rw [e]; exact h2

/-! ### path_state, path_start_state -/

theorem sim_pathState {s : Ser} {u : Url} (h : PathInv s u) (p : List Nat) :
    Agree (pathStateSer s p) (pathState none u p) := by
  unfold pathStateSer pathState
  simp only [Option.isSome_none, Bool.false_eq_true, if_false]
  obtain ⟨h1, h2⟩ := pathInv_parsePath h (p.takeWhile (fun c => !isQorH c))
  obtain ⟨h3, h4⟩ := pathInv_commit h1 h2
  exact sim_afterPath h3 (by rw [h4]; simp [PATH, QUERY]) _

/-- the host (and possibly the port) is written, nothing after it -/
def HostPre (s : Ser) (u : Url) : Prop :=
  SerInv s u ∧ s.lastPt ≤ PORT ∧ u.hasOpaquePath = false ∧ u.host.isSome = true

theorem HostPre.ser {s : Ser} {u : Url} (h : HostPre s u) : SerInv s u := h.1
theorem HostPre.last_le {s : Ser} {u : Url} (h : HostPre s u) : s.lastPt ≤ PORT := h.2.1
theorem HostPre.list {s : Ser} {u : Url} (h : HostPre s u) : u.hasOpaquePath = false := h.2.2.1
theorem HostPre.host {s : Ser} {u : Url} (h : HostPre s u) : u.host.isSome = true := h.2.2.2

theorem HostPre.tail {s : Ser} {u : Url} (h : HostPre s u) :
    prefixSeg u = [] ∧ u.path = [] ∧ u.query = none ∧ u.fragment = none := by
  obtain ⟨⟨_, A, hA, _, hl⟩, h6, ho, _⟩ := h
  have := hA.drop_absent (n := 7) (by simp only [PORT] at h6; omega)
  simp [segsOf] at this
  obtain ⟨h1, h2, h3, h4⟩ := this
  refine ⟨h1, ptext_eq_nil (by rw [← pathText_ptext ho]; exact h2), ?_, ?_⟩
  · cases hq : u.query with
    | none => rfl
    | some q => simp [querySeg, hq] at h3
  · cases hq : u.fragment with
    | none => rfl
    | some q => simp [fragSeg, hq] at h4

theorem HostPre.pathInv {s : Ser} {u : Url} (h : HostPre s u) : PathInv s u := by
  obtain ⟨_, hp, hq, hf⟩ := h.tail
  exact h.ser.pathInv (Nat.lt_of_le_of_lt h.last_le (by decide)) h.list hp hq hf

theorem sim_pathStart {s : Ser} {u : Url} (h : HostPre s u) (p : List Nat) :
    Agree (pathStartStateSer s p) (pathStartState none u p) := by
  have hq : s.lastPt < QUERY := Nat.lt_of_le_of_lt h.last_le (by decide)
  have hpath : ∀ q, Agree (pathStateSer s q) (pathState none u q) := sim_pathState h.pathInv
  unfold pathStartStateSer pathStartState
  rw [h.1.special]
  refine Agree.ite (fun _ => ?_) fun _ => ?_
  · cases p with
    | nil => exact hpath _
    | cons c r => exact Agree.ite (fun _ => hpath _) fun _ => hpath _
  · cases p with
    | nil =>
      simp only [Option.isSome_none, Bool.false_and, Bool.false_eq_true, if_false]
      obtain ⟨h7, _, _, _⟩ := h.tail
      obtain ⟨wf, A, hA, hr, hl⟩ := h.1
      refine ⟨rfl, s.lastPt, wf, A, hA, ?_, hl⟩
      unfold segsOf at hA
      show adjustPathPrefix s.rep = _
      rw [hr]
      exact adjust_none (layout u) hA h.host h7
    | cons c r =>
      simp only [Option.isNone_none, if_true]
      exact Agree.ite (fun _ => sim_query h.1 hq _) fun _ =>
        Agree.ite (fun _ => sim_fragment h.1 (Nat.lt_trans hq (by decide)) _) fun _ =>
          Agree.ite (fun _ => hpath _) fun _ => hpath _

/-! ### port_state -/

theorem sim_port {s : Ser} {u : Url} (h : HostPre s u) (hl : s.lastPt = HOST) (hport : u.port = none)
    (p : List Nat) : Agree (portStateSer s p) (portState none u p) := by
  unfold portStateSer portState
  rw [h.1.special]
  dsimp only
  show Agree (if Proofs.C08.portIsEnd u (p.dropWhile isDigit) = true then _ else _)
    (if (Proofs.C08.portIsEnd u (p.dropWhile isDigit) || _) = true then _ else _)
  generalize Proofs.C08.portIsEnd u (p.dropWhile isDigit) = isEnd
  cases isEnd with
  | false => exact Agree.fail nofun
  | true =>
    simp only [Option.isSome_none, Bool.or_false, if_true, Bool.false_eq_true, if_false]
    by_cases hd : p.takeWhile isDigit = []
    · simp only [hd, ne_eq, not_true_eq_false, if_false]
      exact sim_pathStart h _
    · simp only [ne_eq, hd, not_false_eq_true, if_true]
      by_cases h5 : (stripLeadingZeros (p.takeWhile isDigit)).length > 5
      · simp only [h5, if_true]
        exact Agree.fail nofun
      · simp only [h5, if_false]
        by_cases hbig : decimalValue (stripLeadingZeros (p.takeWhile isDigit)) > 0xFFFF
        · simp only [hbig, if_true]
          exact Agree.fail nofun
        · simp only [hbig, if_false]
          rw [portTest_of_idx (schemeIdx_eq h.1.repFor)]
          by_cases hdef : defaultPort u.scheme =
              some (decimalValue (stripLeadingZeros (p.takeWhile isDigit)))
          · simp only [hdef, bne_self_eq_false, Bool.false_eq_true, if_false, if_true]
            have e : ({ u with port := none } : Url) = u := by rw [← hport]
            rw [e]
            exact sim_pathStart h _
          · simp only [bne_iff_ne.2 hdef, hdef, if_true, if_false]
            generalize hdg : stripLeadingZeros (p.takeWhile isDigit) = d at *
            have hdec : toDecimal (decimalValue d) = d := by
              rw [← hdg]; exact port_digits _ hd (fun c hc => (mem_takeWhile hc).1)
            obtain ⟨x, hx⟩ := Option.isSome_iff_exists.mp h.host
            obtain ⟨hinv, hlast⟩ := h.1.setPart (u' := { u with port := some (decimalValue d) }) PORT d
              (by rw [hl]; decide) (by decide) ⟨h.1.1.1, fun hc => by simp [hx] at hc⟩
              (by
                rw [show segsOf { u with port := some (decimalValue d) } = (segsOf u).take PORT ++
                  [portSeg { u with port := some (decimalValue d) }] ++ (segsOf u).drop (PORT + 1) from rfl]
                simp [portSeg, hx, hdec, delim, PORT])
              fun _ => rfl
            exact sim_pathStart ⟨hinv, Nat.le_of_eq hlast, h.list, h.host⟩ _

/-! ### authority_state, host_state -/

/-- after the credentials (if any) were written: nothing, the username, or username and password -/
def CredInv (s : Ser) (u : Url) : Prop :=
  u.scheme ≠ [] ∧ u.host = none ∧ u.port = none ∧ pathText u = [] ∧ u.query = none ∧ u.fragment = none ∧
  ((s = ⟨schemeRep (layout u) u.scheme, SCHEME⟩ ∧ u.username = [] ∧ u.password = []) ∨
   (s = ⟨mkRep (layout u) [u.scheme, [0x3A, 0x2F, 0x2F], u.username], USERNAME⟩ ∧
      u.username ≠ [] ∧ u.password = []) ∨
   (s = ⟨mkRep (layout u) [u.scheme, [0x3A, 0x2F, 0x2F], u.username, 0x3A :: u.password], PASSWORD⟩ ∧
      u.password ≠ []))

theorem SchInv.cred {s : Ser} {u : Url} (h : SchInv s u) : CredInv s u :=
  ⟨h.sch, h.host, h.port, h.path, h.query, h.frag, Or.inl ⟨h.eq, h.user, h.pass⟩⟩

theorem CredInv.port {s : Ser} {u : Url} (h : CredInv s u) : u.port = none := h.2.2.1

theorem CredInv.special {s : Ser} {u : Url} (h : CredInv s u) : s.rep.isSpecialScheme = u.isSpecial := by
  obtain ⟨_, _, _, _, _, _, h | h | h⟩ := h <;>
  exact isSpecialScheme_of_idx (congrArg (·.rep.schemeIdx) h.1)

theorem parseHostSer_eq (idna : Idna) (s : Ser) (str : List Nat) :
    parseHostSer idna s str =
      (parseHost idna str (!s.rep.isSpecialScheme)).map (fun h => s.writeHost h.text (hostKindCode h.kind)) := by
  unfold parseHostSer
  cases str with
  | nil =>
    simp only [parseHost]
    split <;> rfl
  | cons c r =>
    simp only
    split <;> simp_all

theorem credInv_host {s : Ser} {u : Url} (h : CredInv s u) (ho : u.hasOpaquePath = false) (hd : Host) :
    HostPre (s.writeHost hd.text (hostKindCode hd.kind)) { u with host := some hd } ∧
      (s.writeHost hd.text (hostKindCode hd.kind)).lastPt = HOST := by
  obtain ⟨hsch, hh, hport, hpath, hq, hf, hc⟩ := h
  have hwf : RecWF { u with host := some hd } := ⟨hsch, fun hc => by simp at hc⟩
  have hpp : u.path = [] := ptext_eq_nil (by rw [← pathText_ptext ho]; exact hpath)
  -- in each of the three shapes the host is written after what is there, and the host type set
  have key : ∀ A, s.writePart HOST hd.text = ⟨mkRep (layout u) A, HOST⟩ → A.length = 6 →
      segsOf { u with host := some hd } = A ++ List.replicate (10 - HOST) [] →
      HostPre (s.writeHost hd.text (hostKindCode hd.kind)) { u with host := some hd } ∧
        (s.writeHost hd.text (hostKindCode hd.kind)).lastPt = HOST := by
    intro A hw hA hsegs
    rw [writeHost_of_writePart hw (by omega) (hostKindCode hd.kind),
      sameFields_of_nil (r := (layout u).setHostType (hostKindCode hd.kind)) (r' := layout { u with host := some hd }) rfl A]
    exact ⟨⟨serInv_of_segs hwf HOST hA (by decide) (by decide) hsegs, by simp [HOST, PORT], ho, rfl⟩, rfl⟩
  rcases hc with ⟨hs, hu, hp⟩ | ⟨hs, hu, hp⟩ | ⟨hs, hp⟩
  · refine key _ (hs ▸ writePart_scheme (layout u) u.scheme HOST hd.text (by decide) (by decide)) (by simp [HOST]) ?_
    simp [segsOf, sepSeg, userSeg, passSeg, atSeg, portSeg, prefixSeg, querySeg, fragSeg, credOn,
      Url.hostText, Url.hasCredentials, hu, hp, hport, pathText, needsPathPrefix, ho, hpp, hq, hf, sepFor,
      delim, HOST, PORT, QUERY, FRAGMENT, List.replicate]
  · refine key _ (hs ▸ writePart_user_host (layout u) u.scheme [0x3A, 0x2F, 0x2F] u.username hd.text) rfl ?_
    simp [segsOf, sepSeg, userSeg, passSeg, atSeg, portSeg, prefixSeg, querySeg, fragSeg, credOn,
      Url.hostText, Url.hasCredentials, hu, hp, hport, pathText, needsPathPrefix, ho, hpp, hq, hf, HOST,
      List.replicate]
  · refine key _ (hs ▸ writePart_pass_host (layout u) u.scheme [0x3A, 0x2F, 0x2F] u.username (0x3A :: u.password)
      hd.text) rfl ?_
    simp [segsOf, sepSeg, userSeg, passSeg, atSeg, portSeg, prefixSeg, querySeg, fragSeg, credOn,
      Url.hostText, Url.hasCredentials, hp, hport, pathText, needsPathPrefix, ho, hpp, hq, hf, HOST,
      List.replicate]

theorem sim_hostState (idna : Idna) {s : Ser} {u : Url} (h : CredInv s u) (ho : u.hasOpaquePath = false)
    (p : List Nat) : Agree (hostStateSer idna s p) (hostState idna none u p) := by
  unfold hostStateSer hostState
  simp only [parseHostSer_eq, h.special, Option.isSome_none, Bool.false_and, Bool.false_eq_true, if_false,
    Bool.and_false]
  generalize (if u.isSpecial = true then isSpecialAuthorityEnd else isAuthorityEnd) = isEndC
  cases hscan : hostScan (p.takeWhile (fun c => !isEndC c)) false with
  | mk hostPart portPart =>
    simp only
    split
    · exact Agree.fail nofun
    · have hf : ¬ (portPart.isSome && (none : Option Override) == some Override.hostname) = true := by simp
      simp only [reduceCtorEq, decide_false, Bool.and_false, Bool.false_eq_true, if_false]
      cases hph : parseHost idna hostPart (!u.isSpecial) with
      | none => exact Agree.fail nofun
      | some hd =>
        simp only [Option.map_some]
        obtain ⟨h1, h2⟩ := credInv_host h ho hd
        cases portPart with
        | some pp => exact sim_port h1 h2 h.port _
        | none => exact sim_pathStart h1 _

theorem sim_authority (idna : Idna) {s : Ser} {u : Url} (h : SchInv s u) (ho : u.hasOpaquePath = false)
    (p : List Nat) : Agree (authorityStateSer idna s p) (authorityState idna none u p) := by
  unfold authorityStateSer authorityState
  rw [h.special]
  dsimp only
  generalize (if u.isSpecial = true then isSpecialAuthorityEnd else isAuthorityEnd) = isEndC
  cases hsp : splitLastAt (p.takeWhile (fun c => !isEndC c)) with
  | none => exact sim_hostState idna h.cred ho p
  | some ch =>
    obtain ⟨cred, hostport⟩ := ch
    simp only
    split
    · exact Agree.fail nofun
    · generalize hU : cred.takeWhile (· != 0x3A) = user
      generalize hP : (cred.dropWhile (· != 0x3A)).drop 1 = pw
      apply sim_hostState idna _ (by split <;> exact ho)
      have hpt : ∀ a b, pathText { u with username := a, password := b } = [] := fun _ _ => h.path
      by_cases hpw : pw = []
      · by_cases hus : user = []
        · simp only [hpw, hus, ne_eq, not_true_eq_false, decide_false, Bool.or_self, Bool.false_eq_true, if_false]
          exact h.cred
        · simp only [hpw, hus, ne_eq, not_true_eq_false, not_false_eq_true, decide_false, decide_true,
            Bool.false_or, if_true, if_false]
          rw [schInv_write h USERNAME _ (by simp [USERNAME]) (by simp [USERNAME])]
          refine ⟨h.sch, h.host, h.port, hpt _ _, h.query, h.frag, Or.inr (Or.inl ⟨?_, ?_, h.pass⟩)⟩
          · simp only [sepFor, delim, USERNAME, HOST, PORT, QUERY, FRAGMENT]
            simp
            exact mkRep_congr rfl rfl rfl rfl rfl rfl rfl rfl rfl
          · exact fun hc => hus (Proofs.C02b.enc_eq_nil hc)
      · simp only [hpw, ne_eq, not_false_eq_true, decide_true, Bool.true_or, if_true]
        rw [schInv_write h USERNAME _ (by simp [USERNAME]) (by simp [USERNAME])]
        refine ⟨h.sch, h.host, h.port, hpt _ _, h.query, h.frag, Or.inr (Or.inr ⟨?_, ?_⟩)⟩
        · simp only [sepFor, delim, USERNAME, HOST, PORT, QUERY, FRAGMENT]
          simp
          rw [writePart_user_pass]
          exact congrArg (fun r => (⟨r, PASSWORD⟩ : Ser)) (mkRep_congr rfl rfl rfl rfl rfl rfl rfl rfl rfl)
        · exact fun hc => hpw (Proofs.C02b.enc_eq_nil hc)

theorem sim_ignoreSlashes (idna : Idna) {s : Ser} {u : Url} (h : SchInv s u) (ho : u.hasOpaquePath = false)
    (p : List Nat) : Agree (ignoreSlashesStateSer idna s p) (ignoreSlashesState idna none u p) :=
  sim_authority idna h ho _

theorem sim_specialAuthoritySlashes (idna : Idna) {s : Ser} {u : Url} (h : SchInv s u)
    (ho : u.hasOpaquePath = false) (p : List Nat) :
    Agree (specialAuthoritySlashesStateSer idna s p) (specialAuthoritySlashesState idna none u p) := by
  unfold specialAuthoritySlashesStateSer specialAuthoritySlashesState
  split
  · exact sim_ignoreSlashes idna h ho _
  · split
    · exfalso; simp_all
    · exact sim_ignoreSlashes idna h ho _

/-! ### file_host_state, file_slash_state, file_state -/

/-- a file URL whose host `hd` was just written: "scheme://" ++ host, nothing else -/
def FileInv (s : Ser) (u : Url) (hd : Host) : Prop :=
  u.scheme ≠ [] ∧ u.host = some hd ∧ u.username = [] ∧ u.password = [] ∧ u.port = none ∧
  u.hasOpaquePath = false ∧ u.path = [] ∧ u.query = none ∧ u.fragment = none ∧
  s = ⟨mkRep (layout u) [u.scheme, [0x3A, 0x2F, 0x2F], [], [], [], hd.text], HOST⟩

theorem FileInv.hostPre {s : Ser} {u : Url} {hd : Host} (h : FileInv s u hd) :
    HostPre s u ∧ s.lastPt = HOST := by
  obtain ⟨hsch, hh, hu, hp, hport, ho, hpa, hq, hf, hs⟩ := h
  subst hs
  refine ⟨⟨serInv_of_segs ⟨hsch, fun hc => by simp [hh] at hc⟩ HOST rfl (by decide) (by decide) ?_,
    by simp [HOST, PORT], ho, by simp [hh]⟩, rfl⟩
  simp [segsOf, sepSeg, userSeg, passSeg, atSeg, portSeg, prefixSeg, querySeg, fragSeg, credOn,
    Url.hostText, Url.hasCredentials, hh, hu, hp, hport, pathText, needsPathPrefix, ho, hpa, hq, hf,
    HOST, List.replicate]

theorem FileInv.special {s : Ser} {u : Url} {hd : Host} (h : FileInv s u hd) :
    s.rep.isSpecialScheme = u.isSpecial := h.hostPre.1.1.special

/-- the file host states change the host and nothing else -/
theorem FileInv.setHost {s s' : Ser} {u : Url} {h0 : Host} (h : FileInv s u h0) (hd : Host)
    (hs' : s' = ⟨mkRep ((layout u).setHostType (hostKindCode hd.kind))
      [u.scheme, [0x3A, 0x2F, 0x2F], [], [], [], hd.text], HOST⟩) :
    FileInv s' { u with host := some hd } hd := by
  obtain ⟨hsch, _, hu, hp, hport, ho, hpa, hq, hf, _⟩ := h
  exact ⟨hsch, rfl, hu, hp, hport, ho, hpa, hq, hf,
    hs'.trans (congrArg (fun r => (⟨r, HOST⟩ : Ser)) (sameFields_of_nil rfl _))⟩

theorem FileInv.eq {s : Ser} {u : Url} {hd : Host} (h : FileInv s u hd) :
    s = ⟨mkRep (layout u) ([u.scheme, [0x3A, 0x2F, 0x2F], [], [], []] ++ [hd.text]), HOST⟩ :=
  h.2.2.2.2.2.2.2.2.2

theorem fileInv_host {s : Ser} {u : Url} {h0 : Host} (h : FileInv s u h0) (h0e : h0.text = []) (hd : Host) :
    FileInv (s.writeHost hd.text (hostKindCode hd.kind)) { u with host := some hd } hd := by
  refine h.setHost hd ?_
  rw [h.eq, h0e]
  exact writeHost_of_writePart (writePart_same _ _ [] hd.text HOST rfl (Or.inl rfl)) (by simp) _

theorem fileInv_setEmptyHost {s : Ser} {u : Url} {h0 : Host} (h : FileInv s u h0) (h0e : h0.text = []) :
    FileInv s.setEmptyHost { u with host := some emptyHost } emptyHost := by
  refine h.setHost emptyHost ?_
  rw [h.eq, h0e]
  exact setEmptyHost_of_writePart (writePart_same _ _ [] [] HOST rfl (Or.inl rfl))

theorem fileInv_emptyHost {s : Ser} {u : Url} {hd : Host} (h : FileInv s u hd) :
    FileInv s.emptyHost { u with host := some emptyHost } emptyHost := by
  refine h.setHost emptyHost ?_
  rw [h.eq]
  exact emptyHost_mk _ _ hd.text rfl

theorem FileInv.partView_host {s : Ser} {u : Url} {hd : Host} (h : FileInv s u hd) :
    s.rep.partView HOST = hd.text := by
  rw [SetRepApi.partView_host h.hostPre.1.ser.repFor, Url.hostText, h.2.1]

theorem sim_fileHost (idna : Idna) {s : Ser} {u : Url} {h0 : Host} (h : FileInv s u h0) (h0e : h0.text = [])
    (p : List Nat) : Agree (fileHostStateSer idna s p) (fileHostState idna none u p) := by
  unfold fileHostStateSer fileHostState
  simp only [parseHostSer_eq, h.special, Option.isSome_none, Bool.false_eq_true, if_false, Option.isNone_none,
    Bool.true_and]
  refine Agree.ite (fun _ => sim_pathStart (fileInv_setEmptyHost h h0e).hostPre.1 _) fun _ => ?_
  -- "buffer is a Windows drive letter" (url.h:2180-2182)
  show Agree (if Proofs.C08.isDrive2 (p.takeWhile (fun c => !isSpecialAuthorityEnd c)) = true then _ else _)
    (if Proofs.C08.isDrive2 (p.takeWhile (fun c => !isSpecialAuthorityEnd c)) = true then _ else _)
  refine Agree.ite (fun _ => sim_pathState h.hostPre.1.pathInv _) fun _ => ?_
  cases hph : parseHost idna (p.takeWhile (fun c => !isSpecialAuthorityEnd c)) (!u.isSpecial) with
  | none => exact Agree.fail nofun
  | some hd =>
    simp only [Option.map_some]
    have h1 := fileInv_host h h0e hd
    rw [h1.partView_host]
    by_cases hl : (hd.text == sLocalhost) = true
    · rw [if_pos hl, if_pos hl]
      exact sim_pathStart (fileInv_emptyHost h1).hostPre.1 _
    · rw [if_neg hl, if_neg hl]
      exact sim_pathStart h1.hostPre.1 _

/-! ### the head of the parser before it looks at a base URL: scheme, file host, path or authority -/

theorem SchInv.pathInv {s : Ser} {u : Url} (h : SchInv s u) (ho : u.hasOpaquePath = false) : PathInv s u := by
  have hp : u.path = [] := ptext_eq_nil (by rw [← pathText_ptext ho]; exact h.path)
  refine ⟨ho, h.wf, ?_, h.query, h.frag, Or.inl ⟨hp, Or.inl h⟩⟩
  exact hp ▸ noSlash_nil

/-- `set_empty_host()` right after the scheme (file_state) -/
theorem schInv_setEmptyHost {s : Ser} {u : Url} (h : SchInv s u) (ho : u.hasOpaquePath = false) :
    FileInv s.setEmptyHost { u with host := some emptyHost } emptyHost := by
  have hp : u.path = [] := ptext_eq_nil (by rw [← pathText_ptext ho]; exact h.path)
  refine ⟨h.sch, rfl, h.user, h.pass, h.port, ho, hp, h.query, h.frag, ?_⟩
  have hw := schInv_write h HOST [] (by simp [HOST]) (by simp [HOST])
  rw [setEmptyHost_of_writePart hw]
  simp only [sepFor, delim, HOST, PORT, QUERY, FRAGMENT, emptyHost]
  simp only [Nat.le_refl, if_true, List.replicate, List.cons_append, List.nil_append, Nat.reduceSub,
    Nat.reduceEqDiff, if_false, List.append_nil]
  exact congrArg (fun r => (⟨r, 5⟩ : Ser)) (sameFields_of_nil rfl _)

theorem sim_pathOrAuthority (idna : Idna) {s : Ser} {u : Url} (h : SchInv s u) (ho : u.hasOpaquePath = false)
    (p : List Nat) : Agree (pathOrAuthorityStateSer idna s p) (pathOrAuthorityState idna none u p) := by
  unfold pathOrAuthorityStateSer pathOrAuthorityState
  split
  · exact sim_authority idna h ho _
  · split
    · exfalso; simp_all
    · exact sim_pathState (h.pathInv ho) _

/-- the state after `start_scheme` … `save_scheme` on a fresh url -/
theorem writeScheme_new (sch : List Nat) (hs : sch ≠ []) :
    SchInv (Ser.new.writeScheme sch) { scheme := sch } := by
  refine ⟨hs, rfl, ?_, rfl, rfl, rfl, rfl, rfl, rfl, rfl⟩
  have hv : ({ Rep.cleared with norm := sch, partEnd := Rep.cleared.partEnd.set SCHEME sch.length } : Rep).partView
      SCHEME = sch := by
    simp [Rep.partView, SCHEME, Rep.pe, Rep.cleared, slice]
  simp only [Ser.writeScheme, Ser.new, hv]
  rfl

/-! ### what a finished parse leaves in the raw representation -/

theorem Final.repFor {r : Rep} {u : Url} (h : Final r u) : RepFor r u := by
  obtain ⟨l, hs⟩ := h
  exact hs.repFor

theorem Final.wf {r : Rep} {u : Url} (h : Final r u) : RecWF u := by
  obtain ⟨l, hs⟩ := h
  exact hs.1

/-- the raw offsets: those of the from-scratch layout up to the last started part `l` (at least
    HOST), `0` after it — and the record has no text there -/
theorem Final.exact {r : Rep} {u : Url} (h : Final r u) :
    ∃ l, 5 ≤ l ∧ l ≤ 10 ∧
      r = { layout u with partEnd := (layout u).partEnd.take (l + 1) ++ List.replicate (10 - l) 0 } ∧
      ∀ i, l < i → i ≤ 10 → (layout u).pe i = (layout u).norm.length := by
  obtain ⟨l, wf, A, hA, hr, hl⟩ := h
  simp only at hr hl
  have hlo := hA.lo
  have hhi := hA.hi
  refine ⟨l, by omega, by omega, ?_, ?_⟩
  · rw [hr]
    symm
    apply rep_eq_mkRep <;> try rfl
    · show (layout u).norm = _
      rw [layout_norm, hA.flatten]
    · show (layout u).partEnd.take (l + 1) ++ List.replicate (10 - l) 0 = _
      rw [(layout_segs u).2, ← hl, sums_take, ← hA.take (Nat.le_refl _), List.take_of_length_le (Nat.le_refl _)]
      congr 2; omega
  · intro i hi hi10
    rw [pe_layout u i (by omega), layout_norm]
    unfold off
    have hd := hA.drop_absent (n := i + 1) (by omega)
    have : (segsOf u).flatten = ((segsOf u).take (i + 1)).flatten ++ ((segsOf u).drop (i + 1)).flatten := by
      rw [← List.flatten_append, List.take_append_drop]
    rw [this, hd, List.append_nil]

/-- what the simulation of the whole parser says about `parseRep` and `parse`: they succeed together, and the
    raw representation is the from-scratch layout of the record up to the last started part `l`, `0` after it -/
theorem Agree.parse {idna : Idna} {e : Enc} {units : List Nat} {base : Option Url} {x : Option Rep}
    (h : Agree x (urlParse idna base none {} (prep e (doTrim units)))) :
    x.isSome = (parse idna e units base).isSome ∧
    ∀ (r : Rep) (u : Url), x = some r → parse idna e units base = some u →
      RepFor r u ∧
      ∃ l, 5 ≤ l ∧ l ≤ 10 ∧
        r = { layout u with partEnd := (layout u).partEnd.take (l + 1) ++ List.replicate (10 - l) 0 } ∧
        ∀ i, l < i → i ≤ 10 → (layout u).pe i = (layout u).norm.length := by
  rw [C08.parse_eq]
  cases x with
  | none => exact ⟨by rw [if_neg h]; rfl, fun r u hr => by cases hr⟩
  | some r' =>
    rw [if_pos h.1]
    refine ⟨rfl, fun r u hr hu => ?_⟩
    cases hr
    cases hu
    exact ⟨h.2.repFor, h.2.exact⟩

end Upa.Proofs.ParseRep
