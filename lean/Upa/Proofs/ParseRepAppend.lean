import Upa.Proofs.ParseRepOps
/-
  `url_serializer::append_parts` (Impl/ParseRep.lean `Ser.appendParts`) on a source representation
  presented by segments: for ANY representation `mkRep rb0 B` of the base (any
  pattern of never-started trailing parts), the segments `ifirst .. ilast` of the source are appended
  to the destination and their offsets are those of the destination's own layout.
-/

namespace Upa.Proofs.ParseRep
open Upa Upa.Impl Upa.Proofs.C05 Upa.Proofs.SetRep Upa.Proofs.SetRepApi Upa.Props

/-! ### the `ilast` loop -/

/-- the last part that `append_parts(src, t1, t2)` copies from a source whose started parts are `B`: `t2`, or the
    last started part of the source if that comes first (what the `ilast` loop finds: `scanDown_mk`) -/
def ilastOf (t2 : Nat) (B : List (List Nat)) : Nat := min (t2 + 1) B.length - 1

theorem ilastOf_eq (t2 : Nat) (B : List (List Nat)) :
    (t2 < B.length → ilastOf t2 B = t2) ∧ (B.length ≤ t2 + 1 → ilastOf t2 B = B.length - 1) := by
  unfold ilastOf; omega

theorem ilastOf_le (t2 : Nat) (B : List (List Nat)) : ilastOf t2 B ≤ t2 := by have := ilastOf_eq t2 B; omega

/-- … it is the path when the range ends there and the path was started -/
theorem ilastOf_path {B : List (List Nat)} (h9 : 9 ≤ B.length) : ilastOf PATH B = 8 :=
  (ilastOf_eq PATH B).1 h9

theorem scanDown_mk (r0 : Rep) (B : List (List Nat)) (hpos : 0 < off B 1) (ifirst : Nat) :
    ∀ k, scanDown (mkRep r0 B) ifirst k =
      if ifirst < min k B.length then some (ilastOf (k - 1) B) else none := by
  intro k
  unfold ilastOf
  induction k with
  | zero => simp [scanDown]
  | succ k ih =>
    unfold scanDown
    by_cases h1 : k < ifirst
    · rw [if_pos h1, if_neg (by omega)]
    · rw [if_neg h1]
      by_cases h2 : k < B.length
      · rw [if_pos ((pe_mkRep_ne_zero_iff r0 B hpos k).2 h2), if_pos (by omega)]
        congr 1; omega
      · rw [if_neg (mt (pe_mkRep_ne_zero_iff r0 B hpos k).1 h2), ih]
        have e : min (k + 1) B.length = min k B.length := by omega
        rw [e]
        split
        · congr 1; omega
        · rfl

theorem map_shift_sums (M : List (List Nat)) : ∀ (acc len : Nat),
    (sums acc M).map (fun x => x + len - acc) = sums len M := by
  induction M with
  | nil => intro acc len; rfl
  | cons s ss ih =>
    intro acc len
    simp only [sums_cons, List.map_cons]
    have e : acc + s.length + len - acc = len + s.length := by omega
    rw [e]
    congr 1
    rw [← ih (acc + s.length) (len + s.length)]
    apply List.map_congr_left
    intro x _
    omega

theorem decompB (B : List (List Nat)) (ifirst ilast : Nat) (hil : ifirst ≤ ilast) (hB : ilast < B.length) :
    B = B.take ifirst ++ (B.drop ifirst).take (ilast - ifirst) ++ [B.getD ilast []] ++ B.drop (ilast + 1) := by
  have h1 : B = B.take ifirst ++ B.drop ifirst := (List.take_append_drop _ _).symm
  have h2 : B.drop ifirst = (B.drop ifirst).take (ilast - ifirst) ++ (B.drop ifirst).drop (ilast - ifirst) :=
    (List.take_append_drop _ _).symm
  have h3 : (B.drop ifirst).drop (ilast - ifirst) = B.drop ilast := by
    rw [List.drop_drop]; congr 1; omega
  have h4 : B.drop ilast = B.getD ilast [] :: B.drop (ilast + 1) := by
    rw [List.getD_eq_getElem?_getD, List.getElem?_eq_getElem hB]
    simp
  conv => lhs; rw [h1, h2, h3, h4]
  simp

theorem take_ilast (B : List (List Nat)) (ifirst ilast : Nat) (hil : ifirst ≤ ilast) :
    B.take ilast = B.take ifirst ++ (B.drop ifirst).take (ilast - ifirst) := by
  have e : ilast = ifirst + (ilast - ifirst) := by omega
  conv => lhs; rw [e, List.take_add]

/-- the text and the offsets `append_parts` copies (url.h:2825-2838): the segments `ifirst .. ilast`
    of the source, the last one cut after `m` characters -/
theorem appendCopy (r1 rb0 : Rep) (X B : List (List Nat)) (ifirst ilast m : Nat)
    (h1 : 1 ≤ ifirst) (hil : ifirst ≤ ilast) (hB : ilast < B.length) (hB11 : B.length ≤ 11)
    (hXlen : X.length = ifirst) (hn : r1.norm = X.flatten)
    (hpt : r1.partEnd.take ifirst = sums 0 X)
    (hpd : r1.partEnd.drop (ilast + 1) = List.replicate (10 - ilast) 0)
    (hm : m ≤ (B.getD ilast []).length) :
    ({ r1 with
        norm := r1.norm ++ slice (mkRep rb0 B).norm ((mkRep rb0 B).pe (ifirst - 1)) (off B ilast + m),
        partEnd := r1.partEnd.take ifirst ++
          (((mkRep rb0 B).partEnd.drop ifirst).take (ilast - ifirst)).map
            (fun x => x + r1.norm.length - (mkRep rb0 B).pe (ifirst - 1)) ++
          [off B ilast + m + r1.norm.length - (mkRep rb0 B).pe (ifirst - 1)] ++
          r1.partEnd.drop (ilast + 1) } : Rep) =
      mkRep r1 (X ++ (B.drop ifirst).take (ilast - ifirst) ++ [(B.getD ilast []).take m]) := by
  have hoff : (mkRep rb0 B).pe (ifirst - 1) = off B ifirst := by
    rw [pe_mkRep_lt _ _ _ (by omega)]
    congr 1; omega
  have hoffi : off B ilast = off B ifirst + ((B.drop ifirst).take (ilast - ifirst)).flatten.length := by
    unfold off
    rw [take_ilast B ifirst ilast hil]
    simp
  have hMlen : ((B.drop ifirst).take (ilast - ifirst)).length = ilast - ifirst := by
    simp; omega
  have hdec := decompB B ifirst ilast hil hB
  apply rep_eq_mkRep <;> try rfl
  · -- the string
    show r1.norm ++ slice (mkRep rb0 B).norm ((mkRep rb0 B).pe (ifirst - 1)) (off B ilast + m) = _
    rw [hoff, hn, norm_mkRep]
    have hsl : slice B.flatten (off B ifirst) (off B ilast + m) =
        ((B.drop ifirst).take (ilast - ifirst)).flatten ++ (B.getD ilast []).take m := by
      have e : B.flatten = (B.take ifirst).flatten ++
          (((B.drop ifirst).take (ilast - ifirst)).flatten ++ (B.getD ilast []).take m) ++
          ((B.getD ilast []).drop m ++ (B.drop (ilast + 1)).flatten) := by
        conv => lhs; rw [hdec]
        simp only [List.flatten_append, List.flatten_cons, List.flatten_nil, List.append_nil,
          List.append_assoc]
        congr 2
        rw [← List.append_assoc, List.take_append_drop]
      refine slice_eq e rfl ?_
      rw [hoffi]
      simp only [List.length_append, List.length_take]
      unfold off
      omega
    rw [hsl]
    simp
  · -- the offsets
    show r1.partEnd.take ifirst ++
        (((mkRep rb0 B).partEnd.drop ifirst).take (ilast - ifirst)).map
          (fun x => x + r1.norm.length - (mkRep rb0 B).pe (ifirst - 1)) ++
        [off B ilast + m + r1.norm.length - (mkRep rb0 B).pe (ifirst - 1)] ++
        r1.partEnd.drop (ilast + 1) = _
    have hsrc : ((mkRep rb0 B).partEnd.drop ifirst).take (ilast - ifirst) =
        sums (off B ifirst) ((B.drop ifirst).take (ilast - ifirst)) := by
      show ((sums 0 B ++ List.replicate (11 - B.length) 0).drop ifirst).take (ilast - ifirst) = _
      rw [List.drop_append_of_le_length (by simp; omega), List.take_append_of_le_length (by simp; omega),
        sums_drop, sums_take, Nat.zero_add]
      rfl
    rw [hsrc, hoff, hpt, hpd, map_shift_sums, hn]
    simp only [sums_append, sums_cons, sums_nil, Nat.zero_add, List.length_append, List.length_cons,
      List.length_nil, hXlen, hMlen, List.append_assoc]
    have e1 : off B ilast + m + X.flatten.length - off B ifirst =
        X.flatten.length + ((B.drop ifirst).take (ilast - ifirst)).flatten.length +
          ((B.getD ilast []).take m).length := by
      rw [hoffi]
      simp only [List.length_take]
      omega
    have e2 : 11 - (ifirst + (ilast - ifirst + (0 + 1))) = 10 - ilast := by omega
    rw [e1, e2]

/-! ### `append_parts` unfolded -/

/-- url.h:2778-2790.  `apFirst` and `apPair` are `let`s of `Ser.appendParts` word for word, which is why
    `appendParts_unfold` is `rfl`. -/
def apFirst (src : Rep) (t1 : Nat) : Nat :=
  if t1 ≤ HOST then
    if src.hostNotNull then (if t1 = USERNAME ∧ src.hasCredentials then USERNAME else HOST)
    else PATH_PREFIX
  else t1

/-- url.h:2814-2823: the end of the last copied part in the source and `path_segment_count_` -/
def apPair (op : Option PathOp) (src r1 : Rep) (ifirst ilast : Nat) : Nat × Rep :=
  if op.isSome ∧ ilast = PATH then
    match op.bind src.pathOp with
    | some (pe', sc') => (pe', { r1 with segCount := sc' })
    | none => (src.pe ilast, { r1 with segCount := src.segCount })
  else if ifirst ≤ PATH ∧ PATH ≤ ilast then (src.pe ilast, { r1 with segCount := src.segCount })
  else (src.pe ilast, r1)

theorem appendParts_unfold (s : Ser) (src : Rep) (t1 t2 : Nat) (op : Option PathOp) :
    s.appendParts src t1 t2 op =
      if apFirst src t1 ≤ t2 then
        match scanDown src (apFirst src t1) (t2 + 1) with
        | none => { s with rep := copyFlags s.rep src t1 t2 }
        | some ilast =>
          let r1 := serStartPart (copyFlags s.rep src t1 t2) s.lastPt (apFirst src t1)
          let pr := apPair op src r1 (apFirst src t1) ilast
          let offset := src.pe (apFirst src t1 - 1) + kPartStart.getD (apFirst src t1) 0
          ⟨{ pr.2 with
              norm := pr.2.norm ++ slice src.norm offset pr.1,
              partEnd := pr.2.partEnd.take (apFirst src t1) ++
                ((src.partEnd.drop (apFirst src t1)).take (ilast - apFirst src t1)).map
                  (fun x => x + pr.2.norm.length - offset) ++
                [pr.1 + pr.2.norm.length - offset] ++ pr.2.partEnd.drop (ilast + 1) }, ilast⟩
      else { s with rep := copyFlags s.rep src t1 t2 } := by
  unfold Ser.appendParts apFirst apPair Ser.startPart
  rfl

theorem apPair_none (src r1 : Rep) (ifirst ilast : Nat) :
    apPair none src r1 ifirst ilast =
      (src.pe ilast, if ifirst ≤ PATH ∧ PATH ≤ ilast then { r1 with segCount := src.segCount } else r1) := by
  unfold apPair
  simp only [Option.isSome_none, Bool.false_eq_true, false_and, if_false]
  split <;> rfl

theorem apPair_other (op : Option PathOp) (src r1 : Rep) (ifirst ilast : Nat) (h : ilast ≠ PATH) :
    apPair op src r1 ifirst ilast =
      (src.pe ilast, if ifirst ≤ PATH ∧ PATH ≤ ilast then { r1 with segCount := src.segCount } else r1) := by
  unfold apPair
  rw [if_neg (by simp [h])]
  split <;> rfl

theorem apPair_path (o : PathOp) (src r1 : Rep) (ifirst : Nat) :
    apPair (some o) src r1 ifirst PATH =
      (match src.pathOp o with
       | some v => (v.1, { r1 with segCount := v.2 })
       | none => (src.pe PATH, { r1 with segCount := src.segCount })) := by
  unfold apPair
  simp only [Option.isSome_some, true_and, if_true, Option.bind_some]
  cases src.pathOp o with
  | none => rfl
  | some v => rfl

/-- the destination of `append_parts` after `start_part(ifirst)`: the started parts are `X` -/
structure Dest (s : Ser) (src : Rep) (t1 t2 ifirst : Nat) (r1 : Rep) (X : List (List Nat)) : Prop where
  start : serStartPart (copyFlags s.rep src t1 t2) s.lastPt ifirst = r1
  xlen : X.length = ifirst
  norm : r1.norm = X.flatten
  take : r1.partEnd.take ifirst = sums 0 X
  drop : ∀ j, ifirst ≤ j → j ≤ 10 → r1.partEnd.drop (j + 1) = List.replicate (10 - j) 0
  pos : 0 < off X 1

/-- `append_parts` when something is copied: the segments `ifirst .. ilast` of the source, the last one
    cut after `m` characters, are appended to the started parts `X` of the destination -/
theorem appendParts_mk (s : Ser) (rb0 : Rep) {S B : List (List Nat)} (hRp : Rp S B) (t1 t2 : Nat)
    (op : Option PathOp) {X : List (List Nat)} {r1 : Rep} (m segc : Nat) {ifirst : Nat}
    (hif : apFirst (mkRep rb0 B) t1 = ifirst) (hd : Dest s (mkRep rb0 B) t1 t2 ifirst r1 X)
    (hk : kPartStart.getD ifirst 0 = 0) (h1 : 1 ≤ ifirst) (hle : ifirst ≤ t2) (hlt : ifirst < B.length)
    (ht2 : t2 ≤ 10)
    (hpair : apPair op (mkRep rb0 B) r1 ifirst (ilastOf t2 B) =
      (off B (ilastOf t2 B) + m, { r1 with segCount := segc }))
    (hm : m ≤ (B.getD (ilastOf t2 B) []).length) :
    s.appendParts (mkRep rb0 B) t1 t2 op =
      ⟨mkRep { r1 with segCount := segc }
        (X ++ (B.drop ifirst).take (ilastOf t2 B - ifirst) ++
          [(B.getD (ilastOf t2 B) []).take m]), ilastOf t2 B⟩ := by
  have hil := ilastOf_eq t2 B
  have hhi := hRp.hi
  rw [appendParts_unfold, hif, if_pos hle, scanDown_mk _ _ hRp.posA, Nat.add_sub_cancel, if_pos (by omega)]
  simp only [hd.start, hpair, hk, Nat.add_zero]
  congr 1
  exact appendCopy { r1 with segCount := segc } rb0 X B _ _ m h1 (by omega) (by omega) hhi hd.xlen hd.norm hd.take
    (hd.drop _ (by omega) (by omega)) hm

/-- `append_parts` when no part of the source is copied: only the flags -/
theorem appendParts_nothing (s : Ser) (rb0 : Rep) {S B : List (List Nat)} (hRp : Rp S B) (t1 t2 : Nat)
    (op : Option PathOp) (h : ¬ (apFirst (mkRep rb0 B) t1 ≤ t2 ∧ apFirst (mkRep rb0 B) t1 < B.length)) :
    s.appendParts (mkRep rb0 B) t1 t2 op = { s with rep := copyFlags s.rep (mkRep rb0 B) t1 t2 } := by
  rw [appendParts_unfold]
  split
  · rw [scanDown_mk _ _ hRp.posA, Nat.add_sub_cancel, if_neg (by omega)]
  · rfl

/-- the path operation matters only when the last copied part is the path -/
theorem appendParts_op_irrelevant (s : Ser) (rb0 : Rep) {S B : List (List Nat)} (hRp : Rp S B) (t1 t2 : Nat)
    (o : PathOp) (h : ilastOf t2 B ≠ PATH) :
    s.appendParts (mkRep rb0 B) t1 t2 (some o) = s.appendParts (mkRep rb0 B) t1 t2 none := by
  rw [appendParts_unfold, appendParts_unfold]
  by_cases h1 : apFirst (mkRep rb0 B) t1 ≤ t2
  · rw [if_pos h1, if_pos h1, scanDown_mk _ _ hRp.posA, Nat.add_sub_cancel]
    by_cases h2 : apFirst (mkRep rb0 B) t1 < min (t2 + 1) B.length
    · rw [if_pos h2]
      simp only [apPair_other _ _ _ _ _ h]
    · rw [if_neg h2]
  · rw [if_neg h1, if_neg h1]

/-! ### the path operations read only the path part of the source -/

theorem pathFns_congr (r r' : Rep) (h1 : r.segCount = r'.segCount) (h2 : r.opaquePath = r'.opaquePath)
    (h3 : r.schemeIdx = r'.schemeIdx) (h4 : r.pe 7 = r'.pe 7) (h5 : r.pe 8 = r'.pe 8)
    (h6 : slice r.norm (r.pe 7) (r.pe 8) = slice r'.norm (r'.pe 7) (r'.pe 8)) :
    (∀ o, r.pathOp o = r'.pathOp o) ∧ (∀ n, r.getPathFirstString n = r'.getPathFirstString n) := by
  have hk : kPartStart.getD 8 0 = 0 := rfl
  have pv : ∀ x : Rep, x.partView PATH = if x.pe 8 > x.pe 7 then slice x.norm (x.pe 7) (x.pe 8) else [] :=
    fun _ => rfl
  have hv : r.partView PATH = r'.partView PATH := by
    rw [pv, pv, h6, h4, h5]
  have hfs : ∀ n, r.getPathFirstString n = r'.getPathFirstString n := by
    intro n
    unfold Rep.getPathFirstString
    rw [hv, h2]
  have hrl : r.getPathRemLast = r'.getPathRemLast := by
    unfold Rep.getPathRemLast
    show (if r.segCount > 0 then some (r.pe 7 + (((slice r.norm (r.pe 7) (r.pe 8)).reverse.dropWhile
        (· != 0x2F)).length - 1), r.segCount - 1) else none) = (if r'.segCount > 0 then
        some (r'.pe 7 + (((slice r'.norm (r'.pe 7) (r'.pe 8)).reverse.dropWhile (· != 0x2F)).length - 1),
          r'.segCount - 1) else none)
    rw [h6, h1, h4]
  have hsh : r.getShortenPath = r'.getShortenPath := by
    unfold Rep.getShortenPath Rep.isFileScheme
    rw [h1, h3, hfs 2, hrl]
  refine ⟨?_, hfs⟩
  intro o
  cases o with
  | remLast => exact hrl
  | shorten => exact hsh

/-- a representation with the PATH part started, against the one cut after the path -/
theorem pathFns_cut (r0 : Rep) (B : List (List Nat)) (h9 : 9 ≤ B.length) :
    (∀ o, (mkRep r0 B).pathOp o = (mkRep r0 (B.take 8 ++ [B.getD 8 []])).pathOp o) ∧
    (∀ n, (mkRep r0 B).getPathFirstString n = (mkRep r0 (B.take 8 ++ [B.getD 8 []])).getPathFirstString n) := by
  have hX : (B.take 8).length = 8 := by simp; omega
  have e7 : (mkRep r0 B).pe 7 = (B.take 8).flatten.length := by
    rw [pe_mkRep_lt _ _ _ (by omega)]; rfl
  have e8 : (mkRep r0 B).pe 8 = (B.take 8).flatten.length + (B.getD 8 []).length := by
    rw [pe_mkRep_lt _ _ _ (by omega), off_succ B 8]
    rfl
  have hdec : B.flatten = (B.take 8).flatten ++ B.getD 8 [] ++ (B.drop 9).flatten := flatten_split B 8
  apply pathFns_congr
  · rfl
  · rfl
  · rfl
  · rw [e7, pe7_path r0 _ _ hX]
  · rw [e8, pe8_path r0 _ _ hX]
  · rw [e7, e8, pe7_path r0 _ _ hX, pe8_path r0 _ _ hX, norm_mkRep, norm_mkRep]
    rw [slice_eq hdec rfl rfl]
    exact (slice_eq (c := []) (by simp) rfl rfl).symm

end Upa.Proofs.ParseRep
