import Upa.Impl.Canon
import Upa.Proofs.ListScan
import Upa.Proofs.CharClass
import Upa.Proofs.Radix
/-
  The lemma file of Upa/Impl/Url.lean (`url_parser::url_parse`, block by block) and of the host parser's shape.

  From the path start state up (path start, port, host, file host, authority, the dispatch from the scheme start
  state) a block ends in one of a few continuations.  The `_rule` lemmas say so with a motive `G` on results: `G`
  holds of the block's result once it holds of every continuation the block can take, and each continuation comes
  with the facts the block has established by then (`hostState_cases` is the host state without such facts).  The
  path loop is treated the same way with a property `Q` of path lists (`PathLoopInv`); with the trivial `Q` it says
  that the loop writes `path` only.  `urlParse_rule` is the dispatch from the scheme start state, `setValid_rule`
  the ten setters (the protocol setter under the `hset` premise of `run_schemeStart_rule`), `update_rule` the
  write-back of `url_search_params`; the section "what a setter may change in the record" draws from them which
  fields a setter can touch (`SetStep`, `setValid_frame`, over the frames of the blocks).  The tail blocks
  (fragment, query, opaque path, path, `afterPath`) have no rule: each is a few lines, and an argument about
  them opens them (Upa/Proofs/RecInv.lean does so once for every `Inv A`).  What stands here of the tail: it
  keeps the six fields it does not write (`C03.kept_*`; scheme and host alone: `C03.key_of_kept`,
  `key_portState`), and under a state override path and query end where they stand (`pathState_ov`,
  `queryState_ov`).
  The arguments that the parser keeps a property of the record (Upa/Proofs/RecInv.lean, SettersInv.lean,
  Lockstep.lean, Host.lean, SetRepApiSim.lean) go through the rules for every block above the tail.

  Where a comparison needs the result itself the block is given as an equation with its scans named:
  the path loop (`parsePath_eq` over `pathSep`, `pathSegments_one` / `_more`, `pathSegment_eq` over `isDrive2`),
  `portState_eq` (with what is known of `stripLeadingZeros`), `hostState_eq` (with the equations of `hostScan`),
  `fileHostState_eq`, the authority state by whether there is an `@` (`authorityState_none` / `_some`, with
  `splitLastAt` characterised), the branches of the scheme state (`B.schemeState_*`), the protocol run under a
  state override (`C03.urlParse_scheme_ov`, of which `run_schemeStart_rule` is a corollary), `parse_eq`; the host
  parser as fast path / early rejection / ToASCII path (`C07.impl_cons`), one equation for each of its four
  branches (`parseHost_nil`, `_bracket`, `_opaque`, `_domain`), and the hosts it can return as a rule with a motive
  on hosts (`parseHost_rule`).  `authEnd sp` is the test that ends an authority (`authEnd_iff`).
-/
namespace Upa.Proofs.C08
open Upa Upa.Impl

theorem ite_prop {α : Sort _} {P : α → Prop} {c : Prop} [Decidable c] {a b : α} (ha : P a) (hb : P b) :
    P (if c then a else b) := by
  split <;> assumption

theorem ite_rule {α : Sort _} {P : α → Prop} {c : Prop} [Decidable c] {a b : α} (ha : c → P a)
    (hb : ¬ c → P b) : P (if c then a else b) := by
  by_cases h : c
  · rw [if_pos h]; exact ha h
  · rw [if_neg h]; exact hb h

/-! ## the path loop -/

theorem shortenPath_spec (u : Url) :
    ∃ p', shortenPath u = { u with path := p' } ∧ p' <+: u.path := by
  unfold shortenPath
  split
  · exact ⟨u.path, rfl, List.prefix_refl _⟩
  · exact ite_prop (P := fun (r : Url) => ∃ p' : List (List Nat), r = { u with path := p' } ∧ p' <+: u.path)
      ⟨u.path, rfl, List.prefix_refl _⟩ ⟨[], rfl, List.nil_prefix⟩
  · exact ⟨u.path.dropLast, rfl, List.dropLast_prefix _⟩

/-- A property of path lists that every step of the path loop keeps; `sp`, `file` are the flags of the
    URL's scheme.  The loop drops segments from the end, appends an empty segment, turns `X|` / `X:` into
    the first segment `X:` of a file URL, or appends an encoded segment that is not a dot segment. -/
structure PathLoopInv (sp file : Bool) (Q : List (List Nat) → Prop) : Prop where
  pre : ∀ {p q : List (List Nat)}, q <+: p → Q p → Q q
  snocNil : ∀ {p : List (List Nat)}, Q p → Q (p ++ [[]])
  drive : ∀ {a : Nat}, isAlpha a = true → file = true → Q [[a, 0x3A]]
  enc : ∀ {p : List (List Nat)} {seg : List Nat}, Q p → (∀ c ∈ seg, c ≠ 0x2F) →
    (sp = true → ∀ c ∈ seg, c ≠ 0x5C) → singleDot seg = false → doubleDot seg = false →
    (file = true → p = [] → ∀ a, seg = [a, 0x7C] → isAlpha a = false) →
    Q (p ++ [percentEncode pathNoEnc seg])

variable {Q : List (List Nat) → Prop}

theorem pathSegment_inv (u : Url) (hQ : PathLoopInv u.isSpecial u.isFile Q) (seg : List Nat) (isLast : Bool)
    (h2f : ∀ c ∈ seg, c ≠ 0x2F) (h5c : u.isSpecial = true → ∀ c ∈ seg, c ≠ 0x5C) (hp : Q u.path) :
    ∃ p', pathSegment u seg isLast = { u with path := p' } ∧ Q p' ∧ (isLast = true → p' ≠ []) := by
  let P : Url → Prop := fun r => ∃ p', r = { u with path := p' } ∧ Q p' ∧ (isLast = true → p' ≠ [])
  show P _
  unfold pathSegment
  refine ite_rule (P := P) (fun _ => ?_) (fun hdd => ?_)
  · obtain ⟨p', he, hpre⟩ := shortenPath_spec u
    rw [he]
    exact ite_rule (P := P) (fun _ => ⟨p' ++ [[]], rfl, hQ.snocNil (hQ.pre hpre hp), fun _ => by simp⟩)
      (fun hl => ⟨p', rfl, hQ.pre hpre hp, fun h => absurd h hl⟩)
  · refine ite_rule (P := P) (fun _ => ?_) (fun hsd => ?_)
    · exact ite_rule (P := P) (fun _ => ⟨u.path ++ [[]], rfl, hQ.snocNil hp, fun _ => by simp⟩)
        (fun hl => ⟨u.path, rfl, hp, fun h => absurd h hl⟩)
    · have henc : (u.isFile = true → u.path = [] → ∀ a, seg = [a, 0x7C] → isAlpha a = false) →
          P { u with path := u.path ++ [percentEncode pathNoEnc seg] } := fun hno =>
        ⟨_, rfl, hQ.enc hp h2f h5c (by simpa using hsd) (by simpa using hdd) hno, fun _ => by simp⟩
      split
      · rename_i a b
        refine ite_rule (P := P) (fun hc => ?_) (fun hc => henc ?_)
        · simp only [Bool.and_eq_true, isWindowsDrive] at hc
          obtain ⟨⟨hf, hpe⟩, ha, _⟩ := hc
          have hpe' : u.path = [] := by simpa using hpe
          refine ⟨_, rfl, ?_, fun _ => by simp⟩
          rw [hpe', List.nil_append]
          exact hQ.drive ha hf
        · intro hf hpe a' hs
          simp only [List.cons.injEq, and_true] at hs
          obtain ⟨rfl, rfl⟩ := hs
          cases ha : isAlpha a with
          | false => rfl
          | true => exact absurd (by simp [hf, hpe, isWindowsDrive, ha]) hc
      · rename_i hne
        exact henc (fun _ _ a hs => absurd hs (hne a 0x7C))

theorem pathSegments_inv : ∀ (segs : List (List Nat)) (u : Url), PathLoopInv u.isSpecial u.isFile Q → segs ≠ [] →
    (∀ seg ∈ segs, ∀ c ∈ seg, c ≠ 0x2F) → (u.isSpecial = true → ∀ seg ∈ segs, ∀ c ∈ seg, c ≠ 0x5C) →
    Q u.path → ∃ p', pathSegments u segs = { u with path := p' } ∧ Q p' ∧ p' ≠ [] := by
  intro segs
  induction segs with
  | nil => intro u _ h; exact absurd rfl h
  | cons seg rest ih =>
    intro u hQ _ h2f h5c hp
    cases rest with
    | nil =>
      obtain ⟨p', he, hok, hne⟩ := pathSegment_inv u hQ seg true (h2f seg List.mem_cons_self)
        (fun h => h5c h seg List.mem_cons_self) hp
      exact ⟨p', by rw [pathSegments, he], hok, hne rfl⟩
    | cons s2 rest =>
      obtain ⟨p1, he, hok, _⟩ := pathSegment_inv u hQ seg false (h2f seg List.mem_cons_self)
        (fun h => h5c h seg List.mem_cons_self) hp
      rw [pathSegments, he]
      obtain ⟨p2, he2, hok2, hne2⟩ := ih { u with path := p1 } hQ (by simp)
        (fun sg hsg => h2f sg (List.mem_cons_of_mem _ hsg))
        (fun h sg hsg => h5c h sg (List.mem_cons_of_mem _ hsg)) hok
      exact ⟨p2, by rw [he2], hok2, hne2⟩
      all_goals simp

theorem parsePath_inv (u : Url) (hQ : PathLoopInv u.isSpecial u.isFile Q) (s : List Nat) (hp : Q u.path) :
    ∃ p', parsePath u s = { u with path := p' } ∧ Q p' ∧ p' ≠ [] := by
  unfold parsePath
  dsimp only
  split
  · refine pathSegments_inv _ u hQ (C17.splitOnP_ne_nil _ s) ?_ ?_ hp
    · intro seg hseg c hc h
      have := (C17.splitOnP_mem isSlash s seg hseg c hc).2
      simp [isSlash, h] at this
    · intro _ seg hseg c hc h
      have := (C17.splitOnP_mem isSlash s seg hseg c hc).2
      simp [isSlash, h] at this
  · rename_i hs
    refine pathSegments_inv _ u hQ (C17.splitOnP_ne_nil _ s) ?_ (fun h => absurd h hs) hp
    intro seg hseg c hc h
    have := (C17.splitOnP_mem (· == 0x2F) s seg hseg c hc).2
    simp [h] at this

/-- the loop writes `path` and nothing else: its invariant with the trivial property -/
theorem pathLoopInv_true (sp file : Bool) : PathLoopInv sp file (fun _ => True) :=
  ⟨fun _ _ => trivial, fun _ => trivial, fun _ _ => trivial, fun _ _ _ _ _ _ => trivial⟩

theorem parsePath_frame (u : Url) (s : List Nat) : ∃ p, parsePath u s = { u with path := p } :=
  (parsePath_inv (Q := fun _ => True) u (pathLoopInv_true _ _) s trivial).imp fun _ h => h.1

/-- one step of the loop on any segment (`pathSegment_inv` is for segments without separators) -/
theorem pathSegment_frame (u : Url) (seg : List Nat) (isLast : Bool) :
    ∃ p, pathSegment u seg isLast = { u with path := p } := by
  let P : Url → Prop := fun r => ∃ p, r = { u with path := p }
  obtain ⟨q, hq, _⟩ := shortenPath_spec u
  unfold pathSegment
  refine ite_prop (P := P) ?_ (ite_prop (P := P) (ite_prop (P := P) ⟨_, rfl⟩ ⟨u.path, rfl⟩) ?_)
  · rw [hq]; exact ite_prop (P := P) ⟨_, rfl⟩ ⟨_, rfl⟩
  · split
    · exact ite_prop (P := P) ⟨_, rfl⟩ ⟨_, rfl⟩
    · exact ⟨_, rfl⟩

/-- the separator test of `parse_path`, the scheme's class as an argument -/
def pathSep (sp : Bool) (c : Nat) : Bool := c == 0x2F || (sp && c == 0x5C)

theorem pathSep_true : pathSep true = isSlash := by
  funext c; simp [pathSep, isSlash]
theorem pathSep_false : pathSep false = (· == 0x2F) := by
  funext c; simp [pathSep]

theorem parsePath_eq (u : Url) (s : List Nat) :
    parsePath u s = pathSegments u (splitOnP (pathSep u.isSpecial) s) := by
  unfold parsePath
  cases u.isSpecial
  · rw [pathSep_false]; rfl
  · rw [pathSep_true]; rfl

theorem pathSegments_one (u : Url) (seg : List Nat) : pathSegments u [seg] = pathSegment u seg true := rfl

theorem pathSegments_more (u : Url) (seg : List Nat) (r : List (List Nat)) (hr : r ≠ []) :
    pathSegments u (seg :: r) = pathSegments (pathSegment u seg false) r := by
  cases r with
  | nil => exact absurd rfl hr
  | cons x xs => rfl

/-- `len == 2 && is_windows_drive(pointer[0], pointer[1])` -/
def isDrive2 (buf : List Nat) : Bool := match buf with | [a, b] => isWindowsDrive a b | _ => false

theorem isDrive2_pair (a b : Nat) : isDrive2 [a, b] = isWindowsDrive a b := rfl

theorem isDrive2_false_iff (s : List Nat) :
    isDrive2 s = false ↔ ∀ a b, s = [a, b] → isWindowsDrive a b = false := by
  unfold isDrive2
  split
  · exact ⟨fun h _ _ e => by cases e; exact h, fun h => h _ _ rfl⟩
  · next hno => exact ⟨fun _ a b e => absurd e (hno a b), fun _ => rfl⟩

theorem isDrive2_other (s : List Nat) (h : ∀ a b, s = [a, b] → False) : isDrive2 s = false :=
  (isDrive2_false_iff s).2 fun a b e => (h a b e).elim

theorem isDrive2_len (s : List Nat) (h : isDrive2 s = true) : s.length = 2 := by
  unfold isDrive2 at h
  split at h
  · rfl
  · cases h

theorem isDrive2_ascii (s : List Nat) (h : isDrive2 s = true) : ∀ c ∈ s, c < 0x80 := by
  unfold isDrive2 at h
  split at h
  · simp only [isWindowsDrive, isAlpha, Bool.and_eq_true, Bool.or_eq_true, beq_iff_eq,
      decide_eq_true_eq] at h
    simp only [List.forall_mem_cons, List.not_mem_nil, false_imp_iff, implies_true, and_true]
    omega
  · cases h

/-- `pathSegment` with its `match seg with | [a, b] => …` spelled as the C++ condition -/
theorem pathSegment_eq (u : Url) (seg : List Nat) (isLast : Bool) :
    pathSegment u seg isLast =
      if doubleDot seg = true then
        (if isLast = true then { shortenPath u with path := (shortenPath u).path ++ [[]] } else shortenPath u)
      else if singleDot seg = true then (if isLast = true then { u with path := u.path ++ [[]] } else u)
      else if (u.isFile && u.path.isEmpty && isDrive2 seg) = true then { u with path := u.path ++ [[seg.headD 0, 0x3A]] }
      else { u with path := u.path ++ [percentEncode pathNoEnc seg] } := by
  unfold pathSegment
  refine ite_congr rfl (fun _ => rfl) (fun _ => ite_congr rfl (fun _ => rfl) (fun _ => ?_))
  split
  · rfl
  · rename_i hseg
    rw [isDrive2_other seg hseg, Bool.and_false, if_neg Bool.false_ne_true]

/-! ## path and query of a setter

Under a state override both blocks end where they stand. -/

theorem pathState_ov (ov : Override) (u : Url) (s : List Nat) :
    pathState (some ov) u s = ⟨.ok, parsePath u s⟩ := by
  unfold pathState
  simp [afterPath]

theorem queryState_ov (ov : Override) (u : Url) (p : List Nat) :
    queryState (some ov) u p =
      ⟨.ok, { u with query := some (percentEncode (if u.isSpecial then specialQueryNoEnc else queryNoEnc) p) }⟩ :=
  rfl

/-! ## path start -/

variable {G : Res → Prop}

theorem pathStartState_rule (ov : Option Override) (u : Url) (p : List Nat)
    (hpath : ∀ q, G (pathState ov u q))
    (hqf : u.isSpecial = false → ov = none → ∀ q, G (queryState ov u q) ∧ G (fragmentState u q))
    (hnil : u.isSpecial = false → ov.isSome = true → u.host = none →
      G ⟨.ok, { u with path := u.path ++ [[]] }⟩)
    (hid : u.isSpecial = false → (ov = none ∨ u.host ≠ none) → G ⟨.ok, u⟩) :
    G (pathStartState ov u p) := by
  unfold pathStartState
  refine ite_rule (P := G) (fun _ => ?_) (fun hs => ?_)
  · cases p with
    | nil => exact hpath _
    | cons c r => exact ite_prop (P := G) (hpath _) (hpath _)
  · have hs' : u.isSpecial = false := by simpa using hs
    cases p with
    | nil =>
      refine ite_rule (P := G) (fun hc => ?_) (fun hc => hid hs' ?_)
      · simp only [Bool.and_eq_true, Option.isNone_iff_eq_none] at hc
        exact hnil hs' hc.1 hc.2
      · cases ov with
        | none => exact Or.inl rfl
        | some o => exact Or.inr (fun hn => hc (by simp [hn]))
    | cons c r =>
      refine ite_rule (P := G) (fun ho => ?_) (fun _ => ite_prop (P := G) (hpath _) (hpath _))
      have ho' : ov = none := by cases ov <;> simp at ho ⊢
      exact ite_prop (P := G) (hqf hs' ho' _).1
        (ite_prop (P := G) (hqf hs' ho' _).2 (ite_prop (P := G) (hpath _) (hpath _)))

/-- the end of the authority, for the scheme's class: the `isEndC` of the authority and host blocks
    (reducible, so that `rw` finds the blocks' own `if` in it) -/
abbrev authEnd (sp : Bool) : Nat → Bool := if sp then isSpecialAuthorityEnd else isAuthorityEnd

/-- the Standard's sentence: `/`, `?`, `#`, and `\` for a special scheme -/
theorem authEnd_iff (sp : Bool) (c : Nat) :
    authEnd sp c = true ↔ c = 0x2F ∨ c = 0x3F ∨ c = 0x23 ∨ (sp = true ∧ c = 0x5C) := by
  cases sp <;> simp [authEnd, isAuthorityEnd, isSpecialAuthorityEnd, or_assoc]

/-! ## port -/

/-! `stripLeadingZeros` (the port block's skip of leading zeros): its equations, and that its result is canonical -/

theorem strip_zero_cons_cons (y : Nat) (r : List Nat) :
    stripLeadingZeros (0x30 :: y :: r) = stripLeadingZeros (y :: r) := by
  conv => lhs; unfold stripLeadingZeros
  rfl

theorem stripLeadingZeros_id (c : Nat) (r : List Nat) (h : c ≠ 0x30 ∨ r = []) :
    stripLeadingZeros (c :: r) = c :: r := by
  unfold stripLeadingZeros
  split
  · next heq => exact heq.symm
  · next heq =>
    rcases h with h | h
    · simp at heq; omega
    · subst h; simp_all
  · rfl

theorem strip_canon (ds : List Nat) (hne : ds ≠ []) :
    stripLeadingZeros ds ≠ [] ∧ (∀ c ∈ stripLeadingZeros ds, c ∈ ds) ∧
    ((stripLeadingZeros ds).length = 1 ∨ (stripLeadingZeros ds).head? ≠ some 0x30) := by
  fun_induction stripLeadingZeros ds with
  | case1 c => simp
  | case2 r h ih =>
    have hr : r ≠ [] := by
      intro hc; exact h hc
    obtain ⟨a, b, c⟩ := ih hr
    exact ⟨a, fun x hx => List.mem_cons_of_mem _ (b x hx), c⟩
  | case3 l h1 h2 =>
    refine ⟨hne, fun _ h => h, ?_⟩
    cases l with
    | nil => exact absurd rfl hne
    | cons c t =>
      right
      intro hc
      simp only [List.head?_cons, Option.some.injEq] at hc
      subst hc
      exact h2 t rfl

theorem decimalValue_strip (ds : List Nat) : decimalValue (stripLeadingZeros ds) = decimalValue ds := by
  fun_induction stripLeadingZeros ds with
  | case1 c => rfl
  | case2 r h ih => rw [ih, Radix.decimalValue_cons]; simp
  | case3 l h1 h2 => rfl

/-- after skipping the leading zeros, more than five digits means more than 65535 -/
theorem strip_long_big (ds : List Nat) (hd : ∀ c ∈ ds, isDigit c = true)
    (hlen : (stripLeadingZeros ds).length > 5) : decimalValue ds > 65535 := by
  rw [← decimalValue_strip]
  obtain ⟨_, hmem, hcan⟩ := strip_canon ds (fun h => by subst h; exact absurd hlen (by decide))
  cases he : stripLeadingZeros ds with
  | nil => rw [he] at hlen; simp at hlen
  | cons c cs =>
    rw [he] at hlen hmem hcan
    have hdig := hd c (hmem c List.mem_cons_self)
    simp only [List.length_cons, List.head?_cons, ne_eq, Option.some.injEq] at hlen hcan
    rw [Radix.decimalValue_eq, List.map_cons]
    exact Radix.lt_of_long (b := 10) (k := 5) (by decide) (by decide) _ (by have := (isDigit_iff c).1 hdig; omega)
      (by rw [List.length_map]; omega)

/-! `portResult`, `portIsEnd` (and `isDrive2` above, `B.isSch` below) are a `let` or an inline test of their block under a
    name, so the `_eq` lemma that restates the block with them is `rfl`. -/

def portResult (u : Url) (digits : List Nat) : Option Url :=
  if digits ≠ [] then
    let d := stripLeadingZeros digits
    if d.length > 5 then none
    else
      let port := decimalValue d
      if port > 0xFFFF then none
      else if defaultPort u.scheme = some port then some { u with port := none }
      else some { u with port := some port }
  else some u

def portIsEnd (u : Url) (rest : List Nat) : Bool :=
  match rest with
  | [] => true
  | c :: _ => isAuthorityEnd c || (c == 0x5C && u.isSpecial)

theorem portState_eq (ov : Option Override) (u : Url) (p : List Nat) :
    portState ov u p =
      if portIsEnd u (p.dropWhile isDigit) || ov.isSome then
        match portResult u (p.takeWhile isDigit) with
        | none => ⟨.failure, u⟩
        | some u' => if ov.isSome then ⟨.ok, u'⟩ else pathStartState ov u' (p.dropWhile isDigit)
      else ⟨.failure, u⟩ := rfl

theorem portResult_cases {u u' : Url} {digits : List Nat} (h : portResult u digits = some u') :
    u' = u ∨ u' = { u with port := none } ∨
      ∃ n, n ≤ 65535 ∧ defaultPort u.scheme ≠ some n ∧ u' = { u with port := some n } := by
  unfold portResult at h
  split at h
  · dsimp only at h
    split at h
    · simp at h
    · split at h
      · simp at h
      · rename_i hle
        split at h
        · exact Or.inr (Or.inl (Option.some.inj h).symm)
        · rename_i hd
          exact Or.inr (Or.inr ⟨_, by omega, hd, (Option.some.inj h).symm⟩)
  · exact Or.inl (Option.some.inj h).symm

theorem portState_rule (ov : Option Override) (u : Url) (p : List Nat) (hfail : G ⟨.failure, u⟩)
    (hok : ∀ u', (u' = u ∨ u' = { u with port := none } ∨
        ∃ n, n ≤ 65535 ∧ defaultPort u.scheme ≠ some n ∧ u' = { u with port := some n }) →
      ∀ q, G (if ov.isSome then (⟨.ok, u'⟩ : Res) else pathStartState ov u' q)) :
    G (portState ov u p) := by
  rw [portState_eq]
  refine ite_rule (P := G) (fun _ => ?_) (fun _ => hfail)
  cases hr : portResult u (p.takeWhile isDigit) with
  | none => exact hfail
  | some u' => exact hok u' (portResult_cases hr) _

end Upa.Proofs.C08

/-! ## scheme and host are kept from the port on
    The states after the host state keep scheme and host: `key`, all that `C03.RecInv`
(Upa/Proofs/SettersInv.lean) and `HStep` (Upa/Proofs/SetRepApiSim.lean) look at.  The tail blocks keep more: all
of `kept`, the fields they do not write; an invariant over any of these goes through `kept_*`. -/

namespace Upa.Proofs.C03
open Upa Upa.Impl Upa.Proofs.C08

def key (u : Url) : List Nat × Option Host := (u.scheme, u.host)

/-- the six fields the tail blocks do not write (they write `opaquePath`, `path`, `query`, `fragment`); from
    `h : kept v = kept u`, `simp only [kept, Prod.mk.injEq] at h` gives the six equations -/
def kept (u : Url) := (u.scheme, u.username, u.password, u.host, u.port, u.hasOpaquePath)

theorem key_of_kept {u v : Url} (h : kept v = kept u) : key v = key u :=
  congrArg (fun t => (t.1, t.2.2.2.1)) h

theorem key_ite {c : Prop} [Decidable c] {u a b : Url} (ha : key a = key u) (hb : key b = key u) :
    key (if c then a else b) = key u :=
  ite_prop (P := fun v => key v = key u) ha hb

theorem kept_fragmentState (u : Url) (p : List Nat) : kept (fragmentState u p).url = kept u := rfl

theorem kept_queryState (ov : Option Override) (u : Url) (p : List Nat) :
    kept (queryState ov u p).url = kept u := by
  unfold queryState
  simp only
  split <;> rfl

theorem kept_afterPath (ov : Option Override) (u : Url) (rest : List Nat) :
    kept (afterPath ov u rest).url = kept u := by
  cases rest with
  | nil => rfl
  | cons c r => exact ite_prop (P := fun r : Res => kept r.url = kept u) (kept_queryState ov u r) rfl

theorem kept_opaquePathState (ov : Option Override) (u : Url) (p : List Nat) :
    kept (opaquePathState ov u p).url = kept u :=
  kept_afterPath ov _ _

/-- the path loop writes `path` and nothing else (`pathSegment_frame`, `parsePath_frame`) -/
theorem key_pathSegment (u : Url) (seg : List Nat) (l : Bool) : key (pathSegment u seg l) = key u := by
  obtain ⟨_, h⟩ := pathSegment_frame u seg l
  rw [h]; rfl

theorem kept_pathState (ov : Option Override) (u : Url) (p : List Nat) :
    kept (pathState ov u p).url = kept u := by
  obtain ⟨_, h⟩ := parsePath_frame u (if ov.isSome then p else p.takeWhile fun c => !isQorH c)
  exact (kept_afterPath ov _ _).trans (h ▸ rfl)

theorem kept_pathStartState (ov : Option Override) (u : Url) (p : List Nat) :
    kept (pathStartState ov u p).url = kept u :=
  pathStartState_rule (G := fun r => kept r.url = kept u) ov u p (kept_pathState ov u)
    (fun _ _ q => ⟨kept_queryState ov u q, rfl⟩) (fun _ _ _ => rfl) (fun _ _ => rfl)

theorem key_portState (ov : Option Override) (u : Url) (p : List Nat) :
    key (portState ov u p).url = key u :=
  portState_rule (G := fun r => key r.url = key u) ov u p rfl fun u' hu' q => by
    have hk : key u' = key u := by rcases hu' with rfl | rfl | ⟨_, _, _, rfl⟩ <;> rfl
    exact ite_prop (P := fun r : Res => key r.url = key u) hk ((key_of_kept (kept_pathStartState ov u' q)).trans hk)

end Upa.Proofs.C03

namespace Upa.Proofs.C08
open Upa Upa.Impl
variable {G : Res → Prop}

/-! ## host -/

theorem hostScan_colon (r : List Nat) : hostScan (0x3A :: r) false = ([], some r) := by simp [hostScan]
/-- one step of the scan at an element that is not the port colon -/
theorem hostScan_cons_go (x : Nat) (r : List Nat) (inBr : Bool) (h : ¬ (x = 0x3A ∧ inBr = false)) :
    hostScan (x :: r) inBr =
      (x :: (hostScan r (if x = 0x3A then inBr else if x = 0x5B then true else if x = 0x5D then false else inBr)).1,
       (hostScan r (if x = 0x3A then inBr else if x = 0x5B then true else if x = 0x5D then false else inBr)).2) := by
  by_cases e1 : x = 0x3A
  · have hb : inBr = true := by cases inBr <;> simp_all
    subst hb
    simp [hostScan, e1]
  · by_cases e2 : x = 0x5B
    · simp [hostScan, e2]
    · by_cases e3 : x = 0x5D
      · simp [hostScan, e3]
      · simp [hostScan, e1, e2, e3]
theorem hostScan_empty (b : Bool) : hostScan [] b = ([], none) := by simp [hostScan]
theorem hostScan_open (r : List Nat) (b : Bool) :
    hostScan (0x5B :: r) b = (0x5B :: (hostScan r true).1, (hostScan r true).2) := by simp [hostScan]
theorem hostScan_close (r : List Nat) (b : Bool) :
    hostScan (0x5D :: r) b = (0x5D :: (hostScan r false).1, (hostScan r false).2) := by simp [hostScan]
/-- the scan passes over a text without brackets and, outside brackets, without `:` -/
theorem hostScan_append (m tail : List Nat) (b : Bool)
    (hm : ∀ c ∈ m, c ≠ 0x5B ∧ c ≠ 0x5D ∧ (b = false → c ≠ 0x3A)) :
    hostScan (m ++ tail) b = (m ++ (hostScan tail b).1, (hostScan tail b).2) := by
  induction m with
  | nil => rfl
  | cons c m ih =>
    obtain ⟨h1, h2, h0⟩ := hm c List.mem_cons_self
    have : hostScan (c :: (m ++ tail)) b = (c :: (hostScan (m ++ tail) b).1, (hostScan (m ++ tail) b).2) := by
      cases b with
      | true => by_cases h : c = 0x3A <;> simp [hostScan, h, h1, h2]
      | false => simp [hostScan, h0 rfl, h1, h2]
    rw [List.cons_append, this, ih (fun x hx => hm x (List.mem_cons_of_mem _ hx))]
    rfl

theorem hostScan_append_plain (t tail : List Nat) (b : Bool)
    (ht : ∀ c ∈ t, c ≠ 0x3A ∧ c ≠ 0x5B ∧ c ≠ 0x5D) :
    hostScan (t ++ tail) b = (t ++ (hostScan tail b).1, (hostScan tail b).2) :=
  hostScan_append t tail b fun c hc => ⟨(ht c hc).2.1, (ht c hc).2.2, fun _ => (ht c hc).1⟩

theorem hostScan_nil : ∀ (l : List Nat) (b : Bool) (pp : Option (List Nat)),
    hostScan l b = ([], pp) → l = [] ∨ pp.isSome = true := by
  intro l b pp h
  cases l with
  | nil => exact Or.inl rfl
  | cons c r =>
    right
    unfold hostScan at h
    split at h
    · split at h
      · simp only [Prod.mk.injEq, true_and] at h; subst h; rfl
      · simp at h
    · split at h
      · simp at h
      · split at h <;> simp at h

/-- `hne`: the host parser returns an empty text only for empty input.  `hnone`: what the authority
    block guarantees in a parser run.  An empty host is stored only in a non-special URL without
    credentials and port. -/
theorem hostState_rule (idna : Idna) (ov : Option Override) (u : Url) (p : List Nat)
    (hne : ∀ s h, parseHost idna s (!u.isSpecial) = some h → s ≠ [] → h.text ≠ [])
    (hnone : ov = none → u.isFile = false ∧ u.port = none ∧
      (u.hasCredentials = true → ∃ c r, p = c :: r ∧
        authEnd u.isSpecial c = false))
    (hfile : ov.isSome = true → u.isFile = true → G (fileHostState idna ov u p))
    (hfail : ∀ o : Outcome, o ≠ .ok → G ⟨o, u⟩)
    (hhost : u.isFile = false → ∀ s h, parseHost idna s (!u.isSpecial) = some h →
      (u.isSpecial = true → h.text ≠ []) →
      (h.text = [] → u.username = [] ∧ u.password = [] ∧ u.port = none) →
      (∀ q, G (if ov.isSome then (⟨.ok, { u with host := some h }⟩ : Res)
        else pathStartState ov { u with host := some h } q)) ∧
      (h.text ≠ [] → ∀ q, G (portState ov { u with host := some h } q))) :
    G (hostState idna ov u p) := by
  unfold hostState
  by_cases hfc : (ov.isSome && u.isFile) = true
  · rw [if_pos hfc]
    simp only [Bool.and_eq_true] at hfc
    exact hfile hfc.1 hfc.2
  · rw [if_neg hfc]
    have hnf : u.isFile = false := by
      cases ov with
      | none => exact (hnone rfl).1
      | some o => simpa using hfc
    dsimp only
    generalize hsc : hostScan _ false = sc
    obtain ⟨hostPart, portPart⟩ := sc
    dsimp only
    refine ite_rule (P := G) (fun _ => hfail _ (by decide)) (fun hc1 => ?_)
    refine ite_rule (P := G) (fun _ => hfail _ (by decide)) (fun hc2 => ?_)
    refine ite_rule (P := G) (fun _ => hfail _ (by decide)) (fun _ => ?_)
    cases hph : parseHost idna hostPart (!u.isSpecial) with
    | none => exact hfail _ (by decide)
    | some h =>
      dsimp only
      have hne := hne _ _ hph
      have hsp : u.isSpecial = true → h.text ≠ [] :=
        fun hs => hne (fun he => hc1 (by simp [he, hs]))
      -- An empty host text means an empty host part and no port colon (`hne`, `hc1`).  Under an override the
      -- block has refused credentials and port by then (`hc2`).  In a parser run with credentials the authority
      -- block hands over a text whose first unit is no end of the authority (`hnone`), and on such a text
      -- `hostScan` returns an empty host part only with a port colon (`hostScan_nil`).
      have hcr : h.text = [] → u.username = [] ∧ u.password = [] ∧ u.port = none := by
        intro ht
        have he : hostPart = [] := by
          by_cases he : hostPart = []
          · exact he
          · exact absurd ht (hne he)
        have hnp : portPart.isSome = false := by
          cases hps : portPart.isSome with
          | false => rfl
          | true => exact absurd (by simp [he, hps]) hc1
        cases ov with
        | some o =>
          have : ¬ (u.hasCredentials = true ∨ u.port.isSome = true) := by
            intro hh; apply hc2; simp [he]; simpa using hh
          simp only [Url.hasCredentials, not_or] at this
          obtain ⟨h1, h2⟩ := this
          have h1' : u.username = [] ∧ u.password = [] := by simpa using h1
          refine ⟨h1'.1, h1'.2, ?_⟩
          cases hp : u.port with
          | none => rfl
          | some x => simp [hp] at h2
        | none =>
          obtain ⟨_, hpn, hcred⟩ := hnone rfl
          cases hcd : u.hasCredentials with
          | true =>
            obtain ⟨c, r, hpe, hce⟩ := hcred hcd
            subst hpe he
            rcases hostScan_nil _ _ _ hsc with h0 | h0
            · rw [List.takeWhile_cons_of_pos (by simp [hce])] at h0
              cases h0
            · rw [hnp] at h0; simp at h0
          | false =>
            simp only [Url.hasCredentials, Bool.or_eq_false_iff, decide_eq_false_iff_not,
              ne_eq, Decidable.not_not] at hcd
            exact ⟨hcd.1, hcd.2, hpn⟩
      obtain ⟨hpath, hport⟩ := hhost hnf _ h hph hsp hcr
      cases portPart with
      | some pp => exact hport (hne (fun he => hc1 (by simp [he]))) _
      | none => exact hpath _

/-- the host state ends in the file host state (a `file` record under an override), refuses and leaves
    the record alone, or stores what the host parser returned and goes on to the port or to the path -/
theorem hostState_cases (idna : Idna) (ov : Option Override) (u : Url) (p : List Nat)
    (hfile : ov.isSome = true → u.isFile = true → G (fileHostState idna ov u p))
    (hfail : ∀ o : Outcome, o ≠ .ok → G ⟨o, u⟩)
    (hhost : (ov.isSome && u.isFile) = false → ∀ s h, parseHost idna s (!u.isSpecial) = some h → ∀ q,
      G (if ov.isSome then (⟨.ok, { u with host := some h }⟩ : Res)
        else pathStartState ov { u with host := some h } q) ∧
      G (portState ov { u with host := some h } q)) :
    G (hostState idna ov u p) := by
  unfold hostState
  refine ite_rule (P := G) (fun hfc => ?_) (fun hfc => ?_)
  · rw [Bool.and_eq_true] at hfc
    exact hfile hfc.1 hfc.2
  · dsimp only
    generalize hostScan _ false = sc
    refine ite_prop (P := G) (hfail _ (by decide)) (ite_prop (P := G) (hfail _ (by decide))
      (ite_prop (P := G) (hfail _ (by decide)) ?_))
    cases hph : parseHost idna sc.1 (!u.isSpecial) with
    | none => exact hfail _ (by decide)
    | some h =>
      have hh := hhost (Bool.eq_false_iff.2 hfc) _ h hph
      cases sc.2 with
      | some pp => exact (hh _).2
      | none => exact (hh _).1

/-- the host state outside the file host state, with the scan for the end of the authority and the scan
    for the port colon named -/
theorem hostState_eq (idna : Idna) (ov : Option Override) (u : Url) (p auth afterAuth hp : List Nat)
    (pp : Option (List Nat)) (hf : (ov.isSome && u.isFile) = false)
    (ha : p.takeWhile (fun x => !authEnd u.isSpecial x) = auth)
    (hb : p.dropWhile (fun x => !authEnd u.isSpecial x) = afterAuth)
    (hsc : hostScan auth false = (hp, pp)) :
    hostState idna ov u p =
      if hp = [] && (pp.isSome || u.isSpecial) then ⟨.failure, u⟩
      else if hp = [] && ov.isSome && (u.hasCredentials || u.port.isSome) then ⟨.ignored, u⟩
      else if pp.isSome && ov = some .hostname then ⟨.ignored, u⟩
      else
        match parseHost idna hp (!u.isSpecial) with
        | none => ⟨.failure, u⟩
        | some h =>
          match (generalizing := false) pp with
          | some pp => portState ov { u with host := some h } (pp ++ afterAuth)
          | none => if ov.isSome then ⟨.ok, { u with host := some h }⟩
                    else pathStartState ov { u with host := some h } afterAuth := by
  unfold hostState
  simp only [hf, Bool.false_eq_true, if_false, ha, hb, hsc]
  cases pp <;> rfl

/-! ## file host -/

theorem fileHostState_eq (idna : Idna) (ov : Option Override) (u : Url) (p : List Nat) :
    fileHostState idna ov u p =
      if p.takeWhile (fun c => !isSpecialAuthorityEnd c) = [] then
        (if ov.isSome then ⟨.ok, { u with host := some emptyHost }⟩
         else pathStartState ov { u with host := some emptyHost }
           (p.dropWhile (fun c => !isSpecialAuthorityEnd c)))
      else if ov.isNone && isDrive2 (p.takeWhile (fun c => !isSpecialAuthorityEnd c)) then pathState ov u p
      else
        match parseHost idna (p.takeWhile (fun c => !isSpecialAuthorityEnd c)) (!u.isSpecial) with
        | none => ⟨.failure, u⟩
        | some h =>
          if ov.isSome then
            ⟨.ok, { u with host := some (if h.text == sLocalhost then emptyHost else h) }⟩
          else pathStartState ov { u with host := some (if h.text == sLocalhost then emptyHost else h) }
            (p.dropWhile (fun c => !isSpecialAuthorityEnd c)) := rfl

theorem fileHostState_rule (idna : Idna) (ov : Option Override) (u : Url) (p : List Nat)
    (hfail : G ⟨.failure, u⟩) (hpath : ov = none → G (pathState ov u p))
    (hhost : ∀ h, (h = emptyHost ∨
        ∃ s, parseHost idna s (!u.isSpecial) = some h ∧ (h.text == sLocalhost) = false) →
      ∀ q, G (if ov.isSome then (⟨.ok, { u with host := some h }⟩ : Res)
        else pathStartState ov { u with host := some h } q)) :
    G (fileHostState idna ov u p) := by
  rw [fileHostState_eq]
  refine ite_rule (P := G) (fun _ => hhost _ (Or.inl rfl) _) (fun _ => ?_)
  refine ite_rule (P := G) (fun hc => ?_) (fun _ => ?_)
  · simp only [Bool.and_eq_true, Option.isNone_iff_eq_none] at hc
    exact hpath hc.1
  · cases hph : parseHost idna (p.takeWhile (fun c => !isSpecialAuthorityEnd c)) (!u.isSpecial) with
    | none => exact hfail
    | some h =>
      dsimp only
      cases hl : h.text == sLocalhost with
      | true => exact hhost _ (Or.inl rfl) _
      | false => exact hhost h (Or.inr ⟨_, hph, hl⟩) _

/-! ## authority -/

/-- `splitLastAt` cuts at the last `@` -/
theorem splitLastAt_some (a b : List Nat) (h : ∀ c ∈ b, c ≠ 0x40) :
    splitLastAt (a ++ 0x40 :: b) = some (a, b) := by
  have hr : (a ++ 0x40 :: b).reverse = b.reverse ++ 0x40 :: a.reverse := by simp
  obtain ⟨h1, h2⟩ := scan_append (p := (· != 0x40)) (x := b.reverse) (t := 0x40 :: a.reverse)
    (fun c hc => by simpa using h c (List.mem_reverse.1 hc)) (fun c hc => by simp at hc; simp [← hc])
  unfold splitLastAt
  simp only [hr, h1, h2, List.reverse_reverse]

theorem splitLastAt_none (s : List Nat) (h : ∀ c ∈ s, c ≠ 0x40) : splitLastAt s = none := by
  have := dropWhile_eq_nil_iff (p := (· != 0x40)) (l := s.reverse).2
    (fun c hc => by simpa using h c (List.mem_reverse.1 hc))
  unfold splitLastAt
  simp only [this]

theorem splitLastAt_eq_some {s a b : List Nat} (h : splitLastAt s = some (a, b)) :
    s = a ++ 0x40 :: b ∧ ∀ c ∈ b, c ≠ 0x40 := by
  unfold splitLastAt at h
  dsimp only at h
  have hsplit := List.takeWhile_append_dropWhile (p := (· != 0x40)) (l := s.reverse)
  cases hd : s.reverse.dropWhile (· != 0x40) with
  | nil => rw [hd] at h; cases h
  | cons x before =>
    have hx : x = 0x40 := by simpa using head?_dropWhile (p := (· != 0x40)) (l := s.reverse) (c := x) (by rw [hd]; rfl)
    rw [hd] at h hsplit
    simp only [Option.some.injEq, Prod.mk.injEq] at h
    obtain ⟨rfl, rfl⟩ := h
    refine ⟨?_, fun c hc => by simpa using (mem_takeWhile (List.mem_reverse.1 hc)).1⟩
    have := congrArg List.reverse hsplit
    rw [hx] at this
    simpa using this.symm

theorem splitLastAt_mem {s a b : List Nat} (h : splitLastAt s = some (a, b)) : ∀ c ∈ b, c ∈ s := fun c hc => by
  rw [(splitLastAt_eq_some h).1]; simp [hc]

/-- the credentials the authority block writes before it hands on to the host block -/
def withCred (u : Url) (cred : List Nat) : Url :=
  if (cred.dropWhile (· != 0x3A)).drop 1 ≠ [] || cred.takeWhile (· != 0x3A) ≠ [] then
    { u with username := percentEncode userinfoNoEnc (cred.takeWhile (· != 0x3A)),
             password := if (cred.dropWhile (· != 0x3A)).drop 1 ≠ [] then
               percentEncode userinfoNoEnc ((cred.dropWhile (· != 0x3A)).drop 1) else u.password }
  else u

theorem authorityState_none (idna : Idna) (ov : Option Override) (u : Url) (p : List Nat)
    (h : splitLastAt (p.takeWhile fun x => !authEnd u.isSpecial x) = none) :
    authorityState idna ov u p = hostState idna ov u p := by
  unfold authorityState
  simp only [h]

theorem authorityState_some (idna : Idna) (ov : Option Override) (u : Url) (p cred hp : List Nat)
    (h : splitLastAt (p.takeWhile fun x => !authEnd u.isSpecial x) = some (cred, hp)) :
    authorityState idna ov u p =
      if hp = [] then ⟨.failure, u⟩
      else hostState idna ov (withCred u cred) (hp ++ p.dropWhile fun x => !authEnd u.isSpecial x) := by
  unfold authorityState
  simp only [h]
  rfl

theorem authorityState_rule (idna : Idna) (ov : Option Override) (u : Url) (p : List Nat)
    (hfail : G ⟨.failure, u⟩) (hplain : G (hostState idna ov u p))
    (hcred : ∀ un pw c r, (un = u.username ∨ ∃ s, un = percentEncode userinfoNoEnc s) →
      (pw = u.password ∨ ∃ s, pw = percentEncode userinfoNoEnc s) →
      authEnd u.isSpecial c = false →
      G (hostState idna ov { u with username := un, password := pw } (c :: r))) :
    G (authorityState idna ov u p) := by
  unfold authorityState
  dsimp only
  split
  · exact hplain
  · rename_i cred hostport hsl
    refine ite_rule (P := G) (fun _ => hfail) (fun hne => ?_)
    cases hostport with
    | nil => exact absurd rfl hne
    | cons c t =>
      have hcend : authEnd u.isSpecial c = false := by
        have := (mem_takeWhile (splitLastAt_mem hsl c List.mem_cons_self)).1
        simpa using this
      refine ite_rule (P := fun u' : Url => G (hostState idna ov u' (c :: t ++ _))) (fun _ => ?_)
        (fun _ => hcred u.username u.password c _ (Or.inl rfl) (Or.inl rfl) hcend)
      exact hcred _ _ c _ (Or.inr ⟨_, rfl⟩)
        (ite_prop (P := fun x => x = u.password ∨ ∃ s, x = percentEncode userinfoNoEnc s)
          (Or.inr ⟨_, rfl⟩) (Or.inl rfl)) hcend

/-! ## scheme -/

theorem alpha_lower : ∀ c, c < 128 → isAlpha c = true → isLowerAlpha (c ||| 0x20) = true := by
  decide +kernel

theorem schemeChar_lower : ∀ c, c < 128 → isSchemeChar c = true →
    (isLowerAlpha (c ||| 0x20) || isDigit (c ||| 0x20) || (c ||| 0x20) == 0x2B || (c ||| 0x20) == 0x2D
      || (c ||| 0x20) == 0x2E) = true := by
  decide +kernel

theorem scheme_lower_ok (c0 : Nat) (body : List Nat) (h0 : isAlpha c0 = true)
    (hb : ∀ c ∈ body, isSchemeChar c = true) : schemeOk ((c0 :: body).map (· ||| 0x20)) = true := by
  simp only [List.map_cons, schemeOk, Bool.and_eq_true, List.all_eq_true]
  refine ⟨alpha_lower c0 (isAlpha_lt c0 h0) h0, ?_⟩
  intro x hx
  obtain ⟨c, hc, rfl⟩ := List.mem_map.1 hx
  exact schemeChar_lower c (isSchemeChar_lt c (hb c hc)) (hb c hc)

end Upa.Proofs.C08

/-! The scheme as the code computes it is `C01.Head.schemeOf` (the statements of Upa/Proofs/C01Head.lean speak it),
    the override branch of the scheme block stands in `C03` (Upa/Props/C03.lean, the protocol setter, speaks it). -/

def Upa.Proofs.C01.Head.schemeOf (c0 : Nat) (r0 : List Nat) : List Nat :=
  (c0 :: r0.takeWhile isSchemeChar).map (· ||| 0x20)

namespace Upa.Proofs.C03
open Upa Upa.Impl Upa.Proofs.C01

/-- the code's scheme block once the scheme is complete, under a state override -/
def implSchemeFin (u : Url) (scheme : List Nat) : Res :=
  if u.isSpecial != Impl.isSpecialScheme scheme then ⟨.ignored, u⟩
  else if Impl.isFileScheme scheme && (u.hasCredentials || u.port.isSome) then ⟨.ignored, u⟩
  else if u.isFile && u.hostText = [] then ⟨.ignored, u⟩
  else
    let u := { u with scheme := scheme }
    let u := if u.port.isSome && Impl.defaultPort scheme = u.port then { u with port := none } else u
    ⟨.ok, u⟩

/-- the character at which the scheme ends, the end of the input counting as ':' (the Standard's setter
    appends a ':' to the value; the code accepts the end of the value in its place) -/
def schemeEnd (r0 : List Nat) : Nat := ((r0.dropWhile isSchemeChar).head?).getD 0x3A

/-- shape shared by the Standard's run on `inp ++ ":"` and by the code's block on `inp`: `fail` unless
    `inp` starts with a scheme that ends at the end of `inp` or at a ':'; `fin` = what happens then -/
def schemeOv {α : Type} (fail : α) (fin : List Nat → α) : List Nat → α
  | [] => fail
  | c0 :: r0 =>
    if isAlpha c0 then (if schemeEnd r0 = 0x3A then fin (Head.schemeOf c0 r0) else fail) else fail

end Upa.Proofs.C03

/-! ## the scheme state, branch by branch, for every state override
    (in `Upa.Impl.B`: the verdict chain of Upa/Proofs/BoundsUrlVerdictTop.lean and the simulation of
    Upa/Proofs/C01Head.lean both rewrite with these) -/

namespace Upa.Impl.B
open Upa Upa.Impl

def isSch (ov : Option Override) (rest : List Nat) : Bool :=
  match rest with
  | c :: _ => c == 0x3A
  | [] => ov.isSome

theorem isFile_set (u : Url) (s : List Nat) : ({ u with scheme := s } : Url).isFile = isFileScheme s := rfl
theorem isSpecial_set (u : Url) (s : List Nat) : ({ u with scheme := s } : Url).isSpecial = isSpecialScheme s := rfl

section listside
variable (idna : Idna) (base : Option Url) (ov : Option Override) (u : Url) (c0 : Nat) (r0 body rest scheme : List Nat)
  (hb : r0.takeWhile isSchemeChar = body) (hr : r0.dropWhile isSchemeChar = rest)
  (hs : (c0 :: body).map (· ||| 0x20) = scheme)

include hr in
theorem schemeState_no (h : isSch ov rest = false) :
    schemeState idna base ov u (c0 :: r0) =
      if ov.isNone then noSchemeState idna base ov u (c0 :: r0) else ⟨.failure, u⟩ := by
  subst hr
  unfold schemeState
  simp only []
  rw [if_neg]
  intro hh
  have : isSch ov (r0.dropWhile isSchemeChar) = true := hh
  rw [h] at this; cases this

include hb hr hs in
theorem schemeState_ov (h : isSch ov rest = true) (ho : ov.isSome = true) :
    schemeState idna base ov u (c0 :: r0) = Proofs.C03.implSchemeFin u scheme := by
  subst hb hr hs
  unfold schemeState Proofs.C03.implSchemeFin
  simp only []
  erw [if_pos h]
  rw [if_pos ho]

include hb hr hs in
theorem schemeState_file (h : isSch ov rest = true) (ho : ov.isSome = false) (hf : isFileScheme scheme = true) :
    schemeState idna base ov u (c0 :: r0) = fileState idna base ov { u with scheme := scheme } (rest.drop 1) := by
  subst hb hr hs
  unfold schemeState
  simp only []
  erw [if_pos h]
  rw [if_neg (by simp [ho])]
  simp only [isFile_set, hf, if_true]

include hb hr hs in
theorem schemeState_sroa (h : isSch ov rest = true) (ho : ov.isSome = false) (hf : isFileScheme scheme = false)
    (hsp : isSpecialScheme scheme = true) (b : Url) (hbase : base = some b) (hsame : b.scheme = scheme) :
    schemeState idna base ov u (c0 :: r0) =
      specialRelativeOrAuthorityState idna b ov { u with scheme := scheme } (rest.drop 1) := by
  subst hb hr hs hbase
  unfold schemeState
  simp only []
  erw [if_pos h]
  rw [if_neg (by simp [ho])]
  simp only [isFile_set, isSpecial_set, hf, hsp, Bool.false_eq_true, if_false, if_true]
  rw [if_pos hsame]

include hb hr hs in
theorem schemeState_sas (h : isSch ov rest = true) (ho : ov.isSome = false) (hf : isFileScheme scheme = false)
    (hsp : isSpecialScheme scheme = true) (hbase : ∀ b, base = some b → b.scheme ≠ scheme) :
    schemeState idna base ov u (c0 :: r0) =
      specialAuthoritySlashesState idna ov { u with scheme := scheme } (rest.drop 1) := by
  subst hb hr hs
  unfold schemeState
  simp only []
  erw [if_pos h]
  rw [if_neg (by simp [ho])]
  simp only [isFile_set, isSpecial_set, hf, hsp, Bool.false_eq_true, if_false, if_true]
  cases base with
  | none => rfl
  | some b =>
    simp only []
    rw [if_neg (hbase b rfl)]

include hb hr hs in
theorem schemeState_poa (h : isSch ov rest = true) (ho : ov.isSome = false) (hf : isFileScheme scheme = false)
    (hsp : isSpecialScheme scheme = false) (r : List Nat) (hd : rest.drop 1 = 0x2F :: r) :
    schemeState idna base ov u (c0 :: r0) = pathOrAuthorityState idna ov { u with scheme := scheme } r := by
  subst hb hr hs
  unfold schemeState
  simp only []
  erw [if_pos h]
  rw [if_neg (by simp [ho])]
  simp only [isFile_set, isSpecial_set, hf, hsp, Bool.false_eq_true, if_false]
  rw [hd]
  rfl

include hb hr hs in
theorem schemeState_opaque (h : isSch ov rest = true) (ho : ov.isSome = false) (hf : isFileScheme scheme = false)
    (hsp : isSpecialScheme scheme = false) (hd : ∀ r, rest.drop 1 ≠ 0x2F :: r) :
    schemeState idna base ov u (c0 :: r0) =
      opaquePathState ov { u with scheme := scheme, hasOpaquePath := true } (rest.drop 1) := by
  subst hb hr hs
  unfold schemeState
  simp only []
  erw [if_pos h]
  rw [if_neg (by simp [ho])]
  simp only [isFile_set, isSpecial_set, hf, hsp, Bool.false_eq_true, if_false]

end listside

end Upa.Impl.B

namespace Upa.Proofs.C03
open Upa Upa.Impl Upa.Proofs.C01

theorem isSch_some (o : Override) (r0 : List Nat) :
    Impl.B.isSch (some o) (r0.dropWhile isSchemeChar) = decide (schemeEnd r0 = 0x3A) := by
  unfold schemeEnd
  cases r0.dropWhile isSchemeChar with
  | nil => rfl
  | cons c t => rfl

/-- `B.schemeState_ov` / `B.schemeState_no` at the protocol setter's override, the test for the end of the scheme
    spelled with `schemeEnd` -/
theorem schemeState_ov (idna : Idna) (u : Url) (c0 : Nat) (r0 : List Nat) :
    Impl.schemeState idna none (some .schemeStart) u (c0 :: r0) =
      if schemeEnd r0 = 0x3A then implSchemeFin u (Head.schemeOf c0 r0) else ⟨.failure, u⟩ := by
  have hs := isSch_some .schemeStart r0
  by_cases hc : schemeEnd r0 = 0x3A
  · rw [if_pos hc]
    exact Impl.B.schemeState_ov idna none _ u c0 r0 _ _ _ rfl rfl rfl (hs.trans (decide_eq_true hc)) rfl
  · rw [if_neg hc, Impl.B.schemeState_no idna none _ u c0 r0 _ rfl (hs.trans (decide_eq_false hc))]
    rfl

theorem urlParse_scheme_ov (idna : Idna) (u : Url) (inp : List Nat) :
    Impl.urlParse idna none (some .schemeStart) u inp = schemeOv ⟨.failure, u⟩ (implSchemeFin u) inp := by
  cases inp with
  | nil => rfl
  | cons c0 r0 =>
    rw [schemeOv]
    by_cases ha : isAlpha c0 = true
    · rw [if_pos ha, ← schemeState_ov idna]
      simp only [Impl.urlParse, ha, if_true]
    · rw [if_neg ha]
      simp [Impl.urlParse, ha]

end Upa.Proofs.C03

namespace Upa.Proofs.C08
open Upa Upa.Impl
variable {G : Res → Prop}

/-- The protocol setter's run: the record comes back unchanged (`hsame`, with whatever outcome), or with a new
    scheme and the port dropped when it is the new scheme's default (`hset`).  `hset` comes with what the scheme
    block has checked before it writes: the scheme is well formed, special or not as the old one, a file scheme
    only where there are no credentials and no port, and never onto a file URL with an empty host. -/
theorem run_schemeStart_rule (idna : Idna) (u : Url) (p : List Nat) (hsame : ∀ o, G ⟨o, u⟩)
    (hset : ∀ scheme, schemeOk scheme = true → isSpecialScheme scheme = u.isSpecial →
      (isFileScheme scheme = true → u.username = [] ∧ u.password = [] ∧ u.port = none) →
      ¬ (u.isFile = true ∧ u.hostText = []) →
      G ⟨.ok, if (u.port.isSome && decide (defaultPort scheme = u.port)) = true
        then ({ u with scheme := scheme, port := none } : Url) else { u with scheme := scheme }⟩) :
    G (urlParse idna none (some .schemeStart) u p) := by
  rw [C03.urlParse_scheme_ov]
  cases p with
  | nil => exact hsame _
  | cons c0 r0 =>
    refine ite_rule (P := G) (fun h0 => ite_rule (P := G) (fun _ => ?_) fun _ => hsame _) fun _ => hsame _
    have hs : schemeOk (C01.Head.schemeOf c0 r0) = true :=
      scheme_lower_ok c0 _ h0 fun c hc => (mem_takeWhile hc).1
    generalize C01.Head.schemeOf c0 r0 = scheme at hs ⊢
    refine ite_rule (P := G) (fun _ => hsame _) fun h1 => ite_rule (P := G) (fun _ => hsame _) fun h2 =>
      ite_rule (P := G) (fun _ => hsame _) fun h3 => hset scheme hs ?_ (fun hfs => ?_) (by simpa using h3)
    · cases hx : u.isSpecial <;> cases hy : isSpecialScheme scheme <;> simp [hx, hy] at h1 ⊢
    · simp only [hfs, Bool.true_and, Bool.or_eq_true, not_or, Url.hasCredentials, decide_eq_true_eq,
        ne_eq, Decidable.not_not, Bool.not_eq_true, Option.isSome_eq_false_iff, Option.isNone_iff_eq_none] at h2
      exact ⟨h2.1.1, h2.1.2, h2.2⟩

/-! ## a parser run from the start -/

/-- the record the file state starts from -/
def fileBase : Url := { scheme := sFile, host := some emptyHost }

theorem isFileScheme_iff (s : List Nat) : isFileScheme s = true ↔ s = sFile := by
  simp [isFileScheme]

theorem file_special {s : List Nat} (h : isFileScheme s = true) : isSpecialScheme s = true := by
  rw [(isFileScheme_iff s).1 h]; decide

theorem nonspecial_nonfile {s : List Nat} (hns : isSpecialScheme s = false) : isFileScheme s = false := by
  cases h : isFileScheme s with
  | false => rfl
  | true => rw [file_special h] at hns; simp at hns

/-- A parser run from the scheme start state ends in one of these blocks, on one of these records: a fresh
    record with a lower-case scheme, the file record (with host and a prefix of the path, or the drive letter,
    of a file base), or copies of the base.  `hopq`: the opaque path is a suffix of the input.  `hrelB`: a
    non-file base is copied from the no-scheme state, which has turned away a base with an opaque path (left
    disjunct), or from the special-relative-or-authority state, which is entered with the base's special scheme
    (right disjunct).
    The premises in order, with the shape of each as an anonymous constructor: `hfail`; `hauth` (authority of a
    fresh record); `hpath`, `hopq` (path, opaque path of a non-special scheme); `hfile` = `fun q => ⟨file host,
    path⟩` on the file record; with a base `b`: `hfileB b hb hf` = `⟨done, fun q => ⟨query, fragment⟩,
    fun p' q hpre => path on a prefix, fun a c t q hp hd => path on the drive letter⟩`; `hrelB b hb hnf hor` =
    `⟨done, fun q => ⟨query, fragment, path without the last segment, path, authority⟩⟩`; `hopqB b hb ho q` =
    fragment.  A run without a base discharges the last three by `fun _ hb => nomatch hb`
    (`C03.parse_recInv`); `RecInv.good_urlParse` fills all eight. -/
theorem urlParse_rule (idna : Idna) (base : Option Url) (p : List Nat) (hfail : G ⟨.failure, {}⟩)
    (hauth : ∀ s q, schemeOk s = true → isFileScheme s = false →
      G (authorityState idna none { scheme := s } q))
    (hpath : ∀ s q, schemeOk s = true → isSpecialScheme s = false → G (pathState none { scheme := s } q))
    (hopq : ∀ s q, schemeOk s = true → isSpecialScheme s = false → q.head? ≠ some 0x2F → q <:+ p →
      G (opaquePathState none { scheme := s, hasOpaquePath := true } q))
    (hfile : ∀ q, G (fileHostState idna none fileBase q) ∧ G (pathState none fileBase q))
    (hfileB : ∀ b, base = some b → b.isFile = true →
      G ⟨.ok, { fileBase with host := b.host, path := b.path, query := b.query }⟩ ∧
      (∀ q, G (queryState none { fileBase with host := b.host, path := b.path } q) ∧
        G (fragmentState { fileBase with host := b.host, path := b.path, query := b.query } q)) ∧
      (∀ p' q, p' <+: b.path → G (pathState none { fileBase with host := b.host, path := p' } q)) ∧
      (∀ a c t q, b.path = [a, c] :: t → isNormalizedWindowsDrive a c = true →
        G (pathState none { fileBase with host := b.host, path := [[a, c]] } q)))
    (hrelB : ∀ b, base = some b → b.isFile = false → (b.hasOpaquePath = false ∨ b.isSpecial = true) →
      G ⟨.ok, { copyPath (copyAuthority { scheme := b.scheme } b) b with query := b.query }⟩ ∧
      ∀ q, G (queryState none (copyPath (copyAuthority { scheme := b.scheme } b) b) q) ∧
        G (fragmentState { copyPath (copyAuthority { scheme := b.scheme } b) b with query := b.query } q) ∧
        G (pathState none (removeLastSegment (copyPath (copyAuthority { scheme := b.scheme } b) b)) q) ∧
        G (pathState none (copyAuthority { scheme := b.scheme } b) q) ∧
        G (authorityState idna none { scheme := b.scheme } q))
    (hopqB : ∀ b, base = some b → b.hasOpaquePath = true → ∀ q,
      G (fragmentState { copyPath { scheme := b.scheme } b with query := b.query } q)) :
    G (urlParse idna base none {} p) := by
  have hfileState : ∀ s q, G (fileState idna base none { scheme := s } q) := by
    intro s q
    have hu1 : (if !Url.isFile { scheme := s } then ({ ({ scheme := s } : Url) with scheme := sFile } : Url)
        else { scheme := s }) = { scheme := sFile } := by
      refine ite_rule (P := fun u : Url => u = { scheme := sFile }) (fun _ => rfl) (fun h => ?_)
      have : s = sFile := by simpa [Url.isFile, isFileScheme] using h
      subst this; rfl
    have hdef : ∀ q, G (fileState.fileDefault base none fileBase q) := by
      intro q
      unfold fileState.fileDefault
      cases base with
      | none => exact (hfile q).2
      | some b =>
        refine ite_rule (P := G) (fun hbf => ?_) (fun _ => (hfile q).2)
        obtain ⟨h1, h2, h3, _⟩ := hfileB b rfl hbf
        cases q with
        | nil => exact h1
        | cons c r =>
          refine ite_prop (P := G) (h2 _).1 (ite_prop (P := G) (h2 _).2 (ite_prop (P := G) ?_ ?_))
          · obtain ⟨p', he, hpre⟩ := shortenPath_spec { fileBase with host := b.host, path := b.path }
            rw [he]; exact h3 p' _ hpre
          · exact h3 [] _ List.nil_prefix
    have hslash : ∀ q, G (fileSlashState idna base none fileBase q) := by
      intro q
      have hd : ∀ q, G (fileSlashState.fileSlashDefault base none fileBase q) := by
        intro q
        unfold fileSlashState.fileSlashDefault
        cases base with
        | none => exact (hfile q).2
        | some b =>
          refine ite_rule (P := fun u : Url => G (pathState none u q)) (fun hbf => ?_) (fun _ => (hfile q).2)
          obtain ⟨_, _, h3, h4⟩ := hfileB b rfl hbf
          refine ite_prop (P := fun u : Url => G (pathState none u q)) ?_ (h3 [] q List.nil_prefix)
          split
          · rename_i a c t hbp
            exact ite_rule (P := fun u : Url => G (pathState none u q)) (fun hn => h4 a c t q hbp hn)
              (fun _ => h3 [] q List.nil_prefix)
          · exact h3 [] q List.nil_prefix
      unfold fileSlashState
      cases q with
      | nil => exact hd _
      | cons c r => exact ite_prop (P := G) (hfile r).1 (hd _)
    unfold fileState
    rw [hu1]
    cases q with
    | nil => exact hdef _
    | cons c r => exact ite_prop (P := G) (hslash r) (hdef _)
  have hrel : ∀ b, base = some b → b.isFile = false → (b.hasOpaquePath = false ∨ b.isSpecial = true) →
      ∀ s q, G (relativeState idna b none { scheme := s } q) := by
    intro b hb hbf hbo s q
    obtain ⟨h1, h2⟩ := hrelB b hb hbf hbo
    have hsl : ∀ r, G (relativeSlashState idna b none { scheme := b.scheme } r) := by
      intro r
      unfold relativeSlashState
      cases r with
      | nil => exact (h2 _).2.2.2.1
      | cons c r =>
        exact ite_prop (P := G) (ite_prop (P := G) (h2 _).2.2.2.2 (h2 _).2.2.2.2)
          (ite_prop (P := G) (h2 _).2.2.2.2 (h2 _).2.2.2.1)
    unfold relativeState
    cases q with
    | nil => exact h1
    | cons c r =>
      exact ite_prop (P := G) (hsl r) (ite_prop (P := G) (h2 r).1 (ite_prop (P := G) (h2 r).2.1
        (ite_prop (P := G) (hsl r) (h2 _).2.2.1)))
  have hno : ∀ q, G (noSchemeState idna base none {} q) := by
    intro q
    unfold noSchemeState
    cases hb : base with
    | none => exact hfail
    | some b =>
      subst hb
      refine ite_rule (P := G) (fun hbo => ?_) (fun hbo => ?_)
      · split
        · exact hopqB b rfl hbo _
        · exact hfail
      · exact ite_rule (P := G) (fun _ => hfileState _ _)
          (fun hbf => hrel b rfl (by simpa using hbf) (Or.inl (by simpa using hbo)) _ _)
  unfold urlParse
  cases hp : p with
  | nil => simp only [Option.isNone_none, if_true]; exact hno _
  | cons c0 r0 =>
    refine ite_rule (P := G) (fun h0 => ?_) (fun _ => by simp only [Option.isNone_none, if_true]; exact hno _)
    have hs : schemeOk ((c0 :: r0.takeWhile isSchemeChar).map (· ||| 0x20)) = true :=
      scheme_lower_ok c0 _ h0 (fun c hc => (mem_takeWhile hc).1)
    -- all branches of the scheme state at once under the motive (`ite_rule` on the block itself); the branch
    -- equations `B.schemeState_*` are for arguments that know which branch is taken
    unfold schemeState
    dsimp only
    generalize (c0 :: r0.takeWhile isSchemeChar).map (· ||| 0x20) = scheme at hs ⊢
    have hno' : G (if (none : Option Override).isNone = true then noSchemeState idna base none {} (c0 :: r0)
        else ⟨.failure, {}⟩) := by
      simp only [Option.isNone_none, if_true]; exact hno _
    cases hrest : List.dropWhile isSchemeChar r0 with
    | nil => simp only [Option.isSome_none, Bool.false_eq_true, if_false]; exact hno'
    | cons c tl =>
      dsimp only
      refine ite_rule (P := G) (fun _ => ?_) (fun _ => hno')
      simp only [Option.isSome_none, Bool.false_eq_true, if_false]
      refine ite_rule (P := G) (fun _ => hfileState scheme _) (fun hnf => ?_)
      have hnf' : isFileScheme scheme = false := by simpa [Url.isFile] using hnf
      have hslashes : ∀ q, G (specialAuthoritySlashesState idna none { scheme := scheme } q) := by
        intro q
        unfold specialAuthoritySlashesState ignoreSlashesState
        split <;> exact hauth scheme _ hs hnf'
      refine ite_rule (P := G) (fun hsp => ?_) (fun hsp => ?_)
      · cases hb : base with
        | none => exact hslashes _
        | some b =>
          refine ite_rule (P := G) (fun hbs => ?_) (fun _ => hslashes _)
          have hbs' : b.scheme = scheme := hbs
          subst hbs'
          unfold specialRelativeOrAuthorityState ignoreSlashesState
          split
          · exact hauth _ _ hs hnf'
          · exact hrel b hb hnf' (Or.inr hsp) _ _
      · have hns : isSpecialScheme scheme = false := by simpa [Url.isSpecial] using hsp
        split
        · unfold pathOrAuthorityState
          split
          · exact hauth scheme _ hs (nonspecial_nonfile hns)
          · exact hpath scheme _ hs hns
        · rename_i hnsl
          refine hopq scheme _ hs hns (fun hh => ?_) ?_
          · cases htl' : List.drop 1 (c :: tl) with
            | nil => rw [htl'] at hh; simp at hh
            | cons x xs =>
              rw [htl'] at hh
              simp only [List.head?_cons, Option.some.injEq] at hh
              subst hh
              exact hnsl xs htl'
          · have h2 : c :: tl <:+ r0 := by rw [← hrest]; exact List.dropWhile_suffix _
            rw [hp]; exact ((List.suffix_cons c tl).trans h2).trans (List.suffix_cons c0 r0)

/-! ## results of blocks -/

/-- result of a block in an argument that the parser keeps `A`: `A` holds of the record, or (parser run)
    the block did not report success -/
def Good (A : Url → Prop) (ov : Option Override) (r : Res) : Prop := A r.url ∨ (ov = none ∧ r.out ≠ .ok)

theorem good_of {A : Url → Prop} {ov : Option Override} {r : Res}
    (h : ov.isSome = true ∨ r.out = .ok → A r.url) : Good A ov r := by
  by_cases hc : ov.isSome = true ∨ r.out = .ok
  · exact Or.inl (h hc)
  · right
    simp only [not_or] at hc
    refine ⟨?_, hc.2⟩
    cases ov with
    | none => rfl
    | some o => simp at hc

theorem good_fail {A : Url → Prop} {ov : Option Override} {u : Url} (hu : ov.isSome = true → A u)
    (o : Outcome) (ho : o ≠ .ok) : Good A ov ⟨o, u⟩ := by
  cases ov with
  | none => exact Or.inr ⟨rfl, ho⟩
  | some x => exact Or.inl (hu rfl)

theorem parse_eq (idna : Idna) (e : Enc) (units : List Nat) (base : Option Url) :
    parse idna e units base =
      if (urlParse idna base none {} (prep e (doTrim units))).out = .ok then
        some (urlParse idna base none {} (prep e (doTrim units))).url else none := by
  unfold parse
  generalize urlParse idna base none {} (prep e (doTrim units)) = r
  obtain ⟨o, u⟩ := r
  cases o <;> rfl

theorem parse_of_good {A : Url → Prop} {idna : Idna} {e : Enc} {units : List Nat} {base : Option Url} {u : Url}
    (hg : Good A none (urlParse idna base none {} (prep e (doTrim units))))
    (h : parse idna e units base = some u) : A u := by
  rw [parse_eq] at h
  split at h
  · rename_i hok
    rw [← Option.some.inj h]
    exact hg.resolve_right fun hn => hn.2 hok
  · cases h

/-! ## setters, `update` -/

theorem hostText_nil {u : Url} (h : u.host = none) : u.hostText = [] := by simp [Url.hostText, h]

theorem canHave_iff {u : Url} :
    canHaveUsernamePasswordPort u = true ↔ u.hostText ≠ [] ∧ u.isFile = false := by
  simp [canHaveUsernamePasswordPort]

/-- The ten setters in one rule: `P` holds of the record after `setValid` once it holds of the old record (`hu`:
    a setter that does nothing, or fails) and of what each setter can write.  A premise is asked only under its
    setters and under the guard they share: `hproto` is the `hset` of `run_schemeStart_rule` (the new scheme with
    what the scheme block has checked); `hcred` (username, password, port, each part under its setter) under
    `canHaveUsernamePasswordPort`; `hhost` (host and hostname; pathname) under `hasOpaquePath = false`, the host
    state for every override `o` since host and hostname differ in it only; `hsearch` and `hhash` give the
    emptied component (trailing spaces of an opaque path stripped) and the parsed one. -/
theorem setValid_rule {P : Url → Prop} (idna : Idna) (s : Setter) (e : Enc) (units : List Nat) (u : Url)
    (hu : P u)
    (hhref : s = .href → ∀ u', parse idna e units none = some u' → P u')
    (hproto : s = .protocol → ∀ scheme, schemeOk scheme = true → isSpecialScheme scheme = u.isSpecial →
      (isFileScheme scheme = true → u.username = [] ∧ u.password = [] ∧ u.port = none) →
      ¬ (u.isFile = true ∧ u.hostText = []) →
      P (if (u.port.isSome && decide (defaultPort scheme = u.port)) = true
        then ({ u with scheme := scheme, port := none } : Url) else { u with scheme := scheme }))
    (hcred : canHaveUsernamePasswordPort u = true →
      (s = .username → ∀ x, P { u with username := percentEncode userinfoNoEnc x }) ∧
      (s = .password → ∀ x, P { u with password := percentEncode userinfoNoEnc x }) ∧
      (s = .port → P { u with port := none } ∧ ∀ p, P (portState (some .port) u p).url))
    (hhost : u.hasOpaquePath = false → ∀ p,
      (s = .host ∨ s = .hostname → ∀ o, P (hostState idna (some o) u p).url) ∧
      (s = .pathname → P (pathStartState (some .pathStart) { u with path := [] } p).url))
    (hsearch : s = .search →
      P (stripTrailingSpaces { u with query := none }) ∧ ∀ p, P (queryState (some .query) u p).url)
    (hhash : s = .hash →
      P (stripTrailingSpaces { u with fragment := none }) ∧ ∀ p, P (fragmentState u p).url) :
    P (setValid idna s e units u).1 := by
  unfold setValid
  cases s with
  | href =>
    dsimp only
    cases hpr : parse idna e units none with
    | none => exact hu
    | some u' => exact hhref rfl u' hpr
  | protocol => exact run_schemeStart_rule (G := fun r => P r.url) idna u _ (fun _ => hu) (hproto rfl)
  | username => exact ite_rule (P := fun r : Url × Bool => P r.1) (fun hc => (hcred hc).1 rfl _) (fun _ => hu)
  | password => exact ite_rule (P := fun r : Url × Bool => P r.1) (fun hc => (hcred hc).2.1 rfl _) (fun _ => hu)
  | host =>
    exact ite_rule (P := fun r : Url × Bool => P r.1)
      (fun ho => (hhost (by simpa using ho) _).1 (.inl rfl) _) (fun _ => hu)
  | hostname =>
    exact ite_rule (P := fun r : Url × Bool => P r.1)
      (fun ho => (hhost (by simpa using ho) _).1 (.inr rfl) _) (fun _ => hu)
  | port =>
    exact ite_rule (P := fun r : Url × Bool => P r.1)
      (fun hc => ite_rule (P := fun r : Url × Bool => P r.1) (fun _ => ((hcred hc).2.2 rfl).1)
        (fun _ => ((hcred hc).2.2 rfl).2 _))
      (fun _ => hu)
  | pathname =>
    exact ite_rule (P := fun r : Url × Bool => P r.1)
      (fun ho => (hhost (by simpa using ho) _).2 rfl) (fun _ => hu)
  | search =>
    cases units with
    | nil => exact (hsearch rfl).1
    | cons c r => exact (hsearch rfl).2 _
  | hash =>
    cases units with
    | nil => exact (hhash rfl).1
    | cons c r => exact (hhash rfl).2 _

theorem strip_prefix (l : List Nat) : (l.reverse.dropWhile (· == 0x20)).reverse <+: l := by
  refine ⟨(l.reverse.takeWhile (· == 0x20)).reverse, ?_⟩
  rw [← List.reverse_append, List.takeWhile_append_dropWhile, List.reverse_reverse]

theorem strip_last (l : List Nat) : (l.reverse.dropWhile (· == 0x20)).reverse.getLast? ≠ some 0x20 := by
  rw [List.getLast?_reverse]
  have := List.head?_dropWhile_not (· == 0x20) l.reverse
  intro h
  rw [h] at this
  simp at this

/-- `stripTrailingSpaces` changes the opaque path only, to a prefix of it -/
theorem stripTrailingSpaces_frame (u : Url) :
    ∃ op, stripTrailingSpaces u = { u with opaquePath := op } ∧ op <+: u.opaquePath := by
  unfold stripTrailingSpaces
  split
  · exact ⟨_, rfl, strip_prefix _⟩
  · exact ⟨_, rfl, List.prefix_refl _⟩

theorem update_rule {P : Url → Prop} (o : UrlObj) (hu : ∀ u, o.url = some u → P u)
    (hset : ∀ u p, o.url = some u → o.sp = some p →
      P (stripTrailingSpaces { u with query := none }) ∧ P { u with query := some (formSerialize p.list) }) :
    ∀ u', o.update.url = some u' → P u' := by
  intro u' hu'
  unfold UrlObj.update at hu'
  split at hu'
  · rename_i u p hou hop
    split at hu' <;> rw [← Option.some.inj hu']
    · exact (hset u p hou hop).1
    · exact (hset u p hou hop).2
  · exact hu u' hu'

/-! ## what a setter may change in the record
    The blocks a setter enters by the fields they can touch (`*_frame`), then the ten setters in one statement,
    setter by setter: every case of `SetStep s u v` but `same` names the setter `s` it belongs to
    (`setValid_frame`).  This is for a user that needs the shape of the change only; one that needs more (where
    the host comes from, the range of the port) goes through `setValid_rule`. -/

theorem _root_.Upa.Proofs.C03.key_stripTrailingSpaces (u : Url) : C03.key (stripTrailingSpaces u) = C03.key u :=
  (stripTrailingSpaces_frame u).elim fun _ h => h.1 ▸ rfl

/-- under the guard of username, password and port the host is not null (its text is not empty) -/
theorem canHave_host {u : Url} (hc : canHaveUsernamePasswordPort u = true) : ∃ x, u.host = some x ∧ x.text ≠ [] := by
  have ht := (canHave_iff.1 hc).1
  cases hh : u.host with
  | none => exact absurd (hostText_nil hh) ht
  | some x => exact ⟨x, rfl, by simpa [Url.hostText, hh] using ht⟩

theorem portState_frame (ov : Override) (u : Url) (p : List Nat) :
    ∃ po, (portState (some ov) u p).url = { u with port := po } :=
  portState_rule (G := fun res => ∃ po, res.url = { u with port := po }) (some ov) u p
    ⟨u.port, rfl⟩ (fun u' hu' _ => by
      rcases hu' with rfl | rfl | ⟨n, _, _, rfl⟩
      · exact ⟨u'.port, rfl⟩
      · exact ⟨none, rfl⟩
      · exact ⟨some n, rfl⟩)

theorem fileHostState_frame (idna : Idna) (ov : Override) (u : Url) (p : List Nat) :
    (fileHostState idna (some ov) u p).url = u ∨
    ∃ hd, (fileHostState idna (some ov) u p).url = { u with host := some hd } :=
  fileHostState_rule (G := fun res => res.url = u ∨ ∃ hd, res.url = { u with host := some hd })
    idna (some ov) u p (Or.inl rfl) (fun hc => nomatch hc) (fun hd _ _ => Or.inr ⟨hd, rfl⟩)

theorem hostState_frame (idna : Idna) (ov : Override) (u : Url) (p : List Nat) :
    (hostState idna (some ov) u p).url = u ∨
    ∃ hd po, (hostState idna (some ov) u p).url = { u with host := some hd, port := po } :=
  hostState_cases (G := fun res => res.url = u ∨ ∃ hd po, res.url = { u with host := some hd, port := po })
    idna (some ov) u p (fun _ _ => (fileHostState_frame idna ov u p).imp_right fun ⟨hd, h⟩ => ⟨hd, u.port, h⟩)
    (fun _ _ => Or.inl rfl)
    (fun _ _ hd _ q => ⟨Or.inr ⟨hd, u.port, rfl⟩,
      (portState_frame ov { u with host := some hd } q).elim fun po hpo => Or.inr ⟨hd, po, hpo⟩⟩)

/-- path start on the emptied path, as the pathname setter runs it: only the path changes; the new path has every
    property that the path loop keeps (`PathLoopInv`) and the empty path has; it is not empty when the host is null -/
theorem pathStart_frame (ov : Override) (u : Url) (p : List Nat) :
    ∃ p', (pathStartState (some ov) { u with path := [] } p).url = { u with path := p' } ∧
      (∀ Q, PathLoopInv u.isSpecial u.isFile Q → Q [] → Q p') ∧ (u.host = none → p' ≠ []) := by
  refine pathStartState_rule (G := fun r => ∃ p', r.url = { u with path := p' } ∧
      (∀ Q, PathLoopInv u.isSpecial u.isFile Q → Q [] → Q p') ∧ (u.host = none → p' ≠ [])) _ _ p (fun s => ?_)
    (fun _ hc => nomatch hc) (fun _ _ _ => ⟨[[]], rfl, fun _ hQ h0 => hQ.snocNil h0, fun _ => by simp⟩)
    (fun _ hc => ⟨[], rfl, fun _ _ h0 => h0, fun hn => absurd hn (hc.resolve_left fun h => nomatch h)⟩)
  rw [pathState_ov]
  obtain ⟨p', he, hQ, hne⟩ := parsePath_inv (Q := fun p => ∀ Q, PathLoopInv u.isSpecial u.isFile Q → Q [] → Q p)
    { u with path := [] }
    ⟨fun hpre h Q hQ h0 => hQ.pre hpre (h Q hQ h0), fun h Q hQ h0 => hQ.snocNil (h Q hQ h0),
      fun ha hf Q hQ _ => hQ.drive ha hf, fun h a b c d e Q hQ h0 => hQ.enc (h Q hQ h0) a b c d e⟩
    s (fun _ _ h0 => h0)
  exact ⟨p', by rw [he], hQ, fun _ => hne⟩

/-- what the setter `s` (other than href) may do to the record `u`, also when it reports failure -/
inductive SetStep (s : Setter) (u : Url) : Url → Prop
  | same : SetStep s u u
  | scheme (sc : List Nat) (po : Option Nat) : s = .protocol → sc ≠ [] → u.isSpecial = isSpecialScheme sc →
      (po = u.port ∨ po = none) → SetStep s u { u with scheme := sc, port := po }
  | user (x : List Nat) : s = .username → canHaveUsernamePasswordPort u = true → SetStep s u { u with username := x }
  | pass (x : List Nat) : s = .password → canHaveUsernamePasswordPort u = true → SetStep s u { u with password := x }
  | port (po : Option Nat) : s = .port → canHaveUsernamePasswordPort u = true → SetStep s u { u with port := po }
  | host (hd : Host) (po : Option Nat) : s = .host ∨ s = .hostname → u.hasOpaquePath = false →
      SetStep s u { u with host := some hd, port := po }
  | path (p' : List (List Nat)) : s = .pathname → u.hasOpaquePath = false →
      (∀ Q, PathLoopInv u.isSpecial u.isFile Q → Q [] → Q p') → (u.host = none → p' ≠ []) →
      SetStep s u { u with path := p' }
  | query (q : List Nat) : s = .search → SetStep s u { u with query := some q }
  | noQuery : s = .search → SetStep s u (stripTrailingSpaces { u with query := none })
  | frag (f : List Nat) : s = .hash → SetStep s u { u with fragment := some f }
  | noFrag : s = .hash → SetStep s u (stripTrailingSpaces { u with fragment := none })

/-- To take the cases of `h := setValid_frame …`, first `generalize (setValid idna s e units u).1 = v at h ⊢`
    (`cases` wants a variable there). -/
theorem setValid_frame (idna : Idna) (s : Setter) (e : Enc) (units : List Nat) (u : Url) (hs : s ≠ .href) :
    SetStep s u (setValid idna s e units u).1 := by
  refine setValid_rule (P := SetStep s u) idna s e units u .same (fun h => absurd h hs)
    (fun hp sc hok hsp _ _ => ?_)
    (fun hc => ⟨fun h x => .user _ h hc, fun h x => .pass _ h hc, fun h => ⟨.port none h hc, fun p => ?_⟩⟩)
    (fun ho p => ⟨fun h o => ?_, fun h => ?_⟩)
    (fun hq => ⟨.noQuery hq, fun p => by rw [queryState_ov]; exact .query _ hq⟩)
    (fun hh => ⟨.noFrag hh, fun p => .frag _ hh⟩)
  · have hsc : sc ≠ [] := fun hc => by rw [hc] at hok; exact absurd hok (by decide)
    split
    · exact .scheme sc none hp hsc hsp.symm (.inr rfl)
    · exact .scheme sc u.port hp hsc hsp.symm (.inl rfl)
  · obtain ⟨po, hpo⟩ := portState_frame .port u p
    rw [hpo]; exact .port po h hc
  · rcases hostState_frame idna o u p with hk | ⟨hd, po, hk⟩ <;> rw [hk]
    · exact .same
    · exact .host hd po h ho
  · obtain ⟨p', hk, h1, h2⟩ := pathStart_frame .pathStart u p
    rw [hk]; exact .path p' h ho h1 h2

end Upa.Proofs.C08

/-! ## the host parser (Upa/Impl/Host.lean), its stages named

`C07.impl_cons` is the model's `parseHost` with the fast path (`implFast`), its test on the next element
(`exemptNext`) and the work after ToASCII (`implFinish`) under names.  To rewrite a call of the host parser take
the equation of its branch (`parseHost_nil`, `_bracket` / `_brackets`, `_opaque`, `_domain` / `_domain_all`); to
learn which hosts come back take `parseHost_rule`, which is assembled from the two inversions `implFast_some` and
`implFinish_some`. -/

namespace Upa.Proofs.C07
open Upa Upa.Impl Upa.Spec

/-- url_host.h:264-286 -/
def implFinish (r : Option (List Nat)) : Option Host :=
  match r with
  | none => none
  | some ascii =>
    if ascii.any forbiddenDomain then none
    else if Impl.endsInNumber ascii then Impl.hostParseIpv4 ascii
    else some { kind := .domain, text := ascii }

/-- `ptr + 1 < last && (ptr[1] >= 0x80 || ptr[1] == '%')` -/
def exemptNext (rest : List Nat) : Bool :=
  match rest with | n :: _ => decide (n ≥ 0x80) || n == 0x25 | [] => false

/-- the fast path and the early rejection of url_host.h:189-214: `some r` = return `r` now -/
def implFast (s : List Nat) : Option (Option Host) :=
  match s.dropWhile asciiDomainChar with
  | [] =>
    if !Impl.hasXnLabel s then
      some (if Impl.endsInNumber s then Impl.hostParseIpv4 s
            else some { kind := .domain, text := s.map toLower })
    else none
  | p :: rest =>
    if p < 0x80 ∧ p ≠ 0x25 then
      if ¬ (p ≥ 0x3C ∧ p ≤ 0x3E ∧ exemptNext rest = true)
      then some none else none
    else none

/-- the code on a non-empty input; the non-opaque branch is the fast path or the early rejection,
    else url_host.h:216-286 -/
theorem impl_cons (idna : Idna) (c0 : Nat) (t : List Nat) (isOpaque : Bool) :
    Impl.parseHost idna (c0 :: t) isOpaque =
      if c0 = 0x5B then
        if (c0 :: t).getLast? = some 0x5D then Impl.hostParseIpv6 ((c0 :: t).drop 1).dropLast else none
      else if isOpaque then Impl.parseOpaqueHost (c0 :: t)
      else
        match implFast (c0 :: t) with
        | some r => r
        | none =>
          implFinish (idna (Impl.encodeUtf16 (Impl.decode .u8 (Impl.percentDecode (c0 :: t))))) := by
  simp only [Impl.parseHost]
  rfl

theorem adc_iff (c : Nat) :
    asciiDomainChar c = true ↔ 0x20 ≤ c ∧ c ≤ 0x7F ∧ forbiddenDomain c = false := by
  simp [asciiDomainChar, and_assoc]

theorem adc_plain (c : Nat) (h : asciiDomainChar c = true) : c < 0x80 ∧ c ≠ 0x25 := by
  obtain ⟨_, h7f, hf⟩ := (adc_iff c).1 h
  refine ⟨Nat.lt_succ_of_le h7f, fun e => ?_⟩
  rw [e] at hf
  exact absurd hf (by decide)

end Upa.Proofs.C07

namespace Upa.Proofs.C08
open Upa Upa.Impl

theorem parseHost_domain (idna : Idna) (c0 : Nat) (r : List Nat) (h : c0 ≠ 0x5B) :
    parseHost idna (c0 :: r) false =
      match C07.implFast (c0 :: r) with
      | some x => x
      | none => C07.implFinish (idna (encodeUtf16 (decode .u8 (percentDecode (c0 :: r))))) := by
  rw [C07.impl_cons, if_neg h, if_neg Bool.false_ne_true]

/-! The other three branches, and the fast path on a string of ASCII domain characters. -/

theorem parseHost_nil (idna : Idna) (o : Bool) : parseHost idna [] o = if o then some emptyHost else none := rfl

theorem parseHost_bracket (idna : Idna) (t : List Nat) (o : Bool) :
    parseHost idna (0x5B :: t) o =
      if (0x5B :: t).getLast? = some 0x5D then hostParseIpv6 t.dropLast else none := by
  rw [C07.impl_cons, if_pos rfl]; rfl

theorem parseHost_brackets (idna : Idna) (m : List Nat) (o : Bool) :
    parseHost idna ([0x5B] ++ m ++ [0x5D]) o = hostParseIpv6 m := by
  rw [List.append_assoc, List.singleton_append, parseHost_bracket,
    if_pos (by rw [← List.cons_append, List.getLast?_concat]), List.dropLast_concat]

theorem parseHost_opaque (idna : Idna) (c0 : Nat) (r : List Nat) (h : c0 ≠ 0x5B) :
    parseHost idna (c0 :: r) true = parseOpaqueHost (c0 :: r) := by
  rw [C07.impl_cons, if_neg h, if_pos rfl]

theorem parseOpaqueHost_some {s : List Nat} {h : Host} :
    parseOpaqueHost s = some h ↔ (∀ c ∈ s, Spec.forbiddenHost c = false) ∧
      h = { kind := if percentEncodeC0 s = [] then .empty else .opaque, text := percentEncodeC0 s } := by
  unfold parseOpaqueHost
  split
  · rename_i hany
    obtain ⟨c, hc, hf⟩ := List.any_eq_true.1 hany
    exact ⟨nofun, fun e => absurd hf (by rw [e.1 c hc]; decide)⟩
  · rename_i hany
    exact ⟨fun e => ⟨fun c hc => Bool.eq_false_iff.2 fun hf => hany (List.any_eq_true.2 ⟨c, hc, hf⟩),
      (Option.some.inj e).symm⟩, fun e => e.2 ▸ rfl⟩

theorem fastPath_all (t : List Nat) (hall : ∀ c ∈ t, Spec.asciiDomainChar c = true) :
    C07.implFast t =
      if !hasXnLabel t then
        some (if endsInNumber t then hostParseIpv4 t else some { kind := .domain, text := t.map toLower })
      else none := by
  unfold C07.implFast
  rw [dropWhile_eq_nil_iff.2 hall]

/-- a non-empty string of ASCII domain characters: the domain branch of the host parser -/
theorem parseHost_domain_all (idna : Idna) (t : List Nat) (hne : t ≠ [])
    (hall : ∀ c ∈ t, Spec.asciiDomainChar c = true) :
    parseHost idna t false =
      match C07.implFast t with
      | some x => x
      | none => C07.implFinish (idna (encodeUtf16 (decode .u8 (percentDecode t)))) := by
  cases t with
  | nil => exact absurd rfl hne
  | cons c0 r =>
    exact parseHost_domain idna c0 r fun hc => absurd (hall c0 List.mem_cons_self) (by rw [hc]; decide)

theorem implFast_some {s : List Nat} {x : Option Host} (hf : C07.implFast s = some x) :
    x = none ∨ ((∀ c ∈ s, Spec.asciiDomainChar c = true) ∧ hasXnLabel s = false ∧
      x = if endsInNumber s then hostParseIpv4 s else some { kind := .domain, text := s.map toLower }) := by
  unfold C07.implFast at hf
  split at hf
  · rename_i htail
    split at hf
    · rename_i hxn
      exact Or.inr ⟨dropWhile_eq_nil_iff.1 htail, by simpa using hxn, (Option.some.inj hf).symm⟩
    · simp at hf
  · left
    split at hf
    · split at hf
      · exact (Option.some.inj hf).symm
      · cases hf
    · exact absurd hf (by simp)

theorem implFinish_some {r : Option (List Nat)} {h : Host} (hr : C07.implFinish r = some h) :
    ∃ ascii, r = some ascii ∧
      (∀ c ∈ ascii, Spec.forbiddenDomain c = false) ∧
      ((endsInNumber ascii = true ∧ hostParseIpv4 ascii = some h) ∨
        (endsInNumber ascii = false ∧ h = { kind := .domain, text := ascii })) := by
  cases r with
  | none => cases hr
  | some ascii =>
    refine ⟨ascii, rfl, ?_⟩
    simp only [C07.implFinish] at hr
    split at hr
    · cases hr
    · rename_i hany
      refine ⟨fun c hc => ?_, ?_⟩
      · cases hf : Spec.forbiddenDomain c with
        | false => rfl
        | true => exact absurd (List.any_eq_true.2 ⟨c, hc, hf⟩) hany
      · split at hr
        · rename_i hen; exact Or.inl ⟨hen, hr⟩
        · rename_i hen; exact Or.inr ⟨by simpa using hen, (Option.some.inj hr).symm⟩

/-- Every way the host parser returns a host: the empty host (opaque, empty input), the IPv6, opaque-host or
    IPv4 parser, the lower-cased input (fast path), the output of ToASCII. -/
theorem parseHost_rule {P : Host → Prop} {idna : Idna} {s : List Nat} {o : Bool} {h : Host}
    (hh : parseHost idna s o = some h)
    (hempty : s = [] → P emptyHost)
    (hv6 : ∀ x a, ipv6Parse x = some a → P { kind := .ipv6, text := [0x5B] ++ ipv6Serialize a ++ [0x5D] })
    (hopq : s ≠ [] → o = true → (∀ c ∈ s, Spec.forbiddenHost c = false) →
      P { kind := if percentEncodeC0 s = [] then .empty else .opaque, text := percentEncodeC0 s })
    (hv4 : o = false → ∀ x n, ipv4Parse x = some n → P { kind := .ipv4, text := ipv4Serialize n })
    (hfast : o = false → s ≠ [] → (∀ c ∈ s, Spec.asciiDomainChar c = true) → hasXnLabel s = false →
      endsInNumber s = false → P { kind := .domain, text := s.map toLower })
    (hidna : o = false → ∀ a, idna (encodeUtf16 (decode .u8 (percentDecode s))) = some a →
      (∀ c ∈ a, Spec.forbiddenDomain c = false) → endsInNumber a = false → P { kind := .domain, text := a }) :
    P h := by
  have v4 : o = false → ∀ x, hostParseIpv4 x = some h → P h := fun ho x hx => by
    obtain ⟨n, hn, rfl⟩ := Option.map_eq_some_iff.1 hx
    exact hv4 ho x n hn
  cases s with
  | nil =>
    rw [parseHost_nil] at hh
    split at hh
    · exact Option.some.inj hh ▸ hempty rfl
    · cases hh
  | cons c0 r =>
    have hne : c0 :: r ≠ [] := List.cons_ne_nil _ _
    by_cases hb : c0 = 0x5B
    · rw [hb, parseHost_bracket] at hh
      split at hh
      · obtain ⟨a, ha, rfl⟩ := Option.map_eq_some_iff.1 hh
        exact hv6 _ a ha
      · cases hh
    · cases o with
      | true =>
        rw [parseHost_opaque idna c0 r hb] at hh
        obtain ⟨hs, rfl⟩ := parseOpaqueHost_some.1 hh
        exact hopq hne rfl hs
      | false =>
        rw [parseHost_domain idna c0 r hb] at hh
        split at hh
        · rename_i x hf
          rcases implFast_some hf with rfl | ⟨hall, hxn, rfl⟩
          · cases hh
          · split at hh
            · exact v4 rfl _ hh
            · rename_i hen
              exact Option.some.inj hh ▸ hfast rfl hne hall hxn (Bool.eq_false_iff.2 hen)
        · obtain ⟨a, hid, hforb, ⟨_, h4⟩ | ⟨hen, rfl⟩⟩ := implFinish_some hh
          · exact v4 rfl _ h4
          · exact hidna rfl a hid hforb hen

end Upa.Proofs.C08
