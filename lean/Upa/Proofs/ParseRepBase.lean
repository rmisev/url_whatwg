import Upa.Proofs.ParseRepAppend
import Upa.Proofs.ParseRepSim
/-
  The states that read the base URL (`append_parts`, `set_scheme(base)`), for any representation
  `mkRep (layout b) B` of the base record `b`.  `copy_list` says once what `append_parts` does with a base
  that has a list path; the relative states (`rel_copy` in `ParseRepRel`) and the file states
  (`file_copy` in `ParseRepFile`) instantiate it with the record they copy into.
-/

namespace Upa.Proofs.ParseRep
open Upa Upa.Impl Upa.Proofs.C05 Upa.Proofs.SetRep Upa.Proofs.SetRepApi Upa.Props

/-- what the parser needs of a base record: `RepOk` (Proofs/SetRepOps.lean), `HostInv`, `RecShape`
    (Proofs/SetRepApi.lean), and a file URL has no port (`Norm` of C02 — every parsed URL — implies all four).
    The clauses are read through the projections below. -/
def BaseOk (b : Url) : Prop :=
  RepOk b ∧ HostInv b ∧ RecShape b ∧ (b.isFile = true → b.port = none)

instance (b : Url) : Decidable (BaseOk b) := by unfold BaseOk; infer_instance

section
variable {b : Url} (ok : BaseOk b)
include ok

theorem BaseOk.wf : RecWF b := ok.1.1
theorem BaseOk.scheme_ne : b.scheme ≠ [] := ok.1.1.1
theorem BaseOk.bare (hh : b.host = none) : b.username = [] ∧ b.password = [] ∧ b.port = none := ok.1.1.2 hh
theorem BaseOk.path_ne (hh : b.host = none) (ho : b.hasOpaquePath = false) : b.path ≠ [] := ok.1.2.1 hh ho
theorem BaseOk.opaque_noHost (ho : b.hasOpaquePath = true) : b.host = none := ok.1.2.2 ho
theorem BaseOk.host_of_special (hs : b.isSpecial = true) : b.host.isSome = true := ok.2.1 hs
theorem BaseOk.opaquePath_nil (ho : b.hasOpaquePath = false) : b.opaquePath = [] := (ok.2.2.1.2 ho).1
theorem BaseOk.noSlash (ho : b.hasOpaquePath = false) : NoSlash b.path := ok.2.2.1.noSlash ho
theorem BaseOk.file_noport (hf : b.isFile = true) : b.port = none := ok.2.2.2 hf

end

/-- the base is held as its started segments `B` (`BaseRel`); its getters are read through `RepFor` -/
theorem BaseOk.repFor {b : Url} (ok : BaseOk b) {B : List (List Nat)} (hB : Rp (segsOf b) B) :
    RepFor (mkRep (layout b) B) b := represents_equiv b ok.wf ⟨B, hB, rfl⟩

theorem base_present {rb : Rep} {b : Url} (ok : BaseOk b) (h : RepFor rb b) :
    ∃ B, Rp (segsOf b) B ∧ rb = mkRep (layout b) B :=
  (repFor_iff b ok.wf rb).mp h

theorem BaseOk.special_list {b : Url} (ok : BaseOk b) (hs : b.isSpecial = true) : b.hasOpaquePath = false := by
  cases ho : b.hasOpaquePath with
  | false => rfl
  | true =>
    have h1 := ok.opaque_noHost ho
    have h2 := ok.host_of_special hs
    simp [h1] at h2

theorem Rp.take_drop {S B : List (List Nat)} (h : Rp S B) (i k : Nat) (hk : i + k ≤ B.length) :
    (B.drop i).take k = (S.drop i).take k := by
  rw [h.pad, List.drop_append_of_le_length (by omega), List.take_append_of_le_length (by simp; omega)]

/-- the segments `X ++ S[ifirst .. t2]` (the later ones empty) are presented by `X ++ B[ifirst .. ilast]` -/
theorem Rp_copy {S B : List (List Nat)} (h : Rp S B) (X : List (List Nat)) (ifirst t2 : Nat)
    (hX : X.length = ifirst) (hposX : 0 < off X 1) (h1 : 1 ≤ ifirst) (hle : ifirst ≤ t2) (hlt : ifirst < B.length)
    (ht2 : t2 ≤ 10) (h6 : 6 ≤ min (t2 + 1) B.length) :
    Rp (X ++ (S.drop ifirst).take (t2 + 1 - ifirst) ++ List.replicate (10 - t2) [])
      (X ++ (B.drop ifirst).take (ilastOf t2 B - ifirst) ++
        [B.getD (ilastOf t2 B) []]) := by
  have hhi := h.hi
  have hlenS := h.lenS
  -- `il` is the last copied part: `t2`, or the last started part of the base
  have hil := ilastOf_eq t2 B
  generalize ilastOf t2 B = il at hil ⊢
  have hc : il ≤ t2 ∧ il < B.length ∧ (il = t2 ∨ il + 1 = B.length) ∧ 5 ≤ il := by omega
  obtain ⟨n, rfl⟩ : ∃ n, il = ifirst + n := ⟨il - ifirst, by omega⟩
  rw [Nat.add_sub_cancel_left]
  clear hil h6
  have hA : (B.drop ifirst).take n ++ [B.getD (ifirst + n) []] = (B.drop ifirst).take (n + 1) := by
    rw [List.take_add_one, List.getD_eq_getElem?_getD, List.getElem?_drop, List.getElem?_eq_getElem hc.2.1]
    rfl
  have hS : (S.drop ifirst).take (t2 + 1 - ifirst) =
      (B.drop ifirst).take (n + 1) ++ List.replicate (t2 - (ifirst + n)) [] := by
    rw [h.pad, List.drop_append_of_le_length (by omega), List.take_append, List.take_replicate,
      List.length_drop, List.take_eq_take_iff (j := n + 1) |>.mpr (by rw [List.length_drop]; omega)]
    congr 2
    omega
  have hT : ((B.drop ifirst).take (n + 1)).length = n + 1 := by rw [List.length_take, List.length_drop]; omega
  rw [List.append_assoc X _ [_], hA, hS]
  refine rp_of_tail (Z := List.replicate (t2 - (ifirst + n)) [] ++ List.replicate (10 - t2) [])
    (by simp only [List.append_assoc]) (by rw [List.replicate_append_replicate]; exact List.flatten_replicate_nil)
    ?_ ?_ ?_
  · simp only [List.length_append, List.length_replicate, hT, hX]
    omega
  · rw [List.length_append, hT, hX]
    omega
  · unfold off
    rw [List.take_append_of_le_length (by omega)]
    exact hposX

/-! ### `append_parts` from the state right after the scheme -/

theorem copyFlags_schemeRep (r0 src : Rep) (sch : List Nat) (t1 t2 : Nat) :
    copyFlags (schemeRep r0 sch) src t1 t2 = schemeRep (copyFlags r0 src t1 t2) sch := rfl

theorem copyFlags_mkRep (r0 src : Rep) (A : List (List Nat)) (t1 t2 : Nat) :
    copyFlags (mkRep r0 A) src t1 t2 = mkRep (copyFlags r0 src t1 t2) A := rfl

theorem mkRep_take_drop (r0 : Rep) (X : List (List Nat)) :
    (mkRep r0 X).partEnd.take X.length = sums 0 X ∧
    ∀ j, X.length ≤ j → j ≤ 10 → (mkRep r0 X).partEnd.drop (j + 1) = List.replicate (10 - j) 0 := by
  constructor
  · show (sums 0 X ++ List.replicate (11 - X.length) 0).take X.length = _
    rw [List.take_left' (by simp)]
  · intro j hj hj10
    show (sums 0 X ++ List.replicate (11 - X.length) 0).drop (j + 1) = _
    rw [List.drop_append, List.drop_of_length_le (by simp; omega)]
    simp only [sums_length, List.drop_replicate, List.nil_append]
    congr 1; omega

/-- `hif2`: the values `apFirst` returns (USERNAME, HOST, PATH_PREFIX, PATH); `start_part` writes no delimiter
    before any of them -/
theorem dest_scheme (r0 src : Rep) (sch : List Nat) (hs : sch ≠ []) (t1 t2 ifirst : Nat)
    (hif2 : ifirst = 2 ∨ ifirst = 5 ∨ ifirst = 7 ∨ ifirst = 8) :
    Dest ⟨schemeRep r0 sch, SCHEME⟩ src t1 t2 ifirst
      (mkRep (copyFlags r0 src t1 t2) ([sch, 0x3A :: sepFor ifirst] ++ List.replicate (ifirst - 2) []))
      ([sch, 0x3A :: sepFor ifirst] ++ List.replicate (ifirst - 2) []) := by
  have hd : delim ifirst = [] := by rcases hif2 with h | h | h | h <;> (subst h; rfl)
  have hXlen : ([sch, 0x3A :: sepFor ifirst] ++ List.replicate (ifirst - 2) []).length = ifirst := by
    simp; omega
  obtain ⟨htk, hdr⟩ := mkRep_take_drop (copyFlags r0 src t1 t2)
    ([sch, 0x3A :: sepFor ifirst] ++ List.replicate (ifirst - 2) [])
  rw [hXlen] at htk hdr
  refine ⟨?_, hXlen, rfl, htk, hdr, ?_⟩
  · show serStartPart (copyFlags (schemeRep r0 sch) src t1 t2) SCHEME ifirst = _
    rw [copyFlags_schemeRep, start_scheme _ _ ifirst (by omega) (by omega), hd, mkRepE_nil]
  · simp [off]
    exact List.length_pos_iff.mpr hs

/-- `append_parts(src, t1, t2)` without path operation, something being copied -/
theorem copy_none {b u' : Url} {B : List (List Nat)} (hB : Rp (segsOf b) B) {s : Ser} (t1 t2 : Nat)
    (ht2 : t2 ≤ 10) (ifirst : Nat) (hif : apFirst (mkRep (layout b) B) t1 = ifirst)
    (hk : kPartStart.getD ifirst 0 = 0) (h1 : 1 ≤ ifirst)
    (hle : ifirst ≤ t2) (hlt : ifirst < B.length) (h6 : 6 ≤ min (t2 + 1) B.length)
    {r1 : Rep} {X : List (List Nat)} (hd : Dest s (mkRep (layout b) B) t1 t2 ifirst r1 X)
    (hsegs : segsOf u' = X ++ ((segsOf b).drop ifirst).take (t2 + 1 - ifirst) ++ List.replicate (10 - t2) [])
    (hwf : RecWF u')
    (hfl : SameFields { r1 with
        segCount := if ifirst ≤ PATH ∧ PATH ≤ ilastOf t2 B then (layout b).segCount
          else r1.segCount } (layout u')) :
    s.appendParts (mkRep (layout b) B) t1 t2 none =
      ⟨mkRep (layout u') (X ++ (B.drop ifirst).take (ilastOf t2 B - ifirst) ++
        [B.getD (ilastOf t2 B) []]), ilastOf t2 B⟩ ∧
    Rp (segsOf u') (X ++ (B.drop ifirst).take (ilastOf t2 B - ifirst) ++
        [B.getD (ilastOf t2 B) []]) ∧
    SerInv (s.appendParts (mkRep (layout b) B) t1 t2 none) u' := by
  have hil := ilastOf_eq t2 B
  have hhi := hB.hi
  have hilast : ilastOf t2 B < B.length := by omega
  have hm := appendParts_mk s (layout b) hB t1 t2 none
    (B.getD (ilastOf t2 B) []).length
    (if ifirst ≤ PATH ∧ PATH ≤ ilastOf t2 B then (layout b).segCount else r1.segCount)
    hif hd hk h1 hle hlt ht2
    (by
      rw [apPair_none, pe_mkRep_lt _ _ _ hilast, off_succ B]
      split <;> rfl)
    (Nat.le_refl _)
  rw [List.take_of_length_le (Nat.le_refl _)] at hm
  have hAlen : (X ++ (B.drop ifirst).take (ilastOf t2 B - ifirst) ++
      [B.getD (ilastOf t2 B) []]).length = ilastOf t2 B + 1 := by
    simp only [List.length_append, hd.xlen, List.length_take, List.length_drop, List.length_cons, List.length_nil]
    omega
  have hRp : Rp (segsOf u') (X ++ (B.drop ifirst).take (ilastOf t2 B - ifirst) ++
      [B.getD (ilastOf t2 B) []]) := by
    rw [hsegs]
    exact Rp_copy hB _ ifirst t2 hd.xlen hd.pos h1 hle hlt ht2 h6
  have he : s.appendParts (mkRep (layout b) B) t1 t2 none =
      ⟨mkRep (layout u') (X ++ (B.drop ifirst).take (ilastOf t2 B - ifirst) ++
        [B.getD (ilastOf t2 B) []]), ilastOf t2 B⟩ := by
    rw [hm, hfl]
  refine ⟨he, hRp, ?_⟩
  rw [he]
  exact ⟨hwf, _, hRp, rfl, hAlen⟩

/-- `append_parts(src, t1, PATH, pathOpFn)` when the PATH part of the source was started -/
theorem copy_op {b : Url} {B : List (List Nat)} (hB : Rp (segsOf b) B) {s : Ser} (t1 : Nat)
    (ifirst : Nat) (hif : apFirst (mkRep (layout b) B) t1 = ifirst)
    (hk : kPartStart.getD ifirst 0 = 0) (h1 : 1 ≤ ifirst) (hle : ifirst ≤ 8) (h9 : 9 ≤ B.length)
    {r1 : Rep} {X : List (List Nat)} (hd : Dest s (mkRep (layout b) B) t1 PATH ifirst r1 X)
    (o : PathOp) (ho : b.hasOpaquePath = false) (hns : NoSlash b.path) :
    s.appendParts (mkRep (layout b) B) t1 PATH (some o) =
      ⟨mkRep { r1 with segCount := (opList o b.isFile b.path).length }
        (X ++ (B.drop ifirst).take (8 - ifirst) ++ [ptext (opList o b.isFile b.path)]), 8⟩ := by
  have hhi := hB.hi
  have hil : ilastOf PATH B = 8 := ilastOf_path h9
  have hB8 : B.getD 8 [] = ptext b.path := by
    rw [hB.getD 8]
    simp [segsOf, pathText_ptext ho]
  have hX8 : (B.take 8).length = 8 := by simp; omega
  have hscb : (layout b).segCount = b.path.length := segCount_layout ho
  have hfb : (layout b).isFileScheme = b.isFile := isFileScheme_of_idx rfl
  obtain ⟨htk, hlen⟩ := ptext_take_prefix o b.isFile b.path
  -- the value of the path operation on the source
  have hval : (match (mkRep (layout b) B).pathOp o with
      | some v => (v.1, ({ r1 with segCount := v.2 } : Rep))
      | none => ((mkRep (layout b) B).pe PATH, { r1 with segCount := (mkRep (layout b) B).segCount })) =
      (off B 8 + (ptext (opList o b.isFile b.path)).length,
        { r1 with segCount := (opList o b.isFile b.path).length }) := by
    rw [(pathFns_cut (layout b) B h9).1 o, hB8]
    rcases pathOp_mk o (layout b) (B.take 8) b.path b.isFile hX8 ho hscb hfb hns with
      ⟨h1, h2⟩ | h1
    · rw [h1, h2]
      simp only
      have : (mkRep (layout b) B).pe PATH = off B 8 + (ptext b.path).length := by
        rw [pe_mkRep_lt _ _ _ (by simp only [PATH]; omega)]
        show off B (8 + 1) = _
        rw [off_succ B 8, hB8]
      rw [this]
      show (_, ({ r1 with segCount := (layout b).segCount } : Rep)) = _
      rw [hscb]
    · rw [h1]
      rfl
  have hm := appendParts_mk s (layout b) hB t1 PATH (some o)
    (ptext (opList o b.isFile b.path)).length (opList o b.isFile b.path).length
    hif hd hk h1 (by simp only [PATH]; omega) (by omega) (by simp [PATH])
    (by rw [hil, show (8 : Nat) = PATH from rfl, apPair_path]; exact hval)
    (by rw [hil, hB8]; exact hlen)
  rw [hil, hB8, htk] at hm
  exact hm

/-- the path invariant after a copy that ends with the (possibly shortened) path of the base -/
theorem pathInv_of_copy {u : Url} (ho : u.hasOpaquePath = false) (wf : RecWF u) (hq : u.query = none)
    (hf : u.fragment = none) {A0 : List (List Nat)} {t : List Nat} (hRp : Rp (segsOf u) (A0 ++ [t]))
    (hA0 : A0.length = 8) (p' : List (List Nat)) (hns : NoSlash p') (r : Rep)
    (hr : SameFields r (layout { u with path := p' })) :
    PathInv ⟨mkRep r (A0 ++ [ptext p']), PATH⟩ { u with path := p' } := by
  refine ⟨ho, wf, hns, hq, hf, Or.inr ⟨rfl, prefixSeg u, ?_, ?_⟩⟩
  · unfold prefixSeg; split <;> simp
  · simp only
    rw [hr, segs_take7 u p']
    have h8 : (segsOf u).take 8 = A0 := by
      rw [← hRp.take (n := 8) (by simp [hA0]), List.take_left' hA0]
    have : (segsOf u).take 7 ++ [prefixSeg u] = (segsOf u).take 8 := by simp [segsOf]
    rw [this, h8]

/-! ### the getters of the base the parser consults -/

section basegetters
variable {rb : Rep} {b : Url} (ok : BaseOk b) (hrb : RepFor rb b)
include ok hrb

theorem base_scheme : rb.partView SCHEME = b.scheme := by
  obtain ⟨B, hB, rfl⟩ := base_present ok hrb
  unfold segsOf at hB
  exact partView_scheme _ hB

theorem apFirst_user : apFirst rb USERNAME =
    if b.host.isSome = true then (if b.hasCredentials = true then 2 else 5) else 7 := by
  unfold apFirst
  rw [hostNotNull_eq hrb, hasCredentials_eq ok.wf hrb]
  simp [USERNAME, HOST, PATH_PREFIX]

omit ok in
theorem apFirst_host : apFirst rb HOST = if b.host.isSome = true then 5 else 7 := by
  unfold apFirst
  rw [hostNotNull_eq hrb]
  simp [USERNAME, HOST, PATH_PREFIX]

end basegetters

theorem apFirst_path (rb : Rep) : apFirst rb PATH = 8 := by
  simp [apFirst, PATH, HOST]

theorem base_path_long {b : Url} {B : List (List Nat)} (hB : Rp (segsOf b) B)
    (hp : pathText b ≠ []) : 9 ≤ B.length := by
  have := hB.started (n := 8) (by simp [segsOf, hp])
  omega

theorem base_path_short {b : Url} {B : List (List Nat)} (hB : Rp (segsOf b) B) (h : B.length ≤ 8) :
    pathText b = [] := by
  have := hB.drop_absent (n := 8) h
  simp [segsOf] at this
  exact this.1

theorem base_path_nil {b : Url} {B : List (List Nat)} (hB : Rp (segsOf b) B) (ho : b.hasOpaquePath = false)
    (h : B.length ≤ 8) : b.path = [] :=
  ptext_eq_nil (by rw [← pathText_ptext ho]; exact base_path_short hB h)

theorem opList_nil (o : PathOp) (isFile : Bool) : opList o isFile [] = [] := by cases o <;> rfl

/-! ### `append_parts` from a base with a list path -/

/-- `append_parts(base, t1, t2)`, the base having a list path, onto a state without path: the new state
    presents `u'`, the record made of the started parts `X` of the destination, the segments
    `ifirst .. t2` of the base and nothing after them.  When `t2 = PATH` and a path operation is given,
    the path arrives shortened by it (if the base's PATH part was never started there is nothing to
    shorten and the operation is not consulted). -/
theorem copy_list {b u' : Url} {B : List (List Nat)} (hB : Rp (segsOf b) B) (ho : b.hasOpaquePath = false)
    (hns : NoSlash b.path) {s : Ser} (t1 t2 ifirst : Nat) (hif : apFirst (mkRep (layout b) B) t1 = ifirst)
    (hk : kPartStart.getD ifirst 0 = 0) (h1 : 1 ≤ ifirst) (h7 : ifirst ≤ 7) (hle : ifirst ≤ t2) (h5 : 5 ≤ t2) (ht2 : t2 ≤ 9)
    (hlt : ifirst < B.length) {r1 : Rep} {X : List (List Nat)}
    (hd : Dest s (mkRep (layout b) B) t1 t2 ifirst r1 X) (hr1 : r1.segCount = 0)
    (hsegs : segsOf u' = X ++ ((segsOf b).drop ifirst).take (t2 + 1 - ifirst) ++ List.replicate (10 - t2) [])
    (hwf : RecWF u') (hop : u'.hasOpaquePath = false) (hpath : u'.path = if PATH ≤ t2 then b.path else [])
    (hq : t2 = PATH → u'.query = none) (hf : u'.fragment = none)
    (hfl : ∀ c, SameFields { r1 with segCount := c } { layout u' with segCount := c }) :
    SerInv (s.appendParts (mkRep (layout b) B) t1 t2 none) u' ∧
      (s.appendParts (mkRep (layout b) B) t1 t2 none).lastPt ≤ t2 ∧
      (t2 = PATH → ∀ o, PathInv (s.appendParts (mkRep (layout b) B) t1 PATH (some o))
        { u' with path := opList o b.isFile b.path }) := by
  have hlo := hB.lo
  have hil := ilastOf_eq t2 B
  have hhi := hB.hi
  -- `path_segment_count_` is copied exactly when the base's PATH part was started; if it was not,
  -- the base has no segment
  have hseg : (if ifirst ≤ PATH ∧ PATH ≤ ilastOf t2 B then (layout b).segCount else r1.segCount) =
      (layout u').segCount := by
    rw [segCount_layout ho, segCount_layout hop, hpath, hr1]
    by_cases h8 : PATH ≤ ilastOf t2 B
    · rw [if_pos ⟨Nat.le_trans h7 (by decide), h8⟩, if_pos (by omega)]
    · rw [if_neg (fun hc => h8 hc.2)]
      split
      · rw [base_path_nil hB ho (by simp only [PATH] at *; omega)]; rfl
      · rfl
  have key := copy_none hB t1 t2 (by omega) ifirst hif hk h1 hle hlt (by omega) hd hsegs hwf
    (fun A => by rw [hseg]; exact hfl _ A)
  refine ⟨key.2.2, by rw [key.1]; exact ilastOf_le t2 B, ?_⟩
  intro ht8 o
  subst ht8
  by_cases h9 : 9 ≤ B.length
  · rw [copy_op hB t1 ifirst hif hk h1 (by omega) h9 hd o ho hns]
    have hRp := key.2.1
    rw [ilastOf_path h9] at hRp
    refine pathInv_of_copy hop hwf (hq rfl) hf hRp
      (by simp only [List.length_append, hd.xlen, List.length_take, List.length_drop]; omega) _
      (fun x hx => hns x (opList_subset o b.isFile b.path x hx)) _ (fun A => (hfl _ A).trans ?_)
    exact mkRep_congr rfl rfl rfl rfl rfl rfl (segCount_layout (u := { u' with path := opList o b.isFile b.path }) hop).symm rfl rfl
  · rw [appendParts_op_irrelevant s (layout b) hB t1 PATH o (by simp only [PATH] at *; omega)]
    have hpn : b.path = [] := base_path_nil hB ho (by omega)
    have hpu : u'.path = [] := by rw [hpath, hpn]; rfl
    have e : ({ u' with path := opList o b.isFile b.path } : Url) = u' := by rw [hpn, opList_nil, ← hpu]
    rw [e]
    exact key.2.2.pathInv (by rw [key.1]; show ilastOf PATH B < PATH; simp only [PATH] at *; omega)
      hop hpu (hq rfl) hf

/-! ### fresh states and `set_scheme` -/

/-- no part after the scheme was written, every modelled flag is still in its initial state -/
def Fresh (s : Ser) : Prop :=
  s.lastPt = SCHEME ∧ ∃ n k idx, s.rep =
    { Rep.cleared with norm := n, partEnd := k :: List.replicate 10 0, schemeIdx := idx }

theorem fresh_new : Fresh Ser.new := ⟨rfl, [], 0, none, rfl⟩

theorem SchInv.fresh {s : Ser} {x : List Nat} (h : SchInv s { scheme := x }) : Fresh s := by
  refine ⟨h.last, x ++ [0x3A], x.length, schemeIndex x, ?_⟩
  rw [h.rep]
  rfl

theorem setSchemeStr_fresh {s : Ser} (hs : Fresh s) (str : List Nat) (hne : str ≠ []) :
    SchInv (s.setSchemeStr str) { scheme := str } := by
  obtain ⟨hl, n, k, idx, hr⟩ := hs
  refine ⟨hne, hl, ?_, rfl, rfl, rfl, rfl, rfl, rfl, rfl⟩
  simp only [Ser.setSchemeStr, Rep.setSchemeStr, hr]
  rfl

theorem setSchemeOf_fresh {rb : Rep} {b : Url} (ok : BaseOk b) (hrb : RepFor rb b) {s : Ser} (hs : Fresh s) :
    SchInv (s.setSchemeOf rb) { scheme := b.scheme } := by
  have h := setSchemeStr_fresh hs b.scheme ok.scheme_ne
  have e : s.setSchemeOf rb = s.setSchemeStr b.scheme := by
    simp only [Ser.setSchemeOf, Ser.setSchemeStr, base_scheme ok hrb, schemeIdx_eq hrb]
  rw [e]; exact h

end Upa.Proofs.ParseRep
