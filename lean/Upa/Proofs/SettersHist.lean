import Upa.Proofs.SettersInv
import Upa.Proofs.EvalFuel
/-
  C03 — setter histories: an invariant that implies `RecOk` and is kept by every setter gives the
  conformance of every call sequence (`history_of_inv`).  Also: `RecOk` cannot be dropped
  (`protocol_separates`, `username_separates`, `recOk_necessary`), `IdnaOk` allows a ToASCII that returns
  the empty string (`emptyIdna`), and the IDNA stand-in of C08 satisfies `IdnaOk`.
-/
namespace Upa.Proofs.C03
open Upa.Impl (Setter)

/-- In the lower-cased input a forbidden `p` persists (`toLower` keeps forbidden domain code points); any
    other result must come from an input without ASCII forbidden domain code points. -/
theorem idnaOk_of_lower {idna : Idna}
    (hasc : ∀ s, s ≠ [] → (∀ c ∈ s, c < 0x80) → idna s = some (s.map toLower))
    (hout : ∀ s a, idna s = some a →
      a = s.map toLower ∨ ∀ c ∈ s, c < 0x80 → Spec.forbiddenDomain c = false) :
    Props.IdnaOk idna where
  ascii := fun s hne hs _ => hasc s hne fun c hc => (C07.adc_plain c (hs c hc)).1
  persist := by
    intro pre p post _ hlt _ hf _ _ a ha
    have hp : p ∈ pre ++ p :: post := List.mem_append_right pre List.mem_cons_self
    rcases hout _ a ha with rfl | h
    · rw [List.any_eq_true]
      exact ⟨toLower p, List.mem_map_of_mem hp, (C07.forbiddenDomain_lower p).trans hf⟩
    · rw [h p hp hlt] at hf
      cases hf

theorem all_ascii {s : List Nat} (hs : ∀ c ∈ s, c < 0x80) : s.all (fun c => decide (c < 0x80)) = true :=
  List.all_eq_true.2 fun c hc => decide_eq_true (hs c hc)

/-- the ASCII-only stand-in for ToASCII of C08 also satisfies the two hypotheses of C07 -/
theorem sampleIdna_ok : Props.IdnaOk C08.sampleIdna := by
  refine idnaOk_of_lower (fun s hne hs => ?_) (fun s a ha => ?_)
  · unfold C08.sampleIdna
    rw [if_neg hne, if_pos (all_ascii hs)]
  · unfold C08.sampleIdna at ha
    by_cases hne : s = []
    · rw [if_pos hne] at ha; cases ha
    · rw [if_neg hne] at ha
      by_cases hall : s.all (fun c => decide (c < 0x80)) = true
      · rw [if_pos hall] at ha; exact Or.inl (Option.some.inj ha).symm
      · rw [if_neg hall] at ha; cases ha

/-- "http" (`Impl.sHttp`) as a list of numerals, on whose cons cells `schemeOv` computes (`schemeOv_http`) -/
def sHttpU : List Nat := [0x68, 0x74, 0x74, 0x70]

theorem schemeOv_http {α : Type} (fail : α) (fin : List Nat → α) :
    schemeOv fail fin sHttpU = fin Impl.sHttp := by
  have h1 : isAlpha 0x68 = true := by decide
  have h2 : schemeEnd [0x74, 0x74, 0x70] = 0x3A := by decide
  have h3 : C01.Head.schemeOf 0x68 [0x74, 0x74, 0x70] = Impl.sHttp := by decide +kernel
  rw [sHttpU, schemeOv, if_pos h1, if_pos h2, h3]

theorem http_special : Impl.isSpecialScheme Impl.sHttp = true := by decide
theorem http_ne_file : Impl.sHttp ≠ Impl.sFile := by decide

/-- a `file` record whose host text is empty but whose host is not the empty host: the protocol setter
    "http" is ignored by the code and carried out by the Standard -/
theorem protocol_separates (idna : Idna) (u : Url) (hf : u.isFile = true) (ht : u.hostText = [])
    (hne : u.host ≠ some Spec.emptyHost) :
    (Impl.setValid idna .protocol .u8 sHttpU u).1 ≠ Spec.apiSet idna .protocol .u8 sHttpU u := by
  have hsc : u.scheme = Impl.sFile := (C01.isFile_iff u).1 hf
  have hprep : Impl.prep .u8 sHttpU = sHttpU := by decide +kernel
  have hpin : Spec.parserInput .u8 sHttpU = sHttpU := by decide +kernel
  have hi : (Impl.setValid idna .protocol .u8 sHttpU u).1 = u := by
    have h1 : (Impl.setValid idna .protocol .u8 sHttpU u).1 =
        (Impl.urlParse idna none (some .schemeStart) u (Impl.prep .u8 sHttpU)).url := rfl
    rw [h1, hprep, urlParse_scheme_ov, schemeOv_http]
    have hsp : u.isSpecial = true := C08.file_special hf
    have e2 : Impl.isFileScheme Impl.sHttp = false := beq_eq_false_iff_ne.2 http_ne_file
    have : implSchemeFin u Impl.sHttp = ⟨.ignored, u⟩ := by
      unfold implSchemeFin
      simp [hsp, http_special, e2, hf, ht]
    rw [this]
  have hs : (Spec.apiSet idna .protocol .u8 sHttpU u).scheme = Impl.sHttp := by
    have h1 : Spec.apiSet idna .protocol .u8 sHttpU u =
        (Spec.basicParse idna (Spec.parserInput .u8 sHttpU ++ [0x3A]) none u (some .schemeStart)).2 := rfl
    rw [h1, hpin, basicParse_scheme_spec, schemeOv_http]
    have hsp : Spec.isSpecial u = true := C08.file_special hf
    unfold specSchemeFin
    simp only [hsp, http_special, bne_self_eq_false, Bool.false_eq_true, if_false, http_ne_file, and_false, hne]
    split <;> rfl
  intro heq
  rw [hi] at heq
  rw [← heq, hsc] at hs
  exact absurd hs (by decide)

/-- a non-`file` record with a host that has an empty serialization but is not the empty host: the
    username setter is refused by the code and carried out by the Standard -/
theorem username_separates (idna : Idna) (u : Url) (h : Host) (hf : u.isFile = false) (hh : u.host = some h)
    (ht : h.text = []) (hne : h ≠ Spec.emptyHost) :
    ∃ units, (units = [0x61] ∨ units = [0x62]) ∧
      (Impl.setValid idna .username .u8 units u).1 ≠ Spec.apiSet idna .username .u8 units u := by
  have hcan : Impl.canHaveUsernamePasswordPort u = false := by
    simp [Impl.canHaveUsernamePasswordPort, Url.hostText, hh, ht]
  have hcannot : Spec.cannotHaveUsernamePasswordPort u = false := by
    have hf' : (u.scheme == Impl.sFile) = false := hf
    have : (some h == some Spec.emptyHost) = false := by simpa using hne
    simp [Spec.cannotHaveUsernamePasswordPort, hh, hf', this]
  have himpl : ∀ units, (Impl.setValid idna .username .u8 units u).1 = u :=
    fun units => congrArg Prod.fst (Props.C03_cannot_have idna u .u8 units hcan).1
  have hspec : ∀ units, (Spec.apiSet idna .username .u8 units u).username =
      Spec.utf8PercentEncode Spec.userinfoSet (Spec.decode .u8 units) := by
    intro units
    show (if Spec.cannotHaveUsernamePasswordPort u = true then u else _).username = _
    rw [hcannot]; rfl
  have ea : Spec.utf8PercentEncode Spec.userinfoSet (Spec.decode .u8 [0x61]) = [0x61] := by decide +kernel
  have eb : Spec.utf8PercentEncode Spec.userinfoSet (Spec.decode .u8 [0x62]) = [0x62] := by decide +kernel
  by_cases hu : u.username = [0x61]
  · refine ⟨[0x62], Or.inr rfl, fun heq => ?_⟩
    have := hspec [0x62]
    rw [← heq, himpl, hu, eb] at this
    exact absurd this (by decide)
  · refine ⟨[0x61], Or.inl rfl, fun heq => ?_⟩
    have := hspec [0x61]
    rw [← heq, himpl, ea] at this
    exact hu this

/-- on every record that violates `RecOk`, some setter call (protocol "http", or username "a" / "b")
    separates the code from the Standard: `RecOk` is the weakest hypothesis of `setter_conforms` -/
theorem recOk_necessary (idna : Idna) (u : Url) (h : RecOk u = false) :
    ∃ (s : Setter) (units : List Nat), Props.UnitsOk .u8 units ∧
      (Impl.setValid idna s .u8 units u).1 ≠ Spec.apiSet idna s .u8 units u := by
  unfold RecOk at h
  cases hh : u.host with
  | none =>
    rw [hh] at h
    have hf : u.isFile = true := by simpa using h
    exact ⟨.protocol, sHttpU, (by decide : ∀ x ∈ sHttpU, x < 256),
      protocol_separates idna u hf (by simp [Url.hostText, hh]) (by rw [hh]; simp)⟩
  | some x =>
    rw [hh] at h
    simp only [Bool.or_eq_false_iff, bne_eq_false_iff_eq, beq_eq_false_iff_ne] at h
    obtain ⟨ht, hk⟩ := h
    have hne : x ≠ Spec.emptyHost := by
      intro he; rw [he] at hk; exact hk rfl
    cases hf : u.isFile with
    | true =>
      exact ⟨.protocol, sHttpU, (by decide : ∀ x ∈ sHttpU, x < 256),
        protocol_separates idna u hf (by simp [Url.hostText, hh, ht]) (by rw [hh]; simpa using hne)⟩
    | false =>
      obtain ⟨units, hu, hd⟩ := username_separates idna u x hf hh ht hne
      refine ⟨.username, units, ?_, hd⟩
      rcases hu with rfl | rfl
      · exact (by decide : ∀ x ∈ ([0x61] : List Nat), x < 256)
      · exact (by decide : ∀ x ∈ ([0x62] : List Nat), x < 256)

/-- An IDNA parameter that satisfies `IdnaOk` but returns the empty string on non-ASCII input without
    forbidden ASCII characters: shows that `IdnaOk` alone does not keep the setters inside `RecOk`. -/
def emptyIdna : Idna := fun s =>
  if s.all (fun c => decide (c < 0x80)) then some (s.map toLower)
  else if s.any (fun c => decide (c < 0x80) && Spec.forbiddenDomain c) then none
  else some []

theorem emptyIdna_ok : Props.IdnaOk emptyIdna := by
  refine idnaOk_of_lower (fun s _ hs => ?_) (fun s a ha => ?_)
  · unfold emptyIdna
    rw [if_pos (all_ascii hs)]
  · unfold emptyIdna at ha
    by_cases hall : s.all (fun c => decide (c < 0x80)) = true
    · rw [if_pos hall] at ha; exact Or.inl (Option.some.inj ha).symm
    · rw [if_neg hall] at ha
      by_cases hany : s.any (fun c => decide (c < 0x80) && Spec.forbiddenDomain c) = true
      · rw [if_pos hany] at ha; cases ha
      · refine Or.inr fun c hc hlt => Bool.eq_false_iff.2 fun hf => hany ?_
        exact List.any_eq_true.2 ⟨c, hc, by rw [decide_eq_true hlt, hf]; rfl⟩

/-- with `emptyIdna` the host parser returns a domain with an empty serialization for "é" -/
theorem emptyIdna_host : Impl.parseHost emptyIdna [0xE9] false = some ⟨.domain, []⟩ := by
  rw [C07.impl_eval_slow _ _ [0xC3, 0xA9] (by decide) (by decide +kernel)
    (by rw [Eval.percentDecode_eq_fuel]; decide +kernel)]
  decide +kernel

theorem history_of_inv {idna : Idna} (hI : Props.IdnaOk idna) (J : Url → Prop)
    (hJ : ∀ u, J u → RecOk u = true)
    (hpres : ∀ (s : Setter) (e : Enc) (units : List Nat) (u : Url), Props.UnitsOk e units → J u →
      J (Impl.setValid idna s e units u).1) :
    ∀ (calls : List (Setter × Enc × List Nat)) (u : Url),
      (∀ c ∈ calls, Props.UnitsOk c.2.1 c.2.2) → J u →
      calls.foldl (fun u c => (Impl.setValid idna c.1 c.2.1 c.2.2 u).1) u =
        calls.foldl (fun u c => Spec.apiSet idna c.1 c.2.1 c.2.2 u) u := by
  intro calls
  induction calls with
  | nil => intro u _ _; rfl
  | cons c cs ih =>
    intro u hu hj
    have hc := hu c List.mem_cons_self
    simp only [List.foldl_cons]
    rw [← setter_conforms hI c.1 c.2.1 c.2.2 u hc (hJ u hj)]
    exact ih _ (fun x hx => hu x (List.mem_cons_of_mem _ hx)) (hpres c.1 c.2.1 c.2.2 u hc hj)

/-- for concrete call lists (decidable form of the `UnitsOk` hypothesis, UTF-8 values) -/
theorem unitsOk_u8_calls (calls : List (Setter × Enc × List Nat))
    (h : ∀ c ∈ calls, c.2.1 = Enc.u8 ∧ ∀ x ∈ c.2.2, x < 256) :
    ∀ c ∈ calls, Props.UnitsOk c.2.1 c.2.2 := by
  intro c hc
  obtain ⟨h1, h2⟩ := h c hc
  obtain ⟨s, e, l⟩ := c
  simp only at h1 h2 ⊢
  subst h1
  exact h2

#print axioms recOk_necessary
#print axioms emptyIdna_ok
#print axioms canon_recInv
#print axioms sampleIdna_ok
#print axioms history_of_inv
end Upa.Proofs.C03
