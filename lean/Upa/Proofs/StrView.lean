import Upa.Impl.StrView
import Upa.Proofs.SizeT
/-
  The model of upa::str_view (Impl/StrView.lean): `compare` / `equal` on valid views are the three-way
  lexicographic comparison resp. equality of the viewed lists (through `traits_type::compare` on the common
  length), `remove_prefix` / `remove_suffix` with their `size_t` arithmetic drop resp. take, `operator[]` reads
  the viewed list.
-/
namespace Upa.Impl.SV
open StdView

theorem toList_length (v : View) (h : v.Valid) : v.toList.length = v.len := by
  unfold View.Valid at h
  simp [View.toList, List.length_take, List.length_drop]; omega

theorem traitsCompare_spec (mag : Nat → Nat → Nat) (a b : List Nat) : ∀ (n ao bo : Nat),
    ao + n ≤ a.length → bo + n ≤ b.length →
    ∃ r, traitsCompare mag a ao b bo n = some r ∧
      r.sign = traitsCompareSign ((a.drop ao).take n) ((b.drop bo).take n) := by
  intro n
  induction n with
  | zero => intro ao bo _ _; exact ⟨0, rfl, by simp [traitsCompareSign]⟩
  | succ n ih =>
    intro ao bo ha hb
    have ha' : ao < a.length := by omega
    have hb' : bo < b.length := by omega
    simp only [traitsCompare, List.getElem?_eq_getElem ha', List.getElem?_eq_getElem hb']
    rw [List.drop_eq_getElem_cons ha', List.drop_eq_getElem_cons hb', List.take_succ_cons, List.take_succ_cons]
    simp only [traitsCompareSign]
    split
    · exact ⟨_, rfl, Int.sign_eq_neg_one_of_neg (by omega)⟩
    · split
      · exact ⟨_, rfl, Int.sign_eq_one_of_pos (by omega)⟩
      · exact ih (ao + 1) (bo + 1) (by omega) (by omega)

theorem traitsCompareSign_range : ∀ (a b : List Nat),
    traitsCompareSign a b = -1 ∨ traitsCompareSign a b = 0 ∨ traitsCompareSign a b = 1 := by
  intro a
  induction a with
  | nil => intro b; simp [traitsCompareSign]
  | cons x xs ih =>
    intro b
    cases b with
    | nil => simp [traitsCompareSign]
    | cons y ys =>
      simp only [traitsCompareSign]
      split
      · simp
      · split
        · simp
        · exact ih ys

theorem compareSign_cons (x y : Nat) (xs ys : List Nat) :
    compareSign (x :: xs) (y :: ys) = if x < y then -1 else if y < x then 1 else compareSign xs ys := by
  rw [compareSign, compareSign]
  simp only [List.length_cons, Nat.succ_min_succ, List.take_succ_cons, traitsCompareSign,
    Nat.add_lt_add_iff_right, Nat.add_right_cancel_iff]
  by_cases h1 : x < y
  · rw [if_pos h1, if_pos h1, if_pos (by decide)]
  · rw [if_neg h1, if_neg h1]
    by_cases h2 : y < x
    · rw [if_pos h2, if_pos h2, if_pos (by decide)]
    · rw [if_neg h2, if_neg h2]

theorem compareSign_lex : ∀ (a b : List Nat), compareSign a b = ordSign (lexCmp a b) := by
  intro a
  induction a with
  | nil =>
    intro b
    cases b with
    | nil => simp [compareSign, traitsCompareSign, lexCmp, ordSign]
    | cons y ys => simp [compareSign, traitsCompareSign, lexCmp, ordSign]
  | cons x xs ih =>
    intro b
    cases b with
    | nil => simp [compareSign, traitsCompareSign, lexCmp, ordSign]
    | cons y ys =>
      rw [compareSign_cons, lexCmp]
      split
      · rfl
      · split
        · rfl
        · exact ih ys

theorem lexCmp_eq : ∀ (a b : List Nat), lexCmp a b = .eq ↔ a = b := by
  intro a
  induction a with
  | nil => intro b; cases b <;> simp [lexCmp]
  | cons x xs ih =>
    intro b
    cases b with
    | nil => simp [lexCmp]
    | cons y ys =>
      simp only [lexCmp]
      split
      · simp; omega
      · split
        · simp; omega
        · rw [ih ys]
          have : x = y := by omega
          simp [this]

/-- the lexicographic order of the model is the order `<` of Lean's lists of numbers -/
theorem lexCmp_lt_iff : ∀ (a b : List Nat), lexCmp a b = .lt ↔ a < b := by
  intro a
  induction a with
  | nil => intro b; cases b <;> simp [lexCmp]
  | cons x xs ih =>
    intro b
    cases b with
    | nil => simp [lexCmp]
    | cons y ys =>
      simp only [lexCmp, List.cons_lt_cons_iff]
      split
      · simp; left; assumption
      · split
        · simp; omega
        · rw [ih ys]
          have : x = y := by omega
          simp [this]

theorem ordSign_eq_zero (o : Ordering) : ordSign o = 0 ↔ o = .eq := by
  cases o <;> simp [ordSign]

theorem compareSign_of_length_eq {a b : List Nat} (h : a.length = b.length) :
    compareSign a b = traitsCompareSign a b := by
  have ea : a.take (min a.length b.length) = a := List.take_of_length_le (by omega)
  have eb : b.take (min a.length b.length) = b := List.take_of_length_le (by omega)
  simp only [compareSign, ea, eb]
  split
  · rfl
  · rename_i h0
    rw [if_neg (by omega)]; exact (Decidable.not_not.1 h0).symm

theorem traitsCompareSign_eq_zero (a b : List Nat) (h : a.length = b.length) :
    traitsCompareSign a b = 0 ↔ a = b := by
  rw [← compareSign_of_length_eq h, compareSign_lex, ordSign_eq_zero, lexCmp_eq]

theorem stdEq_iff (a b : List Nat) : StdView.eq a b = decide (a = b) := by
  unfold StdView.eq
  rw [compareSign_lex]
  by_cases h : a = b
  · have := (lexCmp_eq a b).2 h
    rw [this]; simp [h, ordSign]
  · have : ¬ lexCmp a b = .eq := fun h' => h ((lexCmp_eq a b).1 h')
    have h0 : ¬ ordSign (lexCmp a b) = 0 := fun h' => this ((ordSign_eq_zero _).1 h')
    simp [h, h0]

theorem toList_take (v : View) {k : Nat} (hk : k ≤ v.len) :
    v.toList.take k = (v.base.drop v.off).take k := by
  rw [View.toList, List.take_take, Nat.min_eq_left hk]

theorem compare_spec (mag : Nat → Nat → Nat) (v x : View) (hv : v.Valid) (hx : x.Valid) :
    ∃ r, compare mag v x = some r ∧ r.sign = compareSign v.toList x.toList := by
  have lv := toList_length v hv
  have lx := toList_length x hx
  unfold View.Valid at hv hx
  obtain ⟨c, hc, hs⟩ := traitsCompare_spec mag v.base x.base (min v.len x.len) v.off x.off (by omega) (by omega)
  simp only [compare, hc]
  refine ⟨_, rfl, ?_⟩
  simp only [compareSign, lv, lx, toList_take v (Nat.min_le_left _ _), toList_take x (Nat.min_le_right _ _), ← hs]
  by_cases h0 : c = 0
  · subst h0
    simp only [ne_eq, not_true_eq_false, if_false, Int.sign_zero]
    by_cases h1 : v.len = x.len
    · simp [h1]
    · by_cases h2 : v.len < x.len
      · simp [h1, h2]
      · simp [h1, h2]
  · have : ¬ c.sign = 0 := by rw [Int.sign_eq_zero_iff_zero]; exact h0
    simp [h0, this]

theorem equal_spec (mag : Nat → Nat → Nat) (v x : View) (hv : v.Valid) (hx : x.Valid) :
    equal mag v x = some (decide (v.toList = x.toList)) := by
  have lv := toList_length v hv
  have lx := toList_length x hx
  unfold equal
  split
  · rename_i hl
    unfold View.Valid at hv hx
    obtain ⟨c, hc, hs⟩ := traitsCompare_spec mag v.base x.base v.len v.off x.off (by omega) (by omega)
    rw [hc]
    have e1 : (v.base.drop v.off).take v.len = v.toList := rfl
    have e2 : (x.base.drop x.off).take v.len = x.toList := by rw [hl]; rfl
    rw [e1, e2] at hs
    have := traitsCompareSign_eq_zero v.toList x.toList (by omega)
    rw [← hs, Int.sign_eq_zero_iff_zero] at this
    simp only [Option.map_some, Option.some.injEq]
    by_cases h0 : c = 0
    · simp [h0, this.1 h0]
    · have : ¬ v.toList = x.toList := fun h => h0 (this.2 h)
      simp [h0, this]
  · rename_i hl
    have : ¬ v.toList = x.toList := by
      intro h; rw [h] at lv; omega
    simp [this]

theorem removePrefix_spec (v : View) (n : Nat) (hv : v.Valid) (hl : v.len < 18446744073709551616)
    (hn : n ≤ v.len) :
    (removePrefix v n).Valid ∧ (removePrefix v n).len = v.len - n ∧
      (removePrefix v n).toList = v.toList.drop n := by
  unfold View.Valid at hv
  have e := wrap_sub hl hn
  refine ⟨?_, ?_, ?_⟩
  · simp only [View.Valid, removePrefix, e]; omega
  · simp only [removePrefix, e]
  · simp only [View.toList, removePrefix, e]
    rw [List.drop_take, List.drop_drop]

theorem removeSuffix_spec (v : View) (n : Nat) (hv : v.Valid) (hl : v.len < 18446744073709551616)
    (hn : n ≤ v.len) :
    (removeSuffix v n).Valid ∧ (removeSuffix v n).len = v.len - n ∧
      (removeSuffix v n).toList = v.toList.take (v.toList.length - n) := by
  have lv := toList_length v hv
  unfold View.Valid at hv
  have e := wrap_sub hl hn
  refine ⟨?_, ?_, ?_⟩
  · simp only [View.Valid, removeSuffix, e]; omega
  · simp only [removeSuffix, e]
  · rw [lv]
    simp only [View.toList, removeSuffix, e, List.take_take]
    congr 1; omega

theorem get_spec (v : View) (i : Nat) (hi : i < v.len) : get v i = v.toList[i]? := by
  simp only [get, View.toList, List.getElem?_take, hi, if_true, List.getElem?_drop]

theorem ofList_valid (l : List Nat) : (ofList l).Valid := by simp [View.Valid, ofList]
theorem ofList_toList (l : List Nat) : (ofList l).toList = l := by simp [View.toList, ofList]

end Upa.Impl.SV
